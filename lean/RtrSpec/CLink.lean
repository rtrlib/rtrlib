-- GENERATED by tools/gen_specs.py from RtrProofs/CLink.lean: definitions only (every theorem removed); not part of the audited libraries
/-
  CLink: the C functions translated by tools/gen_cfuns.py (RtrModel/Generated/CFuns.lean, regenerated from the
  current source on every run) compute what the hand-written models compute - for every input.

  The theorems of the CLink files close the gap between "the model" and "the C text as clang parsed it"; what remains
  trusted there is the translator's reading of the typed AST (tools/gen_cfuns.py header).

  This file: what all of them share, one normal form for each kind of fact - integers (a widened value or a literal as a
  number, for any widths: the lemmas on 8, 16, 32, 64 bits that the normalising simp sets name are the instances; signed
  overflow guards as bounds on the integer result), decisions (the continuations the translation repeats behind a branch:
  `ite_ite_same`, `ite_opt`), memory (`Nat → BitVec 8`) byte by byte - and the link theorems of the functions that other
  translated functions call.
-/
import RtrModel.Generated.CFuns
import RtrModel.Bits

namespace Rtr.CLink
open Rtr Rtr.Gen

/-! ## integers -/

/-! ## decisions -/

/-! ## memory, byte by byte -/

/-! ### stores, copies, fills: the byte at an address outside (`_other`, `_out`) and inside (`_in`, `_at`, `_append`) the range -/

/-! ## callees: `rtr_get_pdu_type`, which most translated functions of packets.c call, and `lrtr_convert_long` /
`lrtr_convert_short` (lib/convert_byte_order.c), which the header and the footer conversion call -/

/-! ## `lrtr_get_bits` -/

end Rtr.CLink
