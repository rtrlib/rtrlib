-- GENERATED by tools/gen_specs.py from RtrProofs/CLinkPdu.lean: definitions only (every theorem removed); not part of the audited libraries
/-
  CLinkPdu: the memory-mode translations of `rtr_get_pdu_type` and `rtr_pdu_check_size` (rtrlib/rtr/packets.c,
  translated by tools/gen_cfuns.py into RtrModel/Generated/CFuns.lean on every run) against the hand-written model
  `Rtr.P.checkSize` (RtrModel/Rtr.lean) and its specification `Rtr.P.KnownSize` (RtrProofs/CheckSize.lean).

  What has to be bridged: when the C function runs (`rtr_receive_pdu`), the 8-byte header of the receive buffer is
  in host byte order (a local copy was converted by `rtr_pdu_header_to_host_byte_order` and copied back: the 16-bit field at
  offset 2 and the 32-bit length at offset 4 are byte-swapped), everything behind the header is still in network
  byte order; the model reads the raw network-order bytes throughout. `hostHeader raw` is that buffer (on the
  little-endian host the translator's `load32` models).

  The generated term is walked once, in `rtr_pdu_check_size_of_reads` (arbitrary memory, size, pointer: the C text as a
  function of the five values it reads, each used only behind the bounds guard of its read), without navigating it: it is
  normalised with simp sets (loads ↦ numbers), the type value is split, each branch is compared with the model's.  Memory
  independence, memory safety and functional correctness (`rtr_pdu_check_size_eq`: on `hostHeader raw`, the object being
  exactly the `lenOf raw` received bytes, the C text returns `checkSize raw`) are instances of that theorem.  That the
  translated header conversion produces such a buffer - so that `hostHeader` is not a trusted definition - is proved in
  RtrProofs/CLinkRecvModel.lean, behind the link of the conversion.
-/
import RtrSpec.CLink
import RtrModel.Rtr
import RtrProofs.CheckSize

namespace Rtr.CLink
open Rtr Rtr.Gen Rtr.P

/-! ## byte lists as memory -/

def Bytes (l : List Nat) : Prop := ∀ x ∈ l, x < 256

/-! ## comparisons of widened values with literals, as numbers -/

/-! ## the receive buffer at the time of the size check -/

/-- the receive buffer when `rtr_pdu_check_size` runs: `rtr_pdu_header_to_host_byte_order` has swapped the 16-bit
    field at offset 2 and the 32-bit length at offset 4 in place (little-endian host); bytes 0, 1 and everything
    behind the header are as received -/
def hostHeader (raw : List Nat) : List Nat :=
  match raw with
  | b0 :: b1 :: b2 :: b3 :: b4 :: b5 :: b6 :: b7 :: rest => b0 :: b1 :: b3 :: b2 :: b7 :: b6 :: b5 :: b4 :: rest
  | _ => raw

/-! ## `rtr_get_pdu_type` (its link `rtr_get_pdu_type_eq` is in CLink.lean) -/

/-! ## `rtr_pdu_check_size` as a function of the values it reads, and memory independence (arbitrary memory, object size
and pointer) -/

/-! ## `rtr_pdu_check_size`: functional correctness on the received bytes -/

/-- `mem` is the receive buffer of the received bytes `raw` at the time of the size check: version and type bytes
    and everything behind the 8-byte header as received, the length field readable with a plain (host-order) load.
    Nothing is said about bytes 2 and 3 (`rtr_pdu_convert_header_byte_order` swaps them for every type but
    ROUTER_KEY, whose bytes 2, 3 are two one-byte fields): the size check does not look at them. -/
structure HostView (raw : List Nat) (mem : Nat → BitVec 8) : Prop where
  ver : mem 0 = C.memOfList raw 0
  type : mem 1 = C.memOfList raw 1
  len : (C.load32 mem 4).toNat = lenOf raw
  rest : ∀ a, 8 ≤ a → mem a = C.memOfList raw a

/-! ## concrete instances (the hypotheses are satisfiable; the generated text runs in the kernel) -/

end Rtr.CLink
