-- GENERATED by tools/gen_specs.py from RtrProofs/CLinkRecv.lean: definitions only (every theorem removed); not part of the audited libraries
/-
  CLinkRecv: `rtr_receive_pdu` (rtrlib/rtr/packets.c) - the function every byte from a cache goes through - as translated
  from clang's typed AST by tools/gen_cfuns.py (RtrModel/Generated/CFuns.lean, `C.rtr_receive_pdu`, regenerated from the
  source on every run), for ALL worlds: every byte stream and every return code of the transport, every answer of the
  other callees, every socket, every initial content of the caller's buffer.

  The translation is a control skeleton over `C.XWorld C.S_rtr_socket` (RtrModel/CSem.lean): `tr_recv_all`,
  `rtr_send_error_pdu_from_network`, `rtr_change_socket_state`, `rtr_pdu_footer_to_host_byte_order` are external calls
  answered by the world and recorded (name, scalar arguments - for the Error Report also the 8 bytes that are echoed, read
  from memory at the time of the call -, socket at the time of the call); `rtr_pdu_header_to_host_byte_order`,
  `rtr_pdu_header_to_network_byte_order`, `rtr_pdu_check_size` are the translated C text, `memcpy` is the primitive
  `C.memcpy` of RtrModel/CSem.lean. A result `none` means the C text left its defined fragment (an access outside the object a pointer points into, overflow, failed assert).

  Caller's contract `Contract msize pdu pdu_len`: the buffer `[pdu, msize)` has at least RTR_MAX_PDU_LEN = 3248 bytes,
  lies below the function's own address-taken objects (`C.STACK`), and `pdu_len ≥ 3248` (the function's own assert).

  `recvModel` is what the function does, written in terms of the world's answers; `receive_pdu_eq_model` links the C text to
  it, up to the function's own stack objects; the `receive_pdu_*` theorems are read off `recvModel_cases`.
  The link walks the C text and `recvModel` side by side, one rule `Agrees.*` per test of the C text in the order of the
  text; what lies behind a test is looked at only when the walk gets there, the leaves are evaluated by `simp`. What the
  walk does not depend on: how many bounds guards stand in front of a test and where (`recv_guards`, CLinkRecvWalk.lean; a read that the text hoists into a local or repeats moves
  its guard); the text of the callees (`rtr_pdu_check_size`, the header conversions: linked on their own); a `goto error`
  written out as the body of the label, an early return; a test of the length field written as the negation of the
  opposite comparison (the two conditions are compared as numbers). What it does depend on: the ORDER and the grouping of
  the tests in the function body, the two tests of the length field included. A rewrite of `rtr_receive_pdu` that keeps its
  behaviour but reorders tests, or splits one into nested tests so that what follows is repeated once more, needs the
  steps of the walk changed with it (the conditions and the leaves stay).
-/
import RtrSpec.CLink
import RtrSpec.CLinkPdu
import RtrProofs.CLinkRecvWalk
set_option linter.unusedSimpArgs false
set_option linter.unusedVariables false

namespace Rtr.CLink.Recv
open Rtr Rtr.Gen Rtr.P Rtr.CLink

/-! ## `rtr_pdu_check_size` at an arbitrary address, in an object larger than the PDU -/

structure HostViewAt (raw : List Nat) (mem : Nat → BitVec 8) (pdu : Nat) : Prop where
  ver : mem pdu = C.memOfList raw 0
  type : mem (pdu + 1) = C.memOfList raw 1
  len : (C.load32 mem (pdu + 4)).toNat = lenOf raw
  rest : ∀ a, 8 ≤ a → a < lenOf raw → mem (pdu + a) = C.memOfList raw a

/-! ## memory lemmas -/

/- The first four, and `rtr_get_pdu_type_at` above, are `CLink`'s lemmas of the same names: CLinkErr uses them as
   `Recv.memcpy_out` (its `close_frame`) and `Recv.rtr_get_pdu_type_at`. -/

abbrev Mem := Nat → BitVec 8
abbrev Sock := C.S_rtr_socket
abbrev XW := C.XWorld Sock

/-- what `rtr_pdu_convert_header_byte_order` does to the 8 header bytes at `a` (either direction; little-endian host):
    bytes 4..7 reversed, bytes 2, 3 swapped unless the type byte is 9 (ROUTER_KEY) -/
def hdrSwap (m : Mem) (a : Nat) : Mem := fun x =>
  if x = a + 2 then (if m (a + 1) = 9#8 then m (a + 2) else m (a + 3))
  else if x = a + 3 then (if m (a + 1) = 9#8 then m (a + 3) else m (a + 2))
  else if x = a + 4 then m (a + 7) else if x = a + 5 then m (a + 6)
  else if x = a + 6 then m (a + 5) else if x = a + 7 then m (a + 4) else m x

/-- where byte `k` of the converted header comes from (`t` = the type byte) -/
def perm (t : BitVec 8) (k : Nat) : Nat :=
  if k = 2 then (if t = 9#8 then 2 else 3) else if k = 3 then (if t = 9#8 then 3 else 2)
  else if k = 4 then 7 else if k = 5 then 6 else if k = 6 then 5 else if k = 7 then 4 else k

/-! ## numbers -/

/-! ## the world -/

/-- the world after one more external call (CLinkSync's `xrec`; its `xrecs w cs` is the `w'` of `Calls w w' cs` below, and
    CLinkFsm's `worldAfter` the same with typed calls) -/
def push (w : XW) (name : String) (args : List (BitVec 64)) (s : Sock) : XW :=
  { w with n := w.n + 1, trace := w.trace ++ [(name, args, s)] }

/-! ## the model: what `rtr_receive_pdu` does, in terms of the world's answers -/

/-- byte `i` of an answer (bytes the answer does not have read as 0, as in `C.memFill`) -/
def hdrB (b : List (BitVec 8)) (i : Nat) : BitVec 8 := b.getD i 0#8
/-- the first `n` bytes of an answer -/
def takeD (b : List (BitVec 8)) (n : Nat) : List (BitVec 8) := (List.range n).map (hdrB b)
/-- the big-endian length field of a received header -/
def lenField (b : List (BitVec 8)) : Nat :=
  (((hdrB b 4).toNat * 256 + (hdrB b 5).toNat) * 256 + (hdrB b 6).toNat) * 256 + (hdrB b 7).toNat
/-- the eight header bytes as recorded for an Error Report -/
def echo8 (b : List (BitVec 8)) : List (BitVec 64) := (takeD b 8).map (BitVec.setWidth 64)


abbrev Call := String × List (BitVec 64) × Sock

/- The literals of the C text that the model repeats. Return codes: 4294967295 = −1 (RTR_ERROR, TR_ERROR), 4294967294 = −2
   (TR_WOULDBLOCK), 4294967293 = −3 (TR_INTR), 4294967292 = −4 (TR_CLOSED). Socket states: 7 RTR_ERROR_FATAL,
   8 RTR_ERROR_TRANSPORT, 9 RTR_SHUTDOWN. PDU type 10: ERROR_REPORT. 60 = RTR_RECV_TIMEOUT, 3248 = RTR_MAX_PDU_LEN.
   An Error Report call carries [8, code, text length] and then the eight header bytes: 8 = `sizeof(header)`, the bytes of
   the offending PDU that are echoed; code 0 = CORRUPT_DATA, with the text "corrupt data received, length value in PDU is
   too small" (56 bytes with its NUL) or "PDU too big, max. PDU size is: 3248 bytes" (42 bytes); code 8 =
   UNEXPECTED_PROTOCOL_VERSION, without a text (length 0). -/
def recv1 (timeout : BitVec 64) (s : Sock) : Call := ("tr_recv_all", [8#64, timeout], s)
def recv2 (b : List (BitVec 8)) (s : Sock) : Call := ("tr_recv_all", [BitVec.ofNat 64 (lenField b - 8), 60#64], s)
def reportCall (code txt : BitVec 64) (b : List (BitVec 8)) (s : Sock) : Call :=
  ("rtr_send_error_pdu_from_network", [8#64, code, txt] ++ echo8 b, s)
def stateCall (st : BitVec 64) (s : Sock) : Call := ("rtr_change_socket_state", [st], s)
def footerCall (s : Sock) : Call := ("rtr_pdu_footer_to_host_byte_order", [], s)

structure Out where
  rc : BitVec 32
  sock : Sock
  mem : Mem
  w : XW
  /-- the external calls made, in order. `w.trace` holds the same (`recvModel_calls`); the list is kept beside it so that
      the theorems can speak of the calls of this run without subtracting the caller's earlier trace -/
  calls : List Call

def sendReport (w : XW) (code txt : BitVec 64) (b : List (BitVec 8)) (s : Sock) : XW :=
  push w "rtr_send_error_pdu_from_network" ([8#64, code, txt] ++ echo8 b) s

def changeState (w : XW) (st : BitVec 64) (s : Sock) : XW := push w "rtr_change_socket_state" [st] s

/-- Error Report, then ERROR_FATAL, then RTR_ERROR -/
def reportFatal (w : XW) (cs : List Call) (code txt : BitVec 64) (b : List (BitVec 8)) (s : Sock) (m : Mem) : Out :=
  let w1 := sendReport w code txt b s
  ⟨4294967295#32, (w1.ext w1.n).st, m, changeState w1 7#64 s, cs ++ [reportCall code txt b s, stateCall 7#64 s]⟩

/-- the `error:` label for a negative transport code -/
def transportErr (rc : BitVec 32) (w : XW) (cs : List Call) (s : Sock) (m : Mem) : Out :=
  if rc = 4294967295#32 then ⟨4294967295#32, (w.ext w.n).st, m, changeState w 8#64 s, cs ++ [stateCall 8#64 s]⟩
  else if rc = 4294967294#32 then ⟨4294967294#32, s, m, w, cs⟩
  else if rc = 4294967293#32 then ⟨4294967293#32, s, m, w, cs⟩
  else if rc = 4294967292#32 then ⟨4294967292#32, (w.ext w.n).st, m, changeState w 7#64 s, cs ++ [stateCall 7#64 s]⟩
  else ⟨4294967295#32, (w.ext w.n).st, m, changeState w 7#64 s, cs ++ [stateCall 7#64 s]⟩

/-- live downgrade on the first PDU of a connection, and `has_received_pdus` -/
def downgrade (s : Sock) (b : List (BitVec 8)) : Sock :=
  if s.has_received_pdus then s
  else if s.version = 1#32 ∧ hdrB b 0 = 0#8 ∧ hdrB b 1 ≠ 10#8 then { s with version := 0#32, has_received_pdus := true }
  else { s with has_received_pdus := true }

/-- the received PDU as the model-level byte list: the 8 header bytes, then the payload -/
def rawOf (b b2 : List (BitVec 8)) : List Nat := (takeD b 8 ++ takeD b2 (lenField b - 8)).map BitVec.toNat

/-- size check, then either the footer conversion and RTR_SUCCESS, or an Error Report -/
def finish (w : XW) (cs : List Call) (s : Sock) (m : Mem) (msize pdu : Nat) (b b2 : List (BitVec 8)) : Out :=
  if checkSize (rawOf b b2) then
    ⟨0#32, s, C.memFill m pdu (msize - pdu) (w.ext w.n).buf, push w "rtr_pdu_footer_to_host_byte_order" [] s,
      cs ++ [footerCall s]⟩
  else reportFatal w cs 0#64 56#64 b s m

def recvModel (w : XW) (mem : Mem) (msize : Nat) (s : Sock) (pdu : Nat) (timeout : BitVec 64) : Out :=
  if s.state = 9#32 then ⟨4294967295#32, s, mem, w, []⟩ else
  let b := (w.ext w.n).buf
  let rc1 := BitVec.setWidth 32 (w.ext w.n).rc
  let w1 := push w "tr_recv_all" [8#64, timeout] s
  let m1 := C.memFill mem pdu 8 b
  if rc1.slt 0#32 then transportErr rc1 w1 [recv1 timeout s] s m1
  else if lenField b < 8 then reportFatal w1 [recv1 timeout s] 0#64 56#64 b s m1
  else if 3248 < lenField b then reportFatal w1 [recv1 timeout s] 0#64 42#64 b s m1
  else
    let s1 := downgrade s b
    if BitVec.setWidth 32 (hdrB b 0) ≠ s1.version ∧ hdrB b 1 ≠ 10#8 then
      ⟨4294967295#32, s1, m1, sendReport w1 8#64 0#64 b s1, [recv1 timeout s, reportCall 8#64 0#64 b s1]⟩
    else if lenField b = 8 then finish w1 [recv1 timeout s] s1 m1 msize pdu b []
    else if s1.state = 9#32 then ⟨4294967295#32, s1, m1, w1, [recv1 timeout s]⟩
    else
      let b2 := (w1.ext w1.n).buf
      let rc2 := BitVec.setWidth 32 (w1.ext w1.n).rc
      let w2 := push w1 "tr_recv_all" [BitVec.ofNat 64 (lenField b - 8), 60#64] s1
      let m2 := C.memFill m1 (pdu + 8) (lenField b - 8) b2
      if rc2.slt 0#32 then transportErr rc2 w2 [recv1 timeout s, recv2 b s1] s1 m2
      else finish w2 [recv1 timeout s, recv2 b s1] s1 m2 msize pdu b b2

/-- the translated function returned `o`, up to the function's own stack objects (addresses ≥ `msize`) -/
def Agrees (r : Option (BitVec 32 × Sock × Mem × XW)) (o : Out) (msize : Nat) : Prop :=
  ∃ m', r = some (o.rc, o.sock, m', o.w) ∧ ∀ a, a < msize → m' a = o.mem a

/-! ## the memory of `rtr_receive_pdu` -/

/-! ## the buffer when the size check runs -/

/-- `m2` is the memory after the (possible) second receive, `m2'` the model's buffer at that time: the host-order header
    copy on the stack is intact, the payload is what the second answer delivered, the header is as received -/
structure Stage (mem : Mem) (b b2 : List (BitVec 8)) (pdu hp : Nat) (m2 m2' : Mem) : Prop where
  stk : ∀ i, i < 8 → m2 (hp + i) = hdrSwap (C.memcpy (C.memFill mem pdu 8 b) hp pdu 8) hp (hp + i)
  pay : ∀ a, 8 ≤ a → a < lenField b → m2 (pdu + a) = hdrB b2 (a - 8)
  rest : ∀ a, a < hp → (a < pdu ∨ pdu + 8 ≤ a) → m2 a = m2' a
  hdr : ∀ i, i < 8 → m2' (pdu + i) = hdrB b i

/-! ## behind the version check, and the link theorem -/

set_option hygiene false in
/-- No proof calls this; `receive_pdu_eq_model` walks what lies behind the version check itself. -/
macro "recv_rest" : tactic => `(tactic| (
  by_cases hl : lenField b = 8
  · have st := stage_nopayload mem b pdu hp gd hl
    have hcs := st.check_size msize gd (by omega) (by omega)
    simp only [hl, Nat.lt_irrefl, if_false, if_true, finish, hcs]
    cases hc : checkSize (rawOf b [])
    · simp (disch := decide) only [C.b2i, Bool.false_eq_true, if_false, if_true, beq_self_eq_true, st.roundtrip, st.stk_eq, perm_0, perm_1, reportFatal, sendReport,
        changeState, echo8_eq, List.cons_append, List.nil_append]
      exact agrees_mk _ _ _ _ _ _ (fun a (ha : a < msize) => st.fail_mem a (by omega) gd)
    · simp only [C.b2i, if_true, if_false, reduceCtorEq, BitVec.reduceBEq, BitVec.reduceEq, Bool.false_eq_true, ite_self]
      first | exact agrees_mk _ _ _ _ _ _ (fun a (ha : a < msize) => st.ok_mem msize _ a ha g1 (by omega)) | (apply agrees_ite; first | exact agrees_mk _ _ _ _ _ _ (fun a (ha : a < msize) => st.ok_mem msize _ a ha g1 (by omega)) | (apply agrees_ite; first | exact agrees_mk _ _ _ _ _ _ (fun a (ha : a < msize) => st.ok_mem msize _ a ha g1 (by omega)) | (apply agrees_ite; exact agrees_mk _ _ _ _ _ _ (fun a (ha : a < msize) => st.ok_mem msize _ a ha g1 (by omega)))))
  · have hl' : 8 < lenField b := by omega
    simp only [hl, hl', if_true, if_false, hs]
    generalize hb2 : ((push w "tr_recv_all" [8#64, timeout] s).ext (push w "tr_recv_all" [8#64, timeout] s).n).buf = b2
    generalize hrc2 : BitVec.setWidth 32 ((push w "tr_recv_all" [8#64, timeout] s).ext (push w "tr_recv_all" [8#64, timeout] s).n).rc = rc2
    by_cases hneg2 : rc2.slt 0#32 = true
    · simp only [hneg2, if_true, transportErr, changeState]
      have hmem : ∀ a, a < msize → C.memFill (hdrSwap (C.memcpy (C.memFill mem pdu 8 b) hp pdu 8) hp) (pdu + 8) (lenField b - 8) b2 a
          = C.memFill (C.memFill mem pdu 8 b) (pdu + 8) (lenField b - 8) b2 a := by
        intro a ha
        by_cases hin : pdu + 8 ≤ a ∧ a < pdu + 8 + (lenField b - 8)
        · rw [memFill_in _ _ _ _ _ hin, memFill_in _ _ _ _ _ hin]
        · rw [memFill_out _ _ _ _ _ (by omega), memFill_out _ _ _ _ _ (by omega)]; exact stk_buf _ _ _ _ (by omega)
      by_cases e1 : rc2 = 4294967295#32
      · simp only [e1, if_true]; exact agrees_mk _ _ _ _ _ _ hmem
      by_cases e2 : rc2 = 4294967294#32
      · simp only [e1, e2, if_true, if_false]; exact agrees_mk _ _ _ _ _ _ hmem
      by_cases e3 : rc2 = 4294967293#32
      · simp only [e1, e2, e3, if_true, if_false]; exact agrees_mk _ _ _ _ _ _ hmem
      by_cases e4 : rc2 = 4294967292#32
      · simp only [e1, e2, e3, e4, if_true, if_false]; exact agrees_mk _ _ _ _ _ _ hmem
      have n0 := neg_ne_lit rc2 hneg2
      simp (disch := decide) only [e1, e2, e3, e4, n0, if_false]
      exact agrees_mk _ _ _ _ _ _ hmem
    · have st := stage_payload mem b b2 pdu hp (by omega) (by omega)
      have hcs := st.check_size msize gd (by omega) (by omega)
      simp only [hneg2, Bool.false_eq_true, if_false, finish, hcs]
      cases hc : checkSize (rawOf b b2)
      · simp (disch := decide) only [C.b2i, Bool.false_eq_true, if_false, if_true, beq_self_eq_true, st.roundtrip, st.stk_eq, perm_0, perm_1, reportFatal, sendReport,
          changeState, echo8_eq, List.cons_append, List.nil_append]
        exact agrees_mk _ _ _ _ _ _ (fun a (ha : a < msize) => st.fail_mem a (by omega) gd)
      · simp only [C.b2i, if_true, if_false, reduceCtorEq, BitVec.reduceBEq, BitVec.reduceEq, Bool.false_eq_true, ite_self]
        first | exact agrees_mk _ _ _ _ _ _ (fun a (ha : a < msize) => st.ok_mem msize _ a ha g1 (by omega)) | (apply agrees_ite; first | exact agrees_mk _ _ _ _ _ _ (fun a (ha : a < msize) => st.ok_mem msize _ a ha g1 (by omega)) | (apply agrees_ite; first | exact agrees_mk _ _ _ _ _ _ (fun a (ha : a < msize) => st.ok_mem msize _ a ha g1 (by omega)) | (apply agrees_ite; exact agrees_mk _ _ _ _ _ _ (fun a (ha : a < msize) => st.ok_mem msize _ a ha g1 (by omega)))))))

/-! ## consequences -/

/-- `w'` is `w` after exactly the external calls `cs` (the k-th of them answered by `w.ext (w.n + k)`) -/
def Calls (w w' : XW) (cs : List Call) : Prop :=
  w'.trace = w.trace ++ cs ∧ w'.n = w.n + cs.length ∧ w'.ext = w.ext

/-! ### the model, case by case -/

section cases
variable (w : XW) (mem : Mem) (msize : Nat) (s : Sock) (pdu : Nat) (timeout : BitVec 64)

/-- the first answer of the world: the eight header bytes and the return code of the first receive -/
abbrev hdr1 : List (BitVec 8) := (w.ext w.n).buf
abbrev rc1 : BitVec 32 := BitVec.setWidth 32 (w.ext w.n).rc
/-- the second answer: payload bytes and return code of the second receive -/
abbrev pay2 : List (BitVec 8) := (w.ext (w.n + 1)).buf
abbrev rc2 : BitVec 32 := BitVec.setWidth 32 (w.ext (w.n + 1)).rc
/-- the socket after the live-downgrade step -/
abbrev sock1 : Sock := downgrade s (hdr1 w)
/-- the version check fails -/
def Mismatch : Prop := BitVec.setWidth 32 (hdrB (hdr1 w) 0) ≠ (sock1 w s).version ∧ hdrB (hdr1 w) 1 ≠ 10#8
instance : Decidable (Mismatch w s) := by unfold Mismatch; exact inferInstance
/-- the world after the first / second receive -/
abbrev world1 : XW := push w "tr_recv_all" [8#64, timeout] s
abbrev world2 : XW := push (world1 w s timeout) "tr_recv_all" [BitVec.ofNat 64 (lenField (hdr1 w) - 8), 60#64] (sock1 w s)
abbrev buf1 : Mem := C.memFill mem pdu 8 (hdr1 w)
abbrev buf2 : Mem := C.memFill (buf1 w mem pdu) (pdu + 8) (lenField (hdr1 w) - 8) (pay2 w)

/-! ### the pieces of the model, field by field -/

/-- what a negative transport code `rc` leads to: return code, socket, calls (after the calls `pre` already made; `ans` is
    the socket the world answers a state change with): −1 → ERROR_TRANSPORT, RTR_ERROR; −2, −3 → handed through, nothing
    else; −4 → ERROR_FATAL, TR_CLOSED; anything else → ERROR_FATAL, RTR_ERROR -/
def TransportOutcome (rc : BitVec 32) (pre : List Call) (s ans : Sock) (ret : BitVec 32) (s' : Sock) (cs : List Call) :
    Prop :=
  (rc = 4294967295#32 → ret = 4294967295#32 ∧ s' = ans ∧ cs = pre ++ [stateCall 8#64 s]) ∧
  (rc = 4294967294#32 → ret = 4294967294#32 ∧ s' = s ∧ cs = pre) ∧
  (rc = 4294967293#32 → ret = 4294967293#32 ∧ s' = s ∧ cs = pre) ∧
  (rc = 4294967292#32 → ret = 4294967292#32 ∧ s' = ans ∧ cs = pre ++ [stateCall 7#64 s]) ∧
  (rc ≠ 4294967295#32 → rc ≠ 4294967294#32 → rc ≠ 4294967293#32 → rc ≠ 4294967292#32 →
    ret = 4294967295#32 ∧ s' = ans ∧ cs = pre ++ [stateCall 7#64 s])

/-! ## the theorems about `C.rtr_receive_pdu` -/

/-- the contract of the callers (`rtr_sync_receive_and_store_pdus`, `rtr_sync`, `rtr_wait_for_sync`: each hands in its
    `char pdu[RTR_MAX_PDU_LEN]` with RTR_MAX_PDU_LEN or `sizeof(pdu)`): the buffer has 3248 bytes and lies below the
    function's own objects -/
structure Contract (msize pdu : Nat) (pdu_len : BitVec 64) : Prop where
  fits : pdu + 3248 ≤ msize
  below : msize ≤ C.STACK
  len : 3248 ≤ pdu_len.toNat

variable (pdu_len : BitVec 64)

/-- `rtr_receive_pdu` has a defined result: return code `rc`, socket `s'`, memory `m'`, and it made exactly the external
    calls `cs`; these satisfy `P` -/
def Returns (P : BitVec 32 → Sock → Mem → List Call → Prop) : Prop :=
  ∃ rc s' m' w', C.rtr_receive_pdu w mem msize s pdu pdu_len timeout = some (rc, s', m', w') ∧
    ∃ cs, Calls w w' cs ∧ P rc s' m' cs

variable {msize pdu pdu_len}

def isReport (c : Call) : Bool := c.1 == "rtr_send_error_pdu_from_network"

def Delivers : Prop :=
  s.state ≠ 9#32 ∧ (rc1 w).slt 0#32 = false ∧ 8 ≤ lenField (hdr1 w) ∧ lenField (hdr1 w) ≤ 3248 ∧ ¬ Mismatch w s ∧
    (8 < lenField (hdr1 w) → (rc2 w).slt 0#32 = false) ∧ checkSize (rawOf (hdr1 w) (pay2 w)) = true

/-- the second receive is made (`receive_pdu_lengths`) -/
def SecondReceive : Prop :=
  (rc1 w).slt 0#32 = false ∧ 8 < lenField (hdr1 w) ∧ lenField (hdr1 w) ≤ 3248 ∧ ¬ Mismatch w s
instance : Decidable (SecondReceive w s) := by unfold SecondReceive; exact inferInstance

end cases

/-! ## concrete worlds, evaluated on the translated C text itself (not on the model) -/

/-- a socket in state 2 (RTR_RESET; any state but RTR_SHUTDOWN behaves alike here), given version and whether the next PDU is the first of the connection -/
def sockEx (version : BitVec 32) (first : Bool) : Sock := { C.S_rtr_socket.zero with state := 2#32, version := version, has_received_pdus := !first }

/-- the world that gives the listed answers (return code, bytes), then zeros; a state change leaves state 99 -/
def worldEx (s : Sock) (answers : List (BitVec 64 × List (BitVec 8))) : XW :=
  { ext := fun i => match answers[i]? with
      | some (rc, buf) => { rc := rc, aux := 0#64, st := { s with state := 99#32 }, buf := buf }
      | none => { rc := 0#64, aux := 0#64, st := { s with state := 99#32 }, buf := [] } }

structure RecvObs where
  rc : BitVec 32
  state : BitVec 32
  version : BitVec 32
  received : Bool
  buf : List (BitVec 8)
  calls : List (String × List (BitVec 64))
deriving DecidableEq

def observe (n : Nat) (r : Option (BitVec 32 × Sock × Mem × XW)) : Option RecvObs :=
  r.map fun (rc, s, m, w) => ⟨rc, s.state, s.version, s.has_received_pdus, (List.range n).map m,
    w.trace.map fun c => (c.1, c.2.1)⟩

/-- run on a 3248-byte buffer at address 0 that holds 0xEE everywhere, timeout 5 -/
def runEx (s : Sock) (answers : List (BitVec 64 × List (BitVec 8))) (n : Nat) : Option RecvObs :=
  observe n (C.rtr_receive_pdu (worldEx s answers) (fun _ => 0xEE#8) 3248 s 0 3248#64 5#64)

end Rtr.CLink.Recv
