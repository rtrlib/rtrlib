-- GENERATED by tools/gen_specs.py from RtrProofs/CLinkSync.lean: definitions only (every theorem removed); not part of the audited libraries
/-
  CLinkSync: the synchronisation functions of rtrlib/rtr/packets.c as translated (`rtr_wait_for_sync`, `rtr_sync`, the two
  query senders, `rtr_set_last_update`, `rtr_handle_cache_response_pdu`, `rtr_handle_error_pdu`) equal short readable
  specifications (`<function>_eq : C.f … = fSpec …`) - for EVERY socket, world and buffer content, with the exact condition
  under which the C text has a defined result.  The property-level corollaries (C04, C05, C07, C13, C14, C17) are stated
  about the translated functions.

  The functions are translated as control skeletons over `C.XWorld C.S_rtr_socket` (RtrModel/CSem.lean).  A call of a
  function in the table `EXTERNX` of tools/gen_cfuns.py - whatever works on the socket or outside the program:
  rtr_receive_pdu, rtr_send_pdu, rtr_change_socket_state, rtr_send_error_pdu_from_host, rtr_sync_receive_and_store_pdus,
  the clock, pthread_setcancelstate, and also rtr_handle_cache_response_pdu, rtr_handle_error_pdu and rtr_set_last_update,
  which have translations of their own - is not entered: the world answers it (`w.ext i` answers the i-th call: return
  value `rc`, clock reading `aux`, the socket as the callee left it `st`, the bytes it left in the receive buffer `buf`)
  and it is recorded in `w.trace` with its name, its recorded scalar arguments and the socket it was handed.  Only
  rtr_get_pdu_type is composed with its translation.  So a specification says: which calls are made, in which order, with
  which arguments and which socket; how the function itself changes the socket in between; what it returns - and the
  theorems about rtr_sync say nothing of what the three translated callees do with the socket.

  Proof method (robust against harmless rewrites of the C text; nothing navigates the generated term):
    1. unfold the generated definition and the specification;
    2. `c_norm`: a fixed base `simp only` set, extended per call - calls ↦ `xans`/`xrec`; `==`, `!=`, `&&`, `||`, `!`,
       `decide` ↦ propositions; Bool tests ↦ `b = true`; widenings compared with literals ↦ statements about the narrow value;
    3. `ifs_agree`: make every condition atomic (`if p ∧ q` / `p ∨ q` / `¬p` ↦ nested decisions), then repeatedly take the
       condition at the head of either side, decide it both ways and prune BOTH sides with it (and with its symmetric form);
       leaves close by `rfl`, paths that contradict the bounds by `omega` or `simp_all`.
    So the proofs do not depend on the order of conjuncts, on `a == b` vs `b == a`, on early returns vs else-branches, on
    `switch` vs if-chains, on merged `case` labels, on temporaries or on the order of independent assignments.

  Definedness conditions found (the C text has a defined result exactly when):
    rtr_wait_for_sync              `last_update + refresh_interval` and `(…) - now` do not overflow `time_t` (waitDefined)
    rtr_sync                       always - unless 2^64 + 1 receives in a row deliver a Serial Notify (the loop's fuel)
    rtr_handle_cache_response_pdu  `pdu + 4 ≤ msize`
    rtr_handle_error_pdu           `pdu + 12 + len_enc_pdu + 4 ≤ msize` (len_enc_pdu read at offset 8)
    the other three                always
-/
import RtrSpec.CLink
import RtrModel.Generated.Constants

set_option linter.unusedSimpArgs false
set_option linter.unusedVariables false

namespace Rtr.CLink
open Rtr Rtr.Gen

local notation "Sock" => C.S_rtr_socket
local notation "XW" => C.XWorld C.S_rtr_socket
local notation "Res" => Option (BitVec 32 × C.S_rtr_socket × C.XWorld C.S_rtr_socket)
/-- a recorded call: name, recorded scalar arguments, the socket handed to the callee -/
local notation "Call" => String × List (BitVec 64) × C.S_rtr_socket

/-! ## Worlds: answers and records

The same notion, "the world after these calls", is spelled three times in the link files: here `xrec` / `xrecs w calls`,
in CLinkFsm `worldAfter w ops` (= `xrecs w (ops.map XOp.record)`, calls as typed `XOp`s; its `ExtAns.ret` is `xret`),
in CLinkRecv `push` (= `xrec`) and the relation `Calls w w' cs` (`w' = xrecs w cs`). -/

/-- the world's answer to the next external call -/
def xans (w : XW) : C.ExtAns Sock := w.ext w.n
/-- the world after the call `name(args)` with socket `s` was made: the call is recorded, the next answer is due -/
def xrec (w : XW) (name : String) (args : List (BitVec 64)) (s : Sock) : XW :=
  { w with n := w.n + 1, trace := w.trace ++ [(name, args, s)] }
/-- the world after the calls `calls` were made, in this order -/
def xrecs (w : XW) (calls : List Call) : XW :=
  { w with n := w.n + calls.length, trace := w.trace ++ calls }
/-- return value of a callee as the C `int` it is -/
def xret (a : C.ExtAns Sock) : BitVec 32 := a.rc.setWidth 32

/-- normal form of worlds: `xrecs w [call, …]`, answers as `w.ext (w.n + k)` -/
local macro "xw_norm" : tactic =>
  `(tactic| simp only [xrec_eq_xrecs, xrecs_xrecs, xans_xrecs, xans_eq, xrecs_ext, xrecs_n, xrecs_trace, List.cons_append,
      List.nil_append, List.length_cons, List.length_nil, Nat.reduceAdd, Nat.add_zero, Nat.zero_add])

/-! ## `c_norm` -/

/-- normal form of the generated term: external calls as `xans`/`xrec`, conditions as propositions about the values
    (no `==`, `!=`, `&&`, `decide`), widenings compared with literals as statements about the narrow value -/
local syntax "c_norm" "[" Lean.Parser.Tactic.simpLemma,* "]" : tactic
local macro_rules
  | `(tactic| c_norm [$ls,*]) =>
    `(tactic| try simp only [xcall_eq, xcallBuf_eq, xret_fold, beq_iff_eq, bne_iff_ne, ne_eq, Bool.and_eq_true, Bool.or_eq_true,
        bnot_eq_true_eq, Bool.not_eq_false', bool_eq_false_eq, Bool.not_eq_eq_eq_not, Bool.not_true, Bool.not_false,
        decide_eq_true_eq, decide_eq_false_iff_not, Decidable.not_not, b2i_bne_zero, C.load8, BitVec.reduceSetWidth,
        zext16_eq_lit _ 0 (by decide), zext16_eq_lit _ 1 (by decide), zext16_eq_lit _ 2 (by decide),
        zext16_eq_lit _ 3 (by decide), zext16_eq_lit _ 4 (by decide), zext16_eq_lit _ 5 (by decide),
        sext8_eq_lit _ 0 (by decide), sext8_eq_lit _ 3 (by decide), sext8_eq_lit _ 8 (by decide),
        sext8_eq_lit _ 10 (by decide), $ls,*])

/-! ## `ifs_agree` -/

/-- rewrite the goal with a decided condition `h` (and, for a refuted equation, with its symmetric form) -/
local macro "prune_with" h:ident : tactic =>
  `(tactic| first
      | (have h_s := fun e => $h (Eq.symm e)
         try simp only [$h:ident, h_s, ↓reduceIte, not_true_eq_false, not_false_eq_true, and_true, true_and, and_false, false_and,
           ne_eq, eq_self, Bool.false_eq_true, Bool.true_eq_false] at ⊢)
      | (try simp only [$h:ident, ↓reduceIte, not_true_eq_false, not_false_eq_true, and_true, true_and, and_false, false_and,
           ne_eq, eq_self, Bool.false_eq_true, Bool.true_eq_false] at ⊢))

/-- both sides are decision trees over the same conditions: make every condition atomic (`if p ∧ q`, `if p ∨ q`, `if ¬p`
    become nested decisions), then take the condition at the head of the left (else the right) side, decide it both ways, prune
    both sides with it; a leaf closes by `rfl`, a path that contradicts the bounds known closes by `omega` or `simp_all` -/
local macro "ifs_agree" : tactic =>
  `(tactic| ((try simp only [ite_and_nest, ite_or_nest, ite_not]) <;>
    repeat' (first
      | rfl
      | omega
      | (refine ite_cases_lhs ?_ ?_ <;> intro h_ <;> (try simp only [Decidable.not_not] at h_) <;> prune_with h_)
      | (refine ite_cases_rhs ?_ ?_ <;> intro h_ <;> (try simp only [Decidable.not_not] at h_) <;> prune_with h_)
      | (simp_all; done))))

/-! ## The type byte of the receive buffer; the literals of the specifications -/

/-- the type byte of a received PDU (offset 1 of the receive buffer) -/
def typeByte (buf : List (BitVec 8)) : BitVec 8 := buf.getD 1 0#8

/-! ## rtr_set_last_update (C07) -/

/-- `last_update` := the clock reading; a failing clock (return value -1) makes the socket ERROR_FATAL -/
def setLastUpdateSpec (w : XW) (s : Sock) : Res :=
  let clock := xans w
  let s1 : Sock := { s with last_update := clock.aux }
  let w1 := xrec w "lrtr_get_monotonic_time" [] s
  if xret clock = 4294967295#32 then
    some (4294967295#32, (xans w1).st, xrec w1 "rtr_change_socket_state" [7#64] s1)
  else
    some (0#32, s1, w1)

/-! ## rtr_send_serial_query, rtr_send_reset_query (C05, C14) -/

/-- the record handed to rtr_send_pdu (recorded: length argument, then the fields ver, type, session_id, len, sn):
    version, SERIAL_QUERY, the socket's session and serial, length 12; a send failure makes the socket ERROR_TRANSPORT -/
def serialQuerySpec (w : XW) (s : Sock) : Res :=
  let pdu : List (BitVec 64) :=
    [12#64, (s.version.setWidth 8).setWidth 64, 1#64, (s.session_id.setWidth 16).setWidth 64, 12#64,
     s.serial_number.setWidth 64]
  let w1 := xrec w "rtr_send_pdu" pdu s
  if xret (xans w) ≠ 0#32 then
    some (4294967295#32, (xans w1).st, xrec w1 "rtr_change_socket_state" [8#64] s)
  else
    some (0#32, s, w1)

/-- recorded: length argument, then the fields ver, type, flags, len -/
def resetQuerySpec (w : XW) (s : Sock) : Res :=
  let pdu : List (BitVec 64) := [8#64, (s.version.setWidth 8).setWidth 64, 2#64, 0#64, 8#64]
  let w1 := xrec w "rtr_send_pdu" pdu s
  if xret (xans w) ≠ 0#32 then
    some (4294967295#32, (xans w1).st, xrec w1 "rtr_change_socket_state" [8#64] s)
  else
    some (0#32, s, w1)

/-! ## rtr_handle_cache_response_pdu (C05) -/

/-- the session id of a Cache Response: the 16-bit field at offset 2 (host order), widened -/
def crSession (mem : Nat → BitVec 8) (pdu : Nat) : BitVec 32 := (C.load16 mem (pdu + 2)).setWidth 32

/-- no session yet: adopt the PDU's session (and mark the socket as resetting if it holds data); otherwise the PDU's
    session must be the socket's - if not: Error Report (no encapsulated PDU, CORRUPT_DATA), ERROR_FATAL, RTR_ERROR.
    Defined iff the session field lies inside the object. -/
def cacheResponseSpec (w : XW) (mem : Nat → BitVec 8) (msize : Nat) (s : Sock) (pdu : Nat) : Res :=
  if pdu + 4 ≤ msize then
    if s.request_session_id = true then
      some (0#32, { s with session_id := crSession mem pdu,
                           is_resetting := if s.last_update ≠ 0#64 then true else s.is_resetting }, w)
    else if s.session_id ≠ crSession mem pdu then
      let w1 := xrec w "rtr_send_error_pdu_from_host" [0#64, 0#64] s
      some (4294967295#32, (xans w1).st, xrec w1 "rtr_change_socket_state" [7#64] s)
    else some (0#32, s, w)
  else none

/-! ## rtr_handle_error_pdu (C13, C04) -/

/-- the length of the encapsulated PDU as `rtr_handle_error_pdu` finds it at offset 8 (host order) -/
def errLenEnc (mem : Nat → BitVec 8) (pdu : Nat) : Nat := (C.load32 mem (pdu + 8)).toNat

/-- the byte ranges (offset, width) `rtr_handle_error_pdu` reads: version, error code, length, length of the encapsulated
    PDU, and - behind the encapsulated PDU - the length of the error text -/
def errorPduReads (mem : Nat → BitVec 8) (pdu : Nat) : List (Nat × Nat) :=
  [(pdu, 1), (pdu + 2, 2), (pdu + 4, 4), (pdu + 8, 4), (pdu + 12 + errLenEnc mem pdu, 4)]

/-- an UNSUPPORTED_PROTOCOL_VER report that carries a supported version (≤ 1) below the socket's -/
def errorPduDowngrades (mem : Nat → BitVec 8) (pdu : Nat) (s : Sock) : Prop :=
  C.load16 mem (pdu + 2) = 4#16 ∧ (mem pdu).toNat ≤ 1 ∧ (mem pdu).toNat < s.version.toNat

instance (mem : Nat → BitVec 8) (pdu : Nat) (s : Sock) : Decidable (errorPduDowngrades mem pdu s) := by
  unfold errorPduDowngrades; exact inferInstance

/-- the state the error code leads to: FAST_RECONNECT for a downgrade, ERROR_NO_DATA_AVAIL for NO_DATA_AVAIL, else ERROR_FATAL -/
def errorPduState (mem : Nat → BitVec 8) (pdu : Nat) (s : Sock) : BitVec 64 :=
  if errorPduDowngrades mem pdu s then 4#64 else if C.load16 mem (pdu + 2) = 2#16 then 5#64 else 7#64

/-- one call: the state change the error code asks for, on the socket with the version possibly lowered; RTR_SUCCESS.
    Defined iff the text-length field behind the encapsulated PDU lies inside the object. -/
def errorPduSpec (w : XW) (mem : Nat → BitVec 8) (msize : Nat) (s : Sock) (pdu : Nat) : Res :=
  if pdu + 12 + errLenEnc mem pdu + 4 ≤ msize then
    let s1 : Sock := if errorPduDowngrades mem pdu s then { s with version := (mem pdu).setWidth 32 } else s
    some (0#32, (xans w).st, xrec w "rtr_change_socket_state" [errorPduState mem pdu s] s1)
  else none

/-! ## rtr_wait_for_sync (C17) -/

/-- no signed overflow in `(last_update + refresh_interval) - now` (all `time_t`, i.e. signed 64 bit; the refresh interval
    is an unsigned 32-bit value): this is exactly what the guards of the generated definition say -/
def waitDefined (s : Sock) (now : BitVec 64) : Prop :=
  s.last_update.toInt + s.refresh_interval.toNat < 2 ^ 63 ∧
  -(2 ^ 63) ≤ s.last_update.toInt + s.refresh_interval.toNat - now.toInt ∧
  s.last_update.toInt + s.refresh_interval.toNat - now.toInt < 2 ^ 63

instance (s : Sock) (now : BitVec 64) : Decidable (waitDefined s now) := by unfold waitDefined; exact inferInstance

/-- the timeout: the time left until `last_update + refresh_interval` as a SIGNED 64-bit number, but not below 0 -/
def waitTimeout (s : Sock) (now : BitVec 64) : BitVec 64 :=
  let wait := s.last_update + s.refresh_interval.setWidth 64 - now
  if wait.slt 0#64 then 0#64 else wait

/-- the result of rtr_wait_for_sync from the return value of the receive and the type byte of what it received -/
def waitResult (rc : BitVec 32) (ty : BitVec 8) : BitVec 32 :=
  if BitVec.sle 0#32 rc then (if ty = 0#8 then 0#32 else 4294967295#32)
  else if rc = 4294967294#32 then 0#32 else 4294967295#32

/-- one clock reading, one receive (buffer size RTR_MAX_PDU_LEN, the timeout above) on the unchanged socket -/
def waitForSyncSpec (w : XW) (s : Sock) : Res :=
  let now := (xans w).aux
  let w1 := xrec w "lrtr_get_monotonic_time" [] s
  if waitDefined s now then
    let recv := xans w1
    some (waitResult (xret recv) (typeByte recv.buf), recv.st,
          xrec w1 "rtr_receive_pdu" [3248#64, waitTimeout s now] s)
  else none

/-! ## rtr_sync (C13, C05, C07) -/

/-- what one pass through the `do … while (type == SERIAL_NOTIFY)` loop of rtr_sync and the code behind it yield -/
inductive SyncRound where
  /-- a Serial Notify was received and skipped: receive again, with this socket and world -/
  | again (s : Sock) (w : XW)
  /-- rtr_sync returns -/
  | done (r : BitVec 32) (s : Sock) (w : XW)

def SyncRound.ofResult (r : BitVec 32 × Sock × XW) : SyncRound := .done r.1 r.2.1 r.2.2

/-- after a Cache Response: check it; receive and store the payload; only then clear `request_session_id`; only then set
    `last_update`; each step only if the one before did not fail, and RTR_SUCCESS only at the end -/
def syncCacheResponse (s : Sock) (w : XW) : BitVec 32 × Sock × XW :=
  let check := xans w
  let w1 := xrec w "rtr_handle_cache_response_pdu" [] s
  if xret check = 4294967295#32 then (4294967295#32, check.st, w1) else
  let store := xans w1
  let w2 := xrec w1 "rtr_sync_receive_and_store_pdus" [] check.st
  if xret store = 4294967295#32 then (4294967295#32, store.st, w2) else
  let s3 : Sock := { store.st with request_session_id := false }
  let stamp := xans w2
  let w3 := xrec w2 "rtr_set_last_update" [] s3
  if xret stamp = 4294967295#32 then (4294967295#32, stamp.st, w3) else (0#32, stamp.st, w3)

/-- the `switch (type)` behind the loop (`ty` is not Serial Notify): ERROR → rtr_handle_error_pdu, CACHE_RESET → state
    ERROR_NO_INCR_UPDATE_AVAIL, CACHE_RESPONSE → the path above, anything else → Error Report (header only, CORRUPT_DATA) -/
def syncDispatch (ty : BitVec 8) (s : Sock) (w : XW) : BitVec 32 × Sock × XW :=
  if ty = 10#8 then (4294967295#32, (xans w).st, xrec w "rtr_handle_error_pdu" [] s)
  else if ty = 8#8 then (4294967295#32, (xans w).st, xrec w "rtr_change_socket_state" [6#64] s)
  else if ty = 3#8 then syncCacheResponse s w
  else (4294967295#32, s, xrec w "rtr_send_error_pdu_from_host" [8#64, 0#64] s)

/-- one round: cancellation enabled, receive (RTR_MAX_PDU_LEN bytes, RTR_RECV_TIMEOUT), cancellation disabled; then
    TR_CLOSED before any session and version > 0 → downgrade; TR_WOULDBLOCK → ERROR_TRANSPORT; other failures → RTR_ERROR;
    Serial Notify → again; else the dispatch on the PDU type -/
def syncRound (w : XW) (s : Sock) : SyncRound :=
  let w1 := xrec w "pthread_setcancelstate" [0#64] s
  let recv := xans w1
  let w2 := xrec w1 "rtr_receive_pdu" [3248#64, 60#64] s
  let s1 := recv.st
  let w3 := xrec w2 "pthread_setcancelstate" [1#64] s1
  let rc := xret recv
  if (rc = 4294967292#32 ∧ s1.request_session_id = true) ∧ s1.version ≠ 0#32 then
    .done 4294967295#32 (xans w3).st (xrec w3 "rtr_change_socket_state" [4#64] { s1 with version := s1.version - 1#32 })
  else if rc = 4294967294#32 then
    .done 4294967295#32 (xans w3).st (xrec w3 "rtr_change_socket_state" [8#64] s1)
  else if BitVec.slt rc 0#32 = true then .done 4294967295#32 s1 w3
  else if typeByte recv.buf = 0#8 then .again s1 w3
  else .ofResult (syncDispatch (typeByte recv.buf) s1 w3)

def SyncRound.andThen (r : SyncRound) (again : Sock → XW → Res) : Res :=
  match r with
  | .done r s w => some (r, s, w)
  | .again s w => again s w

/-- rtr_sync with `fuel` rounds -/
def syncSpec : Nat → XW → Sock → Res
  | 0, _, _ => none
  | fuel + 1, w, s => (syncRound w s).andThen (fun s' w' => syncSpec fuel w' s')

/-! ### the rounds of rtr_sync -/

/-- socket and world after `k` rounds each of which received and skipped a Serial Notify -/
def afterNotifies : Nat → XW → Sock → Option (Sock × XW)
  | 0, w, s => some (s, w)
  | k + 1, w, s =>
    match syncRound w s with
    | .again s' w' => afterNotifies k w' s'
    | .done _ _ _ => none

/-- the three calls every round makes: cancellation on, receive, cancellation off (the last one already with the socket
    as the receive left it) -/
def roundCalls (w : XW) (s : Sock) : List Call :=
  [("pthread_setcancelstate", [0#64], s), ("rtr_receive_pdu", [3248#64, 60#64], s),
   ("pthread_setcancelstate", [1#64], (w.ext (w.n + 1)).st)]

/-- evaluate `syncRound` under the hypotheses given -/
local syntax "round_simp" "[" Lean.Parser.Tactic.simpLemma,* "]" (Lean.Parser.Tactic.location)? : tactic
local macro_rules
  | `(tactic| round_simp [$ls,*] $[$loc]?) =>
    `(tactic| simp only [syncRound, syncDispatch, syncCacheResponse, SyncRound.ofResult, roundCalls, xrec_eq_xrecs, xrecs_xrecs, xans_xrecs, xans_eq, xrecs_ext, xrecs_n,
        List.cons_append, List.nil_append, List.length_cons, List.length_nil, Nat.reduceAdd, Nat.zero_add, ne_eq,
        not_true_eq_false, not_false_eq_true, and_true, true_and, and_false, false_and, Bool.false_eq_true, BitVec.reduceEq, ↓reduceIte, $ls,*] $[$loc]?)

/-! ### (C13) rtr_sync changes `version` in no situation but the downgrade -/

/-- a socket that rtr_sync hands to a callee carries a `version` rtr_sync was itself given - by its caller (`s`) or by a
    callee (`(ext i).st`) - or, only in the call `rtr_change_socket_state(FAST_RECONNECT)` after a receive that returned
    TR_CLOSED while a session id was still requested and the version was not 0, that version minus one -/
def VersionGiven (ext : Nat → C.ExtAns Sock) (s : Sock) (e : Call) : Prop :=
  e.2.2.version = s.version ∨ (∃ i, e.2.2.version = (ext i).st.version) ∨
  (e.1 = "rtr_change_socket_state" ∧ e.2.1 = [4#64] ∧
    ∃ i, xret (ext i) = 4294967292#32 ∧ (ext i).st.request_session_id = true ∧ (ext i).st.version ≠ 0#32 ∧
      e.2.2.version = (ext i).st.version - 1#32)

def SyncRound.world : SyncRound → XW
  | .again _ w => w
  | .done _ _ w => w
def SyncRound.sock : SyncRound → Sock
  | .again s _ => s
  | .done _ s _ => s

/-- what `syncRound_versions` says about a round -/
def RoundOk (w : XW) (s : Sock) (r : SyncRound) : Prop :=
  r.world.ext = w.ext ∧ (∃ i, r.sock = (w.ext i).st) ∧
  ∃ seg, r.world.trace = w.trace ++ seg ∧ ∀ e ∈ seg, VersionGiven w.ext s e

/-! ### (C05, C07) the only way to RTR_SUCCESS -/

/-! ## Non-vacuity: the translated functions evaluated on small concrete worlds -/

/-- an established version-1 socket: last synchronisation at time 1000, refresh interval 3600 -/
def exSock : Sock :=
  { refresh_interval := 3600#32, last_update := 1000#64, expire_interval := 7200#32, retry_interval := 600#32,
    iv_mode := 0#32, state := 1#32, session_id := 0x1234#32, request_session_id := false, serial_number := 77#32,
    thread_id := 0#64, version := 1#32, has_received_pdus := true, is_resetting := false }

/-- a world that gives the listed answers (afterwards: return value 0) -/
def exWorld (l : List (C.ExtAns Sock)) : XW := { ext := fun i => l.getD i { rc := 0#64, aux := 0#64, st := exSock } }

/-- what can be observed of a result: return value, socket, number of calls made, the calls -/
structure SyncObs where
  ret : BitVec 32
  sock : Sock
  ncalls : Nat
  calls : List Call
deriving DecidableEq

def syncObs (r : Res) : Option SyncObs := r.map fun x => ⟨x.1, x.2.1, x.2.2.n, x.2.2.trace⟩

-- rtr_wait_for_sync: at time 2000 the deadline 1000 + 3600 is 2600 away; a Serial Notify arrives → RTR_SUCCESS
def exCacheResponse : List Nat := [1, 3, 0x78, 0x56, 8, 0, 0, 0]
def exErrorPdu (ver code : Nat) : List Nat := [ver, 10, code, 0, 16, 0, 0, 0, 0, 0, 0, 0, 0, 0, 0, 0]
def exNotify : List (BitVec 8) := [1#8, 0#8, 0x12#8, 0x34#8, 0#8, 0#8, 0#8, 12#8, 0#8, 0#8, 0#8, 78#8]
def exResponse : List (BitVec 8) := [1#8, 3#8, 0x12#8, 0x34#8, 0#8, 0#8, 0#8, 8#8]
def exReq : Sock := { exSock with request_session_id := true }
end Rtr.CLink
