-- GENERATED by tools/gen_specs.py from RtrProofs/CLinkIo.lean: definitions only (every theorem removed); not part of the audited libraries
/-
  CLinkIo: what the translated `tr_send_all` and `tr_recv_all` (rtrlib/transport/transport.c; loops as fuel-recursive
  auxiliaries, external calls through `C.World`) do - for EVERY world (clock readings, transport answers) and all arguments.

  Specification (mathematical integers, no fuel): `ioLoop` / `ioAll`
      read the clock once: deadline = clock₀ + timeout
      while total < len:  read the clock (reading k+1 before the k-th call)
                          call the transport with (pdu + total, len - total, deadline - now)
                          a negative answer is returned at once; otherwise total += answer
      return total
  defined by recursion on the list of (clock reading, answer) pairs the world will supply; it yields the return value and
  the trace: the list of calls (`IoCall`: address, length, timeout, and the answer given).

  The translated functions are this specification under the side conditions listed at `tr_send_all_eq` (`RunOk` bundles
  them, `runOk_of_world` derives them from conditions on the world alone).  What the checks rely on is stated about the
  translated functions: contiguous, non-overlapping pieces (`tr_send_all_chunks`); one deadline, fixed by the first clock
  reading and never re-armed (`*_timeouts`); a non-negative return value of `tr_recv_all` is exactly `len`
  (`tr_recv_all_never_short`); a transport answering 0 for ever gives no result (`*_zero_spins`).  Inputs the side
  conditions exclude are evaluated in RtrProofs/CLinkIoOutside.lean.

  Robustness: both functions are instances of one notion, `IsXfer` (RtrProofs/CLinkXfer.lean: the text of the prologue
  and of one round, over a byte counter of either width); the inductions are done once, about any `IsXfer`
  (`ioLoop_link`, `IsXfer.eq`, `IsXfer.zero_spins`). What is proved of each generated function is that its text is that
  round (`send_isXfer`, `recv_isXfer`), and that does not navigate the generated term: one unfolding, comparisons to
  number facts (`io_unfold`), every `if` that is left decided by `omega` or `bv_omega` (`io_decide_ifs`). The type of the
  byte counter, and any new variable that lives across the loop, appears in the statements of these two instances only
  (not in the theorems about the functions).
-/
import RtrSpec.CLink
import RtrProofs.CLinkXfer

namespace Rtr.CLink
open Rtr Rtr.Gen

/-! ## specification -/

/-- one transport call as the specification sees it: what was handed over, and what the transport answered -/
structure IoCall where
  buf : Nat
  len : Nat
  /-- timeout handed over (signed) -/
  tmo : Int
  /-- the transport's answer: a byte count, or a negative error code -/
  ans : Int
deriving DecidableEq, Repr

/-- the loop. `steps`: for every call still to come, the clock reading taken just before it and the transport's answer;
    `total`: bytes done so far. Result: the return value and the calls made, `none` if `steps` ends before the loop does. -/
def ioLoop (pdu len : Nat) (deadline : Int) : List (Int × Int) → Nat → Option (Int × List IoCall)
  | [], total => if len ≤ total then some ((total : Int), []) else none
  | (now, a) :: rest, total =>
    if len ≤ total then some ((total : Int), [])
    else if a < 0 then some (a, [⟨pdu + total, len - total, deadline - now, a⟩])
    else (ioLoop pdu len deadline rest (total + a.toNat)).map
      fun r => (r.1, ⟨pdu + total, len - total, deadline - now, a⟩ :: r.2)

/-- the whole function: the deadline is the first clock reading plus `timeout` -/
def ioAll (pdu len : Nat) (clock0 timeout : Int) (steps : List (Int × Int)) : Option (Int × List IoCall) :=
  ioLoop pdu len (clock0 + timeout) steps 0

/-- bytes the transport took/delivered in a trace -/
def got (tr : List IoCall) : Nat := (tr.map fun c => c.ans.toNat).sum

/-! ### properties of the specification -/

/-! ## world side -/

/-- the next `n` (clock reading, answer) pairs of a world whose next reading is number `c` and next answer number `i` -/
def stepsFrom (clock : Nat → BitVec 64) (io : Nat → BitVec 32) : Nat → Nat → Nat → List (Int × Int)
  | 0, _, _ => []
  | n + 1, c, i => ((clock c).toInt, (io i).toInt) :: stepsFrom clock io n (c + 1) (i + 1)

/-- a call as `C.extIo` records it -/
def enc (c : IoCall) : Nat × BitVec 64 × BitVec 64 := (c.buf, BitVec.ofNat 64 c.len, BitVec.ofInt 64 c.tmo)

/-- the world after the loop made the calls `tr`: one clock reading and one answer consumed per call -/
def after (w : C.World) (tr : List IoCall) : C.World :=
  { w with nclock := w.nclock + tr.length, nio := w.nio + tr.length, calls := w.calls ++ tr.map enc }

/-- side conditions on one call: the transport answered at most what it was asked for, and the timeout
    `end_time - cur_time` is representable in `time_t` -/
def CallOk (c : IoCall) : Prop := c.ans ≤ c.len ∧ -9223372036854775808 ≤ c.tmo ∧ c.tmo < 9223372036854775808

/-! ### numbers behind the bit-vector operations of the loop -/

set_option linter.unusedSimpArgs false

/-! ### the translated loops: one round, and the induction -/

/-- one unfolding of a translated loop, conditions as propositions about numbers -/
macro "io_unfold" loop:ident "with" h:term : tactic => `(tactic|
  simp only [$loop:ident, C.extTime, C.extIo, BitVec.ult_eq_decide, BitVec.ule_eq_decide, BitVec.slt_eq_decide,
    BitVec.sle_eq_decide, zext32_toNat, BitVec.toInt_zero, BitVec.toNat_zero, BitVec.reduceToInt, BitVec.reduceToNat,
    BitVec.toNat_ofNat, Nat.zero_mod, $h:term,
    Bool.not_false, Bool.not_true, Bool.and_true, Bool.true_and, Bool.and_eq_true, Bool.not_eq_true', Bool.not_eq_eq_eq_not,
    decide_eq_true_eq, decide_eq_false_iff_not, if_true, if_false, eq_self])

/-- decide every remaining `if` by linear arithmetic from the facts in the context -/
macro "io_decide_ifs" : tactic => `(tactic|
  repeat' (split <;> try (exfalso; first | omega | bv_omega)))

/-- closes `x = enc c` for the triple `x` the translated text hands to the transport: components compared, the
    bit-vector differences by `bv_omega` (`enc_call` is this fact as a lemma).  Only `io_loop_link` calls it. -/
macro "io_enc" : tactic => `(tactic|
  (simp only [enc, ofInt_sub_toInt, Prod.mk.injEq, true_and, and_true]; try bv_omega))

set_option hygiene false in
/-- the induction over a translated loop written as one script: by cases of the specification, one unfolding per case.
    No proof calls this, and `some_after_one`, `some_after_cons`, `add32_toNat`, `add64_sext_toNat`, which it names, are
    not defined; `ioLoop_link` is this induction as a theorem about any `IsXfer`. -/
local macro "io_loop_link" loop:ident : tactic => `(tactic| (
  intro n
  induction n with
  | zero =>
    intro fuel w total rc tr hf hinv hs hok
    obtain ⟨f, rfl⟩ : ∃ f, fuel = f + 1 := ⟨fuel - 1, by omega⟩
    have hle : len.toNat ≤ total.toNat := by
      simp only [stepsFrom, ioLoop] at hs; split at hs <;> first | assumption | cases hs
    rw [ioLoop_done hle] at hs
    simp only [Option.some.injEq, Prod.mk.injEq] at hs
    obtain ⟨rfl, rfl⟩ := hs
    io_unfold $loop with true_and
    io_decide_ifs
    simp only [ofInt32_natCast_toNat, ofInt32_natCast_toNat64, after_nil]
  | succ n ih =>
    intro fuel w total rc tr hf hinv hs hok
    obtain ⟨f, rfl⟩ : ∃ f, fuel = f + 1 := ⟨fuel - 1, by omega⟩
    rcases Nat.lt_or_ge total.toNat len.toNat with hlt | hle
    · have hnle : ¬ len.toNat ≤ total.toNat := by omega
      have hg : pdu + total.toNat ≤ msize := by omega
      simp only [stepsFrom, ioLoop, hnle, if_false] at hs
      split at hs
      · rename_i hneg
        simp only [Option.some.injEq, Prod.mk.injEq] at hs
        obtain ⟨rfl, rfl⟩ := hs
        have hc := hok _ (List.mem_singleton.mpr rfl)
        have hso := ssub_ok end_time (w.clock w.nclock) hc.2.1 hc.2.2
        io_unfold $loop with hso
        io_decide_ifs
        rw [BitVec.ofInt_toInt]
        refine some_after_one _ _ _ _ ?_
        io_enc
      · rename_i hneg
        simp only [Option.map_eq_some_iff, Prod.mk.injEq] at hs
        obtain ⟨⟨rc', tr'⟩, hs', rfl, rfl⟩ := hs
        have hc := hok _ List.mem_cons_self
        have hso := ssub_ok end_time (w.clock w.nclock) hc.2.1 hc.2.2
        have h0 : 0 ≤ (w.io w.nio).toInt := Int.not_lt.mp hneg
        have hsum : total.toNat + (w.io w.nio).toInt.toNat ≤ len.toNat := by
          have := hc.1; simp only at this; omega
        have h64 := len.isLt
        io_unfold $loop with hso
        io_decide_ifs
        refine (ih _ _ _ rc' tr' (by omega) ?_ ?_ (fun c hc' => hok c (List.mem_cons_of_mem _ hc'))).trans
          (some_after_cons _ _ _ _ _ ?_)
        · first
            | rw [add32_toNat _ _ h0 (by omega)]; exact hsum
            | rw [add64_sext_toNat _ _ h0 (by omega)]; exact hsum
        · first
            | rw [add32_toNat _ _ h0 (by omega)]; exact hs'
            | rw [add64_sext_toNat _ _ h0 (by omega)]; exact hs'
        · io_enc
    · rw [ioLoop_done hle] at hs
      simp only [Option.some.injEq, Prod.mk.injEq] at hs
      obtain ⟨rfl, rfl⟩ := hs
      io_unfold $loop with true_and
      io_decide_ifs
      simp only [ofInt32_natCast_toNat, ofInt32_natCast_toNat64, after_nil]))

/-! ## the whole functions -/

/-- the deadline `clock₀ + timeout` is representable -/
def DeadlineOk (c0 t : Int) : Prop := -9223372036854775808 ≤ c0 + t ∧ c0 + t < 9223372036854775808

/-- the world after a run: one clock reading for the deadline, then one reading and one transport call per entry -/
def afterAll (w : C.World) (tr : List IoCall) : C.World :=
  { w with nclock := w.nclock + 1 + tr.length, nio := w.nio + tr.length, calls := w.calls ++ tr.map enc }

set_option hygiene false in
/-- from the loop to the function, as a script: the first clock reading fixes the deadline.  No proof calls this;
    `IsXfer.eq` is this step as a theorem. -/
local macro "io_all_link" f:ident loopeq:term : tactic => `(tactic| (
  have ha1 := sadd_ok (w.clock w.nclock) timeout hdl.1 hdl.2
  have ha2 := sadd_ok timeout (w.clock w.nclock) (by have := hdl.1; omega) (by have := hdl.2; omega)
  have he1 := toInt_add_range (w.clock w.nclock) timeout hdl.1 hdl.2
  have he2 := toInt_add_range timeout (w.clock w.nclock) (by have := hdl.1; omega) (by have := hdl.2; omega)
  simp only [$f:ident, C.extTime, ha1, ha2, Bool.not_false, if_true]
  refine ($loopeq n C.FUEL _ _ rc tr (fuel_ok hn) (by simp) ?_ hok).trans ?_
  · simp only [ioAll] at hspec
    first
      | rw [he1]; exact hspec
      | rw [he2, Int.add_comm]; exact hspec
  · rw [after_first]))

/-! ## the trace in closed form, in terms of the world -/

/-- bytes answered by the first `k` transport calls of a run that starts at answer number `i` -/
def sumAns (io : Nat → BitVec 32) (i : Nat) : Nat → Nat
  | 0 => 0
  | k + 1 => sumAns io i k + (io (i + k)).toInt.toNat

/-- the `k`-th call of a run on world `w`, as the specification describes it -/
def specCall (w : C.World) (pdu : Nat) (len timeout : BitVec 64) (k : Nat) : IoCall :=
  { buf := pdu + sumAns w.io w.nio k
    len := len.toNat - sumAns w.io w.nio k
    tmo := (w.clock w.nclock).toInt + timeout.toInt - (w.clock (w.nclock + 1 + k)).toInt
    ans := (w.io (w.nio + k)).toInt }

/-! ## the side conditions, bundled; sufficient conditions on the world -/

/-- the side conditions of one run on world `w`, bundled (each is explained at `tr_send_all_eq`) -/
structure RunOk (w : C.World) (msize pdu : Nat) (len timeout : BitVec 64) (n : Nat) (rc : Int) (tr : List IoCall) :
    Prop where
  fuel : n ≤ 18446744073709551616
  ptr : pdu + len.toNat ≤ msize
  deadline : DeadlineOk (w.clock w.nclock).toInt timeout.toInt
  spec : ioAll pdu len.toNat (w.clock w.nclock).toInt timeout.toInt
    (stepsFrom w.clock w.io n (w.nclock + 1) w.nio) = some (rc, tr)
  calls : ∀ c ∈ tr, CallOk c

/-- clock readings `0 … n` of the run are non-negative and below 2^62 -/
def ClockBounded (w : C.World) (n : Nat) : Prop :=
  ∀ k, k ≤ n → 0 ≤ (w.clock (w.nclock + k)).toInt ∧ (w.clock (w.nclock + k)).toInt < 4611686018427387904

def TimeoutBounded (t : BitVec 64) : Prop := -4611686018427387904 ≤ t.toInt ∧ t.toInt < 4611686018427387904

/-! ## what the checks rely on, about the translated functions -/

section corollaries
variable {w : C.World} {msize pdu : Nat} {len timeout : BitVec 64} {n : Nat} {rc : Int} {tr : List IoCall}

end corollaries

/-! ## a transport that answers 0 for ever -/

set_option hygiene false in
/-- the induction on the fuel for a transport that answers 0, as a script.  No proof calls this;
    `IsXfer.loop_zero_spins` is this induction as a theorem. -/
local macro "io_spin" loop:ident : tactic => `(tactic| (
  intro fuel
  induction fuel with
  | zero => intro w total _ _; rfl
  | succ f ih =>
    intro w total hz hlt
    have hz0 : w.io w.nio = 0#32 := by simpa using hz 0
    have hz' : ∀ k, w.io (w.nio + 1 + k) = 0#32 := by
      intro k; rw [Nat.add_assoc]; exact hz (1 + k)
    io_unfold $loop with hz0
    simp only [BitVec.add_zero, sext_zero, BitVec.toInt_zero, Int.lt_irrefl, Int.le_refl, if_false, if_true]
    io_decide_ifs
    all_goals first | rfl | exact ih _ _ hz' hlt))

/-! ## non-vacuity: the translated functions run on concrete worlds (kernel evaluation, full fuel) -/

/-- what can be compared of a result: return value, clock readings and transport calls consumed, and the calls
    (address, length, timeout as a signed number) -/
structure Obs where
  rc : Int
  nclock : Nat
  nio : Nat
  calls : List (Nat × Nat × Int)
deriving DecidableEq, Repr

def obs (r : Option (BitVec 32 × C.World)) : Option Obs :=
  r.map fun p => ⟨p.1.toInt, p.2.nclock, p.2.nio, p.2.calls.map fun c => (c.1, c.2.1.toNat, c.2.2.toInt)⟩

/-- a world from a list of clock readings and a list of transport answers (0 beyond the lists) -/
def mkWorld (clock : List Nat) (io : List Int) : C.World :=
  { clock := fun i => BitVec.ofNat 64 (clock.getD i 0), io := fun i => BitVec.ofInt 32 (io.getD i 0) }

def noMem : Nat → BitVec 8 := fun _ => 0

instance : DecidablePred CallOk := fun c => by unfold CallOk; infer_instance
instance (c0 t : Int) : Decidable (DeadlineOk c0 t) := by unfold DeadlineOk; infer_instance

/-! ### outside the hypotheses (more in RtrProofs/CLinkIoOutside.lean: examples pinned to the current source) -/

end Rtr.CLink
