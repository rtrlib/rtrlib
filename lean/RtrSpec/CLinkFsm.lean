-- GENERATED by tools/gen_specs.py from RtrProofs/CLinkFsm.lean: definitions only (every theorem removed); not part of the audited libraries
/-
  CLinkFsm: the socket state machine of rtrlib/rtr/rtr.c as translated: `C.rtr_purge_outdated_records`,
  `C.rtr_fsm_start.loop1.step` (ONE iteration of the `while (1)` of rtr_fsm_start), `C.rtr_fsm_start`, `C.rtr_stop`.

  In the translation of THESE functions every callee (tr_open, tr_close, rtr_send_serial_query, rtr_send_reset_query,
  rtr_sync, rtr_wait_for_sync, rtr_change_socket_state, sleep, pfx_table_src_remove, spki_table_src_remove,
  pthread_setcancelstate, pthread_cancel, pthread_join, lrtr_get_monotonic_time) is an external call through
  `C.XWorld C.S_rtr_socket`: the world's next answer is (return value, auxiliary value = the time, socket afterwards), the
  call is appended to the trace with its scalar arguments and the socket at that moment.  That holds also for the callees
  that are translated and linked on their own (rtr_sync, rtr_wait_for_sync and the two query senders: RtrProofs/CLinkSync.lean):
  they are not composed into this caller, so no theorem here says what the state machine does WITH `rtr_sync` - only what
  it does for every possible answer of it.  The translated functions are the CONTROL SKELETON of the state machine as
  written in C, over arbitrary behaviour of the callees; the trace is the observable.

  The specifications `purgeSpec`, `fsmIterSpec`, `stopSpec` are small programs in do-notation over four primitives
  (`FsmOps`), written once for any monad with these primitives.  `Script` runs them on a world's answers and gives an
  `Outcome` - or nothing where the C text has no defined behaviour; RtrProofs/CLinkFsmModel.lean runs the same programs over
  the state of the hand-written model.  Everything is total except the purge check (`purgeDefined`: unless the clock call
  failed, `last_update + expire_interval` must not overflow `time_t`).

  Robustness: each state is a lemma of its own (`fsm_connecting`, ...: what an iteration in that state does, read off the
  C text); its proof does not navigate the generated term: it unfolds the loop body, rewrites the tests of the state value
  by the value (`beq_of_eq`), and splits on the conditions of the STATEMENT (result of the purge check, return values,
  `request_session_id`).  `rtr_fsm_step_eq` runs the specification against these closed forms, state by state.
-/
import RtrSpec.CLink
import RtrModel.Generated.Constants

namespace Rtr.CLink
open Rtr Rtr.Gen

/-! ## specification -/

abbrev Sock := C.S_rtr_socket
abbrev Ans := C.ExtAns Sock
abbrev XW := C.XWorld Sock

/-- `enum rtr_socket_state` -/
inductive FsmState
  | connecting | established | reset | sync | fastReconnect
  | errorNoDataAvail | errorNoIncrUpdateAvail | errorFatal | errorTransport
  | shutdown | closed
deriving DecidableEq, Repr

def FsmState.code : FsmState → Nat
  | .connecting => 0 | .established => 1 | .reset => 2 | .sync => 3 | .fastReconnect => 4
  | .errorNoDataAvail => 5 | .errorNoIncrUpdateAvail => 6 | .errorFatal => 7 | .errorTransport => 8
  | .shutdown => 9 | .closed => 10

/-- the state a value of the `state` field stands for (`none`: outside the enumeration) -/
def FsmState.ofCode (v : BitVec 32) : Option FsmState :=
  match v.toNat with
  | 0 => some .connecting | 1 => some .established | 2 => some .reset | 3 => some .sync
  | 4 => some .fastReconnect | 5 => some .errorNoDataAvail | 6 => some .errorNoIncrUpdateAvail
  | 7 => some .errorFatal | 8 => some .errorTransport | 9 => some .shutdown | 10 => some .closed
  | _ => none

/-- all states, in the order of the enumeration -/
def FsmState.all : List FsmState :=
  [.connecting, .established, .reset, .sync, .fastReconnect, .errorNoDataAvail, .errorNoIncrUpdateAvail, .errorFatal,
   .errorTransport, .shutdown, .closed]

/-- the external calls of the state machine -/
inductive XOp
  | open | close
  | serialQuery | resetQuery | sync | waitForSync
  | changeState (s : FsmState)
  | sleep (seconds : BitVec 32)
  | pfxSrcRemove | spkiSrcRemove
  | cancelState (enable : Bool)
  | time
  | threadCancel | threadJoin
deriving DecidableEq, Repr

def XOp.name : XOp → String
  | .open => "tr_open" | .close => "tr_close"
  | .serialQuery => "rtr_send_serial_query" | .resetQuery => "rtr_send_reset_query"
  | .sync => "rtr_sync" | .waitForSync => "rtr_wait_for_sync"
  | .changeState _ => "rtr_change_socket_state"
  | .sleep _ => "sleep"
  | .pfxSrcRemove => "pfx_table_src_remove" | .spkiSrcRemove => "spki_table_src_remove"
  | .cancelState _ => "pthread_setcancelstate"
  | .time => "lrtr_get_monotonic_time"
  | .threadCancel => "pthread_cancel" | .threadJoin => "pthread_join"

/-- the scalar arguments the world records (PTHREAD_CANCEL_ENABLE = 0, PTHREAD_CANCEL_DISABLE = 1) -/
def XOp.args : XOp → List (BitVec 64)
  | .changeState s => [BitVec.ofNat 64 s.code]
  | .sleep secs => [secs.setWidth 64]
  | .cancelState enable => [if enable then 0#64 else 1#64]
  | _ => []

/-- the callees whose effect on the socket record the state machine sees -/
def XOp.handsBackSocket : XOp → Bool
  | .serialQuery | .resetQuery | .sync | .waitForSync | .changeState _ => true
  | _ => false

def XOp.record (c : XOp × Sock) : String × List (BitVec 64) × Sock := (c.1.name, c.1.args, c.2)

/-- a C `int` return value -/
def _root_.Rtr.Gen.C.ExtAns.ret (a : Ans) : BitVec 32 := a.rc.setWidth 32

/-- -1: `RTR_ERROR`, `TR_ERROR`, failure of `lrtr_get_monotonic_time` -/
abbrev minusOne : BitVec 32 := 4294967295#32
/-- 0: `RTR_SUCCESS` -/
abbrev success : BitVec 32 := 0#32

/-- an assignment to a field of the socket made by the state machine itself -/
inductive Assign
  | hasReceivedPdus (v : Bool)
  | requestSessionId (v : Bool)
  | serialNumber (v : BitVec 32)
  | lastUpdate (v : BitVec 64)
  | isResetting (v : Bool)
  | threadId (v : BitVec 64)
  | state (v : FsmState)
deriving DecidableEq, Repr

def Assign.apply : Assign → Sock → Sock
  | .hasReceivedPdus v, s => { s with has_received_pdus := v }
  | .requestSessionId v, s => { s with request_session_id := v }
  | .serialNumber v, s => { s with serial_number := v }
  | .lastUpdate v, s => { s with last_update := v }
  | .isResetting v, s => { s with is_resetting := v }
  | .threadId v, s => { s with thread_id := v }
  | .state v, s => { s with state := BitVec.ofNat 32 v.code }

/-- the assignments, first to last -/
def assignAll (l : List Assign) (s : Sock) : Sock := l.foldl (fun s a => a.apply s) s

/-- what the state machine is written in: read the socket, assign fields, perform an external call; `undefined` where the
    C text has no defined behaviour.  The instance `Script` below answers the calls from a world (this is what the translated
    C functions are compared with); RtrProofs/CLinkFsmModel.lean answers them with the sub-operations of the hand-written
    model. -/
class FsmOps (m : Type → Type) where
  sock : m Sock
  assign : List Assign → m Unit
  /-- an external call and its answer (return value, auxiliary value = the time, socket as the callee left it) -/
  ask : XOp → m Ans
  /-- the C text has no defined behaviour here -/
  undefined {α : Type} : m α

export FsmOps (sock assign ask undefined)

section spec
variable {m : Type → Type} [Monad m] [FsmOps m]

/-- an external call whose result is not looked at -/
def call (op : XOp) : m Unit := do
  let _ ← ask op
  pure ()

/-- an external call returning an `int` -/
def callRc (op : XOp) : m (BitVec 32) := do
  let a ← ask op
  pure a.ret

/-- `rtr_purge_outdated_records` -/
def purgeSpec : m Unit := do
  let s ← sock
  if s.last_update = 0#64 then
    pure ()                                       -- holds no data: no call at all
  else
    let t ← ask .time                             -- lrtr_get_monotonic_time(&cur_time)
    let clockFailed : Bool := t.ret == minusOne
    if !clockFailed && BitVec.saddOverflow s.last_update (s.expire_interval.setWidth 64) then
      undefined                                   -- last_update + expire_interval overflows time_t
    else if clockFailed || (s.last_update + s.expire_interval.setWidth 64).slt t.aux then
      call .pfxSrcRemove
      call .spkiSrcRemove
      assign [.requestSessionId true, .serialNumber 0#32, .lastUpdate 0#64, .isResetting true]
    else
      pure ()

/-- what an iteration of the loop decides -/
inductive Iter | again | exit
deriving DecidableEq, Repr

/-- the two error states: close, reconnect after a cancellable sleep of retry_interval -/
def errorRetry : m Iter := do
  call .close
  call (.changeState .connecting)
  call (.cancelState true)
  let s ← sock                                    -- as rtr_change_socket_state left it
  call (.sleep s.retry_interval)
  call (.cancelState false)
  pure .again

/-- one iteration of the `while (1)` of `rtr_fsm_start` -/
def fsmIterSpec : m Iter := do
  let s ← sock
  match FsmState.ofCode s.state with
  | some .connecting =>
    assign [.hasReceivedPdus false]
    purgeSpec
    let opened ← callRc .open
    let s ← sock
    if opened == minusOne then
      call (.changeState .errorTransport)
    else if s.request_session_id then
      call (.changeState .reset)
    else
      let sent ← callRc .serialQuery
      if sent == success then call (.changeState .sync) else call (.changeState .errorFatal)
    pure .again
  | some .reset =>
    let sent ← callRc .resetQuery
    if sent == success then call (.changeState .sync) else pure ()
    pure .again
  | some .sync =>
    let synced ← callRc .sync
    if synced == success then call (.changeState .established) else pure ()
    pure .again
  | some .established =>
    call (.cancelState true)
    let woke ← callRc .waitForSync
    call (.cancelState false)
    if woke == success then
      let sent ← callRc .serialQuery
      if sent == success then call (.changeState .sync) else pure ()
    else pure ()
    pure .again
  | some .fastReconnect =>
    call .close
    call (.changeState .connecting)
    pure .again
  | some .errorNoDataAvail =>
    assign [.requestSessionId true, .serialNumber 0#32]
    call (.changeState .reset)
    let s ← sock
    call (.sleep s.retry_interval)
    purgeSpec
    pure .again
  | some .errorNoIncrUpdateAvail =>
    assign [.requestSessionId true, .serialNumber 0#32]
    call (.changeState .reset)
    purgeSpec
    pure .again
  | some .errorTransport => errorRetry
  | some .errorFatal => errorRetry
  | some .shutdown => pure .exit
  | some .closed => pure .again                   -- no branch of the loop: it goes round without a call
  | none => pure .again                           -- likewise for a value outside the enumeration

/-- `rtr_stop` -/
def stopSpec : m Unit := do
  call (.changeState .shutdown)
  let s ← sock
  if s.thread_id != 0#64 then
    call .threadCancel
    call .threadJoin
    call .close
    assign [.requestSessionId true, .serialNumber 0#32, .lastUpdate 0#64]
    call .pfxSrcRemove
    call .spkiSrcRemove
    assign [.threadId 0#64, .state .closed]
  else
    pure ()

end spec

/-! ## the specification over a world -/

/-- what a piece of the state machine did -/
structure Outcome (α : Type) where
  val : α
  sock : Sock
  /-- index of the first answer of the world not consumed -/
  next : Nat
  /-- the external calls made, in order, each with the socket at the moment of the call -/
  ops : List (XOp × Sock)

/-- a piece of the state machine over a world: given the world's answers (`ext i` = answer to the i-th external call), the
    index of the next answer and the socket, it yields the calls made and the socket afterwards - or nothing where the C text
    is undefined -/
def Script (α : Type) := (Nat → Ans) → Nat → Sock → Option (Outcome α)

namespace Script
protected def pure {α} (a : α) : Script α := fun _ n s => some ⟨a, s, n, []⟩
protected def bind {α β} (m : Script α) (f : α → Script β) : Script β := fun ext n s =>
  match m ext n s with
  | none => none
  | some o =>
    match f o.val ext o.next o.sock with
    | none => none
    | some o' => some ⟨o'.val, o'.sock, o'.next, o.ops ++ o'.ops⟩
instance : Monad Script := { pure := Script.pure, bind := Script.bind }

/-- the answer to an external call is the world's next one; the socket afterwards is the callee's for the callees that hand
    it back; the call is noted with the socket at that moment -/
instance : FsmOps Script where
  sock := fun _ n s => some ⟨s, s, n, []⟩
  assign l := fun _ n s => some ⟨(), assignAll l s, n, []⟩
  ask op := fun ext n s => some ⟨ext n, if op.handsBackSocket then (ext n).st else s, n + 1, [(op, s)]⟩
  undefined := fun _ _ _ => none

def run {α} (m : Script α) (w : XW) (s : Sock) : Option (Outcome α) := m w.ext w.n s
end Script

def Outcome.world {α} (o : Outcome α) (w : XW) : XW :=
  { ext := w.ext, n := o.next, trace := w.trace ++ o.ops.map XOp.record }

abbrev purgeScript : Script Unit := purgeSpec
abbrev fsmIterScript : Script Iter := fsmIterSpec
abbrev stopScript : Script Unit := stopSpec

/-- what a purge resets -/
def purgeFields (s : Sock) : Sock :=
  { s with request_session_id := true, serial_number := 0#32, last_update := 0#64, is_resetting := true }

/-! ## running a script -/

/-- unfold scripts and external calls, with the given facts -/
local syntax "script_simp" "[" Lean.Parser.Tactic.simpLemma,* "]" : tactic
local macro_rules
  | `(tactic| script_simp [$ts,*]) => `(tactic|
      simp [Script.run, bind_apply, pure_apply, sock_apply, assign_apply, ask_apply, undefined_apply, ite_apply_script,
        Script.bind, call, callRc, assignAll, Assign.apply, C.xcall, Outcome.world, XOp.record, XOp.name, XOp.args, XOp.handsBackSocket, FsmState.code, ret_fold, $ts,*])

/-- the result of an iteration in the shape the translated loop body returns it -/
def stepResult (w : XW) (o : Outcome Iter) : C.Step (Nat × Sock × XW) (XW × Sock) :=
  match o.val with
  | .again => .next (o.world w, o.sock)
  | .exit => .done (C.NULL, o.sock, o.world w)

/-- `script_simp` with the purge link theorem and the step results.  No proof calls this; the state lemmas use
    `spec_simp`. -/
local syntax "state_simp" "[" Lean.Parser.Tactic.simpLemma,* "]" : tactic
local macro_rules
  | `(tactic| state_simp [$ts,*]) => `(tactic|
      script_simp [rtr_purge_outdated_records_eq, stepResult, errorRetry, $ts,*])

/-! ### the values of the state field -/

/-! ## link, and what the skeleton guarantees (stated about the translated functions) -/

/-- the world after the given calls (each with the socket handed over) have been answered.  The other link files spell
    the same notion with untyped calls: CLinkSync `xrecs w calls` (`worldAfter w ops = xrecs w (ops.map XOp.record)`, and
    `C.ExtAns.ret` is its `xret`), CLinkRecv `push` and `Calls` -/
def worldAfter (w : XW) (calls : List (XOp × Sock)) : XW :=
  { ext := w.ext, n := w.n + calls.length, trace := w.trace ++ calls.map XOp.record }

/-- the purge condition, given the world's answer to the clock reading: the clock failed, or
    last_update + expire_interval < now (signed 64-bit comparison) -/
def purgeDue (s : Sock) (clock : Ans) : Bool :=
  clock.ret == minusOne || (s.last_update + s.expire_interval.setWidth 64).slt clock.aux

/-- THE definedness condition of the purge check: unless the clock failed (then the sum is not evaluated),
    `last_update + expire_interval` must not overflow `time_t` (signed 64-bit) -/
def purgeDefined (s : Sock) (clock : Ans) : Prop :=
  clock.ret = minusOne ∨ BitVec.saddOverflow s.last_update (s.expire_interval.setWidth 64) = false

instance (s : Sock) (clock : Ans) : Decidable (purgeDefined s clock) := by unfold purgeDefined; infer_instance

/-- the body of the state lemmas and of the cases of `rtr_fsm_step_eq` / `rtr_stop_eq`: the specification side unfolded,
    the call counts added up -/
local syntax "spec_simp" "[" Lean.Parser.Tactic.simpLemma,* "]" : tactic
local macro_rules
  | `(tactic| spec_simp [$ts,*]) => `(tactic|
      script_simp [stepResult, errorRetry, worldAfter, Nat.add_assoc, $ts,*])

/-! ## the translated functions run (kernel evaluation; non-vacuity) -/

/-- a world that gives the listed answers, in order -/
def mkXWorld (answers : List Ans) : XW := { ext := fun i => answers.getD i { rc := 0#64, aux := 0#64, st := C.S_rtr_socket.zero } }

/-- an answer: return value, auxiliary value, socket handed back -/
def ans (rc : Int) (st : Sock := C.S_rtr_socket.zero) (aux : Nat := 0) : Ans :=
  { rc := BitVec.ofInt 64 rc, aux := BitVec.ofNat 64 aux, st := st }

/-- a socket with session, in the given state -/
def sockIn (state : Nat) (lastUpdate : Nat := 100) (requestSession : Bool := false) : Sock :=
  { C.S_rtr_socket.zero with
      state := BitVec.ofNat 32 state, last_update := BitVec.ofNat 64 lastUpdate, expire_interval := 600#32,
      retry_interval := 30#32, refresh_interval := 300#32, session_id := 7#32, serial_number := 42#32, version := 1#32,
      request_session_id := requestSession, thread_id := 5#64 }

/-- what one looks at: does the loop go on, the calls (name, arguments), answers consumed, the socket afterwards -/
def obsStep (r : Option (C.Step (Nat × Sock × XW) (XW × Sock))) : Option (Bool × List (String × List (BitVec 64)) × Nat × Sock) :=
  r.map fun
    | .next (w, s) => (true, w.trace.map (fun c => (c.1, c.2.1)), w.n, s)
    | .done (_, s, w) => (false, w.trace.map (fun c => (c.1, c.2.1)), w.n, s)

def obsSockWorld (r : Option (Sock × XW)) : Option (List (String × List (BitVec 64)) × Nat × Sock) :=
  r.map fun (s, w) => (w.trace.map (fun c => (c.1, c.2.1)), w.n, s)

end Rtr.CLink
