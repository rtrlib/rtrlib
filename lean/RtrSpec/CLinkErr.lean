-- GENERATED by tools/gen_specs.py from RtrProofs/CLinkErr.lean: definitions only (every theorem removed); not part of the audited libraries
/-
  CLinkErr: the three functions of rtrlib/rtr/packets.c through which every byte leaves the library, as translated by
  tools/gen_cfuns.py (RtrModel/Generated/CFuns.lean, regenerated from the current source on every run), equal short
  readable specifications - for EVERY world, socket and memory, under explicit side conditions.  (Property C14.)

      C.rtr_send_error_pdu            = sendErrorSpec     (rtr_send_error_pdu_eq, rtr_send_error_pdu_eq_below)
      C.rtr_send_pdu                  = sendPduSpec       (rtr_send_pdu_eq)
      C.rtr_send_error_pdu_from_host  = fromHostSpec      (rtr_send_error_pdu_from_host_eq; from_host_eq_callee: it is its
                                                           callee on the converted copy)

  The functions are translated over `C.XWorld C.S_rtr_socket` (RtrModel/CSem.lean): a callee that the translator's entry for
  the calling function declares external (`externs` in tools/gen_cfuns.py; `rtr_send_pdu` is one for `rtr_send_error_pdu`
  although it is translated on its own as well) is answered by the world and recorded in `w.trace` with its name and its
  recorded arguments.  For `rtr_send_pdu` called by `rtr_send_error_pdu` these are the length followed by the `length`
  bytes of the message (`C.bytesAt`); for `tr_send_all` length, timeout and the bytes of the buffer.  What
  `rtr_pdu_to_network_byte_order` was handed is not recorded: the converted copy is the world's answer, so "the bytes sent are
  the conversion of the caller's bytes" is outside these theorems.  Memory is `Nat → BitVec 8`; the variable-length arrays
  `msg`, `pdu`, `pdu_converted` live in pages of their own above `C.STACK` (`MSG`, `FH`, `SP`; page size 2^20).  The array
  `pdu` of `rtr_send_error_pdu_from_host` and the array `msg` of its translated callee must be different objects - the
  callee's header stores would otherwise overwrite the copy before it is read; the translator gives every translated
  function pages of its own and refuses a function that would share one with a translated callee (tools/gen_cfuns.py);
  `pages_apart` is that fact in the form the proof needs.

  rtr_send_error_pdu (`errorReportBytes` = the report in HOST byte order on a little-endian host):
    * `erroneous_pdu_len ≥ 2` and type byte (offset 1) = 10 (ERROR): NO call, nothing written, RTR_SUCCESS;
    * otherwise exactly ONE call, "rtr_send_pdu", whose arguments are `16 + |enc| + |text|` and exactly
      `errorReportBytes ver code enc text`, enc = the bytes at `erroneous_pdu`, text = the bytes at `err_text`, both as
      they were when the function was called; the return value is the callee's; the memory afterwards is the memory
      before with the report at `MSG` (`C.memFill`), so nothing below `C.STACK` is written.
    Side conditions (rtr_send_error_pdu_eq).  Where a report is made the first three are necessary for a defined result of
    the translation; the early return asks only that the size (mod 2^32) is in 1..2^20 and for two bytes at
    `erroneous_pdu`.  `Apart` is sufficient, not necessary: see there.
      `16 + el + tl ≤ 2^20`                      the translator's page size for `msg`; implies that `unsigned int msg_size`
                                                 does not wrap.  When the sum DOES wrap 2^32 the array is too small for
                                                 what is written: `none` for all such lengths (rtr_send_error_pdu_wrap)
      `el = 0 ∨ erroneous_pdu + el ≤ msize`      the encapsulated PDU lies in its object (`NULL, 0` is fine)
      `tl = 0 ∨ err_text + tl ≤ err_text_end`    the text lies in its object
      `Apart … MSG …` (twice)                    the two buffers do not meet the message array.  For a defined result a
                                                 source need only be apart from the destination of its own copy
                                                 (`memcpy` must not overlap); the equation needs the whole array: the
                                                 report must not overwrite what is still to be copied.
                                                 `Below` = the convenient special case: the objects end below `C.STACK`.

  Nothing navigates the generated term: `c_norm` normalises it, `walk` compares its decision tree with the specification's
  (`omega`), the memory at a leaf is compared with the report piece by piece whatever the order of the stores (`leaf`,
  `close_bytes`, `close_frame`).  What the proofs do not refer to: the order of the two copies and of the header stores,
  where `len_enc_pdu` is assigned, the order in which `msg_size` is summed, through which pointer a field is written, the
  spelling of a comparison (`ERROR == t`, a local in between, `> 1` for `>= 2`, `RTR_SHUTDOWN == state`: conditions are
  normalised and compared by `omega`), merged return paths, the order of from_host's case distinction, the page numbers.
  What they do depend on is every length, field, buffer and test of the three functions: each occurs in a specification.
-/
import RtrSpec.CLink
import RtrSpec.CLinkPdu
import RtrSpec.CLinkSync
import RtrSpec.CLinkRecv

set_option linter.unusedSimpArgs false
set_option linter.unusedVariables false

namespace Rtr.CLink.Err
open Rtr Rtr.Gen Rtr.CLink

abbrev Mem := Nat → BitVec 8
abbrev Sock := C.S_rtr_socket
abbrev XW := C.XWorld Sock
abbrev Out := Option (BitVec 32 × Mem × XW)

section
/- keeps `omega`, which compares atoms up to definitional equality, from looking into `C.STACK = 2 ^ 40`; so does
   `generalize C.STACK = S` in the proofs over the generated text -/
attribute [local irreducible] C.STACK

/-! ## byte strings in memory -/

/-- the `n` bytes at `a` -/
def bytesOf (m : Mem) (a n : Nat) : List (BitVec 8) := (List.range n).map fun i => m (a + i)

/-- a 16-bit value as it lies in memory on a little-endian host -/
def le16 (v : BitVec 16) : List (BitVec 8) := [v.extractLsb' 0 8, v.extractLsb' 8 8]
/-- a 32-bit value as it lies in memory on a little-endian host -/
def le32 (v : BitVec 32) : List (BitVec 8) :=
  [v.extractLsb' 0 8, v.extractLsb' 8 8, v.extractLsb' 16 8, v.extractLsb' 24 8]

/-! ### stores and copies, seen through `bytesOf`

Each lemma has ONE side condition, of linear arithmetic: so `simp (disch := omega)` can use it as a conditional rewrite rule
(`close_bytes`).  That is why a lemma that needs address and length to fit takes the conjunction `a = d ∧ n = k` as a
single hypothesis. -/

/-! ## the Error Report -/

/-- the Error Report in HOST byte order, as `rtr_send_error_pdu` assembles it on a little-endian host -/
def errorReportBytes (ver : BitVec 8) (code : BitVec 16) (enc text : List (BitVec 8)) : List (BitVec 8) :=
  [ver, 10#8] ++ le16 code ++ le32 (BitVec.ofNat 32 (16 + enc.length + text.length)) ++
    le32 (BitVec.ofNat 32 enc.length) ++ enc ++ le32 (BitVec.ofNat 32 text.length) ++ text

/-- Where the translation puts the variable-length arrays: every translated function has pages of its own above `C.STACK`
    (page size 2^20).  Page number of the `k`-th such object of the function at position `i` (from 0) of the list `FUNCS` in
    tools/gen_cfuns.py: `4 * i + k`; the three functions stand at 31, 32, 33 and have one array each, hence pages 125, 129,
    133, times 1048576.  THE ONLY PLACE where the three literal addresses occur: `msg` of `rtr_send_error_pdu`, … -/
def MSG : Nat := C.STACK + 131072000
/-- … `pdu` of `rtr_send_error_pdu_from_host`, … -/
def FH : Nat := C.STACK + 135266304
/-- … `pdu_converted` of `rtr_send_pdu`. -/
def SP : Nat := C.STACK + 139460608

/-- the object `[a, a+n)` does not meet `[b, b+k)` (nothing is required of an empty object: `NULL, 0` is a legal argument) -/
def Apart (a n b k : Nat) : Prop := n = 0 ∨ a + n ≤ b ∨ b + k ≤ a

def sendErrorSpec (w : XW) (mem : Mem) (s : Sock) (ep : Nat) (el error : BitVec 32) (tp : Nat) (tl : BitVec 32) : Out :=
  let enc := bytesOf mem ep el.toNat
  let text := bytesOf mem tp tl.toNat
  if 2 ≤ el.toNat ∧ mem (ep + 1) = 10#8 then some (0#32, mem, w)
  else
    let report := errorReportBytes (s.version.setWidth 8) (error.setWidth 16) enc text
    some (xret (xans w), C.memFill mem MSG report.length report,
          xrec w "rtr_send_pdu" (BitVec.ofNat 64 report.length :: report.map (BitVec.setWidth 64)) s)

/-! ### normal form of the generated conditions, and the walk down a decision tree -/

/-- normal form of the generated term: external calls as `xans`/`xrec`; `decide`, `&&`, `==`, `!=` as propositions;
    unsigned comparisons as comparisons of `toNat`, signed ones of `toInt`; widenings and literals evaluated; comparisons
    with the literals of these functions (0, 8, ERROR = 10) as statements about the narrow value -/
local syntax "c_norm" "[" Lean.Parser.Tactic.simpLemma,* "]" : tactic
local macro_rules
  | `(tactic| c_norm [$ls,*]) =>
    `(tactic| simp only [xcall_eq, xcallBuf_eq, xret_fold, zext64_toNat, Bool.and_eq_true, Bool.or_eq_true, decide_eq_true_eq,
        beq_iff_eq, bne_iff_ne, ne_eq, BitVec.ult_eq_decide, BitVec.ule_eq_decide, BitVec.slt_eq_decide,
        BitVec.sle_eq_decide, BitVec.toNat_ofNat, BitVec.toInt_zero, Nat.reducePow, Nat.reduceMod,
        lit_eq_comm 0, lit_eq_comm 8, lit_eq_comm 9, lit_eq_comm 10, eq32_lit _ 0 (by decide),
        zext64_eq_lit _ 8 (by decide), sext8_eq10, Nat.add_sub_cancel_left, List.cons_append, List.nil_append,
        not_true_eq_false, not_false_eq_true, true_and, and_true, false_and, and_false, if_true, if_false, $ls,*])

/-- walk down the decision tree of the generated term (left) and of the specification (right): a condition that follows
    from the context, or whose negation does, is passed (`omega`); a real decision splits the goal and prunes both sides;
    a path that contradicts the side conditions is closed (`omega`) -/
local macro "walk" : tactic =>
  `(tactic| repeat' (first
      | (with_reducible rfl)
      | omega
      | ((with_reducible refine Eq.trans (if_pos ?hc_) ?_); (case hc_ => omega))
      | ((with_reducible refine Eq.trans (if_neg ?hc_) ?_); (case hc_ => omega))
      | ((with_reducible refine ite_lhs ?_ ?_) <;> intro h_ <;>
          try simp only [h_, if_true, if_false, not_true_eq_false, not_false_eq_true, Bool.false_eq_true])
      | ((with_reducible refine Eq.trans ?_ (Eq.symm (if_pos ?hc_))); (case hc_ => omega))
      | ((with_reducible refine Eq.trans ?_ (Eq.symm (if_neg ?hc_))); (case hc_ => omega))
      | ((with_reducible refine ite_rhs ?_ ?_) <;> intro h_ <;>
          try simp only [h_, if_true, if_false, not_true_eq_false, not_false_eq_true, Bool.false_eq_true])))

/-- the bytes of the assembled message, piece by piece -/
local macro "close_bytes" : tactic =>
  `(tactic| (rw [bytesOf_split]; unfold errorReportBytes; simp only [bytesOf_length]
             simp (disch := omega) only [bytesOf_length, bytesOf_store8_other, bytesOf_store16_other, bytesOf_store32_other,
               bytesOf_memcpy_other, bytesOf_memcpy_at, bytesOf_store8_at, bytesOf_store16_at, bytesOf_store32_at,
               bytesOf_nil, BitVec.ofNat_toNat, BitVec.setWidth_eq, List.append_assoc, List.cons_append, List.nil_append,
               List.append_nil]))

/-- nothing but the message array is written -/
local macro "close_frame" : tactic =>
  `(tactic| (intro x hx
             simp (disch := omega) only [store8_other, store16_other, store32_other, Recv.memcpy_out]))

/-! ### the two outcomes -/

/-- the side conditions of `rtr_send_error_pdu_eq` for buffers that lie in objects of the caller below `C.STACK`
    (an empty buffer may be any pointer, e.g. `NULL`) -/
structure Below (msize ep : Nat) (el : BitVec 32) (tp tend : Nat) (tl : BitVec 32) : Prop where
  size : 16 + el.toNat + tl.toNat ≤ 1048576
  enc : el.toNat = 0 ∨ (ep + el.toNat ≤ msize ∧ msize ≤ C.STACK)
  text : tl.toNat = 0 ∨ (tp + tl.toNat ≤ tend ∧ tend ≤ C.STACK)

/-! ### C14: lengths, echo, no uninitialised byte -/

/-- a little-endian 32-bit field of a byte string -/
def rd32 (l : List (BitVec 8)) (i : Nat) : BitVec 32 :=
  l.getD (i + 3) 0#8 ++ l.getD (i + 2) 0#8 ++ l.getD (i + 1) 0#8 ++ l.getD i 0#8

/-! ## rtr_send_pdu: host-to-network conversion of a copy, then one transport send -/

/-- What `rtr_send_pdu` does.  `conv` = the copy after the callee `rtr_pdu_to_network_byte_order` rewrote it (external: the
    world's answer, padded with zeros / cut to `len` bytes).  NOTE the order in the C text: the copy is made and converted
    first, the SHUTDOWN check comes AFTER the conversion call. -/
def sendPduSpec (w : XW) (mem : Mem) (s : Sock) (len : BitVec 32) : Out :=
  let conv := Recv.takeD (xans w).buf len.toNat
  let mem' := C.memFill mem SP len.toNat (xans w).buf
  let w1 := xrec w "rtr_pdu_to_network_byte_order" [] s
  if s.state = 9#32 then some (4294967295#32, mem', w1)
  else
    let w2 := xrec w1 "tr_send_all" (BitVec.setWidth 64 len :: 60#64 :: conv.map (BitVec.setWidth 64)) s
    if 0 < (xret (xans w1)).toInt then some (0#32, mem', w2) else some (4294967295#32, mem', w2)

/-! ## rtr_send_error_pdu_from_host -/

/-- what `rtr_send_error_pdu_from_host` does, by the length of the PDU handed in (host byte order):
      0      the report without encapsulated PDU (`rtr_send_error_pdu(NULL, 0, …)`);
      1..7   RTR_ERROR, no call;
      8      the header is converted back to network byte order in a copy, the copy is reported;
      > 8    the copy is converted by `rtr_pdu_to_network_byte_order` (external: the world's answer), then reported -/
def fromHostSpec (w : XW) (mem : Mem) (s : Sock) (ep : Nat) (el error : BitVec 32) (tp : Nat) (tl : BitVec 32) : Out :=
  if el.toNat = 0 then sendErrorSpec w mem s C.NULL 0#32 error tp tl
  else if el.toNat < 8 then some (4294967295#32, C.memcpy mem FH ep el.toNat, w)
  else if el.toNat = 8 then sendErrorSpec w (Recv.hdrSwap (C.memcpy mem FH ep 8) FH) s FH el error tp tl
  else sendErrorSpec (xrec w "rtr_pdu_to_network_byte_order" [] s) (C.memFill mem FH el.toNat (xans w).buf) s FH el error
    tp tl

/-! ### what is reported -/

/-- a header in network byte order, given in host byte order (little-endian host): bytes 4..7 reversed, bytes 2, 3 swapped
    unless the type is ROUTER_KEY (9) -/
def netHeader (h : List (BitVec 8)) : List (BitVec 8) :=
  (List.range 8).map fun k => h.getD (Recv.perm (h.getD 1 0#8) k) 0#8

end

/-! ## concrete instances (the hypotheses are satisfiable; the generated text runs in the kernel) -/

def exWorld (answers : List (C.ExtAns Sock)) : XW :=
  { ext := fun i => answers.getD i { rc := 0#64, aux := 0#64, st := C.S_rtr_socket.zero } }
def exSock (state : BitVec 32) : Sock := { C.S_rtr_socket.zero with version := 1#32, state := state }
def exAns (rc : BitVec 64) (buf : List (BitVec 8)) : C.ExtAns Sock := { rc := rc, aux := 0#64, st := exSock 2#32, buf := buf }
/-- what is observable of a result: the return value, the calls with their recorded arguments, and the first 13 bytes of
    memory (the caller's buffers in these examples) -/
def obs (o : Out) : Option (BitVec 32 × List (String × List (BitVec 64)) × List (BitVec 8)) :=
  o.map fun r => (r.1, r.2.2.trace.map (fun c => (c.1, c.2.1)), bytesOf r.2.1 0 13)

/-- a Cache Response header in host order at 0..7 (type 3, session 0xBBAA, length 8), the text "hell\0" at 8..12 -/
def exMem : Mem := C.memOfBytes [1#8, 3#8, 0xAA#8, 0xBB#8, 8#8, 0#8, 0#8, 0#8, 0x68#8, 0x65#8, 0x6c#8, 0x6c#8, 0#8]
/-- the same with type 10: an Error Report -/
def exMemErr : Mem := C.memOfBytes [1#8, 10#8, 0xAA#8, 0xBB#8, 8#8, 0#8, 0#8, 0#8, 0x68#8, 0x65#8, 0x6c#8, 0x6c#8, 0#8]

end Rtr.CLink.Err
