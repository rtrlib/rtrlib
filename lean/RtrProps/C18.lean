/-
  C18 — Allocation failure is contained; the configured allocator is used consistently.

  "With a user-supplied allocator installed, if any single allocation fails during a prefix-table or
   router-key-table operation or during a synchronisation, the call reports an error without crashing
   and the tables still satisfy their set semantics, with no partial effect of the failed table
   operation.  In failure-free runs every block obtained from the configured allocator is returned to
   that same allocator and nothing remains allocated once the tables are freed."

  Model: RtrModel.Alloc — the table models (RtrModel.PfxTable, RtrModel.Hashlin, RtrModel.Spki)
  extended by an allocator oracle `A` (`budget = some k`: the k-th request from now on is refused, all
  others are granted; `budget = none`: nothing is refused) that records every request and release.
  Every operation `op` has a companion `opF : A → … → A × result` passing its allocation sites in the
  order of the C code.  The code modelled is the code with the fixes F15, F16a–F16d (see §9 below for
  the unfixed code).

  Reading of the statement.  A refused request is REQUIRED if the operation cannot complete without the
  block (every malloc, every growing realloc): then the call must report an error and leave the table
  exactly as it was.  Two kinds of request are OPTIONAL: a SHRINKING realloc (the old, larger block
  stays valid) and the allocation of a new hash SEGMENT (growing the linear hash table only shortens
  chains).  The fixed code absorbs their refusal: the call completes with its full effect.  In both
  cases there is no partial effect, and in both cases the table invariant — hence set semantics, by the
  refinement theorems of C02 / C10 — holds afterwards.
-/
import RtrProofs.AllocSync

namespace Rtr.C18
open Rtr Rtr.Alloc PfxTable SpkiTable

/-! ## 1. the failure-free instance coincides with the table models -/

/-- **With an allocator that never refuses, every operation under the oracle returns exactly what
    the table model's function returns** (prefix table, hash table, router-key table). -/
theorem failure_free_coincides (a : A) (h : a.budget = none) :
    (∀ T r, (addF a T r).2 = T.add r) ∧
    (∀ T r, (removeF a T r).2 = T.remove r) ∧
    (∀ T s, (srcRemoveF a T s).2 = (T.srcRemove s, .success)) ∧
    (∀ T v6 asn q n, (validateF a T v6 asn q n).2 = (.success, T.validate v6 asn q n)) ∧
    (∀ S D s, (copyExceptF a S D s).2 = PfxTable.copyExcept S D s) ∧
    (∀ T, (freeF a T).2 = T.free) ∧
    (∀ cb, (kinitF a cb).2 = some (SpkiTable.init cb)) ∧
    (∀ T r, (kaddF a T r).2 = T.add r) ∧
    (∀ T r, (kremoveF a T r).2 = T.remove r) ∧
    (∀ T s, (ksrcRemoveF a T s).2 = T.srcRemove s) ∧
    (∀ T asn ski, (kgetAllF a T asn ski).2 = (.success, T.getAll asn ski)) ∧
    (∀ T ski, (ksearchBySkiF a T ski).2 = (.success, T.searchBySki ski)) ∧
    (∀ S D s, SInv D → (kcopyExceptF a S D s).2 = SpkiTable.copyExcept S D s) ∧
    (∀ (hl : Hashlin SpkiRec) d k, (hlInsertF a hl d k).2 = hl.insert d k) := by
  exact ⟨fun T r => ((addF_ok a T r).none h).1, fun _ _ => rfl, fun _ _ => rfl,
    fun T v6 asn q n => ((validateF_ok a T v6 asn q n).none h).1,
    fun S D s => (copyExceptF_none a S D s h).1, fun _ => rfl, fun cb => ((kinitF_ok a cb).none h).1,
    fun T r => ((kaddF_ok a T r).none h).1, fun _ _ => rfl, fun _ _ => rfl, fun _ _ _ => ((lookupF_ok a _).none h).1,
    fun _ _ => ((lookupF_ok a _).none h).1, fun S D s _ => (kcopyLoopF_none s S.list a D h).1,
    fun hl d k => ((growStepF_ok a (linked hl d k)).none h).1⟩

/-! ## 2. fail_contained: one refused request, error and no effect — or an absorbed optional request -/

/-- the mutating operations of the prefix table -/
inductive POp where
  | add (r : Rec)
  | remove (r : Rec)
  | srcRemove (src : Nat)

def POp.OK : POp → Prop
  | .add r => RecOK r
  | _ => True

/-- the operation under the oracle -/
def prun (a : A) (T : PfxTable) : POp → A × PfxTable × PfxRc
  | .add r => addF a T r
  | .remove r => removeF a T r
  | .srcRemove s => srcRemoveF a T s

/-- the operation of the table model (RtrModel.PfxTable) -/
def pmodel (T : PfxTable) : POp → PfxTable × PfxRc
  | .add r => T.add r
  | .remove r => T.remove r
  | .srcRemove s => (T.srcRemove s, .success)

/-- number of allocation requests the operation makes in this state when nothing is refused:
    add: 0 (duplicate) / 1 (array of an existing node) / 3 (node, node_data, array);
    remove: 1 if the node keeps other elements (shrinking realloc), else 0;
    remove-by-source: one shrinking realloc per removed element that is not its node's last -/
def preqs (T : PfxTable) : POp → Nat
  | .add r => (addSite r.width (T.root r.v6) r.addr r.len r.elem).reqs
  | .remove r => shrinks (remActs T r)
  | .srcRemove s => shrinks (removeIdActs s T.v4) + shrinks (removeIdActs s T.t6)

/-- `preqs` is what the failure-free run requests -/
theorem preqs_counts (T : PfxTable) (op : POp) : reqs (prun {} T op).1.trace = preqs T op := by
  cases op with
  | add r =>
    have := ((addF_ok {} T r).span.pass (not_hits_of_none rfl _)).2.2
    simpa [prun, preqs] using this
  | remove r =>
    have := ((run_span (remActs T r) {}).pass (not_hits_of_none rfl _)).2.2
    simpa [prun, preqs, removeF] using this
  | srcRemove s =>
    have := (((run_span (removeIdActs s T.v4) {}).trans (run_span (removeIdActs s T.t6) _)).pass (not_hits_of_none rfl _)).2.2
    simpa [prun, preqs, srcRemoveF] using this

/-- **fail_contained (prefix table).**  The k-th request of an operation refused, k below the number of its
    requests: exactly one request is refused, and either the call returns PFX_ERROR and the table is EXACTLY
    what it was (not a single field differs: contents, callback log, trie shape), or the operation is a
    removal — whose only requests are shrinking reallocs — and table and return code are those of the
    undisturbed call. -/
theorem fail_contained_pfx (T : PfxTable) (op : POp) (k : Nat) (hk : k < preqs T op) :
    refusals (prun { budget := some k } T op).1.trace = 1 ∧
    (((prun { budget := some k } T op).2.2 = .error ∧ (prun { budget := some k } T op).2.1 = T) ∨
     ((∃ r, op = .remove r) ∨ (∃ s, op = .srcRemove s)) ∧ (prun { budget := some k } T op).2 = pmodel T op) := by
  cases op with
  | add r =>
    obtain ⟨e, q⟩ := (addF_ok { budget := some k } T r).refused hk
    refine ⟨q, Or.inl ?_⟩
    show (addF _ T r).2.2 = .error ∧ (addF _ T r).2.1 = T
    rw [e]
    exact ⟨rfl, rfl⟩
  | remove r => exact ⟨((run_span (remActs T r) _).hit (hits_some hk)).2, Or.inr ⟨Or.inl ⟨r, rfl⟩, rfl⟩⟩
  | srcRemove s =>
    exact ⟨(((run_span (removeIdActs s T.v4) _).trans (run_span (removeIdActs s T.t6) _)).hit (hits_some hk)).2,
      Or.inr ⟨Or.inr ⟨s, rfl⟩, rfl⟩⟩

/-- **fail_contained (queries).**  `pfx_table_validate_r` with a reason array makes one request per
    visited covering node, `spki_table_get_all` / `spki_table_search_by_ski` one per matching key; when
    the k-th is refused the call returns the error code and hands nothing to the caller (the tables
    are not written by these functions at all). -/
theorem fail_contained_queries (k : Nat) :
    (∀ T v6 asn q n, k < (validateR (if v6 then 128 else 32) q n asn (T.root v6)).2.length →
      (validateF { budget := some k } T v6 asn q n).2 = (.error, .notFound, []) ∧
      refusals (validateF { budget := some k } T v6 asn q n).1.trace = 1) ∧
    (∀ T asn ski, k < (T.getAll asn ski).length →
      (kgetAllF { budget := some k } T asn ski).2 = (.error, []) ∧
      refusals (kgetAllF { budget := some k } T asn ski).1.trace = 1) ∧
    (∀ T ski, k < (T.searchBySki ski).length →
      (ksearchBySkiF { budget := some k } T ski).2 = (.error, []) ∧
      refusals (ksearchBySkiF { budget := some k } T ski).1.trace = 1) := by
  exact ⟨fun T v6 asn q n hk => (validateF_ok _ T v6 asn q n).refused hk, fun T asn ski hk => (lookupF_ok _ _).refused hk,
    fun T ski hk => (lookupF_ok _ _).refused hk⟩

/-- the mutating operations of the router-key table -/
inductive KOp where
  | add (r : SpkiRec)
  | remove (r : SpkiRec)
  | srcRemove (src : Nat)

def krun (a : A) (T : SpkiTable) : KOp → A × SpkiTable × SpkiRc
  | .add r => kaddF a T r
  | .remove r => kremoveF a T r
  | .srcRemove s => ksrcRemoveF a T s

def kmodel (T : SpkiTable) : KOp → SpkiTable × SpkiRc
  | .add r => T.add r
  | .remove r => T.remove r
  | .srcRemove s => T.srcRemove s

/-- requests when nothing is refused: only `spki_table_add_entry` allocates — the entry (before the
    duplicate test), and a new hash segment if the table starts growing with this entry -/
def kreqs (T : SpkiTable) : KOp → Nat
  | .add r => kaddReqs T r
  | _ => 0

/-- **fail_contained (router-key table).**  For every table satisfying its invariant and every k
    smaller than the number of requests of the operation: exactly one request is refused; either
    SPKI_ERROR is returned and the table is EXACTLY what it was, or the refused request was the new hash
    segment: then the return code, the list of entries, the callback log are those of the undisturbed
    call and the representation invariant holds (only the hash table has not grown). -/
theorem fail_contained_spki (T : SpkiTable) (iv : SInv T) (op : KOp) (k : Nat) (hk : k < kreqs T op) :
    refusals (krun { budget := some k } T op).1.trace = 1 ∧
    (((krun { budget := some k } T op).2.2 = .error ∧ (krun { budget := some k } T op).2.1 = T) ∨
     ((krun { budget := some k } T op).2.2 = (kmodel T op).2 ∧
      (krun { budget := some k } T op).2.1.list = (kmodel T op).1.list ∧
      (krun { budget := some k } T op).2.1.log = (kmodel T op).1.log ∧
      (krun { budget := some k } T op).2.1.hasCb = (kmodel T op).1.hasCb ∧
      SInv (krun { budget := some k } T op).2.1)) := by
  cases op with
  | remove r => simp [kreqs] at hk
  | srcRemove s => simp [kreqs] at hk
  | add r =>
    have q := kaddF_ok { budget := some k } T r
    simp only [kreqs] at hk
    by_cases h1 : k < 1
    · refine ⟨(q.span.hit (hits_some hk)).2, Or.inl ?_⟩
      show (kaddF _ T r).2.2 = .error ∧ (kaddF _ T r).2.1 = T
      rw [q.hit1 (hits_some h1)]
      exact ⟨rfl, rfl⟩
    · obtain ⟨e, hr⟩ := q.absorbed iv (fun x => h1 ((hits_iff_of_budget rfl 1).1 x)) (hits_some hk)
      obtain ⟨s1, s2, s3, s4⟩ := addNoGrow_spec iv r hr
      refine ⟨(q.span.hit (hits_some hk)).2, Or.inr ?_⟩
      simp only [krun, kmodel, e]
      exact ⟨(add_new_spec iv r hr).rc.symm, s2, s3, s4, s1⟩

/-- **growing the hash table is optional**: `tommy_hashlin_insert` under the oracle keeps the
    representation invariant of C10 whether or not the new segment is granted, and stores exactly the
    old nodes plus the new one. -/
theorem hashlin_grow_optional {α : Type} [DecidableEq α] (a : A) (h : Hashlin α) (iv : h.Inv) (d : α) (key : Nat) :
    (hlInsertF a h d key).2.Inv ∧
    ∀ x, (hlInsertF a h d key).2.mult x = h.mult x + if x = ⟨key, d⟩ then 1 else 0 := by
  rw [hlInsertF_eq]
  rcases (growStepF_ok a (linked h d key)).cases with e | e
  · rw [e, ← insert_eq]; exact Hashlin.insert_spec h iv d key
  · rw [e]; exact Hashlin.appended_spec iv d key

/-- **fail_contained**, all tables at once: for every state, every operation and every k smaller than
    the number of allocation requests of that operation the outcome is defined (the model functions are
    total: there is no crash outcome in the fixed code) and is either "error code, table untouched" or
    "optional request absorbed, complete effect" — never a partial effect. -/
theorem fail_contained :
    (∀ (T : PfxTable) (op : POp) (k : Nat), k < preqs T op →
      refusals (prun { budget := some k } T op).1.trace = 1 ∧
      (((prun { budget := some k } T op).2.2 = .error ∧ (prun { budget := some k } T op).2.1 = T) ∨
       ((∃ r, op = .remove r) ∨ (∃ s, op = .srcRemove s)) ∧ (prun { budget := some k } T op).2 = pmodel T op)) ∧
    (∀ (T : SpkiTable), SInv T → ∀ (op : KOp) (k : Nat), k < kreqs T op →
      refusals (krun { budget := some k } T op).1.trace = 1 ∧
      (((krun { budget := some k } T op).2.2 = .error ∧ (krun { budget := some k } T op).2.1 = T) ∨
       ((krun { budget := some k } T op).2.2 = (kmodel T op).2 ∧
        (krun { budget := some k } T op).2.1.list = (kmodel T op).1.list ∧
        (krun { budget := some k } T op).2.1.log = (kmodel T op).1.log ∧
        (krun { budget := some k } T op).2.1.hasCb = (kmodel T op).1.hasCb ∧
        SInv (krun { budget := some k } T op).2.1))) :=
  ⟨fail_contained_pfx, fun T iv op k hk => fail_contained_spki T iv op k hk⟩

/-- **a copy that reports success is complete** (whatever the oracle did on the way): the target of
    `pfx_table_copy_except_socket` into an empty table holds exactly the records of the other sockets,
    the target of `spki_table_copy_except_socket` gained exactly the entries of the other sockets.
    (A copy that reports an error leaves a well-formed, partially filled target: see
    `fail_keeps_invariant`; `rtr_sync` releases it: see `sync_no_leak`.) -/
theorem copy_success_complete (a : A) (src : Nat) :
    (∀ S D, TableWF S → TableWF D → D.recs = [] → (copyExceptF a S D src).2.2 = .success →
      (copyExceptF a S D src).2.1.recs.Perm (S.recs.filter fun r => r.src != src)) ∧
    (∀ S D, SInv D → (kcopyExceptF a S D src).2.2 = .success →
      (kcopyExceptF a S D src).2.1.list = D.list ++ S.list.filter (fun e => e.src != src)) :=
  ⟨fun S D hS hD hE h => copyExceptF_success a S D src hS hD hE h,
   fun S D iv h => kcopyLoopF_success src S.list a D iv h⟩

/-! ## 3. fail_keeps_invariant -/

theorem prun_books (a : A) (T : PfxTable) (op : POp) (h : TableWF T) (hok : op.OK) : PBooks a T (prun a T op).1 (prun a T op).2.1 := by
  cases op with
  | add r => exact addF_books a T r h hok
  | remove r => exact removeF_books a T r h
  | srcRemove s => exact srcRemoveF_books a T s h

theorem krun_books (a : A) (T : SpkiTable) (op : KOp) (iv : SInv T) : KBooks a T (krun a T op).1 (krun a T op).2.1 := by
  cases op with
  | add r => exact kaddF_books a iv r
  | remove r => exact kremoveF_books a iv r
  | srcRemove s => exact ksrcRemoveF_books a iv s

/-- **fail_keeps_invariant.**  Whatever the oracle does (any budget, any earlier trace), the table an
    operation leaves behind satisfies the well-formedness invariant on which the set-semantics theorems
    of C02 (`TableWF`) and C10 (`SInv`) rest — so every later operation still follows set semantics.
    This includes the partially filled target of a failed copy (which `rtr_sync` then frees). -/
theorem fail_keeps_invariant (a : A) :
    (∀ T op, TableWF T → POp.OK op → TableWF (prun a T op).2.1) ∧
    (∀ S D s, TableWF S → TableWF D → TableWF (copyExceptF a S D s).2.1) ∧
    (∀ T op, SInv T → SInv (krun a T op).2.1) ∧
    (∀ S D s, SInv D → SInv (kcopyExceptF a S D s).2.1) ∧
    (∀ cb T, (kinitF a cb).2 = some T → SInv T) := by
  exact ⟨fun T op h hok => (prun_books a T op h hok).inv, fun S D s hS hD => (copyExceptF_books a S D s hS hD).inv,
    fun T op iv => (krun_books a T op iv).inv, fun S D s iv => (kcopyLoopF_books s S.list a D iv).inv,
    fun cb T h => kinitF_some h ▸ SpkiTable.sinv_init cb⟩

/-! ## 4. alloc_count: live blocks as a function of the tables -/

theorem prun_bal (a : A) (T : PfxTable) (op : POp) (h : TableWF T) :
    Bal a (prun a T op).1 (pfxBlocks (prun a T op).2.1 - pfxBlocks T : Int) := by
  cases op with
  | add r => exact addF_bal a T r h
  | remove r => exact removeF_bal a T r
  | srcRemove s => exact srcRemoveF_bal a T s

/-- **alloc_count.**  The number of live blocks of the configured allocator is a function of the
    tables: a well-formed prefix table holds 3 blocks per trie node (node, node_data, element array),
    a router-key table one block per entry plus `bucket_bit − hashlinBit + 1` hash segments (the first
    segment and one per doubling).  Every operation, under ANY behaviour of the oracle, changes the number
    of live blocks by exactly the change of that function — in particular a call that fails leaves nothing
    allocated behind.  (Queries: the caller owns one block exactly when a
    non-empty result is returned.) -/
theorem alloc_count (a : A) :
    (∀ T, TableWF T → pfxBlocks T = 3 * (T.v4.nodes.length + T.t6.nodes.length)) ∧
    (∀ T, spkiBlocks T = T.list.length + (T.ht.bucketBit - hashlinBit + 1)) ∧
    (∀ T op, TableWF T → net (prun a T op).1.trace = net a.trace + (pfxBlocks (prun a T op).2.1 - pfxBlocks T : Int)) ∧
    (∀ S D s, TableWF S → TableWF D →
      net (copyExceptF a S D s).1.trace = net a.trace + (pfxBlocks (copyExceptF a S D s).2.1 - pfxBlocks D : Int)) ∧
    (∀ T, net (freeF a T).1.trace = net a.trace - pfxBlocks T ∧ pfxBlocks (freeF a T).2 = 0) ∧
    (∀ T v6 asn q n, TableWF T →
      net (validateF a T v6 asn q n).1.trace = net a.trace +
        (if (validateF a T v6 asn q n).2.1 = .success ∧
            total 0 (validateR (if v6 then 128 else 32) q n asn (T.root v6)).2 ≠ 0 then 1 else 0)) ∧
    (∀ cb, net (kinitF a cb).1.trace = net a.trace + (if (kinitF a cb).2.isSome then 1 else 0)) ∧
    (∀ T op, SInv T → net (krun a T op).1.trace = net a.trace + (spkiBlocks (krun a T op).2.1 - spkiBlocks T : Int)) ∧
    (∀ S D s, SInv D →
      net (kcopyExceptF a S D s).1.trace = net a.trace + (spkiBlocks (kcopyExceptF a S D s).2.1 - spkiBlocks D : Int)) ∧
    (∀ T, net (kfreeF a T).trace = net a.trace - spkiBlocks T) ∧
    (∀ T asn ski, net (kgetAllF a T asn ski).1.trace = net a.trace + (if (kgetAllF a T asn ski).2.2 = [] then 0 else 1)) ∧
    (∀ T ski, net (ksearchBySkiF a T ski).1.trace = net a.trace + (if (ksearchBySkiF a T ski).2.2 = [] then 0 else 1)) := by
  exact ⟨fun T h => pfxBlocks_wf h, fun _ => rfl, fun T op h => (prun_bal a T op h).net, fun S D s hS hD => (copyExceptF_books a S D s hS hD).bal.net,
    fun T => ⟨(freeF_bal a T).net, free_blocks T⟩, fun T v6 asn q n h => (validateF_bal a T v6 asn q n h).net, fun cb => (kinitF_bal a cb).net,
    fun T op iv => (krun_books a T op iv).bal.net, fun S D s iv => (kcopyLoopF_books s S.list a D iv).bal.net, fun T => (kfreeF_bal a T).net,
    fun T asn ski => (lookupF_bal a _).net, fun T ski => (lookupF_bal a _).net⟩

/-! ## 5. balanced: nothing remains allocated, every release goes through the configured free -/

/-- a history of prefix-table operations, each with its own behaviour of the allocator -/
def phist : List (POp × Option Nat) → A → PfxTable → A × PfxTable
  | [], a, T => (a, T)
  | (op, k) :: rest, a, T => phist rest (prun { a with budget := k } T op).1 (prun { a with budget := k } T op).2.1

/-- a history of router-key-table operations -/
def khist : List (KOp × Option Nat) → A → SpkiTable → A × SpkiTable
  | [], a, T => (a, T)
  | (op, k) :: rest, a, T => khist rest (krun { a with budget := k } T op).1 (krun { a with budget := k } T op).2.1

theorem phist_books : ∀ (ops : List (POp × Option Nat)) (a : A) (T : PfxTable), TableWF T → (∀ x ∈ ops, x.1.OK) →
    PBooks a T (phist ops a T).1 (phist ops a T).2 := by
  intro ops
  induction ops with
  | nil => intro a T h _; exact Books.refl a h
  | cons x ops ih =>
    intro a T h hok
    obtain ⟨op, k⟩ := x
    have n0 := prun_books { a with budget := k } T op h (hok (op, k) (by simp))
    exact n0.of_budget.trans (ih _ _ n0.inv (fun y hy => hok y (List.mem_cons_of_mem _ hy)))

theorem khist_books : ∀ (ops : List (KOp × Option Nat)) (a : A) (T : SpkiTable), SInv T →
    KBooks a T (khist ops a T).1 (khist ops a T).2 := by
  intro ops
  induction ops with
  | nil => intro a T h; exact Books.refl a h
  | cons x ops ih =>
    intro a T iv
    obtain ⟨op, k⟩ := x
    have n0 := krun_books { a with budget := k } T op iv
    exact n0.of_budget.trans (ih _ _ n0.inv)

/-- **balanced.**  Take any history of operations on a prefix table that starts empty, resp. on a
    router-key table created by `spki_table_init`, with ANY behaviour of the allocator in each
    operation (failure-free — the case the property names — or one refused request anywhere), and
    free the table at the end: the net number of live blocks over the whole trace is 0 — every block
    obtained from the configured allocator has been returned to it, nothing remains allocated — and no
    release in the whole trace goes through libc `free`. -/
theorem balanced :
    (∀ (ops : List (POp × Option Nat)), (∀ x ∈ ops, x.1.OK) →
      net (freeF (phist ops {} {}).1 (phist ops {} {}).2).1.trace = 0 ∧
      NoLibc (freeF (phist ops {} {}).1 (phist ops {} {}).2).1.trace) ∧
    (∀ (cb : Bool) (ops : List (KOp × Option Nat)),
      net (kfreeF (khist ops (kinitF {} cb).1 (SpkiTable.init cb)).1 (khist ops (kinitF {} cb).1 (SpkiTable.init cb)).2).trace = 0 ∧
      NoLibc (kfreeF (khist ops (kinitF {} cb).1 (SpkiTable.init cb)).1 (khist ops (kinitF {} cb).1 (SpkiTable.init cb)).2).trace) := by
  have nil : NoLibc ({} : A).trace := fun e he => nomatch he
  constructor
  · intro ops hok
    have h := ((phist_books ops {} {} ⟨trivial, trivial⟩ hok).bal.trans (freeF_bal _ (phist ops {} {}).2))
    refine ⟨?_, h.nolibc nil⟩
    -- the history starts with an empty trace and an empty table
    rw [h.net, show net ({} : A).trace = 0 from rfl, show pfxBlocks ({} : PfxTable) = 0 from rfl]
    omega
  · intro cb ops
    have k0 := kinitF_bal {} cb
    rw [((kinitF_ok {} cb).none rfl).1, Option.isSome_some, if_pos rfl] at k0
    have h := (k0.trans (khist_books ops (kinitF {} cb).1 (SpkiTable.init cb) (SpkiTable.sinv_init cb)).bal).trans
      (kfreeF_bal _ (khist ops (kinitF {} cb).1 (SpkiTable.init cb)).2)
    refine ⟨?_, h.nolibc nil⟩
    rw [h.net, spkiBlocks_init, show net ({} : A).trace = 0 from rfl]
    omega

/-- **configured_free_only.**  No operation of the (fixed) code ever releases a block through libc
    `free`: if the trace so far is free of such releases, so is the trace after the operation. -/
theorem configured_free_only (a : A) (h : NoLibc a.trace) :
    (∀ T op, NoLibc (prun a T op).1.trace) ∧
    (∀ S D s, TableWF S → TableWF D → NoLibc (copyExceptF a S D s).1.trace) ∧
    (∀ T, NoLibc (freeF a T).1.trace) ∧
    (∀ T v6 asn q n, NoLibc (validateF a T v6 asn q n).1.trace) ∧
    (∀ cb, NoLibc (kinitF a cb).1.trace) ∧
    (∀ T op, SInv T → NoLibc (krun a T op).1.trace) ∧
    (∀ S D s, SInv D → NoLibc (kcopyExceptF a S D s).1.trace) ∧
    (∀ T, NoLibc (kfreeF a T).trace) ∧
    (∀ T asn ski, NoLibc (kgetAllF a T asn ski).1.trace) ∧
    (∀ T ski, NoLibc (ksearchBySkiF a T ski).1.trace) := by
  refine ⟨fun T op => ?_, fun S D s hS hD => (copyExceptF_books a S D s hS hD).bal.nolibc h,
    fun T => (freeF_bal a T).nolibc h, fun T v6 asn q n => validateF_nolibc a T v6 asn q n h, fun cb => (kinitF_bal a cb).nolibc h,
    fun T op iv => (krun_books a T op iv).bal.nolibc h, fun S D s iv => (kcopyLoopF_books s S.list a D iv).bal.nolibc h,
    fun T => (kfreeF_bal a T).nolibc h, fun T asn ski => (lookupF_bal a _).nolibc h, fun T ski => (lookupF_bal a _).nolibc h⟩
  · cases op with
    | add r => exact addF_nolibc a T r h
    | remove r => exact (removeF_bal a T r).nolibc h
    | srcRemove s => exact (srcRemoveF_bal a T s).nolibc h

/-! ## 6. synchronisation (rtr_sync_receive_and_store_pdus) under allocation failure -/

open Rtr.P (lsApplyAll) in
/-- **sync_fail_clean.**  For every behaviour of the allocator (any budget), every pair of well-formed
    tables, incremental update or full reload, and every well-formed answer of the cache (payload PDUs
    of this socket; duplicate announcements and unknown withdrawals allowed):

    * RTR_SUCCESS is returned only when EVERY payload PDU has been applied, in order — to the tables
      (incremental update), resp. to the records of the other sockets (full reload);
    * on RTR_ERROR without purge both tables hold exactly the records they held before (as sets; the
      forward-order undo restored them, or — full reload — the live tables were never touched);
    * on RTR_ERROR with purge exactly this socket's records are gone from both tables
      (`request_session_id` is then set: the next query is a Reset Query).

    This is the disjunction of C03, including every allocation site of the synchronisation: the PDU
    buffers, the two shadow-table structs, the shadow hash table, every node / array / key entry of the
    copies and of the updates, the re-insertions of the undo. -/
theorem sync_fail_clean (a : A) (P : PfxTable) (K : SpkiTable) (reset : Bool) (items : List Item)
    (hP : TableWF P) (hK : SInv K) (hok : ∀ it ∈ items, it.OK) :
    Outcome P K (if reset then othersOf P K else absS P K)
      (items.filter Item.isP4 ++ items.filter Item.isP6 ++ items.filter Item.isKey) (syncF a P K reset items) :=
  (syncF_spec a P K reset items hP hK hok).out

/-- **sync_no_leak.**  Whatever the allocator does during a synchronisation, afterwards both tables are
    well formed, the number of live blocks has changed by exactly the change of the two tables' block
    counts — the PDU buffers, the shadow tables and their contents, the old contents after a swap are
    all released on every path — and no release goes through libc `free`.  (The count cannot tell a block
    released twice from another one never released; for the PDU stores `store_released_exactly_once` can.) -/
theorem sync_no_leak (a : A) (P : PfxTable) (K : SpkiTable) (reset : Bool) (items : List Item)
    (hP : TableWF P) (hK : SInv K) (hok : ∀ it ∈ items, it.OK) :
    TableWF (syncF a P K reset items).2.1 ∧ SInv (syncF a P K reset items).2.2.1 ∧
    net (syncF a P K reset items).1.trace = net a.trace +
      ((pfxBlocks (syncF a P K reset items).2.1 : Int) - pfxBlocks P) +
      ((spkiBlocks (syncF a P K reset items).2.2.1 : Int) - spkiBlocks K) ∧
    (NoLibc a.trace → NoLibc (syncF a P K reset items).1.trace) := by
  have h := (syncF_spec a P K reset items hP hK hok).ok
  refine ⟨h.wf, h.inv, ?_, h.bal.nolibc⟩
  rw [h.bal.net]
  have hb0 : bufsLive ({} : Bufs) = 0 := rfl
  rw [hb0]
  omega

/-! ## 7. the growing PDU stores: a refused reallocation at any growth step, block by block -/

/-- **store_released_exactly_once.**  For EVERY behaviour of the allocator and every answer of the cache
    (any number of PDUs of any kind, in any order): the store loop — run to its end or stopped by a refused
    reallocation — followed by the three releases of the `cleanup:` label returns every store block exactly
    once: no release names a block that is not live (the old block of a refused `realloc` is still live and
    is released by the cleanup, by nobody else), and no store block is live afterwards.  `ledger` follows
    the blocks of one kind individually — of each store kind at most one is live — where `net`
    (sync_no_leak) only counts. -/
theorem store_released_exactly_once (a : A) (items : List Item) (h : ExactlyOnce a.trace) :
    ExactlyOnce (freeBufs (storeLoop items a {}).2.1 (storeLoop items a {}).2.2).trace :=
  freeBufs_ledger _ _ (storeLoop_ledger items a {} (.start h))

/-- **sync_store_fail_exact.**  `storeReqs items {}` is the number of reallocations the store loop makes
    for the answer `items`.  For every answer — of every length — and EVERY failing allocation index k below
    that number, for every pair of tables, incremental update or full reload:

    * the synchronisation reports an error (RTR_ERROR, no purge: the next query is what it was),
    * both tables are EXACTLY what they were (not a single field differs),
    * exactly one request was refused,
    * every block obtained during the call has been returned exactly once — the store whose reallocation
      was refused keeps its old block until the cleanup releases it, once; nothing is released twice,
      nothing remains allocated. -/
theorem sync_store_fail_exact (P : PfxTable) (K : SpkiTable) (reset : Bool) (items : List Item) (k : Nat)
    (hk : k < storeReqs items {}) :
    (syncF { budget := some k } P K reset items).2.2.2 = ⟨false, false⟩ ∧
    (syncF { budget := some k } P K reset items).2.1 = P ∧
    (syncF { budget := some k } P K reset items).2.2.1 = K ∧
    refusals (syncF { budget := some k } P K reset items).1.trace = 1 ∧
    net (syncF { budget := some k } P K reset items).1.trace = 0 ∧
    ExactlyOnce (syncF { budget := some k } P K reset items).1.trace := by
  obtain ⟨e, r⟩ := syncF_store_refused { budget := some k } P K reset items (hits_some hk)
  rw [e]
  refine ⟨rfl, rfl, rfl, r, ?_, store_released_exactly_once _ items (fun _ => rfl)⟩
  -- the call starts with an empty trace and no PDU store
  rw [((storeLoop_bal items { budget := some k } {}).trans (freeBufs_bal _ _)).net,
    show net ({ budget := some k } : A).trace = 0 from rfl, show bufsLive ({} : Bufs) = 0 from rfl]
  omega

/-! ## 8. non-vacuity: concrete states meeting the hypotheses -/

def p1 : Rec := ⟨false, 0x0a000000, 8, 8, 65001, 1⟩
def p2 : Rec := ⟨false, 0x0a000000, 8, 9, 65001, 1⟩
def p3 : Rec := ⟨false, 0x0a000000, 8, 10, 65001, 2⟩
def p4 : Rec := ⟨true, 0x20010db8000000000000000000000000, 32, 48, 65002, 1⟩

/-- one IPv4 node with three elements (two of source 1) -/
def demoP : PfxTable := ((((({} : PfxTable).add p1).1).add p2).1.add p3).1

theorem demoP_v4 : demoP.v4 = .node ⟨0x0a000000, 8, [p1.elem, p2.elem, p3.elem]⟩ .nil .nil := by decide
theorem demoP_t6 : demoP.t6 = .nil := by decide

theorem demoP_acts4 : removeIdActs 1 demoP.v4 = [.shrink .ary 2, .shrink .ary 1] := by
  rw [demoP_v4]
  simp [removeIdActs, delActs, Rec.elem, p1, p2, p3]
  decide

theorem demoP_acts6 : removeIdActs 1 demoP.t6 = [] := by rw [demoP_t6, removeIdActs]

theorem demoP_rid4 : removeId 1 demoP.v4 =
    (.node ⟨0x0a000000, 8, [p3.elem]⟩ .nil .nil, [(0x0a000000, 8, p1.elem), (0x0a000000, 8, p2.elem)]) := by
  rw [demoP_v4]
  simp [removeId, Rec.elem, p1, p2, p3]

theorem demoP_srcRemove : (demoP.srcRemove 1).recs = [p3] := by
  unfold PfxTable.srcRemove
  rw [demoP_rid4]
  simp only
  have e : (({ demoP with v4 := Trie.node ⟨0x0a000000, 8, [p3.elem]⟩ .nil .nil } : PfxTable).notifyAll false
      ([(0x0a000000, 8, p1.elem), (0x0a000000, 8, p2.elem)].map fun (ad, ln, e) => mkRec false ad ln e)).t6 = .nil := by decide
  have r6 : removeId 1 (Trie.nil) = (.nil, []) := by rw [removeId]
  rw [e, r6]
  decide

-- a new prefix passes three sites, a new element on an existing node one, a duplicate none;
-- removing one of several elements passes the shrinking realloc, removing by source two of them
example : preqs demoP (.add p4) = 3 ∧ preqs demoP (.add ⟨false, 0x0a000000, 8, 11, 1, 1⟩) = 1 ∧
    preqs demoP (.add p1) = 0 ∧ preqs demoP (.remove p2) = 1 ∧ preqs demoP (.srcRemove 1) = 2 := by
  refine ⟨by decide, by decide, by decide, by decide, ?_⟩
  simp only [preqs, demoP_acts4, demoP_acts6]
  decide

-- each of the three requests of an add refused: the error code; for the last one the trace (the two blocks
-- already obtained are released again) and its net count
example : (prun { budget := some 0 } demoP (.add p4)).2.2 = .error ∧
    (prun { budget := some 1 } demoP (.add p4)).2.2 = .error ∧
    (prun { budget := some 2 } demoP (.add p4)).2.2 = .error ∧
    (prun { budget := some 2 } demoP (.add p4)).1.trace =
      [.malloc .node 1 true, .malloc .ndata 1 true, .realloc .ary 0 1 false, .free .ndata 1, .free .node 1] ∧
    net (prun { budget := some 2 } demoP (.add p4)).1.trace = 0 ∧
    (prun { budget := some 3 } demoP (.add p4)).2.2 = .success := by decide +kernel

-- an absorbed shrink: the second shrinking realloc of a removal by source is refused, both records go
example : (prun { budget := some 1 } demoP (.srcRemove 1)).2.1.recs = [p3] ∧
    (prun { budget := some 1 } demoP (.srcRemove 1)).2.2 = .success ∧
    (prun { budget := some 1 } demoP (.srcRemove 1)).1.trace =
      [.realloc .ary 3 2 true, .realloc .ary 2 1 false] := by
  refine ⟨demoP_srcRemove, rfl, ?_⟩
  show ((({ budget := some 1 } : A).run (removeIdActs 1 demoP.v4)).run (removeIdActs 1 demoP.t6)).trace = _
  rw [demoP_acts4, demoP_acts6]
  decide

theorem demoP_wf : TableWF demoP ∧ POp.OK (.add p1) := by
  have k1 : RecOK p1 := ⟨by decide, by decide, hostZero_of_mod _ _ _ (by decide)⟩
  have k2 : RecOK p2 := ⟨by decide, by decide, hostZero_of_mod _ _ _ (by decide)⟩
  have k3 : RecOK p3 := ⟨by decide, by decide, hostZero_of_mod _ _ _ (by decide)⟩
  have w0 : TableWF ({} : PfxTable) := ⟨trivial, trivial⟩
  exact ⟨(add_spec _ p3 (add_spec _ p2 (add_spec _ p1 w0 k1).wf k2).wf k3).wf, k1⟩

def k1 : SpkiRec := ⟨65001, 0xaa, 0xbb, 1⟩
def k2 : SpkiRec := ⟨65001, 0xaa, 0xbb, 2⟩

/-- a router-key table with 32 entries: the 33rd makes `hashlin_grow_step` ask for a segment -/
def demoK : SpkiTable := (List.range 32).foldl (fun T i => (T.add ⟨i, 1, 2, 1⟩).1) (SpkiTable.init true)

theorem foldl_add_sinv {ι : Type} (f : ι → SpkiRec) : ∀ (l : List ι) (T : SpkiTable), SInv T →
    SInv (l.foldl (fun T i => (T.add (f i)).1) T) := by
  intro l
  induction l with
  | nil => intro T h; exact h
  | cons x xs ih => intro T h; exact ih _ (sinv_add h _)

theorem demoK_sinv : SInv demoK := foldl_add_sinv (fun i => ⟨i, 1, 2, 1⟩) _ _ (SpkiTable.sinv_init true)

example : kreqs demoK (.add k1) = 2 ∧ demoK.list.length = 32 ∧ demoK.ht.bucketBit = 6 := by
  decide +kernel

-- the segment is refused: the add reports success and the table has not grown (it grows when nothing is refused)
example : (krun { budget := some 1 } demoK (.add k1)).2.2 = .success ∧
    (krun { budget := some 1 } demoK (.add k1)).2.1.ht.bucketBit = 6 ∧
    (krun { budget := none } demoK (.add k1)).2.1.ht.bucketBit = 7 ∧
    (krun { budget := some 0 } demoK (.add k1)).2.2 = .error := by
  decide +kernel

-- synchronisations: tables with one record of this socket (source 0) and one of another socket
def o1 : Rec := ⟨false, 0x0a000000, 8, 8, 65001, 0⟩
def o2 : Rec := ⟨false, 0x0b000000, 8, 8, 65001, 0⟩
def x1 : Rec := ⟨false, 0x0c000000, 8, 10, 65001, 2⟩
def syncP : PfxTable := ((({} : PfxTable).add o1).1.add x1).1
def syncK : SpkiTable := ((SpkiTable.init true).add ⟨1, 2, 3, 0⟩).1
/-- announce o2, withdraw o1, announce a router key -/
def answer1 : List Item := [.p4 true o2, .p4 false o1, .key true ⟨5, 6, 7, 0⟩]
/-- withdraw o1, announce a record on the prefix of x1, announce it again: the duplicate fails the update
    and the undo has to re-insert o1 (three allocation requests) -/
def answer2 : List Item := [.p4 false o1, .p4 true ⟨false, 0x0c000000, 8, 10, 65001, 0⟩, .p4 true ⟨false, 0x0c000000, 8, 10, 65001, 0⟩]
def answer3 : List Item := [.p4 true o2, .key true ⟨5, 6, 7, 0⟩]

theorem sync_demo_hyps : TableWF syncP ∧ SInv syncK ∧ (∀ it ∈ answer1, it.OK) ∧ (∀ it ∈ answer2, it.OK) := by
  have k : ∀ (a ml asn src : Nat), a % 2 ^ 24 = 0 → a < 2 ^ 32 → RecOK ⟨false, a, 8, ml, asn, src⟩ :=
    fun a ml asn src h1 h2 => ⟨by show 8 ≤ 32; omega, h2, hostZero_of_mod _ _ _ h1⟩
  have w0 : TableWF ({} : PfxTable) := ⟨trivial, trivial⟩
  refine ⟨(add_spec _ x1 (add_spec _ o1 w0 (k _ _ _ _ (by decide) (by decide))).wf (k _ _ _ _ (by decide) (by decide))).wf,
    sinv_add (SpkiTable.sinv_init true) _, ?_, ?_⟩
  · intro it hit
    simp only [answer1, List.mem_cons, List.not_mem_nil, or_false] at hit
    rcases hit with rfl | rfl | rfl
    · exact ⟨k _ _ _ _ (by decide) (by decide), rfl⟩
    · exact ⟨k _ _ _ _ (by decide) (by decide), rfl⟩
    · rfl
  · intro it hit
    simp only [answer2, List.mem_cons, List.not_mem_nil, or_false] at hit
    rcases hit with rfl | rfl | rfl <;> exact ⟨k _ _ _ _ (by decide) (by decide), rfl⟩

-- all three outcomes occur: success (nothing refused), error with the tables as before (first PDU
-- buffer refused; the node of o2 refused), error with purge (the undo's re-insertion refused)
example : (syncF {} syncP syncK false answer1).2.2.2 = ⟨true, false⟩ ∧
    (syncF {} syncP syncK false answer1).2.1.recs = [o2, x1] ∧
    (syncF { budget := some 0 } syncP syncK false answer1).2.2.2 = ⟨false, false⟩ ∧
    (syncF { budget := some 0 } syncP syncK false answer1).2.1.recs = syncP.recs ∧
    (syncF { budget := some 2 } syncP syncK false answer1).2.2.2 = ⟨false, false⟩ ∧
    (syncF { budget := some 2 } syncP syncK false answer1).2.1.recs = syncP.recs := by decide +kernel

-- request 0 is the PDU store, 1 the array of x1's node (second PDU), 2 to 4 the node, node_data and array of the
-- undo's re-insertion of o1: the array is refused
example : (syncF {} syncP syncK false answer2).2.2.2 = ⟨false, false⟩ ∧
    (syncF { budget := some 4 } syncP syncK false answer2).2.2.2 = ⟨false, true⟩ := by decide +kernel

-- a full reload: the records of the other socket survive, this socket's are replaced; request 3 (after the two
-- PDU stores and the shadow table struct) is the node for the copy of x1
example : (syncF {} syncP syncK true answer3).2.2.2 = ⟨true, false⟩ ∧
    (syncF {} syncP syncK true answer3).2.1.recs = [o2, x1] ∧
    (syncF { budget := some 3 } syncP syncK true answer3).2.2.2 = ⟨false, false⟩ := by
  decide +kernel

-- an answer with more PDUs of one kind than a store holds: `n` announcements of distinct IPv4 prefixes
def longAnswer (n : Nat) : List Item :=
  (List.range n).map fun i => Item.p4 true ⟨false, 0x0a000000 + 256 * i, 24, 24, 65001, 0⟩

-- storeIncr PDUs fit into the first block; PDU storeIncr + 1 makes the store grow, PDU 2·storeIncr + 1
-- again.  The growth request (k = 1) refused: error, the old block — still live — is released once by
-- the cleanup, the tables are untouched.
example : storeReqs (longAnswer storeIncr) {} = 1 ∧ storeReqs (longAnswer (storeIncr + 1)) {} = 2 ∧
    storeReqs (longAnswer (2 * storeIncr + 1)) {} = 3 ∧
    (syncF { budget := some 1 } syncP syncK false (longAnswer (storeIncr + 1))).1.trace =
      [.realloc .pdu4 0 storeIncr true, .realloc .pdu4 storeIncr (2 * storeIncr) false, .free .pdu4 storeIncr] ∧
    (syncF { budget := some 1 } syncP syncK false (longAnswer (storeIncr + 1))).2.2.2 = ⟨false, false⟩ ∧
    (syncF { budget := some 2 } syncP syncK true (longAnswer (2 * storeIncr + 1))).1.trace =
      [.realloc .pdu4 0 storeIncr true, .realloc .pdu4 storeIncr (2 * storeIncr) true,
       .realloc .pdu4 (2 * storeIncr) (3 * storeIncr) false, .free .pdu4 (2 * storeIncr)] := by
  decide +kernel

-- the ledger is not vacuous: a store released by the failing helper AND by the cleanup (one block returned
-- twice) is rejected although a leak elsewhere could hide it from the net count; so is a store never released
example : ledger .pdu4 [.realloc .pdu4 0 100 true, .realloc .pdu4 100 200 false, .free .pdu4 100, .free .pdu4 100] 0 = none ∧
    ledger .pdu4 [.realloc .pdu4 0 100 true, .realloc .pdu4 100 200 false] 0 = some 1 ∧
    ledger .pdu4 [.realloc .pdu4 0 100 true, .realloc .pdu4 100 200 false, .free .pdu4 100] 0 = some 0 := by decide


/-! ## 9. the unfixed code, as kernel-checked witnesses

  Each witness is replayed on the implementation by a file of corpus/alloc/.

  F15  spki_table_free / spki_table_free_without_notify hand the entries to libc `free`.
  F16a hashlin_grow_step uses the refused segment pointer.
  F16b spki_table_init (returns void) cannot report the refused first segment; the next operation
       dereferences the NULL bucket pointer (no model: the function has no outcome to report).
  F16c pfx_table_del_elem reports a refused SHRINKING realloc as an error; pfx_table_src_remove then
       stops in the middle.
  F16d pfx_table_validate_r overwrites the reason pointer with the result of realloc. -/

/-- F15: with the unfixed release path a table with two entries gives back only the hash segment:
    the two entries reach libc `free` and are never returned to the configured allocator -/
theorem F15_unfixed_violates :
    let T := ((SpkiTable.init true).add k1).1.add k2 |>.1
    Ev.libcFree .entry 1 ∈ (kfreeU {} T).trace ∧ ¬ NoLibc (kfreeU {} T).trace ∧
    spkiBlocks T = 3 ∧ net (kfreeU {} T).trace = -1 := by
  intro T
  have h1 : Ev.libcFree .entry 1 ∈ (kfreeU {} T).trace := by decide +kernel
  refine ⟨h1, fun h => h _ h1 .entry 1 rfl, by decide +kernel, by decide +kernel⟩

/-- F16a: a table reached by 32 insertions satisfies the invariant; the 33rd insertion asks for a
    segment, and when it is refused the unfixed grow step has no defined result (NULL is used),
    whereas the fixed one leaves the linked table, which satisfies the invariant -/
theorem F16a_unfixed_crashes :
    let h := (List.range 32).foldl (fun (h : Hashlin Nat) i => h.insert i (5 + 64 * i)) Hashlin.init
    h.Inv ∧ (growStepU { budget := some 0 } (linked h 32 (5 + 64 * 32))).2 = none ∧
    (growStepF { budget := some 0 } (linked h 32 (5 + 64 * 32))).2 = linked h 32 (5 + 64 * 32) ∧
    (linked h 32 (5 + 64 * 32)).Inv := by
  intro h
  have hinv : h.Inv := by
    have : ∀ (l : List Nat) (g : Hashlin Nat), g.Inv → (l.foldl (fun (h : Hashlin Nat) i => h.insert i (5 + 64 * i)) g).Inv := by
      intro l
      induction l with
      | nil => intro g hg; exact hg
      | cons x xs ih => intro g hg; exact ih _ (Hashlin.insert_spec g hg _ _).1
    exact this _ _ Hashlin.init_inv
  have hn : needSeg (linked h 32 (5 + 64 * 32)) = true := by decide +kernel
  refine ⟨hinv, ?_, ?_, (Hashlin.appended_spec hinv 32 _).1⟩
  · simp [growStepU, hn, A.malloc, A.take]
  · simp [growStepF, hn, A.malloc, A.take]

/-- F16c: the unfixed remove-by-source on the node [p1, p2, p3] (p1, p2 of source 1), second shrinking
    realloc refused: PFX_ERROR is returned, p1 is gone (its removal already notified), p2 is still
    there — neither the old contents nor the complete effect -/
theorem F16c_unfixed_violates :
    (srcRemoveU { budget := some 1 } demoP 1).2.2 = .error ∧
    (srcRemoveU { budget := some 1 } demoP 1).2.1.recs = [p3, p2] ∧
    demoP.recs = [p1, p2, p3] ∧ (demoP.srcRemove 1).recs = [p3] ∧
    (srcRemoveU { budget := some 1 } demoP 1).2.1.log = demoP.log ++ [(false, p1)] := by
  have h : (srcRemoveU { budget := some 1 } demoP 1).2.2 = .error ∧
      (srcRemoveU { budget := some 1 } demoP 1).2.1.recs = [p3, p2] ∧
      (srcRemoveU { budget := some 1 } demoP 1).2.1.log = demoP.log ++ [(false, p1)] := by
    unfold srcRemoveU
    rw [demoP_v4, removeIdU]
    decide
  exact ⟨h.1, h.2.1, by decide, demoP_srcRemove, h.2.2⟩

/-- F16d: two covering nodes, the second realloc of the reason array refused: the unfixed loop
    leaves one block allocated that nobody owns; the fixed one releases it -/
theorem F16d_unfixed_leaks :
    let cs : List NodeC := [⟨0, 0, [⟨1, 0, 1⟩]⟩, ⟨0, 1, [⟨2, 1, 1⟩]⟩]
    (reasonReqsU { budget := some 1 } 0 cs).1 = false ∧ net (reasonReqsU { budget := some 1 } 0 cs).2.trace = 1 ∧
    (reasonReqs { budget := some 1 } 0 cs).1 = false ∧ net (reasonReqs { budget := some 1 } 0 cs).2.trace = 0 := by
  decide

end Rtr.C18
