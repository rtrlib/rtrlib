/-
  C20 -- State and status names are defined for every enumerator.

  "Converting a socket state or a group status to text returns the enumerator's name for every
   value the public headers declare, including the initial not-started state, and the documented
   null result for values outside the enumeration; it never reads outside its name table."

  The enumerators (`Gen.socketStates`, `Gen.mgrStatus`), the name tables (`Gen.socketStrStates`,
  `Gen.mgrStrStatus`) and the bodies of the two functions (`Gen.stateToStrFn`, `Gen.mgrStatusToStrFn`)
  are regenerated from the current source on every run; every theorem below is re-checked against
  them.  `decide` is used only on the finite generated tables (whole-table); the statements about
  ALL integers go through `ToStrFn.run_spec` (case split on the range of the argument).
-/
import RtrModel.Names
import RtrModel.Rfc8210
import RtrProofs.Names

namespace Rtr.C20
open Rtr.NamesIR Rtr.Names

/-! ### the tables are total on the enumerations -/

/-- every declared socket state has its own identifier in `socket_str_states` -/
theorem names_total_state :
    ∀ e ∈ Gen.socketStates, tableAt Gen.socketStrStates e.2 = some (some e.1) := by decide +kernel

/-- every declared group status has its own identifier in `mgr_str_status` -/
theorem names_total_mgr :
    ∀ e ∈ Gen.mgrStatus, tableAt Gen.mgrStrStatus e.2 = some (some e.1) := by decide +kernel

/-- the enumerators of the public 0.8 API are all declared with their ABI values -/
theorem public_enumerators_declared :
    (∀ e ∈ Rfc8210.socketStates, e ∈ Gen.socketStates) ∧ (∀ e ∈ Rfc8210.mgrStatus, e ∈ Gen.mgrStatus) := by
  decide +kernel

/-! ### the functions, for all integers -/

theorem state_sound : Gen.stateToStrFn.Sound Gen.socketStrStates Gen.socketStates = true := by decide +kernel
theorem mgr_sound : Gen.mgrStatusToStrFn.Sound Gen.mgrStrStatus Gen.mgrStatus = true := by decide +kernel

/-- `rtr_state_to_str`: for EVERY integer argument the result is the identifier of the (converted)
    argument when that is a declared value and NULL otherwise -- never an out-of-table read -/
theorem toStr_spec_state (i : Int) :
    stateToStr i = .ok (specName Gen.socketStates (stateArg i)) :=
  Gen.stateToStrFn.run_spec _ _ state_sound i

/-- `rtr_mgr_status_to_str`, likewise -/
theorem toStr_spec_mgr (i : Int) :
    mgrStatusToStr i = .ok (specName Gen.mgrStatus (mgrArg i)) :=
  Gen.mgrStatusToStrFn.run_spec _ _ mgr_sound i

/-- every value a C caller can pass (any `int`, any `unsigned int`): the name of `i` itself if `i`
    is a declared enumerator value, the documented NULL otherwise -/
theorem toStr_spec_state_int (i : Int) (h1 : -(2 ^ 31) ≤ i) (h2 : i < 2 ^ 32) :
    stateToStr i = .ok (specName Gen.socketStates i) :=
  Gen.stateToStrFn.run_spec_int _ _ state_sound (by decide +kernel) (by decide +kernel) i h1 h2

theorem toStr_spec_mgr_int (i : Int) (h1 : -(2 ^ 31) ≤ i) (h2 : i < 2 ^ 32) :
    mgrStatusToStr i = .ok (specName Gen.mgrStatus i) :=
  Gen.mgrStatusToStrFn.run_spec_int _ _ mgr_sound (by decide +kernel) (by decide +kernel) i h1 h2

/-- neither function ever reads outside its table, whatever the argument -/
theorem never_oob (i : Int) : stateToStr i ≠ .oob ∧ mgrStatusToStr i ≠ .oob := by
  rw [toStr_spec_state, toStr_spec_mgr]
  exact ⟨by simp, by simp⟩

/-- every declared enumerator is converted to its own identifier -/
theorem toStr_enumerators :
    (∀ e ∈ Gen.socketStates, stateToStr e.2 = .ok (some e.1)) ∧
    (∀ e ∈ Gen.mgrStatus, mgrStatusToStr e.2 = .ok (some e.1)) := by decide +kernel

/-- "including the initial not-started state" -/
theorem initial_state_named :
    stateToStr Gen.RTR_CLOSED = .ok (some Rfc8210.initialState) := by decide +kernel

/-! ### F18: the same model on the tables and bodies of the tree before the fix (frozen literals)
    exhibits the defect -- the model is able to say `oob` -/

def f18Table : List (Option String) :=
  [some "RTR_CONNECTING", some "RTR_ESTABLISHED", some "RTR_RESET", some "RTR_SYNC", some "RTR_FAST_RECONNECT",
   some "RTR_ERROR_NO_DATA_AVAIL", some "RTR_ERROR_NO_INCR_UPDATE_AVAIL", some "RTR_ERROR_FATAL",
   some "RTR_ERROR_TRANSPORT", some "RTR_SHUTDOWN"]
def f18Fn : ToStrFn := { shape := .unchecked, paramTy := ⟨32, false⟩, guards := [] }

theorem f18_unfixed_reads_outside_table :
    f18Fn.run f18Table 10 = .oob ∧ f18Fn.run f18Table (-1) = .oob ∧
    f18Fn.Sound f18Table Rfc8210.socketStates = false := by decide +kernel

/-! ### non-vacuity -/

example : stateToStr 10 = .ok (some "RTR_CLOSED") := by decide +kernel
example : stateToStr 11 = .ok none ∧ stateToStr (-1) = .ok none ∧ stateToStr 2147483647 = .ok none := by decide +kernel
example : mgrStatusToStr 3 = .ok (some "RTR_MGR_ERROR") ∧ mgrStatusToStr 4 = .ok none := by decide +kernel
example : Gen.socketStates.length = 11 ∧ Gen.mgrStatus.length = 4 := by decide +kernel
example : specName Gen.socketStates 7 = some "RTR_ERROR_FATAL" := by decide +kernel

end Rtr.C20
