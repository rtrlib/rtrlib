/-
  C08b — the CONVERGENCE half of C08 ("After any finite run of faults the client re-converges on the
  cache's data"), proved on the model `Rtr.P` (RtrModel/Rtr.lean) of rtr_receive_pdu, rtr_sync and
  rtr_fsm_start.  RtrProps/C08.lean proves the progress half (no busy loop, no absorbing error
  state); this file proves that once the environment is good the client reaches ESTABLISHED with
  exactly the cache's data, and how fast.

  THE REACTIVE CACHE AS A SCRIPT.  The environment of the model is a script (input tape, send
  outcomes, open outcomes).  "The cache answers correctly from now on" is expressed for ONE exchange
  as: the next `open` succeeds, no scripted send fails, and the tape holds — without any transport
  fault or clock advance, in ANY segmentation into non-empty chunks — exactly the good answer to the
  query the socket is going to send.  Which query that is, is a function of the socket's state
  (C05: `nextQuery`, plus the expiry check made when connecting): `cvSendsReset st` (a Reset Query
  will be sent) / `cvSendsSerial st` (a Serial Query with the stored session and serial will be
  sent).  The good answer to a Reset Query is `goodResetAnswer` (Cache Response, one announcement
  per record / router key of the cache's data set, End of Data); to a Serial Query
  `goodSerialAnswer` (Cache Response, a consistent list of announcements and withdrawals, End of
  Data), both built with the byte layout the model parses.

  WHAT IS PROVED (for all socket states, tables, intervals, data sets, segmentations).
  (1) rtr_receive_pdu returns a complete well-formed PDU at the head of a fault-free tape, consuming exactly its
      bytes (including the live downgrade on the first PDU and Error Reports of any version).
  (2) rtr_sync succeeds on the good answer to a Reset Query.  The socket may hold records of its own (the reload
      replaces them); the only hypothesis on the tables is C07's invariant (`Inv7`, first clause: own data only
      together with a time stamp; `inv7_own_data`).  Both protocol versions; every interval triple.
  (3) The same for an incremental answer, in any interleaving.  `sync_complete_items` is general in its hypotheses
      (any interleaving also for the answer to a Reset Query); its conclusion says less than those of (2) and (3).
  (4) From the seven states of the recovery path, in a good environment: ESTABLISHED with the cache's data set
      after at most 4 iterations (ERROR_TRANSPORT / ERROR_FATAL / FAST_RECONNECT: 4; CONNECTING /
      ERROR_NO_DATA_AVAIL / ERROR_NO_INCR_UPDATE_AVAIL: 3; RESET: 2) and 0 or exactly one `retry_interval`; with a
      Serial Query (session and unexpired data) at most 3.  By `Inv7` every socket without a time stamp is covered
      (`sendsReset_of_no_data`).

  WHAT IS NOT COVERED HERE.  * A cache that needs several exchanges (Cache Reset or "no data
  available" answer followed by a new query, session change, version negotiation by Error Report):
  each of these ends in one of the start states of (4) — ERROR_NO_INCR_UPDATE_AVAIL,
  ERROR_NO_DATA_AVAIL, FAST_RECONNECT, or for a session change ERROR_FATAL — by `syncG`'s case analysis (C03/C05/C13), after which (4)
  applies to the NEXT exchange; the composition over several exchanges is RtrProps/C08c.lean
  (`converges_eventually`), except for version negotiation.
  * The refresh / expire part of the bound of C08 (refresh + expire + c·retry) belongs to the fault
  phase: how long the client may keep using old data while the cache is unreachable is C07; that
  the fault phase makes progress is C08.  Here the bound for the good phase is c = 1 retry interval
  and 4 iterations.  * Serial Notify PDUs interleaved with the answer, and clock advances (`dt`)
  between the chunks of the answer (they would only shift `last_update`), are not in the good
  environment.  * The wait in ESTABLISHED (rtr_wait_for_sync) that precedes a periodic Serial
  Query is not part of (4); `sync_complete_serial` covers the exchange itself.
-/
import RtrProofs.Converge
import RtrProofs.Expiry

namespace Rtr.C08b
open Rtr Rtr.P

/-! ## (1) completeness of rtr_receive_pdu -/

/-- **a complete well-formed PDU is received** (general form): `raw` carries the version the socket speaks after
    the live-downgrade rule (`downgraded`) or is an Error Report; the tape holds `raw ++ rest` in any segmentation.
    Exactly `raw` is consumed; clock, send and open scripts are untouched, nothing but recv calls appear in the trace. -/
theorem receive_complete_general (c : Conn) (n : Net) (own : Nat) (timeout : Int) (raw rest : List Nat)
    (hs : c.state ≠ .shutdown) (hff : FaultFree n.tape) (hb : tapeBytes n.tape = raw ++ rest)
    (hlen : raw.length = lenOf raw) (hcs : checkSize raw = true) (hmax : lenOf raw ≤ Gen.RTR_MAX_PDU_LEN)
    (hv : verOf raw = (downgraded c raw).version ∨ typeOf raw = 10) :
    ∃ n', receivePdu c n own timeout = (.ok raw, downgraded c raw, n') ∧
      FaultFree n'.tape ∧ tapeBytes n'.tape = rest ∧ n'.now = n.now ∧ n'.sendQ = n.sendQ ∧ n'.openQ = n.openQ ∧
      dropRecv n'.trace = dropRecv n.trace := by
  obtain ⟨n', r, t, s⟩ := cv_receivePdu_complete c n own timeout raw rest hs ⟨hff, hb⟩ hlen hcs hmax hv
  exact ⟨n', r, t.ff, t.eq, s.now, s.sendQ, s.openQ, s.trace⟩

/-- **… in the version the socket speaks**: only the "a PDU was seen on this connection" flag changes -/
theorem receive_complete (c : Conn) (n : Net) (own : Nat) (timeout : Int) (raw rest : List Nat)
    (hs : c.state ≠ .shutdown) (hff : FaultFree n.tape) (hb : tapeBytes n.tape = raw ++ rest)
    (hlen : raw.length = lenOf raw) (hcs : checkSize raw = true) (hmax : lenOf raw ≤ Gen.RTR_MAX_PDU_LEN)
    (hv : verOf raw = c.version) :
    ∃ n', receivePdu c n own timeout = (.ok raw, { c with hasReceived := true }, n') ∧
      FaultFree n'.tape ∧ tapeBytes n'.tape = rest ∧ n'.now = n.now ∧ n'.sendQ = n.sendQ ∧ n'.openQ = n.openQ := by
  have hd := downgraded_same c raw hv
  obtain ⟨n', r, h1, h2, h3, h4, h5, _⟩ := receive_complete_general c n own timeout raw rest hs hff hb hlen hcs hmax
    (Or.inl (by rw [hd]; exact hv))
  rw [hd] at r
  exact ⟨n', r, h1, h2, h3, h4, h5⟩

/-- **… the legitimate downgrade**: first PDU of the connection, socket at version 1, PDU of version 0 -/
theorem receive_complete_downgrade (c : Conn) (n : Net) (own : Nat) (timeout : Int) (raw rest : List Nat)
    (hs : c.state ≠ .shutdown) (hff : FaultFree n.tape) (hb : tapeBytes n.tape = raw ++ rest)
    (hlen : raw.length = lenOf raw) (hcs : checkSize raw = true) (hmax : lenOf raw ≤ Gen.RTR_MAX_PDU_LEN)
    (h1 : c.hasReceived = false) (h2 : c.version = 1) (h3 : verOf raw = 0) (h4 : typeOf raw ≠ 10) :
    ∃ n', receivePdu c n own timeout = (.ok raw, { c with version := 0, hasReceived := true }, n') ∧
      FaultFree n'.tape ∧ tapeBytes n'.tape = rest ∧ n'.now = n.now := by
  have hd := downgraded_down c raw h1 h2 h3 h4
  obtain ⟨n', r, a1, a2, a3, _⟩ := receive_complete_general c n own timeout raw rest hs hff hb hlen hcs hmax
    (Or.inl (by rw [hd]; exact h3))
  rw [hd] at r
  exact ⟨n', r, a1, a2, a3⟩

/-! ## the good answers -/

/-- the good answer to a Reset Query for the data set `recs`, `keys` -/
def goodResetAnswer (ver sess serial : Nat) (iv : CvIvals) (recs : List Rec) (keys : List KeyRec) : List Nat :=
  cvAnswer ver sess serial iv (cvResetItems recs keys)

/-- its byte layout: Cache Response, one Prefix PDU (flags = 1) per record, one Router Key PDU
    (flags = 1) per key, End of Data (see `cvCacheResponse`, `cvPfxPdu`, `cvKeyPdu`, `cvEndOfData`) -/
theorem goodResetAnswer_eq (ver sess serial : Nat) (iv : CvIvals) (recs : List Rec) (keys : List KeyRec) :
    goodResetAnswer ver sess serial iv recs keys =
      cvCacheResponse ver sess ++ (((recs.map (cvPfxPdu ver 1)).flatten ++ (keys.map (cvKeyPdu ver 1)).flatten) ++
        cvEndOfData ver sess serial iv) := by
  unfold goodResetAnswer cvAnswer cvResetItems
  rw [List.map_append, List.flatten_append, List.map_map, List.map_map]
  rfl

/-- the good answer to a Serial Query: `items` = the announcements and withdrawals since that serial -/
def goodSerialAnswer (ver sess serial : Nat) (iv : CvIvals) (items : List CvItem) : List Nat :=
  cvAnswer ver sess serial iv items

/-! ## (2) completeness of rtr_sync for the answer to a Reset Query -/

/-- **rtr_sync succeeds on the good answer to a Reset Query.**  The socket requests a new session and holds own
    data only together with a time stamp (C07 `Inv7`); the answer is in the version the socket speaks (or version 0
    as first PDU to a version-1 socket).  Afterwards the socket's records (src = 0) are exactly the announced ones,
    records of other sockets are untouched, and no time has passed. -/
theorem sync_complete_reset (fuel : Nat) (st : St) (ver sess serial : Nat) (iv : CvIvals) (recs : List Rec)
    (keys : List KeyRec) (rest : List Nat)
    (hs : st.c.state ≠ .shutdown) (hr : st.ss.reqSession = true)
    (hver : ver = st.c.version ∨ (st.c.hasReceived = false ∧ st.c.version = 1 ∧ ver = 0)) (hv : ver ≤ 1)
    (ht : TblOK st.t) (hi : st.ss.lastUpdate = 0 → NoOwn st.t)
    (hsess : sess < 65536) (hserial : serial < 4294967296)
    (hrok : ∀ r ∈ recs, cvRecOK r) (hkok : ∀ k ∈ keys, cvKeyOK k) (hrn : recs.Nodup) (hkn : keys.Nodup)
    (hff : FaultFree st.n.tape) (hb : tapeBytes st.n.tape = goodResetAnswer ver sess serial iv recs keys ++ rest)
    (hfuel : recs.length + keys.length < fuel) :
    (syncG fuel st).1 = true ∧
    (∀ x : Rec, x.src = 0 → (x ∈ (syncG fuel st).2.1.t.pt ↔ x ∈ recs)) ∧
    (∀ x : KeyRec, x.src = 0 → (x ∈ (syncG fuel st).2.1.t.kt ↔ x ∈ keys)) ∧
    OthersSame st.t (syncG fuel st).2.1.t ∧ TblOK (syncG fuel st).2.1.t ∧
    (syncG fuel st).2.1.ss =
      { session := sess, serial := serial, reqSession := false, lastUpdate := st.n.now, isResetting := false } ∧
    (syncG fuel st).2.1.tm = applyEodIntervals st.tm (cvEndOfData ver sess serial iv) ∧
    (syncG fuel st).2.1.c = { st.c with version := ver, hasReceived := true } ∧
    (syncG fuel st).2.1.n.now = st.n.now ∧
    FaultFree (syncG fuel st).2.1.n.tape ∧ tapeBytes (syncG fuel st).2.1.n.tape = rest := by
  obtain ⟨pt', kt', ap, mp, mk, hitems⟩ := cv_reset_tables st.t st.ss ht hi hr recs keys hrok hkok hrn hkn
  obtain ⟨n', g, t', s', e⟩ := cv_sync_items_exact fuel st ver sess serial iv (cvResetItems recs keys) rest pt' kt'
    (by unfold cvResetItems; rw [List.length_append, List.length_map, List.length_map]; exact hfuel) hs hver hv ht.1 hsess
    (Or.inl hr) hitems ap.pt ap.kt ⟨hff, hb⟩
  rw [e]
  obtain ⟨op, ok, oo⟩ := cv_reload_tables (t := st.t) (t' := ⟨pt', kt', none⟩) hrok hkok mp mk
  refine ⟨rfl, op, ok, oo, ⟨rfl, ap.np, ap.nk⟩, ?_, rfl, rfl, s'.now, t'.ff, t'.eq⟩
  · show ({ session := sess, serial := be32 (cvEndOfData ver sess serial iv) 8, reqSession := false,
            lastUpdate := st.n.now, isResetting := false } : Sess) = _
    rw [cv_endOfData_serial ver sess serial iv hserial]

/-- an interval triple the socket takes over in interval mode `mode`: any in ACCEPT_ANY; in
    DEFAULT_MIN_MAX and IGNORE_ON_FAILURE the values within the RFC 8210 bounds -/
def ivAccepted (mode : IvMode) (iv : CvIvals) : Prop :=
  mode = .acceptAny ∨
  (mode ≠ .ignoreAny ∧
   Gen.RTR_REFRESH_MIN ≤ iv.refresh ∧ iv.refresh ≤ Gen.RTR_REFRESH_MAX ∧
   Gen.RTR_RETRY_MIN ≤ iv.retry ∧ iv.retry ≤ Gen.RTR_RETRY_MAX ∧
   Gen.RTR_EXPIRATION_MIN ≤ iv.expire ∧ iv.expire ≤ Gen.RTR_EXPIRATION_MAX)

instance (mode : IvMode) (iv : CvIvals) : Decidable (ivAccepted mode iv) := by unfold ivAccepted; exact inferInstance

/-- **the intervals of a version-1 End of Data are taken over** when the mode accepts them -/
theorem eod_intervals (tm : Timers) (sess serial : Nat) (iv : CvIvals) (h : ivAccepted tm.ivMode iv)
    (h1 : iv.refresh < 4294967296) (h2 : iv.retry < 4294967296) (h3 : iv.expire < 4294967296) :
    applyEodIntervals tm (cvEndOfData 1 sess serial iv) =
      { refresh := iv.refresh, retry := iv.retry, expire := iv.expire, ivMode := tm.ivMode } := by
  obtain ⟨e1, e2, e3⟩ := cv_endOfData_ivals sess serial iv h1 h2 h3
  have hv : verOf (cvEndOfData 1 sess serial iv) = 1 := rfl
  have hm : tm.ivMode ≠ .ignoreAny := by
    rcases h with h | h
    · rw [h]; decide
    · exact h.1
  unfold applyEodIntervals
  rw [if_pos ⟨hv, hm⟩]
  simp only [e1, e2, e3]
  unfold applyIv
  have c1 : (Gen.RTR_EXPIRATION_MIN ≤ iv.expire ∧ iv.expire ≤ Gen.RTR_EXPIRATION_MAX) ∨ tm.ivMode = .acceptAny := by
    rcases h with h | h
    · exact Or.inr h
    · exact Or.inl ⟨h.2.2.2.2.2.1, h.2.2.2.2.2.2⟩
  have c2 : (Gen.RTR_REFRESH_MIN ≤ iv.refresh ∧ iv.refresh ≤ Gen.RTR_REFRESH_MAX) ∨ tm.ivMode = .acceptAny := by
    rcases h with h | h
    · exact Or.inr h
    · exact Or.inl ⟨h.2.1, h.2.2.1⟩
  have c3 : (Gen.RTR_RETRY_MIN ≤ iv.retry ∧ iv.retry ≤ Gen.RTR_RETRY_MAX) ∨ tm.ivMode = .acceptAny := by
    rcases h with h | h
    · exact Or.inr h
    · exact Or.inl ⟨h.2.2.2.1, h.2.2.2.2.1⟩
  rw [if_pos c1, if_pos c2, if_pos c3]

/-- a version-0 End of Data carries no intervals; in mode IGNORE_ANY they are ignored -/
theorem eod_intervals_unchanged (tm : Timers) (ver sess serial : Nat) (iv : CvIvals) (h : ver = 0 ∨ tm.ivMode = .ignoreAny) :
    applyEodIntervals tm (cvEndOfData ver sess serial iv) = tm := by
  unfold applyEodIntervals
  rw [if_neg]
  rintro ⟨hv, hm⟩
  rcases h with h | h
  · subst h
    have : verOf (cvEndOfData 0 sess serial iv) = 0 := rfl
    rw [this] at hv; cases hv
  · exact hm h

/-! ## (3) completeness of rtr_sync for the answer to a Serial Query -/

/-- **rtr_sync succeeds on a good incremental answer.**  The socket has a session and the answer carries it;
    `items` is consistent with the tables (every record named at most once, announcements of absent, withdrawals of
    present records) — in any interleaving of IPv4, IPv6 and Router Key PDUs: the apply loops run IPv4 first, then
    IPv6, then keys, and for a consistent list every order is accepted. -/
theorem sync_complete_serial (fuel : Nat) (st : St) (ver serial : Nat) (iv : CvIvals) (items : List CvItem) (rest : List Nat)
    (hs : st.c.state ≠ .shutdown) (hr : st.ss.reqSession = false) (hres : st.ss.isResetting = false)
    (hver : ver = st.c.version ∨ (st.c.hasReceived = false ∧ st.c.version = 1 ∧ ver = 0)) (hv : ver ≤ 1)
    (ht : TblOK st.t) (hsess : st.ss.session < 65536) (hserial : serial < 4294967296)
    (hok : ∀ i ∈ items, i.OK)
    (hnp : ((cvPfxOps items).map Prod.snd).Nodup) (hnk : ((cvKeyOps items).map Prod.snd).Nodup)
    (hcp : ∀ op ∈ cvPfxOps items, (op.1 = true ↔ op.2 ∉ st.t.pt))
    (hck : ∀ op ∈ cvKeyOps items, (op.1 = true ↔ op.2 ∉ st.t.kt))
    (hff : FaultFree st.n.tape) (hb : tapeBytes st.n.tape = goodSerialAnswer ver st.ss.session serial iv items ++ rest)
    (hfuel : items.length < fuel) :
    (syncG fuel st).1 = true ∧
    (∀ x, x ∈ (syncG fuel st).2.1.t.pt ↔ ((true, x) ∈ cvPfxOps items ∨ (x ∈ st.t.pt ∧ (false, x) ∉ cvPfxOps items))) ∧
    (∀ x, x ∈ (syncG fuel st).2.1.t.kt ↔ ((true, x) ∈ cvKeyOps items ∨ (x ∈ st.t.kt ∧ (false, x) ∉ cvKeyOps items))) ∧
    TblOK (syncG fuel st).2.1.t ∧
    (syncG fuel st).2.1.ss =
      { session := st.ss.session, serial := serial, reqSession := false, lastUpdate := st.n.now, isResetting := false } ∧
    (syncG fuel st).2.1.tm = applyEodIntervals st.tm (cvEndOfData ver st.ss.session serial iv) ∧
    (syncG fuel st).2.1.n.now = st.n.now ∧
    FaultFree (syncG fuel st).2.1.n.tape ∧ tapeBytes (syncG fuel st).2.1.n.tape = rest := by
  obtain ⟨pt', kt', ap, mp, mk⟩ := cv_items_tables st.t st.ss ht hr hres items hnp hnk hcp hck
  obtain ⟨n', g, t', s', e⟩ := cv_sync_items_exact fuel st ver st.ss.session serial iv items rest pt' kt' hfuel hs hver hv ht.1
    hsess (Or.inr rfl) hok ap.pt ap.kt ⟨hff, hb⟩
  rw [e]
  refine ⟨rfl, mp, mk, ⟨rfl, ap.np, ap.nk⟩, ?_, rfl, s'.now, t'.ff, t'.eq⟩
  show ({ session := st.ss.session, serial := be32 (cvEndOfData ver st.ss.session serial iv) 8, reqSession := false,
          lastUpdate := st.n.now, isResetting := false } : Sess) = _
  rw [cv_endOfData_serial ver st.ss.session serial iv hserial]

/-- **(2) and (3) with the hypotheses in general form**: a new session is requested *or* the answer carries the
    stored session; the payload is any interleaving that is consistent with the tables the update writes to
    (`baseOf`: the live tables, or for a reload the copy without this socket's records), so the answer to a Reset
    Query may interleave IPv4, IPv6 and Router Key PDUs arbitrarily.  The conclusion says less than those of (2)
    and (3): nothing on the serial, the intervals or the connection part. -/
theorem sync_complete_items (fuel : Nat) (st : St) (ver sess serial : Nat) (iv : CvIvals) (items : List CvItem) (rest : List Nat)
    (hs : st.c.state ≠ .shutdown) (hq : st.ss.reqSession = true ∨ st.ss.session = sess)
    (hver : ver = st.c.version ∨ (st.c.hasReceived = false ∧ st.c.version = 1 ∧ ver = 0)) (hv : ver ≤ 1)
    (ht : TblOK st.t) (hsess : sess < 65536) (hok : ∀ i ∈ items, i.OK)
    (hnp : ((cvPfxOps items).map Prod.snd).Nodup) (hnk : ((cvKeyOps items).map Prod.snd).Nodup)
    (hcp : ∀ op ∈ cvPfxOps items, (op.1 = true ↔ op.2 ∉ (baseOf st.t (resettingAfter st.ss)).pt))
    (hck : ∀ op ∈ cvKeyOps items, (op.1 = true ↔ op.2 ∉ (baseOf st.t (resettingAfter st.ss)).kt))
    (hff : FaultFree st.n.tape) (hb : tapeBytes st.n.tape = cvAnswer ver sess serial iv items ++ rest)
    (hfuel : items.length < fuel) :
    (syncG fuel st).1 = true ∧
    (∀ x, x ∈ (syncG fuel st).2.1.t.pt ↔ ((true, x) ∈ cvPfxOps items ∨
      (x ∈ (baseOf st.t (resettingAfter st.ss)).pt ∧ (false, x) ∉ cvPfxOps items))) ∧
    (∀ x, x ∈ (syncG fuel st).2.1.t.kt ↔ ((true, x) ∈ cvKeyOps items ∨
      (x ∈ (baseOf st.t (resettingAfter st.ss)).kt ∧ (false, x) ∉ cvKeyOps items))) ∧
    TblOK (syncG fuel st).2.1.t ∧ (syncG fuel st).2.1.ss.session = sess ∧ (syncG fuel st).2.1.ss.reqSession = false ∧
    (syncG fuel st).2.1.ss.lastUpdate = st.n.now ∧ (syncG fuel st).2.1.n.now = st.n.now ∧
    tapeBytes (syncG fuel st).2.1.n.tape = rest := by
  obtain ⟨bn1, bn2, _⟩ := work_tables st.t (resettingAfter st.ss) ht
  obtain ⟨pt', hp1, np, mp⟩ := cv_lsApplyAll_consistent (cvPfxOps items) _ bn1 hnp hcp
  obtain ⟨kt', hk1, nk, mk⟩ := cv_lsApplyAll_consistent (cvKeyOps items) _ bn2 hnk hck
  obtain ⟨n', g, t', s', e⟩ := cv_sync_items_exact fuel st ver sess serial iv items rest pt' kt' hfuel hs hver hv ht.1 hsess hq hok
    hp1 hk1 ⟨hff, hb⟩
  rw [e]
  exact ⟨rfl, mp, mk, ⟨rfl, np, nk⟩, rfl, rfl, rfl, s'.now, t'.eq⟩

/-! ## (4) convergence of the state machine -/

/-- the environment is good for one exchange: the next `open` succeeds (no scripted outcome left, or
    the next one is not -1), no scripted send outcome is a failure, and the tape holds exactly
    `answer` followed by `rest`, without faults or clock advances, in any segmentation -/
structure GoodEnv (st : St) (answer rest : List Nat) : Prop where
  open_ok : CvOpenOK st.n.openQ
  send_ok : NoFail st.n.sendQ
  fault_free : FaultFree st.n.tape
  bytes : tapeBytes st.n.tape = answer ++ rest

/-- the socket has converged on the data set `recs`, `keys` of the cache: after `k ≤ 4` iterations of
    rtr_fsm_start it is ESTABLISHED; its own records (src = 0) are exactly the cache's; other
    sockets' records are untouched; the tables are duplicate-free; session and serial are those of
    the End of Data, no new session is requested, the update time is the current time; the
    intervals are those of `applyEodIntervals`; and the time that passed is 0 or exactly one retry
    interval (the sleep of ERROR_TRANSPORT / ERROR_FATAL / ERROR_NO_DATA_AVAIL), hence at most
    `retry_interval`.  What is left of the environment: `rest` on the tape, no failing send. -/
def ConvergedOnReset (fuel : Nat) (st : St) (ver sess serial : Nat) (iv : CvIvals) (recs : List Rec) (keys : List KeyRec)
    (rest : List Nat) : Prop :=
  ∃ k st', k ≤ 4 ∧ CvRun fuel k st st' ∧ st'.c.state = .established ∧
    (∀ x : Rec, x.src = 0 → (x ∈ st'.t.pt ↔ x ∈ recs)) ∧
    (∀ x : KeyRec, x.src = 0 → (x ∈ st'.t.kt ↔ x ∈ keys)) ∧
    OthersSame st.t st'.t ∧ TblOK st'.t ∧
    st'.ss.session = sess ∧ st'.ss.serial = serial ∧ st'.ss.reqSession = false ∧ st'.ss.lastUpdate = st'.n.now ∧
    st'.tm = applyEodIntervals st.tm (cvEndOfData ver sess serial iv) ∧ st'.c.version = ver ∧
    (st'.n.now = st.n.now ∨ st'.n.now = st.n.now + st.tm.retry) ∧
    st.n.now ≤ st'.n.now ∧ st'.n.now ≤ st.n.now + st.tm.retry ∧
    FaultFree st'.n.tape ∧ tapeBytes st'.n.tape = rest ∧ NoFail st'.n.sendQ

/-- **convergence with a Reset Query.**  `cvSendsReset st`: the socket is in ERROR_NO_DATA_AVAIL,
    ERROR_NO_INCR_UPDATE_AVAIL; or in RESET with a new session requested; or in CONNECTING /
    FAST_RECONNECT / ERROR_TRANSPORT / ERROR_FATAL with a new session requested or data that will have
    expired when it connects.  `CvVerFrom st ver`: the cache answers in the version the socket
    speaks, or in version 0 where the live downgrade applies.  In a good environment whose tape
    holds the good answer to a Reset Query the socket converges (`ConvergedOnReset`). -/
theorem converges_with_reset_query (fuel : Nat) (st : St) (ver sess serial : Nat) (iv : CvIvals) (recs : List Rec)
    (keys : List KeyRec) (rest : List Nat)
    (hq : cvSendsReset st) (hver : CvVerFrom st ver) (hv : ver ≤ 1)
    (ht : TblOK st.t) (hi : st.ss.lastUpdate = 0 → NoOwn st.t)
    (hsess : sess < 65536) (hserial : serial < 4294967296)
    (hrok : ∀ r ∈ recs, cvRecOK r) (hkok : ∀ k ∈ keys, cvKeyOK k) (hrn : recs.Nodup) (hkn : keys.Nodup)
    (env : GoodEnv st (goodResetAnswer ver sess serial iv recs keys) rest)
    (hfuel : recs.length + keys.length < fuel) :
    ConvergedOnReset fuel st ver sess serial iv recs keys rest := by
  obtain ⟨es, hk, hd, p, hreq, hcv⟩ := cv_toSync_reset fuel ver st hq hver
  obtain ⟨st1, st', run, hstep, hdone, mp, mk⟩ := cv_path_reload fuel ver st true es sess serial iv recs keys rest p.quiet
    (by rw [p.bytes]; exact CvRep.of_st st true _ ⟨env.fault_free, env.bytes⟩ env.send_ok (fun _ => env.open_ok)) p.ok p.state
    hcv hreq hv ht hi hsess hserial hrok hkok hrn hkn hfuel
  obtain ⟨op, ok, oo⟩ := cv_reload_tables hrok hkok mp mk
  obtain ⟨t1, t2, t3⟩ := hdone.time_le hd
  exact ⟨es.length + 1, st', by omega, run.snoc hstep, hdone.state, op, ok, oo, hdone.tblok,
    hdone.session_eq, hdone.serial_eq, hdone.no_request, hdone.update_time, hdone.tm, hdone.version, t1, t2, t3,
    hdone.tape.ff, hdone.tape.eq, hdone.send env.send_ok⟩

/-- C07's invariant gives the hypothesis on the tables used above -/
theorem inv7_own_data (st : St) (h : Inv7 st) : st.ss.lastUpdate = 0 → NoOwn st.t := by
  intro h0
  exact Classical.byContradiction fun hn => h.1 hn h0

/-- … and the pending Reset Query: a socket without a time stamp (never synchronised, or purged —
    expiry, failed undo, rtr_stop) requests a new session, so from each of the seven states of the
    recovery path it will send a Reset Query -/
theorem sendsReset_of_no_data (st : St) (h : Inv7 st) (h0 : st.ss.lastUpdate = 0)
    (hstate : st.c.state = .errTransport ∨ st.c.state = .errFatal ∨ st.c.state = .errNoData ∨ st.c.state = .errNoIncr ∨
      st.c.state = .fastReconnect ∨ st.c.state = .connecting ∨ st.c.state = .reset) : cvSendsReset st := by
  have hr := h.2.1 h0
  unfold cvSendsReset
  rcases hstate with e | e | e | e | e | e | e <;> rw [e] <;> simp only <;> first | exact Or.inl hr | exact hr | trivial

/-- **from the error states** with a new session requested (the named form of the theorem) -/
theorem converges_from_error (fuel : Nat) (st : St) (ver sess serial : Nat) (iv : CvIvals) (recs : List Rec)
    (keys : List KeyRec) (rest : List Nat)
    (hstate : st.c.state = .errTransport ∨ st.c.state = .errFatal ∨ st.c.state = .errNoData ∨ st.c.state = .errNoIncr ∨
      st.c.state = .fastReconnect)
    (hreq : st.ss.reqSession = true ∨ st.c.state = .errNoData ∨ st.c.state = .errNoIncr)
    (hver : CvVerFrom st ver) (hv : ver ≤ 1) (ht : TblOK st.t) (hi : st.ss.lastUpdate = 0 → NoOwn st.t)
    (hsess : sess < 65536) (hserial : serial < 4294967296)
    (hrok : ∀ r ∈ recs, cvRecOK r) (hkok : ∀ k ∈ keys, cvKeyOK k) (hrn : recs.Nodup) (hkn : keys.Nodup)
    (env : GoodEnv st (goodResetAnswer ver sess serial iv recs keys) rest)
    (hfuel : recs.length + keys.length < fuel) :
    ConvergedOnReset fuel st ver sess serial iv recs keys rest := by
  refine converges_with_reset_query fuel st ver sess serial iv recs keys rest ?_ hver hv ht hi hsess hserial hrok hkok hrn hkn
    env hfuel
  unfold cvSendsReset
  rcases hstate with e | e | e | e | e <;> rw [e] at hreq ⊢ <;> simp only
  all_goals first
    | trivial
    | (rcases hreq with h | h | h
       · exact Or.inl h
       · cases h
       · cases h)

/-- **from CONNECTING or RESET** with a new session requested -/
theorem converges_from_connecting (fuel : Nat) (st : St) (ver sess serial : Nat) (iv : CvIvals) (recs : List Rec)
    (keys : List KeyRec) (rest : List Nat)
    (hstate : st.c.state = .connecting ∨ st.c.state = .reset) (hreq : st.ss.reqSession = true)
    (hver : CvVerFrom st ver) (hv : ver ≤ 1) (ht : TblOK st.t) (hi : st.ss.lastUpdate = 0 → NoOwn st.t)
    (hsess : sess < 65536) (hserial : serial < 4294967296)
    (hrok : ∀ r ∈ recs, cvRecOK r) (hkok : ∀ k ∈ keys, cvKeyOK k) (hrn : recs.Nodup) (hkn : keys.Nodup)
    (env : GoodEnv st (goodResetAnswer ver sess serial iv recs keys) rest)
    (hfuel : recs.length + keys.length < fuel) :
    ConvergedOnReset fuel st ver sess serial iv recs keys rest := by
  refine converges_with_reset_query fuel st ver sess serial iv recs keys rest ?_ hver hv ht hi hsess hserial hrok hkok hrn hkn
    env hfuel
  unfold cvSendsReset
  rcases hstate with e | e <;> rw [e] <;> simp only
  · exact Or.inl hreq
  · exact hreq

/-- **convergence with a Serial Query.**  `cvSendsSerial st`: the socket is in CONNECTING /
    FAST_RECONNECT / ERROR_TRANSPORT / ERROR_FATAL, has a session and data that will not have expired
    when it connects.  With the good incremental answer on the tape: ESTABLISHED after `k ≤ 3`
    iterations and at most one retry interval; the tables are the old ones plus the announced minus
    the withdrawn records. -/
theorem converges_with_serial_query (fuel : Nat) (st : St) (ver serial : Nat) (iv : CvIvals) (items : List CvItem)
    (rest : List Nat)
    (hq : cvSendsSerial st) (hres : st.ss.isResetting = false)
    (hver : ver = st.c.version ∨ (st.c.version = 1 ∧ ver = 0)) (hv : ver ≤ 1)
    (ht : TblOK st.t) (hsess : st.ss.session < 65536) (hserial : serial < 4294967296)
    (hok : ∀ i ∈ items, i.OK)
    (hnp : ((cvPfxOps items).map Prod.snd).Nodup) (hnk : ((cvKeyOps items).map Prod.snd).Nodup)
    (hcp : ∀ op ∈ cvPfxOps items, (op.1 = true ↔ op.2 ∉ st.t.pt))
    (hck : ∀ op ∈ cvKeyOps items, (op.1 = true ↔ op.2 ∉ st.t.kt))
    (env : GoodEnv st (goodSerialAnswer ver st.ss.session serial iv items) rest)
    (hfuel : items.length < fuel) :
    ∃ k st', k ≤ 3 ∧ CvRun fuel k st st' ∧ st'.c.state = .established ∧
      (∀ x, x ∈ st'.t.pt ↔ ((true, x) ∈ cvPfxOps items ∨ (x ∈ st.t.pt ∧ (false, x) ∉ cvPfxOps items))) ∧
      (∀ x, x ∈ st'.t.kt ↔ ((true, x) ∈ cvKeyOps items ∨ (x ∈ st.t.kt ∧ (false, x) ∉ cvKeyOps items))) ∧
      TblOK st'.t ∧
      st'.ss.session = st.ss.session ∧ st'.ss.serial = serial ∧ st'.ss.reqSession = false ∧ st'.ss.lastUpdate = st'.n.now ∧
      st'.tm = applyEodIntervals st.tm (cvEndOfData ver st.ss.session serial iv) ∧ st'.c.version = ver ∧
      st.n.now ≤ st'.n.now ∧ st'.n.now ≤ st.n.now + st.tm.retry ∧
      FaultFree st'.n.tape ∧ tapeBytes st'.n.tape = rest := by
  obtain ⟨es, hk, hd, p, hss1, ht1, hcv⟩ := cv_toSync_serial fuel ver st hq hver
  obtain ⟨st1, st', run, hstep, hdone, mp, mk⟩ := cv_path_items fuel ver st true es serial iv items rest p.quiet
    (by rw [p.bytes]; exact CvRep.of_st st true _ ⟨env.fault_free, env.bytes⟩ env.send_ok (fun _ => env.open_ok)) p.ok p.state
    hcv hss1 ht1 (cvSendsSerial_req hq) hres hv ht hsess hserial hok hnp hnk hcp hck hfuel
  exact ⟨es.length + 1, st', by omega, run.snoc hstep, hdone.state, mp, mk, hdone.tblok,
    hdone.session_eq, hdone.serial_eq, hdone.no_request, hdone.update_time, hdone.tm, hdone.version, (hdone.time_le hd).2.1,
    (hdone.time_le hd).2.2, hdone.tape.ff, hdone.tape.eq⟩

/-- the run of (4) is a run of the state machine in the sense of RtrProofs/Fsm.lean (`Reach`): the
    invariants proved for all runs hold along it, in particular C07's `Inv7` at its end -/
theorem converged_invariants (fuel k : Nat) (st st' : St) (run : CvRun fuel k st st') (ht : TblOK st.t) (hi : Inv7 st) :
    TblOK st'.t ∧ OthersSame st.t st'.t ∧ st'.c.version ≤ st.c.version ∧ Inv7 st' :=
  ⟨(reach_inv fuel run.reach ht).2.1, (reach_inv fuel run.reach ht).2.2, (reach_inv fuel run.reach ht).1,
   reach_inv7 fuel run.reach ht hi⟩

/-- the run as a computation: `cvIter fuel k st` is the state after `k` iterations -/
theorem run_deterministic (fuel k : Nat) (st st' : St) : CvRun fuel k st st' ↔ cvIter fuel k st = some st' :=
  (cvIter_iff fuel k st st').symm

/-! ## non-vacuity: a data set of two prefixes and one router key, protocol version 1 -/

def exR4 : Rec := ⟨false, 0x0a000000, 8, 16, 65001, 0⟩                                   -- 10.0.0.0/8-16 AS65001
def exR6 : Rec := ⟨true, 0x20010db8000000000000000000000000, 32, 48, 65002, 0⟩          -- 2001:db8::/32-48 AS65002
def exKey : KeyRec := ⟨65003, List.replicate 20 7, List.replicate 91 9, 0⟩
def exOther : Rec := ⟨false, 0x0b000000, 8, 8, 65009, 1⟩                                 -- learned from another socket
def exStale : Rec := ⟨false, 0x0c000000, 8, 8, 65010, 0⟩                                 -- old data of this socket
def exIv : CvIvals := ⟨1800, 300, 3600⟩
/-- the answer of the cache to a Reset Query: session 77, serial 5 (207 bytes) -/
def exAnswer : List Nat := goodResetAnswer 1 77 5 exIv [exR4, exR6] [exKey]

/-- the socket after a transport error: stale data of an old session, a new session requested, the
    answer on the tape in three chunks that do not respect PDU boundaries -/
def exErr : St :=
  { c := { state := .errTransport, version := 1, hasReceived := true },
    ss := { session := 3, serial := 9, reqSession := true, lastUpdate := 500 },
    t := { pt := [exOther, exStale] },
    n := { tape := [.rx (exAnswer.take 5), .rx ((exAnswer.drop 5).take 100), .rx (exAnswer.drop 105)], threaded := true } }

/-- the same socket in SYNC (the Reset Query has been sent) -/
def exSync : St := { exErr with c := { exErr.c with state := .sync } }

theorem exData_ok : (∀ r ∈ [exR4, exR6], cvRecOK r) ∧ (∀ k ∈ [exKey], cvKeyOK k) ∧ [exR4, exR6].Nodup ∧ [exKey].Nodup :=
  ⟨by decide, by decide, by decide, by decide⟩
theorem exErr_tbl : TblOK exErr.t ∧ (exErr.ss.lastUpdate = 0 → NoOwn exErr.t) :=
  ⟨⟨rfl, by decide, by decide⟩, fun h => absurd h (by decide)⟩
theorem exErr_tape : FaultFree exErr.n.tape ∧ tapeBytes exErr.n.tape = exAnswer ++ [] :=
  ⟨by decide +kernel, by decide +kernel⟩

/-- what the evaluated runs are looked at through: each run is evaluated once (`exErr_run`, …), and the
    examples that look at it are projections of that one evaluation -/
structure ExObs where
  state : SState
  pt : List Rec
  kt : List KeyRec
  now : Int
  session : Nat
  serial : Nat
  reqSession : Bool
  lastUpdate : Int
  retry : Nat
deriving DecidableEq

def exObs (s : St) : ExObs :=
  ⟨s.c.state, s.t.pt, s.t.kt, s.n.now, s.ss.session, s.ss.serial, s.ss.reqSession, s.ss.lastUpdate, s.tm.retry⟩

theorem exObs_map {x : Option St} {v : ExObs} (h : x.map exObs = some v) {γ : Type} (g : ExObs → γ) :
    x.map (fun s => g (exObs s)) = some (g v) := by
  cases x with
  | none => cases h
  | some a =>
    simp only [Option.map_some, Option.some.injEq] at h ⊢
    rw [h]

-- (1) `receive_complete`: the first PDU of the answer (the Cache Response), split over two chunks
example : ∃ n', receivePdu exSync.c exSync.n 0 60 = (.ok (cvCacheResponse 1 77), { exSync.c with hasReceived := true }, n') ∧
    FaultFree n'.tape ∧ tapeBytes n'.tape = exAnswer.drop 8 ∧ n'.now = exSync.n.now ∧ n'.sendQ = exSync.n.sendQ ∧
    n'.openQ = exSync.n.openQ :=
  receive_complete exSync.c exSync.n 0 60 (cvCacheResponse 1 77) (exAnswer.drop 8) (by decide) (by decide +kernel)
    (by decide +kernel) (by decide) (by decide) (by decide) (by decide)
example : (match (receivePdu exSync.c exSync.n 0 60).1 with | .ok raw => raw | .rc _ => []) = [1, 3, 0, 77, 0, 0, 0, 8] := by
  decide +kernel

-- (2) `sync_complete_reset`: every hypothesis instantiated, the conclusion evaluated
example : (syncG 10 exSync).1 = true ∧ (syncG 10 exSync).2.1.ss =
    { session := 77, serial := 5, reqSession := false, lastUpdate := exSync.n.now, isResetting := false } :=
  have h := sync_complete_reset 10 exSync 1 77 5 exIv [exR4, exR6] [exKey] [] (by decide) rfl (Or.inl rfl) (by decide)
    exErr_tbl.1 exErr_tbl.2 (by decide) (by decide) exData_ok.1 exData_ok.2.1 exData_ok.2.2.1 exData_ok.2.2.2
    exErr_tape.1 exErr_tape.2 (by decide)
  ⟨h.1, h.2.2.2.2.2.1⟩
example : (syncG 10 exSync).1 = true ∧ (syncG 10 exSync).2.1.t.pt = [exR6, exR4, exOther] ∧
    (syncG 10 exSync).2.1.t.kt = [exKey] ∧ (syncG 10 exSync).2.1.ss.lastUpdate = 1000 ∧
    (syncG 10 exSync).2.1.tm.refresh = 1800 ∧ (syncG 10 exSync).2.1.tm.retry = 300 ∧
    (syncG 10 exSync).2.1.tm.expire = 3600 := by
  decide +kernel
example : ivAccepted exSync.tm.ivMode exIv := by decide
example : applyEodIntervals exSync.tm (cvEndOfData 1 77 5 exIv) =
    { refresh := 1800, retry := 300, expire := 3600, ivMode := .acceptAny } :=
  eod_intervals exSync.tm 77 5 exIv (by decide) (by decide) (by decide) (by decide)

-- (4) `converges_with_reset_query` from ERROR_TRANSPORT: hypotheses instantiated …
example : ∃ k st', k ≤ 4 ∧ CvRun 10 k exErr st' ∧ st'.c.state = .established ∧
    (∀ x : Rec, x.src = 0 → (x ∈ st'.t.pt ↔ x ∈ [exR4, exR6])) ∧ OthersSame exErr.t st'.t ∧
    st'.n.now ≤ exErr.n.now + exErr.tm.retry :=
  have ⟨k, st', h1, h2, h3, h4, _, h6, _, _, _, _, _, _, _, _, _, h16, _⟩ :=
    converges_with_reset_query 10 exErr 1 77 5 exIv [exR4, exR6] [exKey] []
      (show exErr.ss.reqSession = true ∨ _ from Or.inl rfl) (Or.inl rfl) (by decide)
      exErr_tbl.1 exErr_tbl.2 (by decide) (by decide) exData_ok.1 exData_ok.2.1 exData_ok.2.2.1 exData_ok.2.2.2
      ⟨by decide, by decide, exErr_tape.1, exErr_tape.2⟩ (by decide)
  ⟨k, st', h1, h2, h3, h4, h6, h16⟩
-- … and the run evaluated: ERROR_TRANSPORT → (sleep 600) CONNECTING → RESET → SYNC → ESTABLISHED
theorem exErr_run : (cvIter 10 4 exErr).map exObs =
    some ⟨.established, [exR6, exR4, exOther], [exKey], 1600, 77, 5, false, 1600, 300⟩ := by
  decide +kernel
example : (cvIter 10 4 exErr).map (fun s => (s.c.state, s.t.pt, s.t.kt, s.n.now)) =
    some (.established, [exR6, exR4, exOther], [exKey], 1600) :=
  exObs_map exErr_run fun o => (o.state, o.pt, o.kt, o.now)
example : (cvIter 10 4 exErr).map (fun s => (s.ss.session, s.ss.serial, s.ss.reqSession, s.ss.lastUpdate, s.tm.retry)) =
    some (77, 5, false, 1600, 300) :=
  exObs_map exErr_run fun o => (o.session, o.serial, o.reqSession, o.lastUpdate, o.retry)

/-- a socket in ERROR_FATAL that holds the cache's data of serial 5 -/
def exFatal : St :=
  { c := { state := .errFatal, version := 1, hasReceived := true },
    ss := { session := 77, serial := 5, reqSession := false, lastUpdate := 900 },
    t := { pt := [exR6, exR4, exOther], kt := [exKey] },
    n := { threaded := true } }
def exR4b : Rec := ⟨false, 0x0a800000, 9, 24, 65001, 0⟩
/-- serial 6: 10.0.0.0/8 is withdrawn, 10.128.0.0/9 announced, the router key withdrawn -/
def exItems : List CvItem := [.pfx false exR4, .key false exKey, .pfx true exR4b]
def exFatal' : St :=
  { exFatal with n := { exFatal.n with tape := [.rx ((goodSerialAnswer 1 77 6 exIv exItems).take 30),
                                                 .rx ((goodSerialAnswer 1 77 6 exIv exItems).drop 30)] } }

-- the increment fits the tables of `exFatal` (hypotheses shared by the instances below and in RtrProps/C08c.lean)
theorem exItems_ok : (∀ i ∈ exItems, i.OK) ∧ ((cvPfxOps exItems).map Prod.snd).Nodup ∧ ((cvKeyOps exItems).map Prod.snd).Nodup ∧
    (∀ op ∈ cvPfxOps exItems, (op.1 = true ↔ op.2 ∉ exFatal.t.pt)) ∧
    (∀ op ∈ cvKeyOps exItems, (op.1 = true ↔ op.2 ∉ exFatal.t.kt)) :=
  ⟨by decide, by decide +kernel, by decide +kernel, by decide +kernel, by decide +kernel⟩
theorem exFatal'_tape : FaultFree exFatal'.n.tape ∧ tapeBytes exFatal'.n.tape = goodSerialAnswer 1 77 6 exIv exItems ++ [] :=
  ⟨by decide +kernel, by decide +kernel⟩

-- (3)+(4) `converges_with_serial_query`: hypotheses instantiated, the run evaluated
example : ∃ k st', k ≤ 3 ∧ CvRun 10 k exFatal' st' ∧ st'.c.state = .established ∧ st'.ss.serial = 6 :=
  have ⟨k, st', h1, h2, h3, _, _, _, _, h8, _⟩ :=
    converges_with_serial_query 10 exFatal' 1 6 exIv exItems []
      (show exFatal'.ss.reqSession = false ∧ ¬ cvExpired exFatal' _ from ⟨rfl, fun h => absurd h.2 (by decide)⟩) rfl
      (Or.inl rfl) (by decide) ⟨rfl, by decide, by decide⟩ (by decide) (by decide) exItems_ok.1 exItems_ok.2.1
      exItems_ok.2.2.1 exItems_ok.2.2.2.1 exItems_ok.2.2.2.2
      ⟨by decide, by decide, exFatal'_tape.1, exFatal'_tape.2⟩ (by decide)
  ⟨k, st', h1, h2, h3, h8⟩
theorem exFatal'_run : (cvIter 10 3 exFatal').map exObs =
    some ⟨.established, [exR4b, exR6, exOther], [], 1600, 77, 6, false, 1600, 300⟩ := by
  decide +kernel
example : (cvIter 10 3 exFatal').map (fun s => (s.c.state, s.t.pt, s.t.kt, s.ss.serial, s.n.now)) =
    some (.established, [exR4b, exR6, exOther], [], 6, 1600) :=
  exObs_map exFatal'_run fun o => (o.state, o.pt, o.kt, o.serial, o.now)
-- `sync_complete_serial` on the same answer, the socket already in SYNC
example : (syncG 10 { exFatal' with c := { exFatal'.c with state := .sync } }).1 = true :=
  (sync_complete_serial 10 { exFatal' with c := { exFatal'.c with state := .sync } } 1 6 exIv exItems []
    (by decide) rfl rfl (Or.inl rfl) (by decide) ⟨rfl, by decide, by decide⟩ (by decide) (by decide) exItems_ok.1
    exItems_ok.2.1 exItems_ok.2.2.1 exItems_ok.2.2.2.1 exItems_ok.2.2.2.2 exFatal'_tape.1 exFatal'_tape.2 (by decide)).1

-- `converged_invariants`: its hypotheses hold for the example
example : TblOK exErr.t ∧ Inv7 exErr :=
  ⟨⟨rfl, by decide, by decide⟩, fun _ => by decide, fun h => absurd h (by decide), by decide⟩

-- the byte layout of the answer (`goodResetAnswer_eq`): Cache Response, IPv4 Prefix, IPv6 Prefix, Router Key, End of Data
example : exAnswer.length = 8 + 20 + 32 + 123 + 24 ∧ exAnswer.take 28 =
    [1, 3, 0, 77, 0, 0, 0, 8,  1, 4, 0, 0, 0, 0, 0, 20, 1, 8, 16, 0, 10, 0, 0, 0, 0, 0, 253, 233] ∧
    exAnswer.drop 183 = [1, 7, 0, 77, 0, 0, 0, 24, 0, 0, 0, 5, 0, 0, 7, 8, 0, 0, 1, 44, 0, 0, 14, 16] := by decide +kernel

-- `receive_complete_downgrade`: a version-1 socket that has not yet seen a PDU gets a version-0 Cache Response
def exConn1 : Conn := { state := .sync, version := 1, hasReceived := false }
def exNet0 : Net := { tape := [.rx [0, 3, 0], .rx [77, 0, 0, 0, 8, 42]] }
example : ∃ n', receivePdu exConn1 exNet0 0 60 = (.ok (cvCacheResponse 0 77), { exConn1 with version := 0, hasReceived := true }, n') ∧
    FaultFree n'.tape ∧ tapeBytes n'.tape = [42] ∧ n'.now = exNet0.now :=
  receive_complete_downgrade exConn1 exNet0 0 60 (cvCacheResponse 0 77) [42] (by decide) (by decide) (by decide) (by decide)
    (by decide) (by decide) rfl rfl (by decide) (by decide)
-- `receive_complete_general`: an Error Report of another version is handed to the caller
def exErrPdu : List Nat := errorPduBytes 0 [] 2 []
example : ∃ n', receivePdu exSync.c { exNet0 with tape := [.rx exErrPdu] } 0 60 = (.ok exErrPdu, downgraded exSync.c exErrPdu, n') ∧
    FaultFree n'.tape ∧ tapeBytes n'.tape = [] ∧ n'.now = exNet0.now ∧ n'.sendQ = [] ∧ n'.openQ = [] ∧
    dropRecv n'.trace = dropRecv [] :=
  receive_complete_general exSync.c { exNet0 with tape := [.rx exErrPdu] } 0 60 exErrPdu [] (by decide) (by decide) (by decide)
    (by decide) (by decide) (by decide) (Or.inr (by decide))

example : applyEodIntervals exSync.tm (cvEndOfData 0 77 5 exIv) = exSync.tm := eod_intervals_unchanged _ 0 77 5 exIv (Or.inl rfl)

-- `sync_complete_items`: the same data set with Router Key, IPv6 and IPv4 PDUs in another order
def exMixed : List CvItem := [.key true exKey, .pfx true exR6, .pfx true exR4]
def exSync' : St := { exSync with n := { exSync.n with tape := [.rx (cvAnswer 1 77 5 exIv exMixed)] } }
example : (syncG 10 exSync').1 = true :=
  (sync_complete_items 10 exSync' 1 77 5 exIv exMixed [] (by decide) (Or.inl rfl) (Or.inl rfl) (by decide)
    ⟨rfl, by decide, by decide⟩ (by decide) (by decide) (by decide +kernel) (by decide +kernel) (by decide +kernel)
    (by decide +kernel) (by decide) (by decide +kernel) (by decide)).1
example : (syncG 10 exSync').2.1.t.pt = [exR6, exR4, exOther] ∧ (syncG 10 exSync').2.1.t.kt = [exKey] := by decide +kernel

-- `converges_from_error` on the same socket; `converges_from_connecting` on the socket in CONNECTING
example : ConvergedOnReset 10 exErr 1 77 5 exIv [exR4, exR6] [exKey] [] :=
  converges_from_error 10 exErr 1 77 5 exIv [exR4, exR6] [exKey] [] (Or.inl rfl) (Or.inl rfl) (Or.inl rfl) (by decide)
    exErr_tbl.1 exErr_tbl.2 (by decide) (by decide) exData_ok.1 exData_ok.2.1 exData_ok.2.2.1 exData_ok.2.2.2
    ⟨by decide, by decide, exErr_tape.1, exErr_tape.2⟩ (by decide)
def exConnecting : St := { exErr with c := { exErr.c with state := .connecting } }
example : ConvergedOnReset 10 exConnecting 1 77 5 exIv [exR4, exR6] [exKey] [] :=
  converges_from_connecting 10 exConnecting 1 77 5 exIv [exR4, exR6] [exKey] [] (Or.inl rfl) rfl (Or.inl rfl) (by decide)
    exErr_tbl.1 exErr_tbl.2 (by decide) (by decide) exData_ok.1 exData_ok.2.1 exData_ok.2.2.1 exData_ok.2.2.2
    ⟨by decide, by decide, exErr_tape.1, exErr_tape.2⟩ (by decide)
example : (cvIter 10 3 exConnecting).map (fun s => (s.c.state, s.t.pt, s.n.now)) =
    some (.established, [exR6, exR4, exOther], 1000) := by decide +kernel

-- `inv7_own_data`, `sendsReset_of_no_data`: a freshly initialised socket (rtr_init) in CONNECTING
def exFresh : St := { c := { state := .connecting } }
example : Inv7 exFresh := ⟨fun h => absurd ⟨by decide, by decide⟩ h, fun _ => rfl, by decide⟩
example : cvSendsReset exFresh :=
  sendsReset_of_no_data exFresh ⟨fun h => absurd ⟨by decide, by decide⟩ h, fun _ => rfl, by decide⟩ rfl
    (Or.inr (Or.inr (Or.inr (Or.inr (Or.inr (Or.inl rfl))))))
example : exFresh.ss.lastUpdate = 0 → NoOwn exFresh.t :=
  inv7_own_data exFresh ⟨fun h => absurd ⟨by decide, by decide⟩ h, fun _ => rfl, by decide⟩

-- `run_deterministic`: the run of the converged socket is the computed one
example : ∃ st', CvRun 10 4 exErr st' ∧ st'.c.state = .established := by
  have hs : (cvIter 10 4 exErr).map (fun s => s.c.state) = some .established := exObs_map exErr_run ExObs.state
  obtain ⟨st', e, h⟩ := Option.map_eq_some_iff.1 hs
  exact ⟨st', (run_deterministic 10 4 exErr st').2 e, h⟩

end Rtr.C08b
