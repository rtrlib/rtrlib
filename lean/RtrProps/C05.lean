/-
  C05 — Queries carry the last completed session and serial; foreign sessions refused.

  Model: `Rtr.P.fsmStep` (one iteration of rtr_fsm_start), `syncG` (rtr_sync), the query builders.
  The query a socket sends next is a function of its session part: `nextQuery ss = none` (Reset
  Query) when `request_session_id` is set, else `some (session_id, serial_number)` (Serial Query);
  `connecting_query` / `reset_query` show that these are exactly the bytes the state machine hands
  to the transport (ESTABLISHED sends through the same `sendSerialQuery` as CONNECTING).
  Quantifier: every state of the socket and tables, every transport script — all conversations,
  with session ids and serial numbers as arbitrary naturals below 2^16 / 2^32 (no arithmetic is
  done on them, so wrap-around values are ordinary values).
-/
import RtrProofs.Fsm

namespace Rtr.C05
open Rtr Rtr.P

/-- the bytes of the two queries: version, type, session / zero, length, serial -/
theorem query_bytes (ver sess sn : Nat) :
    serialQueryBytes ver sess sn = [ver % 256, 1] ++ toBE16 sess ++ toBE32 12 ++ toBE32 sn ∧
    resetQueryBytes ver = [ver % 256, 2, 0, 0] ++ toBE32 8 := ⟨rfl, rfl⟩

/-- what the state machine sends after a successful `open`: a Reset Query when a new session is
    requested (in particular for a socket that holds no data: `rtr_init` sets the flag), else a
    Serial Query with the stored session and serial -/
theorem connecting_query (st : St) :
    stepConnecting st =
      (match trOpen (purgeOutdated (clearReceived st)) with
       | (rc, st1) =>
         if rc = -1 then st1.change .errTransport
         else if nextQuery st1.ss = none then st1.change .reset         -- RTR_RESET sends the Reset Query
         else
           match sendPdu st1.c st1.n (serialQueryBytes st1.c.version st1.ss.session st1.ss.serial) with
           | (ok, n) =>
             if ok then ({ st1 with n := n } : St).change .sync
             else (match changeState st1.c n st1.t.own .errTransport with
                   | (c, n) => ({ st1 with c := c, n := n } : St)).change .errFatal) := by
  unfold stepConnecting nextQuery
  generalize trOpen (purgeOutdated (clearReceived st)) = r
  obtain ⟨rc, st1⟩ := r
  simp only
  split
  · rfl
  · cases h : st1.ss.reqSession
    · rw [sendSerialQuery_eq, sendQuery]
      simp only [Bool.false_eq_true, if_false, reduceCtorEq]
      generalize sendPdu st1.c st1.n (serialQueryBytes st1.c.version st1.ss.session st1.ss.serial) = sp
      obtain ⟨ok, n⟩ := sp
      cases ok <;> simp
    · simp

theorem reset_query (st : St) :
    stepReset st =
      (match sendPdu st.c st.n (resetQueryBytes st.c.version) with
       | (ok, n) =>
         if ok then ({ st with n := n } : St).change .sync
         else (match changeState st.c n st.t.own .errTransport with | (c, n) => ({ st with c := c, n := n } : St))) := by
  rw [stepReset, sendResetQuery_eq, sendQuery]
  generalize sendPdu st.c st.n (resetQueryBytes st.c.version) = sp
  obtain ⟨ok, n⟩ := sp
  cases ok <;> simp

/-- **after End of Data**: a synchronisation that succeeds ends with an End of Data `b.eod` whose
    session equals the Cache Response's and — when a session was established — the established
    one; afterwards the next query is the Serial Query carrying exactly that session and serial. -/
theorem after_eod (fuel : Nat) (st : St) (ht : TblOK st.t) (h : (syncG fuel st).1 = true) :
    ∃ cr b, (syncG fuel st).2.2 = some (cr, b) ∧ be16 cr 2 = be16 b.eod 2 ∧
      (st.ss.reqSession = false → be16 b.eod 2 = st.ss.session) ∧
      nextQuery (syncG fuel st).2.1.ss = some (be16 b.eod 2, be32 b.eod 8) := by
  obtain ⟨cr, b, hg, e, h1, hq⟩ := syncG_nextQuery fuel st ht h
  exact ⟨cr, b, hg, e, fun hr => by rw [← e]; exact h1 hr, hq⟩

/-- **foreign sessions are refused**: a Cache Response whose session differs from the established
    one, or an End of Data whose session differs from the Cache Response's, cannot end a
    successful synchronisation; the failure leaves the tables as before (same next query) or purged
    with a Reset Query pending — none of the payload stays applied. -/
theorem foreign_session_refused (fuel : Nat) (st : St) (ht : TblOK st.t) :
    ((syncG fuel st).1 = true → ∀ cr b, (syncG fuel st).2.2 = some (cr, b) →
      be16 b.eod 2 = be16 cr 2 ∧ (st.ss.reqSession = false → be16 cr 2 = st.ss.session)) ∧
    ((syncG fuel st).1 = false →
      (TblSame st.t (syncG fuel st).2.1.t ∧ nextQuery (syncG fuel st).2.1.ss = nextQuery st.ss) ∨
      (NoOwn (syncG fuel st).2.1.t ∧ nextQuery (syncG fuel st).2.1.ss = none)) := by
  refine ⟨fun h cr b hg => ?_, fun h => ?_⟩
  · obtain ⟨cr', b', hg', h1, h2, h3, _⟩ := (syncG_spec fuel st ht).success h
    rw [hg] at hg'
    simp only [Option.some.injEq, Prod.mk.injEq] at hg'
    obtain ⟨e1, e2⟩ := hg'
    subst e1; subst e2
    exact ⟨by rw [h3, h2], h1⟩
  · rcases ((syncG_spec fuel st ht).failure h).2 with h1 | ⟨h1, h2⟩
    · exact Or.inl h1
    · exact Or.inr ⟨h1, by simp [nextQuery, h2]⟩

/-- **stable until the next success or reset**: one iteration of the state machine leaves the
    next query as it is, or turns it into a Reset Query, or — the iteration was a successful
    synchronisation — sets it to the session and serial of that End of Data. -/
theorem stable_until (fuel : Nat) (st st' : St) (h : fsmStep fuel st = some st') (ht : TblOK st.t) :
    nextQuery st'.ss = nextQuery st.ss ∨ nextQuery st'.ss = none ∨
    (st.c.state = .sync ∧ (syncG fuel st).1 = true ∧ ∃ cr b, (syncG fuel st).2.2 = some (cr, b) ∧
      be16 cr 2 = be16 b.eod 2 ∧ (st.ss.reqSession = false → be16 cr 2 = st.ss.session) ∧
      nextQuery st'.ss = some (be16 b.eod 2, be32 b.eod 8)) := by
  rcases fsmStep_data fuel st st' h with p | ⟨_, p⟩ | ⟨hs, e⟩
  · rcases p.elim with ⟨e, _⟩ | ⟨_, _, _, hr, _⟩
    · exact Or.inl (by rw [e])
    · exact Or.inr (Or.inl (nextQuery_none hr))
  · refine Or.inr (Or.inl (nextQuery_none ?_))
    rcases p.elim with ⟨e, _⟩ | ⟨_, _, _, hr, _⟩
    · rw [e]
      rfl
    · exact hr
  · rw [e.1]
    cases hok : (syncG fuel st).1
    · rcases ((syncG_spec fuel st ht).failure hok).2 with ⟨_, q⟩ | ⟨_, hr⟩
      · exact Or.inl q
      · exact Or.inr (Or.inl (nextQuery_none hr))
    · exact Or.inr (Or.inr ⟨hs, rfl, syncG_nextQuery fuel st ht hok⟩)

/-- **reset causes**: a Cache Reset answer (state NO_INCR_UPDATE_AVAIL), a no-data error (state
    NO_DATA_AVAIL), expiry, and stop each make the next query a Reset Query. -/
theorem reset_causes (st : St) :
    nextQuery (stepErrNoIncr st).ss = none ∧ nextQuery (stepErrNoData st).ss = none ∧
    (st.ss.lastUpdate ≠ 0 → st.ss.lastUpdate + st.tm.expire < st.n.now → nextQuery (purgeOutdated st).ss = none) ∧
    nextQuery (stop st).ss = none := by
  have rr : ∀ (s : St), s.ss.reqSession = true → nextQuery (purgeOutdated s).ss = none := by
    intro s hs
    rcases (purgeOutdated_spec s).2.2.2 with ⟨e, _⟩ | ⟨_, _, _, hr, _⟩
    · rw [e]; simp [nextQuery, hs]
    · simp [nextQuery, hr]
  refine ⟨rr _ ?_, rr _ ?_, fun h0 h1 => ?_, ?_⟩
  · show ((requestReset st).change .reset).ss.reqSession = true
    rw [(change_sameData _ _).1]; rfl
  · show (doSleep ((requestReset st).change .reset) _).ss.reqSession = true
    show ((requestReset st).change .reset).ss.reqSession = true
    rw [(change_sameData _ _).1]; rfl
  · rcases (purgeOutdated_spec st).2.2.2 with ⟨_, hn⟩ | ⟨_, _, _, hr, _⟩
    · exact absurd ⟨h0, h1⟩ hn
    · simp [nextQuery, hr]
  · simp [stop, nextQuery]

/-- `rtr_stop` once the thread has ended is its two parts in sequence -/
theorem stop_split (st : St) : stop st = stopFinish (stopBegin st) := rfl

/-- **stop on a running thread**: `rtr_stop` requests the stop (`stopBegin`), waits for the
    state-machine thread, and only then closes, forgets the session and purges (`stopFinish`).
    Whatever the thread still does in between (`f` — e.g. complete the synchronisation whose End of
    Data it had already received, which stores a session, a serial and a time stamp), afterwards
    the next query is a Reset Query and no time stamp is left. -/
theorem stop_live_reset (st : St) (f : St → St) :
    nextQuery (stopFinish (f (stopBegin st))).ss = none ∧ (stopFinish (f (stopBegin st))).ss.lastUpdate = 0 ∧
    (stopFinish (f (stopBegin st))).c.state = .closed := ⟨rfl, rfl, rfl⟩

/-- **stop/start cycle**: the first iteration of the run that `rtr_start` begins after such a stop
    (the socket is not initialised again) opens the transport and goes to RTR_RESET — the state that
    sends the Reset Query (`reset_query`) — or to the transport-error state if open() fails. -/
theorem restart_sends_reset_query (st : St) (f : St → St) (steps fuel : Nat) :
    fsmStart (steps + 1) fuel (stopFinish (f (stopBegin st))) =
      fsmRun steps fuel
        (if (trOpen (clearReceived (startState (stopFinish (f (stopBegin st)))))).1 = -1
         then (trOpen (clearReceived (startState (stopFinish (f (stopBegin st)))))).2.change .errTransport
         else (trOpen (clearReceived (startState (stopFinish (f (stopBegin st)))))).2.change .reset) := by
  rw [fsmStart_first steps fuel _ (by show SState.closed ≠ SState.shutdown; decide)]
  rw [restart_step _ rfl rfl]

/-! ### non-vacuity -/

/-- a thread that completes its synchronisation after the stop request (session 7, serial 5, time
    stamp 1000 stored): the stop still ends with a Reset Query pending -/
example : nextQuery (stopFinish ((fun s => { s with ss := { s.ss with session := 7, serial := 5, reqSession := false, lastUpdate := 1000 } })
    (stopBegin {}))).ss = none := rfl

example : nextQuery ({} : Sess) = none := rfl   -- a freshly initialised socket asks with a Reset Query
example : nextQuery { session := 7, serial := 5, reqSession := false } = some (7, 5) := rfl
example : serialQueryBytes 1 7 5 = [1, 1, 0, 7, 0, 0, 0, 12, 0, 0, 0, 5] := by decide
example : serialQueryBytes 1 65535 4294967295 = [1, 1, 255, 255, 0, 0, 0, 12, 255, 255, 255, 255] := by decide
example : TblOK ({} : Tbl) := ⟨rfl, List.nodup_nil, List.nodup_nil⟩

end Rtr.C05
