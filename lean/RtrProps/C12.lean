/-
  C12 — Generated BGPsec signatures verify under an independent RFC 8205 implementation.

  The theorems cover the layout of what `rtr_bgpsec_generate_signature` hashes, its error-code
  order, and the decision logic showing that paths built hop by hop from generated signatures
  validate.  ECDSA / SHA-256 / DER are the uninterpreted `sign`, `verify`, `hash` (OpenSSL in the
  implementation; interoperability is what the harness checks with real keys).  `generateSignature` is a function of
  the call's arguments: that the implementation keeps nothing from one call to the next is not a theorem here, it is
  what the correspondence establishes over histories with repeated inputs.
-/
import RtrProofs.BgpsecSign

namespace Rtr.C12
open Rtr.Bgpsec Rtr.Rfc8205

/-- **Layout.** For every number of segments, all signature lengths and all NLRI lengths, the bytes
    `align_byte_sequence(SIGNING)` writes are the RFC 8205 §4.2 sequence (Target AS; for each
    earlier hop its Signature Segment followed by the Secure_Path Segment of the next hop; the
    origin's Secure_Path Segment; suite, AFI, SAFI, NLRI).  `d.path` already holds the signer's own
    segment, so it has one more element than `d.sigs`. -/
theorem sign_digest_eq_rfc (d : Data) (h : d.path.length = d.sigs.length + 1) :
    alignBytes .signing d = signDigest d :=
  alignBytes_signing d h

/-- `req_stream_size(SIGNING)` is exactly the number of bytes written -/
theorem sign_stream_size (d : Data) (h : d.path.length = d.sigs.length + 1)
    (hn : d.nlri.bytes.length = nlriB d.nlri.len) (hski : ∀ s ∈ d.sigs, s.ski.length = 20) :
    (alignBytes .signing d).length = reqStreamSize .signing d :=
  alignBytes_length .signing d hn hski (Nat.le.intro h.symm)

section
variable {H SK : Type} (hash : List Nat → H) (loadKey : List Nat → Option SK) (sign : SK → H → List Nat)

/-- when all checks pass, the generated signature is `ECDSA_sign` over the hash of the RFC sequence -/
theorem generate_signs_rfc_digest (d : Data) (key : List Nat) (sk : SK)
    (hp : d.path.length = d.sigs.length + 1) (halg : d.alg = 1) (hafi : d.nlri.afi = 1 ∨ d.nlri.afi = 2)
    (hk : loadKey key = some sk) (hs : 1 ≤ (sign sk (hash (signDigest d))).length) :
    generateSignature hash loadKey sign (some d) (some key) true = (.success, some (sign sk (hash (signDigest d)))) := by
  have h0 : ¬ (d.path = [] ∨ true = false) := fun h => h.elim (fun h => by rw [h] at hp; cases hp) nofun
  rw [generateSignature, if_neg h0, if_neg (fun h => h halg), if_neg (by omega), if_neg (fun h => h hp), hk,
    alignBytes_signing d hp]
  exact if_neg (by omega)

/-! ### error codes of `rtr_bgpsec_generate_signature`, in the order they are checked -/

theorem sign_err_null (d : Option Data) (key : Option (List Nat)) (o : Bool) (h : d = none ∨ key = none) :
    (generateSignature hash loadKey sign d key o).1 = .invalidArguments := by
  rcases h with rfl | rfl
  · rfl
  · cases d <;> rfl

/-- `!data->nlri` (repaired argument check) -/
theorem sign_err_null_nlri (d : Option Data) (key : Option (List Nat)) (o : Bool) :
    generateEntry hash loadKey sign d true key o = (.invalidArguments, none) := rfl

/-- `!data->path || *new_signature != NULL` -/
theorem sign_err_arguments (d : Data) (key : List Nat) (o : Bool) (h : d.path = [] ∨ o = false) :
    (generateSignature hash loadKey sign (some d) (some key) o).1 = .invalidArguments := by
  rw [generateSignature, if_pos h]

theorem sign_err_suite (d : Data) (key : List Nat) (h0 : d.path ≠ []) (h : d.alg ≠ 1) :
    (generateSignature hash loadKey sign (some d) (some key) true).1 = .unsupportedAlgorithmSuite := by
  rw [generateSignature, if_neg (fun h => h.elim h0 nofun), if_pos h]

theorem sign_err_afi (d : Data) (key : List Nat) (h0 : d.path ≠ []) (h1 : d.alg = 1)
    (h : d.nlri.afi ≠ 1 ∧ d.nlri.afi ≠ 2) :
    (generateSignature hash loadKey sign (some d) (some key) true).1 = .unsupportedAfi := by
  rw [generateSignature, if_neg (fun h => h.elim h0 nofun), if_neg (fun h => h h1), if_pos h]

theorem sign_err_segment_count (d : Data) (key : List Nat) (h0 : d.path ≠ []) (h1 : d.alg = 1)
    (h2 : d.nlri.afi = 1 ∨ d.nlri.afi = 2) (h : d.path.length ≠ d.sigs.length + 1) :
    (generateSignature hash loadKey sign (some d) (some key) true).1 = .wrongSegmentCount := by
  rw [generateSignature, if_neg (fun h => h.elim h0 nofun), if_neg (fun h => h h1), if_neg (by omega), if_pos h]

/-- unloadable private key (`d2i_ECPrivateKey` / `EC_KEY_check_key` / `ECDSA_size = 0`) -/
theorem sign_err_key (d : Data) (key : List Nat) (h0 : d.path ≠ []) (h1 : d.alg = 1)
    (h2 : d.nlri.afi = 1 ∨ d.nlri.afi = 2) (h3 : d.path.length = d.sigs.length + 1) (h : loadKey key = none) :
    (generateSignature hash loadKey sign (some d) (some key) true).1 = .loadPrivKeyError := by
  rw [generateSignature, if_neg (fun h => h.elim h0 nofun), if_neg (fun h => h h1), if_neg (by omega),
    if_neg (fun h => h h3), h]

/-- a signature is returned only together with `SUCCESS` -/
theorem sign_no_output_on_error (d : Option Data) (key : Option (List Nat)) (o : Bool)
    (h : (generateSignature hash loadKey sign d key o).1 ≠ .success) :
    (generateSignature hash loadKey sign d key o).2 = none := by
  rcases generateSignature_cases hash loadKey sign d key o with ⟨_, h2⟩ | ⟨_, _, _, _, e⟩
  · exact h2
  · rw [e] at h
    exact absurd rfl h

end

/-- whatever signature is handed out is an output of `ECDSA_sign` and not empty.  So if `ECDSA_sign` yields only
    well-formed (strict DER) ECDSA-Sig-Values - `hwf`, an assumption on the parameter `sign`, not a fact about
    OpenSSL - then `rtr_bgpsec_generate_signature` hands out only such. -/
theorem generate_wellformed {H SK : Type} (hash : List Nat → H) (loadKey : List Nat → Option SK) (sign : SK → H → List Nat)
    (wf : List Nat → Bool) (hwf : ∀ sk h, wf (sign sk h) = true)
    (d : Option Data) (key : Option (List Nat)) (o : Bool) (sig : List Nat)
    (h : (generateSignature hash loadKey sign d key o).2 = some sig) : wf sig = true ∧ 1 ≤ sig.length := by
  rcases generateSignature_cases hash loadKey sign d key o with ⟨_, h2⟩ | ⟨_, _, _, hl, e⟩
  · rw [h2] at h
    cases h
  · rw [e] at h
    cases h
    exact ⟨hwf _ _, hl⟩

/-! ### paths built hop by hop validate -/

section
variable {H SK : Type} (hash : List Nat → H) (verify : List Nat → H → List Nat → VRes) (sign : SK → H → List Nat)

/-- **Hop by hop.**  Let a route be originated and then propagated by the speakers `hops` (most recent
    first; each one is the AS its predecessor sent the UPDATE to, and signs with `sign` over the hash
    of rtrlib's SIGNING alignment, i.e. what `rtr_bgpsec_generate_signature` computes).  If every
    speaker's public key is in the table under its SKI — for `m = skiOnly` (the selection before its repair, F10) under
    ANY AS number, for `m = skiAndAs` under the speaker's AS number — possibly next to other keys with
    the same SKI, and `verify pk (hash m) (sign sk (hash m)) = valid` for each pair, then validation
    answers VALID at every stage of the construction (after the origin, after the second hop, …).
    `stop`/`hsig`: for the loop bounded by the stream offset alone (`stop = false`) generated signatures must be long enough for
    `NoOverrun` (ECDSA P-256: 8 … 72 octets; the NLRI has at most 16 octets for `nlri_len ≤ 128`);
    the loop of the repository (`stop = true`) needs nothing. -/
theorem hop_by_hop_valid (m : KeyMode) (stop : Bool) (T : Table) (base : Data) (hops : List (Signer SK × Nat))
    (halg : base.alg = 1) (hafi : base.nlri.afi = 1 ∨ base.nlri.afi = 2)
    (hch : Chained hops) (hski : ∀ h ∈ hops, h.1.ski.length = 20)
    (hreg : ∀ h ∈ hops, Registered m T h.1 ∧ KeyPair verify sign h.1)
    (hsig : stop = true ∨ ∀ sk h, base.nlri.bytes.length < 13 + (sign sk h).length)
    (k : Nat) (hk : k < hops.length) :
    validate hash verify m stop (buildPath hash sign base (hops.drop k)) T = .valid :=
  buildPath_valid (fun h => Nat.not_le_of_lt hk (List.drop_eq_nil_iff.mp h)) halg hafi (chained_drop k hops hch)
    (fun h hh => hski h (List.mem_of_mem_drop hh)) (fun h hh => hreg h (List.mem_of_mem_drop hh)) hsig

/-- **Hop by hop, with the strict-DER requirement of `validate_signature`.**  If in addition every signature
    `sign` produces is a well-formed (strict DER) ECDSA-Sig-Value (`wf`), the paths built hop by hop are VALID
    for the complete validation function `validateFull` (which answers ERROR for any signature field that is
    not strict DER). -/
theorem hop_by_hop_valid_wf (wf : List Nat → Bool) (m : KeyMode) (stop : Bool) (T : Table) (base : Data)
    (hops : List (Signer SK × Nat))
    (halg : base.alg = 1) (hafi : base.nlri.afi = 1 ∨ base.nlri.afi = 2)
    (hch : Chained hops) (hski : ∀ h ∈ hops, h.1.ski.length = 20)
    (hreg : ∀ h ∈ hops, Registered m T h.1 ∧ KeyPair verify sign h.1)
    (hwf : ∀ sk h, wf (sign sk h) = true)
    (hsig : stop = true ∨ ∀ sk h, base.nlri.bytes.length < 13 + (sign sk h).length)
    (k : Nat) (hk : k < hops.length) :
    validateFull hash verify wf m stop (buildPath hash sign base (hops.drop k)) (fun _ => T) = .valid :=
  hop_by_hop_valid hash (validateSignature wf verify) sign m stop T base hops halg hafi hch hski
    (fun h hh => ⟨(hreg h hh).1, fun x => validateSignature_valid_iff.mpr ⟨hwf _ _, (hreg h hh).2 x⟩⟩) hsig k hk

end

/-! ### non-vacuity (toy crypto: signature = key ++ hashed octets) -/

def toyHash (m : List Nat) : List Nat := m
def toyVerify (spki : List Nat) (h : List Nat) (sig : List Nat) : VRes := if sig = spki ++ h then .valid else .notValid
def toySign (sk : List Nat) (h : List Nat) : List Nat := sk ++ h
def toyLoad (k : List Nat) : Option (List Nat) := if k.length = 3 then some (k.take 1) else none

def base : Data := { alg := 1, afi := 2, safi := 1, targetAs := 0, nlri := ⟨2, 33, [32, 1, 13, 184, 128]⟩, path := [], sigs := [] }
def origin : Signer (List Nat) := ⟨⟨1, 0, 64496⟩, List.replicate 20 2, [22], [22]⟩
def transit : Signer (List Nat) := ⟨⟨2, 128, 65536⟩, List.replicate 20 1, [11], [11]⟩
def hops : List (Signer (List Nat) × Nat) := [(transit, 65537), (origin, 65536)]
/-- keys filed under AS numbers that are NOT the speakers', plus a second key with the origin's SKI -/
def table : Table := [⟨7, List.replicate 20 2, [99]⟩, ⟨8, List.replicate 20 2, [22]⟩, ⟨9, List.replicate 20 1, [11]⟩]
def tableAs : Table := [⟨64496, List.replicate 20 2, [99]⟩, ⟨64496, List.replicate 20 2, [22]⟩, ⟨65536, List.replicate 20 1, [11]⟩]

example : Chained hops := ⟨rfl, trivial⟩
example : validate toyHash toyVerify .skiOnly false (buildPath toyHash toySign base hops) table = .valid := by decide +kernel
example : validate toyHash toyVerify .skiOnly false (buildPath toyHash toySign base (hops.drop 1)) table = .valid := by decide +kernel
example : validate toyHash toyVerify .skiAndAs true (buildPath toyHash toySign base hops) tableAs = .valid := by decide +kernel
example : validate toyHash toyVerify .skiAndAs true (buildPath toyHash toySign base hops) table = .routerKeyNotFound := by decide +kernel
-- hop_by_hop_valid_wf: with the strict-DER requirement switched on (toy: well-formed = at most 200 octets) the built path is
-- VALID, and the same path is an ERROR for a `wf` that refuses the generated signatures
example : validateFull toyHash toyVerify (fun s => s.length ≤ 200) .skiAndAs true (buildPath toyHash toySign base hops) (fun _ => tableAs) = .valid := by decide +kernel
example : validateFull toyHash toyVerify (fun s => s.length ≤ 5) .skiAndAs true (buildPath toyHash toySign base hops) (fun _ => tableAs) = .error := by decide +kernel
-- sign_digest_eq_rfc on a forwarding step (one earlier signature, IPv6 /33)
example :
    let d := { buildPath toyHash toySign base (hops.drop 1) with path := transit.seg :: (buildPath toyHash toySign base (hops.drop 1)).path, targetAs := 65537 }
    d.path.length = d.sigs.length + 1 ∧ alignBytes .signing d = signDigest d ∧ (alignBytes .signing d).length = 4 + (20 + 2 + 21) + 6 + 6 + 10 := by decide +kernel
-- generate: success and each error code is reached
example : (generateSignature toyHash toyLoad toySign (some { base with path := [origin.seg] }) (some [5, 6, 7]) true).1 = .success := by decide +kernel
example : (generateSignature toyHash toyLoad toySign (some { base with path := [origin.seg] }) (some [1, 2]) true).1 = .loadPrivKeyError := by decide +kernel
example : (generateSignature toyHash toyLoad toySign (some base) (some [1, 2]) true).1 = .invalidArguments := by decide +kernel
example : (generateSignature toyHash toyLoad toySign (some { base with path := [origin.seg, origin.seg] }) (some [1, 2]) true).1 = .wrongSegmentCount := by decide +kernel

end Rtr.C12
