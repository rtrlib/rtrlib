/-
  C01 — Route-origin validation agrees with RFC 6811 for every table and every query.

  Model: `PfxTable.validate` (pfx_table_validate_r: trie_lookup + descent loop, as `walkR`).
  Specification: RFC 6811 stated over the flat list of records of the table (`covers`,
  `matchesR` below), with no reference to the trie.
  Quantifier: every table reachable by any finite history of add / remove / remove-by-source of
  records with well-formed prefixes (C02.history_refines gives `TableWF` for all of them), both
  address families, every query (AS, prefix < 2^w, length).
-/
import RtrProofs.TableSet
import RtrProofs.BitsLink
import RtrProps.C02

namespace Rtr.C01
open Rtr PfxTable

def width (v6 : Bool) : Nat := if v6 then 128 else 32

/-- RFC 6811: the record covers the route (same family, record length ≤ route length, equal
    leading bits) -/
def covers (v6 : Bool) (q : Addr) (n : Nat) (r : Rec) : Prop :=
  r.v6 = v6 ∧ r.len ≤ n ∧ ∀ i, i < r.len → bitAt (width v6) r.addr i = bitAt (width v6) q i

/-- RFC 6811: the record matches the route's origin (non-zero equal AS, route length ≤ max-length) -/
def matchesR (asn n : Nat) (r : Rec) : Prop := r.asn ≠ 0 ∧ r.asn = asn ∧ n ≤ r.maxLen

theorem elemMatches_iff (d : List Elem) (asn n : Nat) :
    elemMatches d asn n = true ↔ ∃ e ∈ d, e.asn ≠ 0 ∧ e.asn = asn ∧ n ≤ e.maxLen := by
  unfold elemMatches
  rw [List.any_eq_true]
  constructor
  · rintro ⟨e, he, h⟩; exact ⟨e, he, by simpa [and_assoc] using h⟩
  · rintro ⟨e, he, h⟩; exact ⟨e, he, by simpa [and_assoc] using h⟩

theorem mem_root_recs (T : PfxTable) (v6 : Bool) (r : Rec) :
    (r ∈ T.recs ∧ r.v6 = v6) ↔ ∃ c ∈ (T.root v6).nodes, ∃ e ∈ c.data, r = mkRec v6 c.addr c.len e := by
  constructor
  · rintro ⟨h, hv⟩
    have := (mem_recs T r).1 h
    rw [hv, mem_elems_iff] at this
    obtain ⟨c, hc, h1, h2, h3⟩ := this
    refine ⟨c, hc, r.elem, h3, ?_⟩
    cases r; simp_all [mkRec, Rec.elem]
  · rintro ⟨c, hc, e, he, rfl⟩
    refine ⟨(mem_recs T _).2 ?_, rfl⟩
    simp only [mkRec, Rec.elem]
    rw [mem_elems_iff]
    exact ⟨c, hc, rfl, rfl, by cases e; exact he⟩

theorem covers_mkRec (v6 : Bool) (q : Addr) (n : Nat) (c : NodeC) (e : Elem) :
    covers v6 q n (mkRec v6 c.addr c.len e) ↔ Covers (width v6) c q n := by
  simp [covers, mkRec, Covers]

theorem matches_mkRec (v6 : Bool) (asn n : Nat) (c : NodeC) (e : Elem) :
    matchesR asn n (mkRec v6 c.addr c.len e) ↔ (e.asn ≠ 0 ∧ e.asn = asn ∧ n ≤ e.maxLen) := by
  simp [matchesR, mkRec]

/-- `trieRecs` for a list of nodes that need not be all nodes of a trie (the covering nodes, the nodes a walk visited) -/
def recOfNodes (v6 : Bool) (ns : List NodeC) : List Rec := ns.flatMap fun c => c.data.map fun e => mkRec v6 c.addr c.len e

theorem mem_recOfNodes (v6 : Bool) (ns : List NodeC) (r : Rec) :
    r ∈ recOfNodes v6 ns ↔ ∃ c ∈ ns, ∃ e ∈ c.data, r = mkRec v6 c.addr c.len e := by
  simp only [recOfNodes, List.mem_flatMap, List.mem_map]
  constructor
  · rintro ⟨c, hc, e, he, rfl⟩; exact ⟨c, hc, e, he, rfl⟩
  · rintro ⟨c, hc, e, he, rfl⟩; exact ⟨c, hc, e, he, rfl⟩

theorem cover_recs (T : PfxTable) (v6 : Bool) (q : Addr) (n : Nat) (h : TableWF T) (hq : q < 2 ^ width v6) (r : Rec) :
    r ∈ recOfNodes v6 ((T.root v6).nodes.filter (covB (width v6) q n)) ↔ r ∈ T.recs ∧ covers v6 q n r := by
  have ok := (All_iff _).1 (WF_nodeOK _ _ 0 (root_WF T v6 h))
  rw [mem_recOfNodes]
  constructor
  · rintro ⟨c, hc, e, he, rfl⟩
    rw [List.mem_filter] at hc
    have := (mem_root_recs T v6 (mkRec v6 c.addr c.len e)).2 ⟨c, hc.1, e, he, rfl⟩
    exact ⟨this.1, (covers_mkRec v6 q n c e).2 ((covB_iff _ q n c (ok c hc.1) hq).1 hc.2)⟩
  · rintro ⟨hr, hcov⟩
    obtain ⟨c, hc, e, he, rfl⟩ := (mem_root_recs T v6 r).1 ⟨hr, hcov.1⟩
    exact ⟨c, List.mem_filter.2 ⟨hc, (covB_iff _ q n c (ok c hc) hq).2 ((covers_mkRec v6 q n c e).1 hcov)⟩, e, he, rfl⟩

theorem anyCover_iff (T : PfxTable) (v6 : Bool) (q : Addr) (n : Nat) (h : TableWF T) (hq : q < 2 ^ width v6) :
    anyCover (width v6) q n (T.root v6).nodes = true ↔ ∃ r ∈ T.recs, covers v6 q n r := by
  have ok := (All_iff _).1 (WF_nodeOK _ _ 0 (root_WF T v6 h))
  unfold anyCover
  rw [List.any_eq_true]
  constructor
  · rintro ⟨c, hc, hcov⟩
    obtain ⟨e, he⟩ := List.exists_mem_of_ne_nil _ (ok c hc).2.2.2.1
    exact ⟨_, (cover_recs T v6 q n h hq _).1
      ((mem_recOfNodes v6 _ _).2 ⟨c, List.mem_filter.2 ⟨hc, hcov⟩, e, he, rfl⟩)⟩
  · rintro ⟨r, hr⟩
    obtain ⟨c, hc, _⟩ := (mem_recOfNodes v6 _ r).1 ((cover_recs T v6 q n h hq r).2 hr)
    exact ⟨c, List.mem_filter.1 hc⟩

theorem anyMatch_iff (T : PfxTable) (v6 : Bool) (q : Addr) (n asn : Nat) (h : TableWF T) (hq : q < 2 ^ width v6) :
    anyMatch (width v6) q n asn (T.root v6).nodes = true ↔ ∃ r ∈ T.recs, covers v6 q n r ∧ matchesR asn n r := by
  unfold anyMatch
  rw [List.any_eq_true]
  constructor
  · rintro ⟨c, hc, hcm⟩
    rw [Bool.and_eq_true] at hcm
    obtain ⟨e, he, hm⟩ := (elemMatches_iff _ _ _).1 hcm.2
    obtain ⟨hr, hcov⟩ := (cover_recs T v6 q n h hq _).1
      ((mem_recOfNodes v6 _ _).2 ⟨c, List.mem_filter.2 ⟨hc, hcm.1⟩, e, he, rfl⟩)
    exact ⟨_, hr, hcov, (matches_mkRec v6 asn n c e).2 hm⟩
  · rintro ⟨r, hr, hcov, hm⟩
    obtain ⟨c, hc, e, he, rfl⟩ := (mem_recOfNodes v6 _ r).1 ((cover_recs T v6 q n h hq r).2 ⟨hr, hcov⟩)
    rw [List.mem_filter] at hc
    refine ⟨c, hc.1, ?_⟩
    rw [Bool.and_eq_true]
    exact ⟨hc.2, (elemMatches_iff _ _ _).2 ⟨e, he, (matches_mkRec v6 asn n c e).1 hm⟩⟩

theorem validate_fst (T : PfxTable) (v6 : Bool) (asn : Nat) (q : Addr) (n : Nat) :
    (T.validate v6 asn q n).1 = (validateR (width v6) q n asn (T.root v6)).1 := by
  unfold PfxTable.validate width
  simp only
  split <;> simp_all

/-- **C01, state** (for one address family on its own trie): the walk from the root of a
    well-formed trie answers RFC 6811 over all stored nodes. -/
theorem validate_state (w : Nat) (q : Addr) (n asn : Nat) (t : Trie) (hq : q < 2^w) (h : WF w t 0) :
    (validateR w q n asn t).1 = specState w q n asn false t.nodes :=
  (validateR_spec w q n asn t hq h).state

/-- **C01, state** at the level of the table and of plain records: VALID exactly when some
    record covers the route with the same non-zero AS and a sufficient max-length, INVALID
    exactly when some record covers but none matches, NOT FOUND otherwise. -/
theorem validate_state_table (T : PfxTable) (v6 : Bool) (asn : Nat) (q : Addr) (n : Nat)
    (h : TableWF T) (hq : q < 2 ^ width v6) :
    ((T.validate v6 asn q n).1 = .valid ↔ ∃ r ∈ T.recs, covers v6 q n r ∧ matchesR asn n r) ∧
    ((T.validate v6 asn q n).1 = .invalid ↔
      (∃ r ∈ T.recs, covers v6 q n r) ∧ ¬ ∃ r ∈ T.recs, covers v6 q n r ∧ matchesR asn n r) ∧
    ((T.validate v6 asn q n).1 = .notFound ↔ ¬ ∃ r ∈ T.recs, covers v6 q n r) := by
  rw [validate_fst, validate_state (width v6) q n asn (T.root v6) hq (root_WF T v6 h)]
  obtain ⟨s1, s2, s3⟩ := specState_cases (width v6) q n asn false (T.root v6).nodes
  rw [s1, s2, s3, Bool.false_or, anyCover_iff T v6 q n h hq, anyMatch_iff T v6 q n asn h hq]
  -- a matching record covers, so "none covers" already says "none matches"
  exact ⟨Iff.rfl, Iff.rfl, fun hn => hn.1, fun hn => ⟨hn, fun ⟨r, hr, h1, _⟩ => hn ⟨r, hr, h1⟩⟩⟩

/-! ### reasons -/

theorem validate_snd (T : PfxTable) (v6 : Bool) (asn : Nat) (q : Addr) (n : Nat) :
    (T.validate v6 asn q n).2 =
      (if (validateR (width v6) q n asn (T.root v6)).1 = .notFound then []
       else recOfNodes v6 (validateR (width v6) q n asn (T.root v6)).2) := by
  unfold PfxTable.validate width recOfNodes
  simp only
  split <;> simp_all

theorem recOfNodes_filter (v6 : Bool) (w : Nat) (q : Addr) (n : Nat) (ns : List NodeC) :
    recOfNodes v6 (ns.filter (covB w q n)) =
      (recOfNodes v6 ns).filter (fun r => decide (r.len ≤ n) && prefixEq w r.addr q r.len) := by
  induction ns with
  | nil => rfl
  | cons c cs ih =>
    simp only [recOfNodes, List.filter_cons, List.flatMap_cons, List.filter_append] at ih ⊢
    have hc : (c.data.map fun e => mkRec v6 c.addr c.len e).filter (fun r => decide (r.len ≤ n) && prefixEq w r.addr q r.len) =
        if covB w q n c then (c.data.map fun e => mkRec v6 c.addr c.len e) else [] := by
      rw [List.filter_map]
      split
      · rename_i hcb
        congr 1
        rw [List.filter_eq_self]
        intro e _; simpa [covB, mkRec] using hcb
      · rename_i hcb
        have : c.data.filter ((fun r => decide (r.len ≤ n) && prefixEq w r.addr q r.len) ∘ fun e => mkRec v6 c.addr c.len e) = [] := by
          rw [List.filter_eq_nil_iff]
          intro e _; simpa [covB, mkRec] using hcb
        rw [this]; rfl
    rw [hc]
    split <;> simp [ih]

/-- **C01, reasons**: NOT FOUND yields none; INVALID yields exactly the covering records (each
    once); VALID yields only covering records of the table, among them a matching one. -/
theorem validate_reasons (T : PfxTable) (v6 : Bool) (asn : Nat) (q : Addr) (n : Nat)
    (h : TableWF T) (hq : q < 2 ^ width v6) :
    ((T.validate v6 asn q n).1 = .notFound → (T.validate v6 asn q n).2 = []) ∧
    ((T.validate v6 asn q n).1 = .invalid →
      (∀ r, r ∈ (T.validate v6 asn q n).2 ↔ r ∈ T.recs ∧ covers v6 q n r) ∧ (T.validate v6 asn q n).2.Nodup) ∧
    ((T.validate v6 asn q n).1 = .valid →
      (∀ r ∈ (T.validate v6 asn q n).2, r ∈ T.recs ∧ covers v6 q n r) ∧
      ∃ r ∈ (T.validate v6 asn q n).2, matchesR asn n r) := by
  have wk := validateR_spec (width v6) q n asn (T.root v6) hq (root_WF T v6 h)
  rw [validate_fst, validate_snd]
  have key := cover_recs T v6 q n h hq
  refine ⟨fun hs => by simp [hs], fun hs => ?_, fun hs => ?_⟩
  · have hp := wk.invalid hs
    have hp' : (recOfNodes v6 (validateR (width v6) q n asn (T.root v6)).2).Perm
        (recOfNodes v6 ((T.root v6).nodes.filter (covB (width v6) q n))) := List.Perm.flatMap_right _ hp
    simp only [hs, reduceCtorEq, if_false]
    refine ⟨fun r => by rw [hp'.mem_iff]; exact key r, ?_⟩
    rw [hp'.nodup_iff, recOfNodes_filter]
    apply List.Pairwise.filter
    have : recOfNodes v6 (T.root v6).nodes = trieRecs v6 (T.root v6) := rfl
    rw [this]
    have nd := C02.forEach_enumerates T h
    unfold PfxTable.recs recs4 recs6 at nd
    rw [List.nodup_append] at nd
    cases v6
    · exact nd.1
    · exact nd.2.1
  · obtain ⟨h1, c, hc, hm⟩ := wk.valid hs
    simp only [hs, reduceCtorEq, if_false]
    refine ⟨fun r hr => ?_, ?_⟩
    · obtain ⟨c', hc', e, he, rfl⟩ := (mem_recOfNodes v6 _ r).1 hr
      exact (key _).1 ((mem_recOfNodes v6 _ _).2 ⟨c', h1 c' hc', e, he, rfl⟩)
    · obtain ⟨e, he, hme⟩ := (elemMatches_iff _ _ _).1 hm
      exact ⟨mkRec v6 c.addr c.len e, (mem_recOfNodes v6 _ _).2 ⟨c, hc, e, he, rfl⟩, (matches_mkRec v6 asn n c e).2 hme⟩

/-! ### reachable tables are well formed; depth ≤ length -/

/-- every table reached from the empty one by any finite history of well-formed operations is
    well formed (path property, heap property on lengths, unique keys, non-empty duplicate-free
    payloads) -/
theorem wf_reachable (ops : List C02.Op) (hok : ∀ op ∈ ops, op.OK) : TableWF (C02.runT ops {}).1 :=
  (C02.history_refines ops {} [] C02.init_ok.1 (by rw [C02.init_ok.2]) hok).1

/-- a node at depth `d` of a well-formed trie has `d ≤ len` (so no lookup descends below depth
    32 / 128, and `trie_lookup`'s `lvl` never exceeds the width) — what upstream issues #99/#152 broke -/
theorem depth_le_len (T : PfxTable) (h : TableWF T) : DepthOK T.v4 0 ∧ DepthOK T.t6 0 :=
  ⟨depthOK_root 32 _ h.w4, depthOK_root 128 _ h.w6⟩

/-! ### definedness of every bit extraction the validation walk requests -/

/-- the (from, number) arguments of the `lrtr_ip_addr_get_bits` calls made by the walk: two
    calls `(0, node.len)` per visited node (node prefix and query), one call `(lvl, 1)` when it
    descends -/
def walkCalls (w : Nat) (q : Addr) (n asn : Nat) : Trie → Nat → List (Nat × Nat)
  | .nil, _ => []
  | .node c l r, lvl =>
    if c.len ≤ n ∧ prefixEq w c.addr q c.len ∧ elemMatches c.data asn n then [(0, c.len), (0, c.len)]
    else [(0, c.len), (0, c.len), (lvl, 1)] ++
      (if isLeft w q lvl then walkCalls w q n asn l (lvl+1) else walkCalls w q n asn r (lvl+1))

/-- what the C code needs from its arguments (after the F1/F2 repair): at most `w` bits are
    requested, and a request that starts inside the address stays inside it -/
def CallOK (w : Nat) (c : Nat × Nat) : Prop := c.2 ≤ w ∧ (c.1 < w → c.1 + c.2 ≤ w)

theorem validate_defined (w : Nat) (hw : 0 < w) (q : Addr) (n asn : Nat) : ∀ (t : Trie) (d : Nat), WF w t d →
    ∀ c ∈ walkCalls w q n asn t d, CallOK w c := by
  intro t d wf
  replace wf := (WF_iff_WFp w t d).1 wf
  induction t generalizing d with
  | nil => intro c hc; simp [walkCalls] at hc
  | node c0 l r ihl ihr =>
    intro c hc
    have base : CallOK w (0, c0.len) := ⟨wf.root.1, fun _ => by simpa using wf.root.1⟩
    unfold walkCalls at hc
    split at hc
    · simp only [List.mem_cons, List.not_mem_nil, or_false] at hc
      rcases hc with rfl | rfl <;> exact base
    · simp only [List.cons_append, List.nil_append, List.mem_cons] at hc
      rcases hc with rfl | rfl | rfl | hc
      · exact base
      · exact base
      · exact ⟨hw, fun h => h⟩
      · split at hc
        · exact ihl (d+1) wf.left c hc
        · exact ihr (d+1) wf.right c hc

/-! ### the literal IPv4 bit code computes the abstract bit view

The trie model is written against `isLeft` / `prefixEq` (arithmetic on `Nat`).  The C code calls
`lrtr_get_bits` (mask arithmetic on `uint32_t`, model `getBits32`).  These two theorems close the
gap for IPv4; `bits_link6` / `bits_cover6` in RtrProps/C01b.lean close it for IPv6
(`lrtr_ipv6_get_bits`, the four-word cascade `ipv6GetBits`).  The ops `left` / `cov` of the pfx
protocol additionally compare the C function, the literal Lean function and the abstract one on
boundary and random inputs. -/

theorem bits_link4 (a : Nat) (lvl : Nat) :
    isLeftChildC4 (BitVec.ofNat 32 a) lvl = isLeft 32 a lvl := isLeftChildC4_eq a lvl

theorem bits_cover4 (p q : Nat) (hp : p < 2^32) (hq : q < 2^32) (len : Nat) (h : len ≤ 32) :
    coversC4 (BitVec.ofNat 32 p) len (BitVec.ofNat 32 q) = prefixEq 32 p q len := coversC4_eq p q hp hq len h

/-! ### non-vacuity -/

def t1 : Rec := ⟨false, 0x0a000000, 8, 24, 65001, 1⟩

def t2 : Rec := ⟨false, 0x0a010000, 16, 16, 65002, 2⟩

def t3 : Rec := ⟨false, 0x00000000, 0, 0, 0, 1⟩

def demoT : PfxTable := (C02.runT [.add t2, .add t1, .add t3] {}).1

example : (demoT.validate false 65001 0x0a010000 16).1 = .valid := by decide +kernel
example : (demoT.validate false 65003 0x0a010000 16).1 = .invalid := by decide +kernel
example : ((demoT.validate false 65003 0x0a010000 16).2.map (·.asn)) = [0, 65001, 65002] := by decide +kernel
example : (demoT.validate true 65003 0 0).1 = .notFound := by decide +kernel

end Rtr.C01
