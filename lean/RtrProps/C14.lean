/-
  C14 — Every PDU sent is well-formed; error reports echo the offending PDU exactly.

  Part a (RtrProps/C14a.lean, namespace `Rtr.C14`): the PDUs the client builds are well-formed PDUs
  of the socket's version whose length field is their length, `tr_send_all` hands exactly those
  bytes to the transport however the writes are split, nothing is sent in reply to an Error Report.

  This file: the byte-order conversions around sending.  `rtr_receive_pdu` converts the
  received buffer to host order in place; `rtr_send_error_pdu_from_host` copies (a prefix of) that
  buffer and converts the copy back before it is encapsulated; `rtr_send_pdu` converts a copy of
  every PDU before it goes to the transport.  The model `Rtr.Conv` (RtrModel/PduConv.lean) is the
  statement-by-statement transcription of these functions for a little-endian host, tied to the C
  functions by tools/pduconvcheck.py (the real static functions run on exact-size heap buffers) and,
  for the translated C text, by RtrProofs/CLinkFooter*.lean and CLinkConv.lean.  That every field the
  protocol model reads big-endian is the field the C code reads from the converted struct is
  `Rtr.Conv.toHost_reads` (RtrProofs/PduConv.lean).

  Part b (RtrProps/C14b.lean): which violation is answered with which code, and that the encapsulated
  bytes are a byte-exact prefix of the PDU as received, are theorems about the protocol model `Rtr.P`
  there.  On the implementation the same is checked by the correspondence and by the trace oracle
  `rtroracle.check_sent` (every Error Report sent is matched against the bytes consumed from the tape);
  uninitialised bytes are looked for by a second build of the harness under MemorySanitizer.
-/
import RtrProps.C14a
import RtrProofs.PduConv

namespace Rtr.C14
open Rtr.P Rtr.Conv

/-- converting back what `rtr_receive_pdu` converted gives the bytes as received — every type,
    every buffer (Error Reports with hostile nested lengths included) -/
theorem conv_roundtrip (b : List Nat) : toNetwork (toHost b) = b := echo_whole b

/-- header-only echo (`rtr_send_error_pdu_from_host` with length 8): byte-exact -/
theorem echo_header_exact (raw : List Nat) (h8 : 8 ≤ raw.length) :
    hdrToNetwork ((toHost raw).take 8) = raw.take 8 := echo_header raw

/-- header conversions are mutually inverse -/
theorem hdr_roundtrip (b : List Nat) : hdrToNetwork (hdrToHost b) = b ∧ hdrToHost (hdrToNetwork b) = b :=
  ⟨convHeader_convHeader b, convHeader_convHeader b⟩

/-- for a PDU that passed the size check, every field the conversions touch lies inside the PDU -/
theorem conv_in_bounds (raw : List Nat) (hc : checkSize raw = true) (hl : raw.length = lenOf raw) :
    ∀ f ∈ convFields raw, f.1 + f.2 ≤ raw.length := convFields_inBounds raw hc hl

/-- a struct built in host order and converted for sending is what the peer converts back.  Stated for all types but the
    Error Report; it holds of an Error Report too (`Conv.toHost_toNetwork_all`), which `rtr_send_error_pdu` assembles in host
    order and `rtr_send_pdu` converts like every other PDU. -/
theorem send_conv_roundtrip (b : List Nat) (hne : typeOf b ≠ 10) : toHost (toNetwork b) = b :=
  toHost_toNetwork b hne

end Rtr.C14
