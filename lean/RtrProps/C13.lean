/-
  C13 — The protocol version is negotiated downward only and then enforced.

  Model: `Rtr.P.receivePdu` (rtr_receive_pdu: live downgrade on the first PDU of a connection,
  version check on all others), `handleErrorPdu` (downgrade on error code 4), `syncFirst`
  (downgrade when the cache hangs up before any session exists), `fsmStep` / `Reach` (the state
  machine over any number of reconnects), `checkSize` (End of Data formats).
  Quantifier: every socket state, every transport script — each PDU may carry any version byte.
-/
import RtrProofs.Fsm

namespace Rtr.C13
open Rtr Rtr.P

/-- a socket opens with the highest version it supports (`rtr_init`) -/
theorem opens_with_highest : ({} : Conn).version = Gen.RTR_PROTOCOL_MAX_SUPPORTED_VERSION := rfl

/-- **the version only ever goes down**: over any run of the state machine (any number of
    reconnects, any script) the version never exceeds the one the run started with, so it stays a
    supported version (`version_supported`).  Neither proof uses `ht`. -/
theorem version_monotone (fuel : Nat) (st st' : St) (h : Reach fuel st st') (ht : TblOK st.t) :
    st'.c.version ≤ st.c.version := reach_version_le fuel h

theorem version_supported (fuel : Nat) (st st' : St) (h : Reach fuel st st') (ht : TblOK st.t)
    (h0 : st.c.version ≤ Gen.RTR_PROTOCOL_MAX_SUPPORTED_VERSION) :
    st'.c.version ≤ Gen.RTR_PROTOCOL_MAX_SUPPORTED_VERSION := Nat.le_trans (version_monotone fuel st st' h ht) h0

/-- every single iteration, whatever the state -/
theorem step_version_le (fuel : Nat) (st st' : St) (h : fsmStep fuel st = some st') : st'.c.version ≤ st.c.version :=
  fsmStep_steps verLe_stepRel fuel st st' h

/-- **cause 1 — first PDU of a connection**: `rtr_receive_pdu` changes the version only if no PDU
    has been received on this connection and the socket speaks version 1; the new version is 0.
    (The condition on the header just read — version 0, not an Error Report — is `downgraded` in
    RtrProofs/Receive.lean; the PDU is then processed at the new version.) -/
theorem downgrade_first_pdu (c : Conn) (n : Net) (own : Nat) (t : Int) :
    (receivePdu c n own t).2.1.version = c.version ∨
    (c.hasReceived = false ∧ c.version = 1 ∧ (receivePdu c n own t).2.1.version = 0) :=
  (receivePdu_conn c n own t).1

/-- **cause 2 — Unsupported-Version error report**: `rtr_handle_error_pdu` changes the version only
    for error code 4 carrying a lower supported version; the version becomes that one. -/
theorem downgrade_error_report (c : Conn) (n : Net) (own : Nat) (raw : List Nat) :
    (handleErrorPdu c n own raw).1.version = c.version ∨
    (be16 raw 2 = 4 ∧ verOf raw < c.version ∧ verOf raw ≤ Gen.RTR_PROTOCOL_MAX_SUPPORTED_VERSION ∧
      (handleErrorPdu c n own raw).1.version = verOf raw) := by
  rw [handleErrorPdu_eq, (changeState_conn _ n own _).version]
  rcases errPduExit_cases c raw with e | e | ⟨h4, hm, hv, e⟩
  · exact Or.inl (by rw [e])
  · exact Or.inl (by rw [e])
  · exact Or.inr ⟨h4, hv, hm, by rw [e]⟩

/-- ... and then the socket reconnects at once (state FAST_RECONNECT, no retry sleep), unless a stop
    request has already arrived -/
theorem downgrade_error_report_reconnects (c : Conn) (n : Net) (own : Nat) (raw : List Nat)
    (h4 : be16 raw 2 = 4) (hv : verOf raw ≤ Gen.RTR_PROTOCOL_MAX_SUPPORTED_VERSION ∧ verOf raw < c.version)
    (hs : c.state ≠ .shutdown) :
    (handleErrorPdu c n own raw).1.state = .fastReconnect ∧ (handleErrorPdu c n own raw).1.version = verOf raw := by
  rw [handleErrorPdu_eq, errPduExit_down h4 hv.1 hv.2,
    changeState_alive { c with version := verOf raw } n own .fastReconnect hs]
  exact ⟨rfl, rfl⟩

/-- **cause 3 — the cache hangs up before any session exists**: if the first receive of `rtr_sync`
    ends with TR_CLOSED while a new session is requested and the version is above the minimum, the
    version is lowered by one and the socket reconnects at once. -/
theorem downgrade_on_hangup (fuel : Nat) (st : St) (c : Conn) (n : Net)
    (hr : receivePdu st.c st.n st.t.own Gen.RTR_RECV_TIMEOUT = (.rc (-4), c, n))
    (hq : st.ss.reqSession = true) (hv : c.version > Gen.RTR_PROTOCOL_MIN_SUPPORTED_VERSION) :
    (syncFirst (fuel + 1) st).1 = none ∧
    (syncFirst (fuel + 1) st).2.c.version = c.version - 1 := by
  unfold syncFirst
  rw [hr]
  have hc : ((-4 : Int) = -4 ∧ st.ss.reqSession = true ∧ c.version > Gen.RTR_PROTOCOL_MIN_SUPPORTED_VERSION) := ⟨rfl, hq, hv⟩
  simp only [hc, and_self, if_true]
  have := (changeState_conn { c with version := c.version - 1 } n st.t.own .fastReconnect).version
  generalize changeState { c with version := c.version - 1 } n st.t.own .fastReconnect = r at this
  obtain ⟨c', n'⟩ := r
  simp only at this ⊢
  exact ⟨trivial, this⟩

/-- **restart**: a run started by `rtr_start` on a socket that was used before (`rtr_stop`, no
    `rtr_init`) enters CONNECTING by assignment, not through `rtr_change_socket_state`; its first
    iteration clears the first-PDU flag, so the whole run is the same whatever value the earlier run
    left in it — the first PDU of the first connection decides about a live downgrade like the first
    PDU of every other connection (`downgrade_first_pdu`). -/
theorem restart_forgets_first_pdu_flag (steps fuel : Nat) (st : St) (b : Bool) (hs : st.c.state ≠ .shutdown) :
    fsmStart (steps + 1) fuel { st with c := { st.c with hasReceived := b } } = fsmStart (steps + 1) fuel st := by
  have e1 := fsmStart_first steps fuel ({ st with c := { st.c with hasReceived := b } } : St) hs
  rw [e1, fsmStart_first steps fuel st hs]
  exact congrArg _ (stepConnecting_forgets (startState st) b)

/-- **enforcement**: a PDU handed to the callers of `rtr_receive_pdu` (and so the only kind that
    can be applied) carries the version the socket speaks — its header is the one just read —
    unless it is an Error Report; it passed the size check. -/
theorem mismatch_never_accepted (c : Conn) (n : Net) (own : Nat) (t : Int) (raw : List Nat)
    (h : (receivePdu c n own t).1 = .ok raw) :
    (∃ body, raw = (recvAll n 8 t).2.1 ++ body) ∧
    (verOf (recvAll n 8 t).2.1 = (receivePdu c n own t).2.1.version ∨ typeOf (recvAll n 8 t).2.1 = 10) ∧
    checkSize raw = true :=
  let r := (receivePdu_conn c n own t).2 raw h
  ⟨r.1, r.2.1, r.2.2.1⟩

/-- ... and a header whose version differs from the (possibly just downgraded) version of the
    socket, and that is not an Error Report, is answered with an Unexpected-Protocol-Version report
    (code 8, encapsulating the header as received); the call fails without a state change and
    without reading the payload. -/
theorem mismatch_refused (c : Conn) (n : Net) (own : Nat) (hdr : List Nat)
    (hl : ¬ lenOf hdr < 8) (hm : ¬ lenOf hdr > Gen.RTR_MAX_PDU_LEN)
    (hv : verOf hdr ≠ (downgraded c hdr).version ∧ typeOf hdr ≠ 10) :
    recvStage2 c n own hdr = (.rc (-1), downgraded c hdr, (sendErrorPdu (downgraded c hdr) n hdr 8 []).2) :=
  recvStage2_version n own (by omega) (by omega) hv

/-- **End of Data formats**: a version-0 End of Data is accepted only with 12 bytes, a version-1 one
    only with 24 -/
theorem eod_format (raw : List Nat) (ht : typeOf raw = 7) (h : checkSize raw = true) :
    (verOf raw = 0 ∧ lenOf raw = 12) ∨ (verOf raw = 1 ∧ lenOf raw = 24) := by
  unfold checkSize at h
  simp only [ht] at h
  simp only [Bool.or_eq_true, Bool.and_eq_true, beq_iff_eq] at h
  rcases h with ⟨h1, h2⟩ | ⟨h1, h2⟩
  · exact Or.inl ⟨h1, h2⟩
  · exact Or.inr ⟨h1, h2⟩

/-- every query the socket builds carries the version it currently speaks -/
theorem queries_carry_version (ver sess sn : Nat) :
    (serialQueryBytes ver sess sn).getD 0 0 = ver % 256 ∧ (resetQueryBytes ver).getD 0 0 = ver % 256 ∧
    ∀ enc code text, (errorPduBytes ver enc code text).getD 0 0 = ver % 256 := ⟨rfl, rfl, fun _ _ _ => rfl⟩

/-! ### non-vacuity -/

/-- a version-0 Cache Response as first PDU of a version-1 connection: live downgrade -/
example : (downgraded { version := 1, hasReceived := false } [0, 3, 0, 7, 0, 0, 0, 8]).version = 0 := by decide
/-- the same PDU later in the connection: no downgrade (it will be refused) -/
example : (downgraded { version := 1, hasReceived := true } [0, 3, 0, 7, 0, 0, 0, 8]).version = 1 := by decide
/-- a version-0 Error Report as first PDU does not downgrade -/
example : (downgraded { version := 1, hasReceived := false } [0, 10, 0, 2, 0, 0, 0, 16]).version = 1 := by decide
example : checkSize ([1, 7, 0, 7, 0, 0, 0, 12] ++ [0, 0, 0, 5]) = false := by decide   -- v1 EOD in v0 format
example : checkSize ([0, 7, 0, 7, 0, 0, 0, 12] ++ [0, 0, 0, 5]) = true := by decide

end Rtr.C13
