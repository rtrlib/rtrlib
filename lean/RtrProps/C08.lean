/-
  C08 — "After any finite run of faults the client re-converges on the cache's data. … It never loops
  without letting time advance and never remains in an error cycle forever."

  Decided here, by proof on the model `Rtr.P.fsmStep` of the `while (1)` loop of rtr_fsm_start, for all
  socket states, tables, intervals and scripted environments: every iteration lets the clock advance,
  consumes something of the script or moves down a finite rank of socket states, so there is no busy loop
  (`no_zero_time_cycle`, `bounded_zero_time_steps`, `steps_bounded`); no error state is absorbing
  (`error_states_reconnect`); `retry_zero_cycle` shows that the hypothesis `1 ≤ retry_interval` is needed.

  Hypotheses of the progress theorems: a threaded run (`n.threaded = true`, what `fsmStart` sets: the
  end of the script is the stop request of `rtr_stop`, observed in `tr_recv`; in an unthreaded replay
  the exhausted tape is a plain transport error and SYNC → ERROR_TRANSPORT would move *up* the rank
  without consuming anything), `0 < fuel` (the receive loops of `rtr_sync` may run at least once),
  `1 ≤ retry_interval`, and the state is not CLOSED (not a state of the running machine: the C loop
  has no case for it and spins; `fsmStep` returns the state unchanged).

  What is NOT decided here: the convergence clause ("once the cache answers correctly again the
  client reaches ESTABLISHED with the cache's data within refresh + expire + c·retry").  It is
  proved in RtrProps/C08b.lean and C08c.lean, where "the cache answers correctly" is a predicate on
  the script (the tape holds the good answer to the query the socket is going to send), and checked
  on the implementation by the correspondence runs with a simulated reactive cache
  (tools/rtrgen.py `gen_fsm_case(good_tail=…)`, the C08 oracle in tools/rtrcheck.py).
-/
import RtrProofs.Progress

namespace Rtr.C08
open Rtr.P

/-- **the clock never goes backwards, the script never grows** -/
theorem clock_monotone (fuel : Nat) (st st' : St) (h : fsmStep fuel st = some st') :
    st.n.now ≤ st'.n.now ∧ envSize st'.n ≤ envSize st.n ∧ st'.n.threaded = st.n.threaded :=
  fsmStep_mono fuel st st' h

/-- **no iteration without progress**: the clock advances, or the scripted environment shrinks, or —
    with both unchanged — the socket state moves strictly down the rank -/
theorem no_zero_time_cycle (fuel : Nat) (st st' : St) (h : fsmStep fuel st = some st') (hf : 0 < fuel)
    (hr : 1 ≤ st.tm.retry) (hth : st.n.threaded = true) (hc : st.c.state ≠ .closed) :
    st'.n.now > st.n.now ∨ envSize st'.n < envSize st.n ∨
    (st'.n.now = st.n.now ∧ envSize st'.n = envSize st.n ∧ rank st'.c.state < rank st.c.state) := by
  have m := fsmStep_mono fuel st st' h
  rcases fsmStep_progress fuel st st' h hf hr hth hc with p | p | ⟨p, _, _⟩
  · exact Or.inl p
  · exact Or.inr (Or.inl p)
  · by_cases h1 : st.n.now < st'.n.now
    · exact Or.inl h1
    · by_cases h2 : envSize st'.n < envSize st.n
      · exact Or.inr (Or.inl h2)
      · exact Or.inr (Or.inr ⟨by omega, by omega, p⟩)

/-- … and such a step leads to a state of the running machine with the same intervals, so the
    argument can be repeated -/
theorem zero_time_step_keeps_hypotheses (fuel : Nat) (st st' : St) (h : fsmStep fuel st = some st') (hf : 0 < fuel)
    (hr : 1 ≤ st.tm.retry) (hth : st.n.threaded = true) (hc : st.c.state ≠ .closed)
    (hn : st'.n.now = st.n.now) (he : envSize st'.n = envSize st.n) :
    rank st'.c.state < rank st.c.state ∧ 1 ≤ st'.tm.retry ∧ st'.n.threaded = true ∧ st'.c.state ≠ .closed := by
  have m := fsmStep_mono fuel st st' h
  rcases fsmStep_progress fuel st st' h hf hr hth hc with p | p | ⟨p1, p2, p3⟩
  · omega
  · omega
  · exact ⟨p1, by rw [p3]; exact hr, by rw [m.2.2]; exact hth, p2⟩

/-- **no busy loop**: a run segment during which neither the clock advances nor the environment
    shrinks has at most `rank` of its first state ≤ `maxRank` = 4 iterations -/
theorem bounded_zero_time_steps (fuel k : Nat) (st st' : St) (seg : ZeroSeg fuel k st st') (hf : 0 < fuel)
    (hr : 1 ≤ st.tm.retry) (hth : st.n.threaded = true) (hc : st.c.state ≠ .closed) :
    k ≤ rank st.c.state ∧ k < maxRank + 1 := by
  have h := zeroSeg_rank seg hf hr hth hc
  have := rank_le st.c.state
  omega

/-- `k` consecutive iterations from `st` to `st'`; every state an iteration starts from has a retry
    interval ≥ 1 and is a state of the running machine -/
inductive Run (fuel : Nat) : Nat → St → St → Prop
  | nil (st : St) : Run fuel 0 st st
  | cons {k : Nat} {st st1 st2 : St} : fsmStep fuel st = some st1 → 1 ≤ st.tm.retry → st.c.state ≠ .closed →
      Run fuel k st1 st2 → Run fuel (k + 1) st st2

/-- **every five iterations cost a second or a piece of the script**: `k` iterations take
    at least `(k − maxRank) / (maxRank + 1)` units of time elapsed + environment consumed -/
theorem steps_bounded (fuel k : Nat) (st st' : St) (run : Run fuel k st st') (hf : 0 < fuel)
    (hth : st.n.threaded = true) :
    (k : Int) + rank st'.c.state ≤
      (maxRank + 1) * ((st'.n.now - st.n.now) + ((envSize st.n : Int) - envSize st'.n)) + rank st.c.state := by
  induction run with
  | nil st => simp only [maxRank]; omega
  | @cons k st st1 st2 h hr hc _ ih =>
    have m := fsmStep_mono fuel st st1 h
    have ih := ih (by rw [m.2.2]; exact hth)
    have r0 := rank_le st.c.state
    have r1 := rank_le st1.c.state
    simp only [maxRank] at ih r0 r1 ⊢
    rcases fsmStep_progress fuel st st1 h hf hr hth hc with p | p | ⟨p, _, _⟩ <;> omega

/-- **the error states wait**: from ERROR_TRANSPORT, ERROR_FATAL and ERROR_NO_DATA_AVAIL the iteration
    advances the clock by exactly the retry interval (and the last thing it does is that sleep) -/
theorem retry_sleep_advances (fuel : Nat) (st st' : St) (h : fsmStep fuel st = some st')
    (hs : st.c.state = .errTransport ∨ st.c.state = .errFatal ∨ st.c.state = .errNoData) :
    st'.n.now = st.n.now + st.tm.retry ∧ st'.n.trace.head? = some s!"Z {st.tm.retry}" := by
  rw [fsmStep_eq] at h
  rcases hs with hs | hs | hs <;> rw [hs] at h <;> simp only [Option.some.injEq] at h <;> subst h
  · refine ⟨stepErrClose_now st, ?_⟩
    rw [stepErrClose_eq st (by rw [hs]; decide) (by rw [hs]; decide)]
    rfl
  · refine ⟨stepErrClose_now st, ?_⟩
    rw [stepErrClose_eq st (by rw [hs]; decide) (by rw [hs]; decide)]
    rfl
  · refine ⟨stepErrNoData_now st, ?_⟩
    unfold stepErrNoData
    rw [purgeOutdated_n]
    -- the head of the trace after the sleep, computed, so that `change_tm` can rewrite inside the line
    show some (s!"Z {((requestReset st).change .reset).tm.retry}") = _
    rw [change_tm]
    rfl

/-- **no error state is absorbing** -/
theorem error_states_reconnect (fuel : Nat) (st st' : St) (h : fsmStep fuel st = some st') :
    -- ERROR_TRANSPORT, ERROR_FATAL: close, CONNECTING, sleep
    ((st.c.state = .errTransport ∨ st.c.state = .errFatal) →
      st'.c.state = .connecting ∧ st'.ss = st.ss ∧ st'.t = st.t ∧ st'.tm = st.tm ∧
      st'.n.trace = s!"Z {st.tm.retry}" :: s!"S {SState.connecting.name} {st.n.now} {st.t.own}" :: "C" :: st.n.trace) ∧
    -- ERROR_NO_DATA_AVAIL, ERROR_NO_INCR_UPDATE_AVAIL: RESET with a new session requested
    ((st.c.state = .errNoData ∨ st.c.state = .errNoIncr) →
      st'.c.state = .reset ∧ st'.ss.reqSession = true ∧ st'.ss.serial = 0 ∧ nextQuery st'.ss = none ∧ st'.tm = st.tm) ∧
    -- FAST_RECONNECT: close, CONNECTING, no sleep
    (st.c.state = .fastReconnect →
      st'.c.state = .connecting ∧ st'.n.now = st.n.now ∧ st'.ss = st.ss ∧ st'.t = st.t ∧ st'.tm = st.tm ∧
      st'.n.trace = s!"S {SState.connecting.name} {st.n.now} {st.t.own}" :: "C" :: st.n.trace) := by
  rw [fsmStep_eq] at h
  refine ⟨fun hs => ?_, fun hs => ?_, fun hs => ?_⟩
  · have e : st' = stepErrClose st := by
      rcases hs with hs | hs <;> rw [hs] at h <;> simp only [Option.some.injEq] at h <;> exact h.symm
    rw [e, stepErrClose_eq st (by rcases hs with hs | hs <;> rw [hs] <;> decide)
      (by rcases hs with hs | hs <;> rw [hs] <;> decide)]
    exact ⟨rfl, rfl, rfl, rfl, rfl⟩
  · rcases hs with hs | hs <;> rw [hs] at h <;> simp only [Option.some.injEq] at h <;> subst h
    · have sp := stepErrNoData_spec st (by rw [hs]; decide)
      exact ⟨sp.1, sp.2.1, sp.2.2.1, by simp [nextQuery, sp.2.1], sp.2.2.2⟩
    · have sp := stepErrNoIncr_spec st (by rw [hs]; decide)
      exact ⟨sp.1, sp.2.1, sp.2.2.1, by simp [nextQuery, sp.2.1], sp.2.2.2⟩
  · rw [hs] at h
    simp only [Option.some.injEq] at h
    subst h
    rw [stepFastReconnect_eq st (by rw [hs]; decide) (by rw [hs]; decide)]
    exact ⟨rfl, rfl, rfl, rfl, rfl, rfl⟩

/-- **why `1 ≤ retry_interval` is needed** (limit of the clause "never loops without letting time
    advance"): with a retry interval of 0 — which a cache can set in interval mode ACCEPT_ANY, see
    C17 — and a transport whose `open` fails, two iterations lead from ERROR_TRANSPORT back to
    ERROR_TRANSPORT at the same time, with the same intervals, tape and send outcomes; only the
    script of open outcomes got shorter.  As long as opens fail the thread spins. -/
theorem retry_zero_cycle (fuel : Nat) (st : St) (q : List Int) (hs : st.c.state = .errTransport)
    (h0 : st.tm.retry = 0) (hq : st.n.openQ = -1 :: q) :
    ∃ st1 st2, fsmStep fuel st = some st1 ∧ fsmStep fuel st1 = some st2 ∧
      st2.c.state = .errTransport ∧ st2.n.now = st.n.now ∧ st2.tm = st.tm ∧
      st2.n.tape = st.n.tape ∧ st2.n.sendQ = st.n.sendQ ∧ st2.n.openQ = q := by
  have e := stepErrClose_eq st (by rw [hs]; decide) (by rw [hs]; decide)
  have sc : (stepErrClose st).c.state = .connecting := by rw [e]
  have hq1 : (stepErrClose st).n.openQ = -1 :: q := by rw [e]; exact hq
  have so := stepConnecting_open_fails (stepErrClose st) q sc hq1
  refine ⟨stepErrClose st, stepConnecting (stepErrClose st), ?_, ?_, so.1, ?_, ?_, ?_, ?_, so.2.2.2.1⟩
  · rw [fsmStep_eq, hs]
  · rw [fsmStep_eq, sc]
  · rw [so.2.1, stepErrClose_now, h0]; simp
  · rw [so.2.2.1, e]
  · rw [so.2.2.2.2.1, e]
  · rw [so.2.2.2.2.2, e]

/-! ## non-vacuity -/

/-- a threaded socket in ERROR_NO_INCR_UPDATE_AVAIL whose script is exhausted -/
def stNoIncr : St := { c := { state := .errNoIncr }, n := { threaded := true } }
/-- a threaded socket in ERROR_TRANSPORT -/
def stErr : St := { c := { state := .errTransport }, n := { threaded := true } }
/-- … whose cache set the retry interval to 0 and whose next two opens fail -/
def stErr0 : St := { c := { state := .errTransport }, tm := { retry := 0 }, n := { threaded := true, openQ := [-1, -1] } }
/-- a threaded socket in SYNC with a Serial Notify on the tape -/
def stSync : St := { c := { state := .sync }, n := { threaded := true, tape := [.rx [1, 0, 0, 7, 0, 0, 0, 12, 0, 0, 0, 5]] } }

-- the hypotheses of `no_zero_time_cycle` are met, each disjunct occurs
example : 0 < 1 ∧ 1 ≤ stErr.tm.retry ∧ stErr.n.threaded = true ∧ stErr.c.state ≠ .closed := by decide
example : ∃ st', fsmStep 1 stErr = some st' ∧ st'.n.now > stErr.n.now := ⟨_, rfl, by decide⟩
example : ∃ st', fsmStep 1 stSync = some st' ∧ envSize st'.n < envSize stSync.n := ⟨_, rfl, by decide⟩
example : ∃ st', fsmStep 1 stNoIncr = some st' ∧ st'.n.now = stNoIncr.n.now ∧ envSize st'.n = envSize stNoIncr.n ∧
    rank st'.c.state < rank stNoIncr.c.state := ⟨_, rfl, by decide⟩


/-- a threaded socket in FAST_RECONNECT whose script is exhausted -/
def stFast : St := { c := { state := .fastReconnect }, n := { threaded := true } }

-- `bounded_zero_time_steps` is tight: FAST_RECONNECT → CONNECTING → RESET → SYNC → SHUTDOWN are
-- `maxRank` = 4 iterations without time and without consumption (then the thread exits)
example : 0 < 1 ∧ 1 ≤ stFast.tm.retry ∧ stFast.n.threaded = true ∧ stFast.c.state ≠ .closed := by decide
example : ∃ st', ZeroSeg 1 4 stFast st' ∧ st'.c.state = .shutdown ∧ fsmStep 1 st' = none :=
  ⟨_, .cons rfl (by decide) (by decide) (.cons rfl (by decide) (by decide) (.cons rfl (by decide) (by decide)
    (.cons rfl (by decide) (by decide) (.nil _)))), by decide, rfl⟩
example : ∃ st', ZeroSeg 1 3 stNoIncr st' ∧ st'.c.state = .shutdown :=
  ⟨_, .cons rfl (by decide) (by decide) (.cons rfl (by decide) (by decide) (.cons rfl (by decide) (by decide) (.nil _))),
    by decide⟩

-- `steps_bounded`: two iterations from ERROR_TRANSPORT (sleep, then CONNECTING → RESET); 600 and, below, 1000
-- are the defaults of `Timers.retry` and `Net.now`
example : ∃ st', Run 1 2 stErr st' ∧ st'.c.state = .reset ∧ st'.n.now = stErr.n.now + 600 :=
  ⟨_, .cons rfl (by decide) (by decide) (.cons rfl (by decide) (by decide) (.nil _)), by decide, by decide⟩

-- `retry_sleep_advances`, `error_states_reconnect`
example : ∃ st', fsmStep 1 stErr = some st' ∧ st'.n.now = stErr.n.now + stErr.tm.retry ∧ st'.c.state = .connecting :=
  ⟨_, rfl, by decide⟩
example : ∃ st', fsmStep 1 stNoIncr = some st' ∧ st'.c.state = .reset ∧ st'.ss.reqSession = true := ⟨_, rfl, by decide⟩
example : ∃ st', fsmStep 1 stFast = some st' ∧ st'.c.state = .connecting ∧ st'.n.now = stFast.n.now := ⟨_, rfl, by decide⟩

-- `retry_zero_cycle`: its hypotheses are met; after the two iterations they are met again
example : stErr0.c.state = .errTransport ∧ stErr0.tm.retry = 0 ∧ stErr0.n.openQ = -1 :: [-1] := by decide
example : ∃ st1 st2, fsmStep 1 stErr0 = some st1 ∧ fsmStep 1 st1 = some st2 ∧ st2.c.state = .errTransport ∧
    st2.n.now = stErr0.n.now ∧ st2.tm.retry = 0 ∧ st2.n.openQ = [-1] := ⟨_, _, rfl, rfl, by decide⟩

-- why `n.threaded = true` is needed: in an unthreaded replay the exhausted tape is a plain transport
-- error; SYNC → ERROR_TRANSPORT takes no time, consumes nothing and moves UP the rank (the next
-- iteration then sleeps)
example : ∃ st', fsmStep 1 { stSync with n := {} } = some st' ∧ st'.n.now = (1000 : Int) ∧ envSize st'.n = 0 ∧
    st'.c.state = .errTransport ∧ rank st'.c.state > rank SState.sync := ⟨_, rfl, by decide⟩

end Rtr.C08
