/-
  C19 — Address text conversion round-trips and agrees with the platform parser.

  Statement (properties.jsonl): every IPv4 and IPv6 address converted to text parses back to the same
  address, both with the library and with the platform's inet_pton; every string inet_pton accepts
  is accepted by the library with the same result.  The result of parsing depends only on the text
  given, and conversion never writes beyond the buffer length it was told.

  Model: RtrModel/IpText.lean (literal renderings of ipv4.c / ipv6.c / ip.c; the model is of the code
  *as repaired* for F17 — `parse6`; the code as found is `parse6Orig`).  `inet_pton` is represented
  by the render grammar (`Render`, `pton4`, `pton6`), validated against the real function on every
  string of every run of tools/ipcheck.py.  An IPv6 address is its list of eight 16-bit words.
-/
import RtrProofs.IpTextIp
import RtrProofs.IpTextDefined

namespace Rtr.C19
open Rtr.IpText

/-- an IPv6 address: eight words below 2^16 (all 2^128 of them) -/
def Addr6 (ws : List Nat) : Prop := ws.length = 8 ∧ ∀ w ∈ ws, w < 65536

/-- `%x` of a 16-bit word is a group of one to four hex digits that the parser's digit loop reads
    back to the same word, stopping at whatever non-digit follows -/
theorem hexWord_roundtrip (w : Nat) (hw : w < 65536) :
    groupOk (hex16 w) = true ∧ groupVal (hex16 w) = w ∧
    ∀ rest, NoHexHead rest → scanHex (hex16 w ++ rest) 0 0 = some (w, rest) := by
  refine ⟨groupOk_hex16 w, groupVal_hex16 hw, fun rest hr => ?_⟩
  rw [scanHex_groupOk (groupOk_hex16 w) hr, groupVal_hex16 hw]

/-- all 2^32 IPv4 addresses: `sscanf` reads back what `snprintf` printed -/
theorem fmt4_parse4 (a : Nat) (ha : a < 2 ^ 32) : parse4 (fmt4Str a) = some a := by
  have := parse4_quadStr (quadOk_octets a) noDigitHead_nil
  rw [List.append_nil] at this
  rw [fmt4Str, this]
  simp only [octets]
  -- the four octets are the base-256 digits of `a`
  refine congrArg some (Eq.trans ?_ ((digits4_mod 256 a).trans (Nat.mod_eq_of_lt ha)))
  simp only [Nat.add_mul, Nat.mul_assoc]

/-- the formatter's output is a string of the RFC 4291 text language, denoting the address -/
theorem fmt6_in_language (ws : List Nat) (h : Addr6 ws) :
    ∃ r : Render, r.WF ∧ r.toString = fmt6Str ws ∧ r.value = ws := by
  obtain ⟨r, h1, h2, h3, _⟩ := fmt6Str_good ws h.1 h.2
  exact ⟨r, h1, h2, h3⟩

/-- every string of the language (= every string the model of `inet_pton` accepts) is accepted by
    the library's parser, with the value it denotes -/
theorem parse6_accepts_language (r : Render) (h : r.WF) : parse6 r.toString = .ok r.value :=
  parse6Core_accepts true r h

/-- all 2^128 IPv6 addresses: the parser reads back what the formatter printed -/
theorem fmt6_parse6 (ws : List Nat) (h : Addr6 ws) : parse6 (fmt6Str ws) = .ok ws := by
  obtain ⟨r, hwf, hs, hv⟩ := fmt6_in_language ws h
  rw [← hs, parse6_accepts_language r hwf, hv]

/-- the result of parsing depends only on the text: the (repaired) parser never reads a `words[]`
    slot it has not written, for every input string -/
theorem parse6_defined (s : Str) : parse6 s ≠ .uninit := parse6_ne_uninit s

/-- F17: the parser as found in the snapshot DOES read never-written words: on `"1:2:3"` it returns
    success built from five uninitialised slots (witness; replayed on the implementation by
    corpus/ip/F17_short_no_gap.ops).  The repaired parser rejects that text, as `inet_pton` does;
    on the strings of the language both parsers agree. -/
theorem parse6Orig_undefined :
    parse6Orig "1:2:3".toList = .uninit ∧ parse6 "1:2:3".toList = .reject ∧ pton6 "1:2:3".toList = none ∧
    parse6Orig [] = .uninit ∧
    ∀ r : Render, r.WF → parse6Orig r.toString = parse6 r.toString := by
  refine ⟨by decide, by decide, by decide, by decide, fun r h => ?_⟩
  rw [parse6Orig, parse6, parse6Core_accepts false r h, parse6Core_accepts true r h]

/-- output lengths: IPv6 text is shorter than INET6_ADDRSTRLEN = 46 (at most 39 characters),
    IPv4 text shorter than INET_ADDRSTRLEN = 16 -/
theorem fmt_len :
    (∀ ws, Addr6 ws → (fmt6Str ws).length < 46) ∧ (∀ a, (fmt4Str a).length < 16) := by
  constructor
  · intro ws h
    obtain ⟨r, _, _, _, h4⟩ := fmt6Str_good ws h.1 h.2
    exact Nat.lt_of_le_of_lt h4 (by decide)
  · intro a
    exact Nat.lt_succ_of_le (quadStr_length (octets a))

/-- no conversion writes beyond the buffer length it was told; the IPv6 conversion either refuses
    (writing nothing) or writes the complete NUL-terminated text; the IPv4 conversion writes a
    NUL-terminated prefix, complete when `len >= 16` -/
theorem fmt_within_buffer (len : Nat) :
    (∀ a, (fmt4 a len).written.length ≤ len ∧ (16 ≤ len → (fmt4 a len).written = fmt4Str a ++ [nul])) ∧
    (∀ ws, Addr6 ws → (fmt6 ws len).written.length ≤ len ∧
      ((fmt6 ws len).rc = 0 → (fmt6 ws len).written = fmt6Str ws ++ [nul])) := by
  constructor
  · intro a
    have hl := fmt_len.2 a
    constructor
    · simp only [fmt4, snprintfWritten]
      split
      · simp
      · simp only [List.length_append, List.length_take, List.length_cons, List.length_nil]; omega
    · intro h16
      simp only [fmt4, snprintfWritten]
      rw [if_neg (by omega), List.take_of_length_le (by omega)]
  · intro ws hws
    have hl := fmt_len.1 ws hws
    unfold fmt6
    split
    · simp
    · simp only [List.length_append, List.length_cons, List.length_nil]
      exact ⟨by omega, fun _ => trivial⟩

/-- every string the model of `inet_pton(AF_INET6, ·)` accepts is accepted by the library's IPv6
    parser with the same result -/
theorem pton6_accepted (s : Str) (v : List Nat) (h : pton6 s = some v) : parse6 s = .ok v := by
  obtain ⟨r, hwf, hs, hv⟩ := pton6_sound h
  rw [← hs, parse6_accepts_language r hwf, hv]

/-- every string the model of `inet_pton(AF_INET, ·)` accepts is accepted by the library's IPv4
    parser with the same result (the converse fails: `sscanf` accepts more, e.g. " +1.2.3.4x") -/
theorem pton4_accepted (s : Str) (a : Nat) (h : pton4 s = some a) : parse4 s = some a := by
  obtain ⟨q, hq, hs, ha⟩ := pton4_sound h
  have := parse4_quadStr hq noDigitHead_nil
  rw [List.append_nil, hs] at this
  rw [this, ha]

/-- the public entry points: `lrtr_ip_addr_to_str` then `lrtr_ip_str_to_addr` is the identity, for
    both families -/
theorem ip_roundtrip :
    (∀ a, a < 2 ^ 32 → ipStrToAddr (fmt4Str a) = .ok (.v4 a)) ∧
    (∀ ws, Addr6 ws → ipStrToAddr (fmt6Str ws) = .ok (.v6 ws)) := by
  constructor
  · intro a ha
    simp [ipStrToAddr, fmt4Str, colon_notin_quadStr]
    have := fmt4_parse4 a ha
    rw [fmt4Str] at this
    rw [this]
  · intro ws hws
    obtain ⟨r, hwf, hs, hv⟩ := fmt6_in_language ws hws
    have hc : ':' ∈ fmt6Str ws := by rw [← hs]; exact colon_in_render hwf
    simp [ipStrToAddr, hc, fmt6_parse6 ws hws]

/-- `lrtr_ip_str_to_addr` accepts whatever (the model of) `inet_pton` accepts, in either family, with
    the same result -/
theorem ip_accepts_pton (s : Str) :
    (∀ a, pton4 s = some a → ipStrToAddr s = .ok (.v4 a)) ∧
    (∀ v, pton6 s = some v → ipStrToAddr s = .ok (.v6 v)) := by
  constructor
  · intro a h
    obtain ⟨q, _, hs, _⟩ := pton4_sound h
    have hc : ':' ∉ s := by rw [← hs]; exact colon_notin_quadStr q
    simp [ipStrToAddr, hc, pton4_accepted s a h]
  · intro v h
    obtain ⟨r, hwf, hs, _⟩ := pton6_sound h
    have hc : ':' ∈ s := by rw [← hs]; exact colon_in_render hwf
    simp [ipStrToAddr, hc, pton6_accepted s v h]

/-- `lrtr_ip_str_cmp` of an address with its own text is true -/
theorem ipStrCmp_fmt :
    (∀ a, a < 2 ^ 32 → ipStrCmp (.v4 a) (fmt4Str a) = some true) ∧
    (∀ ws, Addr6 ws → ipStrCmp (.v6 ws) (fmt6Str ws) = some true) := by
  constructor
  · intro a ha; simp [ipStrCmp, ip_roundtrip.1 a ha]
  · intro ws h; simp [ipStrCmp, ip_roundtrip.2 ws h]

/-! ## non-vacuity: concrete, non-trivial instances of every hypothesis -/

-- an address with two zero runs (the first longest one is compressed) satisfies `Addr6`
example : Addr6 [0x2001, 0xdb8, 0, 0, 1, 0, 0, 1] := by unfold Addr6; decide +kernel
example : fmt6Str [0x2001, 0xdb8, 0, 0, 1, 0, 0, 1] = "2001:db8::1:0:0:1".toList := by decide +kernel
example : fmt6Str [0, 0, 0, 0, 0, 0xffff, 0xc0a8, 1] = "::ffff:192.168.0.1".toList := by decide +kernel
example : fmt6Str [0, 0, 0, 0, 0, 0, 0x102, 0x304] = "::1.2.3.4".toList := by decide +kernel
example : fmt6Str [0, 0, 0, 0, 0, 0, 0, 1] = "::1".toList := by decide +kernel
example : parse6 "2001:db8::1:0:0:1".toList = .ok [0x2001, 0xdb8, 0, 0, 1, 0, 0, 1] := by decide +kernel
-- a well-formed render with upper case, leading zeros, `::` in the middle and a dotted quad
example : (⟨["00Ab".toList, "1".toList], true, ["F".toList], some (10, 0, 255, 1)⟩ : Render).WF := by decide +kernel
example : (⟨["00Ab".toList, "1".toList], true, ["F".toList], some (10, 0, 255, 1)⟩ : Render).toString
    = "00Ab:1::F:10.0.255.1".toList := by decide +kernel
example : pton6 "00Ab:1::F:10.0.255.1".toList = some [0xab, 1, 0, 0, 0, 0xf, 0xa00, 0xff01] := by decide +kernel
example : pton4 "192.168.0.1".toList = some 0xc0a80001 := by decide +kernel
-- the IPv4 parser accepts more than inet_pton (sscanf quirks), never less
example : parse4 " +1.-2.3.999x".toList = some 0x01fe03e7 ∧ pton4 " +1.-2.3.999x".toList = none := by decide +kernel
-- buffer lengths: truncation and refusal
example : fmt4 0xc0a80001 5 = ⟨0, "192.".toList ++ [nul]⟩ := by decide +kernel
example : fmt6 [0, 0, 0, 0, 0, 0, 0, 1] 45 = ⟨-1, []⟩ := by decide +kernel
example : fmt6 [0, 0, 0, 0, 0, 0, 0, 1] 46 = ⟨0, "::1".toList ++ [nul]⟩ := by decide +kernel
-- the longest output
example : (fmt6Str [0xffff, 0xffff, 0xffff, 0xffff, 0xffff, 0xffff, 0xffff, 0xffff]).length = 39 := by decide +kernel

end Rtr.C19
