/-
  C14 (part b) — "An Error Report is sent for every protocol violation the client detects (except
  in reply to an Error Report); it carries the code for that violation, an encapsulated copy that
  is a byte-exact prefix of the offending PDU as it was received, and a text length consistent with
  the PDU length."

  Proved on the protocol model `Rtr.P` (RtrModel/Rtr.lean): `Sent n n' rs` (RtrProofs/ErrReports.lean) says
  that the environment `n'` which the model function returns is reached from `n` by `tr_recv_all` calls,
  state-change callbacks and `tr_send_all` of exactly the Error Report PDUs `rs` (data `(ver, code, enc, text)`,
  bytes `errorPduBytes ver enc code text`), in this order.

  SITE → CODE table (every place of packets.c that sends an Error Report; codes of RFC 8210 §12):
    rtr_receive_pdu          length field < 8                        0 Corrupt Data   enc = 8 header bytes   text "corrupt data received, …"
    rtr_receive_pdu          length field > RTR_MAX_PDU_LEN          0 Corrupt Data   enc = 8 header bytes   text "PDU too big, …"
    rtr_receive_pdu          version ≠ socket's (after live downgrade), type ≠ 10
                                                                     8 Unexpected Protocol Version   enc = 8 header bytes   no text
    rtr_receive_pdu          size check fails (length ≠ what the type requires, unknown type)
                                                                     0 Corrupt Data   enc = 8 header bytes   text "corrupt data received, …"
    rtr_sync                 first answer not Cache Response / Cache Reset / Error Report
                                                                     0 Corrupt Data   enc = 8 header bytes   text "Unexpected PDU received in data synchronisation"
    rtr_handle_cache_response_pdu   session id ≠ running session     0 Corrupt Data   enc = []  (the only site without encapsulated PDU)
    rtr_sync_receive_and_store_pdus PDU of type 1, 2, 3, 8 in the answer
                                                                     0 Corrupt Data   enc = 8 header bytes   text "Unexpected PDU received during data synchronisation"
    rtr_sync_receive_and_store_pdus End of Data with another session id
                                                                     0 Corrupt Data   enc = whole End of Data PDU   text names both ids
    rtr_update_pfx_table     prefix / max length > address width     0 Corrupt Data   enc = whole Prefix PDU
    rtr_update_pfx_table / rtr_update_spki_table   flags ∉ {0, 1}    0 Corrupt Data   enc = whole PDU
    rtr_update_pfx_table / rtr_update_spki_table   record already there   7 Duplicate Announcement Received   enc = whole PDU, no text
    rtr_update_pfx_table / rtr_update_spki_table   record not there       6 Withdrawal of Unknown Record      enc = whole PDU, no text
  Not codes the client ever sends: 4 (Unsupported Protocol Version) and 5 (Unsupported PDU Type) —
  the branches exist in rtr_receive_pdu's `error:` label but nothing jumps there with these values;
  an unknown PDU type fails the size check and is reported as 0.  The interval reports of
  rtr_sync_receive_and_store_pdus are dead code (rtr_check_interval_option never returns RTR_ERROR
  for a valid interval type); 1 (Internal Error) needs an allocation failure, which the model's
  tables do not have.

  SILENT (violation detected, nothing sent): `waitForSync_silent` — in ESTABLISHED, waiting for a
  Serial Notify, any other well-formed PDU makes rtr_wait_for_sync return RTR_ERROR without report
  and without state change.  By design: nothing in reply to an Error Report (`no_report_for_error_pdu…`),
  nothing once the socket is SHUTDOWN (`shutdown_suppresses`).  A PDU cut short by a transport fault
  or the end of the stream is a transport failure, not a report (the `payloadFault` way of `P.er_receivePdu`;
  no theorem below states it separately).
-/
import RtrProofs.ErrReports
import RtrModel.Rfc8210

namespace Rtr.C14b
open Rtr.P

/-! ## every report is well formed and echoes bytes as received -/

/-- `rtr_sync`, all streams (faults included), all table contents.  At most one Error Report
    per exchange and only when it fails.  The report is `errorPduBytes` of the socket's version with
    code 0, 6, 7 or 8; it fits RTR_MAX_PDU_LEN, its length field is its length, the encapsulated
    length / bytes / text length / text are in place (text length consistent with the PDU length); it
    never echoes an Error Report; and the encapsulated bytes are a prefix — the first 8 bytes, or the
    whole PDU — of a PDU exactly as it stands in the stream at a PDU boundary (after complete,
    checked PDUs), or empty at the one site that sends no encapsulated PDU. -/
theorem sync_reports (fuel : Nat) (st : St) (hok : TapeOk st.n.tape) :
    ∃ rs, Sent st.n (syncG fuel st).2.1.n rs ∧ rs.length ≤ 1 ∧ (rs ≠ [] → (syncG fuel st).1 = false) ∧
      ∀ r ∈ rs,
        r.ver = (syncG fuel st).2.1.c.version ∧ (r.code = 0 ∨ r.code = 6 ∨ r.code = 7 ∨ r.code = 8) ∧
        ¬ (2 ≤ r.enc.length ∧ r.enc.getD 1 0 = 10) ∧
        WellFormedPdu r.ver r.bytes ∧ r.bytes.length = 16 + r.enc.length + r.text.length ∧
        be32 r.bytes 8 = r.enc.length ∧ (r.bytes.drop 12).take r.enc.length = r.enc ∧
        be32 r.bytes (12 + r.enc.length) = r.text.length ∧ r.bytes.drop (16 + r.enc.length) = r.text ∧
        be16 r.bytes 2 = r.code ∧
        ((∃ rest, AtBoundary (tapeBytes st.n.tape) rest ∧ r.enc <+: rest ∧
            (r.enc = rest.take 8 ∨ ValidPdu r.enc)) ∨
         (r.enc = [] ∧ r.code = 0 ∧ r.text = txtWrongSession)) := by
  obtain ⟨rs, hs, hle, hf, hsh⟩ := er_syncG fuel st hok
  refine ⟨rs, hs, hle, hf, ?_⟩
  intro r hr
  obtain ⟨hsite, he⟩ := hsh r hr
  have hsr := hsite.sync
  obtain ⟨_, hw, f1, f2, f3, f4, f5, f6, _⟩ := er_report_wellformed _ _ r hsr he
  refine ⟨hsr.ver, hsr.code, hsr.notErr, by rw [hsr.ver]; exact hw, f5, f1, f2, f3, f4, f6, ?_⟩
  exact Or.imp StreamEcho.prefix id he

/-- the same for a single `rtr_receive_pdu`: the report echoes the 8 header bytes at the front of the
    stream, so its text-length field stands at offset 20 = 12 + 8 -/
theorem receive_reports (c : Conn) (n : Net) (own : Nat) (t : Int) (hok : TapeOk n.tape) :
    ∃ rs, Sent n (receivePdu c n own t).2.2 rs ∧ rs.length ≤ 1 ∧
      ∀ r ∈ rs, (receivePdu c n own t).1 = .rc (-1) ∧ r.ver = (receivePdu c n own t).2.1.version ∧
        8 ≤ (tapeBytes n.tape).length ∧ r.enc = (tapeBytes n.tape).take 8 ∧ r.enc.getD 1 0 ≠ 10 ∧
        ((r.code = 0 ∧ (r.text = txtCorrupt ∨ r.text = txtTooBig)) ∨ (r.code = 8 ∧ r.text = [])) ∧
        WellFormedPdu r.ver r.bytes ∧ be32 r.bytes 20 = r.text.length := by
  obtain ⟨rs, hs, hle, hsh, _⟩ := er_receivePdu c n own t hok _ _ _ rfl
  refine ⟨rs, hs, hle, fun r hr => ?_⟩
  have h := hsh r hr
  have h8 := h.header
  have hecho : SyncEcho (tapeBytes n.tape) r := Or.inl (h.enc ▸ StreamEcho.head8 h8)
  obtain ⟨_, hw, _, _, f3, _⟩ := er_report_wellformed _ _ r (SiteReport.sync ⟨h.ver, h.notErr, .recv h.code⟩) hecho
  have hl8 : r.enc.length = 8 := by rw [h.enc, List.length_take]; omega
  rw [hl8] at f3
  exact ⟨h.failed, h.ver, h8, h.enc, fun h10 => h.notErr ⟨by omega, h10⟩, h.code, by rw [h.ver]; exact hw, f3⟩

/-- … and for `rtr_wait_for_sync`: at most one report, with the properties of a report of `rtr_sync`, echoing
    bytes of the stream as received -/
theorem wait_reports (st : St) (hok : TapeOk st.n.tape) :
    ∃ rs, Sent st.n (waitForSync st).2.n rs ∧ rs.length ≤ 1 ∧ (rs ≠ [] → (waitForSync st).1 = false) ∧
      ∀ r ∈ rs, SyncReport (waitForSync st).2.c r ∧ StreamEcho (tapeBytes st.n.tape) r.enc :=
  (er_waitForSync st hok).mono (fun _ h => ⟨h.1.sync, h.2⟩) id

/-- the codes the client uses are RFC 8210's -/
theorem codes_rfc : Rfc8210.errCorruptData = 0 ∧ Rfc8210.errWithdrawalOfUnknown = 6 ∧
    Rfc8210.errDuplicateAnnouncement = 7 ∧ Rfc8210.errUnexpectedVersion = 8 ∧ Rfc8210.pduErrorReport = 10 :=
  ⟨rfl, rfl, rfl, rfl, rfl⟩

/-! ## `rtr_receive_pdu`: violation ⇒ exactly this report -/

/-- Converse direction for `rtr_receive_pdu`.  A fault-free stream (any chunking) with the 8 header
    bytes and — unless the header alone is rejected — the whole announced PDU, socket not shut
    down: the call falls into class `classOf c bs`, sends exactly `classReports` of that class, and
    returns the PDU or RTR_ERROR. -/
theorem receive_violation_reported (c : Conn) (n : Net) (own : Nat) (t : Int) (hq : Quiet n.tape)
    (hs : c.state ≠ .shutdown) (h8 : 8 ≤ (tapeBytes n.tape).length)
    (hall : lenOf ((tapeBytes n.tape).take 8) ≤ (tapeBytes n.tape).length ∨
      lenOf ((tapeBytes n.tape).take 8) > Gen.RTR_MAX_PDU_LEN ∨
      (verOf ((tapeBytes n.tape).take 8) ≠ (downgrade c ((tapeBytes n.tape).take 8)).version ∧
        typeOf ((tapeBytes n.tape).take 8) ≠ 10)) :
    Sent n (receivePdu c n own t).2.2 (classReports c ((tapeBytes n.tape).take 8) (classOf c (tapeBytes n.tape))) ∧
    (receivePdu c n own t).1 =
      (match classOf c (tapeBytes n.tape) with | .delivered raw => .ok raw | _ => .rc (-1)) := by
  obtain ⟨n1, r1, hq1, htb1, _⟩ := recvAll_chunking_quiet n 8 t hq h8
  have s1 : Sent n n1 [] := by
    have := Sent.recv n 8 t
    rwa [r1] at this
  rw [receivePdu_of_header hs r1]
  generalize tapeBytes n.tape = bs at *
  -- `classOf` asks what `recvStage2` asks, in the same order (it says `downgrade` for `downgraded`)
  unfold classOf
  by_cases h1 : lenOf (bs.take 8) < 8
  · rw [recvStage2_lenSmall c n1 own h1, if_pos h1]
    exact ⟨s1.quiet_then (er_failFatal c n1 own _ txtCorrupt).1, rfl⟩
  rw [if_neg h1]
  by_cases h2 : lenOf (bs.take 8) > Gen.RTR_MAX_PDU_LEN
  · rw [recvStage2_lenBig c n1 own h2, if_pos h2]
    exact ⟨s1.quiet_then (er_failFatal c n1 own _ txtTooBig).1, rfl⟩
  rw [if_neg h2]
  by_cases h3 : verOf (bs.take 8) ≠ (downgrade c (bs.take 8)).version ∧ typeOf (bs.take 8) ≠ 10
  · rw [recvStage2_version n1 own (by omega) (by omega) h3, if_pos h3]
    exact ⟨s1.quiet_then (er_sendErrorPdu _ n1 _ 8 []), rfl⟩
  rw [recvStage2_of_passed n1 own ⟨by omega, by omega, h3⟩, if_neg h3]
  -- the payload is on the tape, so the size check decides
  have hen : lenOf (bs.take 8) - 8 ≤ (tapeBytes n1.tape).length := by
    rw [htb1, List.length_drop]
    rcases hall with h | h | h
    · omega
    · omega
    · exact absurd h h3
  obtain ⟨n2, r2, _⟩ := recvAll_chunking_quiet n1 _ Gen.RTR_RECV_TIMEOUT hq1 hen
  have s2 : Sent n1 n2 [] := by
    have := Sent.recv n1 (lenOf (bs.take 8) - 8) Gen.RTR_RECV_TIMEOUT
    rwa [r2] at this
  rw [recvStage3_of_payload (by rw [downgraded_state]; exact hs) r2, htb1, take_header_payload bs _ (by omega)]
  cases checkSize (bs.take (lenOf (bs.take 8)))
  · exact ⟨(s1.quiet_then s2).quiet_then (er_failFatal _ n2 own _ txtCorrupt).1, rfl⟩
  · exact ⟨s1.quiet_then s2, rfl⟩

/-- the table of `classReports`, spelled out for a header that is not an Error Report's -/
theorem receive_codes (c : Conn) (hdr : List Nat) (hs : c.state ≠ .shutdown) (h10 : hdr.getD 1 0 ≠ 10) :
    classReports c hdr .lenSmall = [⟨c.version, 0, hdr, txtCorrupt⟩] ∧
    classReports c hdr .lenBig = [⟨c.version, 0, hdr, txtTooBig⟩] ∧
    classReports c hdr .version = [⟨(downgrade c hdr).version, 8, hdr, []⟩] ∧
    classReports c hdr .sizeCheck = [⟨(downgrade c hdr).version, 0, hdr, txtCorrupt⟩] ∧
    (∀ raw, classReports c hdr (.delivered raw) = []) ∧ (∀ k, classReports c hdr (.noHeader k) = []) ∧
    (∀ k, classReports c hdr (.payloadFault k) = []) := by
  have hs' : (downgrade c hdr).state ≠ .shutdown := by rw [downgrade_state]; exact hs
  exact ⟨er_repOf_one _ _ _ _ (fun h => h10 h.2) hs, er_repOf_one _ _ _ _ (fun h => h10 h.2) hs,
    er_repOf_one _ _ _ _ (fun h => h10 h.2) hs', er_repOf_one _ _ _ _ (fun h => h10 h.2) hs',
    fun _ => rfl, fun _ => rfl, fun _ => rfl⟩

/-- which class a stream falls into (`classOf` unfolded) -/
theorem classOf_spec (c : Conn) (bs : List Nat) :
    (lenOf (bs.take 8) < 8 → classOf c bs = .lenSmall) ∧
    (lenOf (bs.take 8) > Gen.RTR_MAX_PDU_LEN → classOf c bs = .lenBig) ∧
    (8 ≤ lenOf (bs.take 8) → lenOf (bs.take 8) ≤ Gen.RTR_MAX_PDU_LEN →
      ((verOf (bs.take 8) ≠ (downgrade c (bs.take 8)).version ∧ typeOf (bs.take 8) ≠ 10) →
        classOf c bs = .version) ∧
      (¬ (verOf (bs.take 8) ≠ (downgrade c (bs.take 8)).version ∧ typeOf (bs.take 8) ≠ 10) →
        (¬ KnownSize (bs.take (lenOf (bs.take 8))) → classOf c bs = .sizeCheck) ∧
        (KnownSize (bs.take (lenOf (bs.take 8))) → classOf c bs = .delivered (bs.take (lenOf (bs.take 8)))))) := by
  have hm : 8 ≤ Gen.RTR_MAX_PDU_LEN := by decide
  refine ⟨fun h => by unfold classOf; rw [if_pos h], fun h => by unfold classOf; rw [if_neg (by omega), if_pos h], ?_⟩
  intro h1 h2
  refine ⟨fun h => by unfold classOf; rw [if_neg (by omega), if_neg (by omega), if_pos h], fun h => ⟨?_, ?_⟩⟩
  · intro hk
    rw [← P.checkSize_spec] at hk
    have : checkSize (bs.take (lenOf (bs.take 8))) = false := by simpa using hk
    unfold classOf; rw [if_neg (by omega), if_neg (by omega), if_neg h, this]; rfl
  · intro hk
    rw [← P.checkSize_spec] at hk
    unfold classOf; rw [if_neg (by omega), if_neg (by omega), if_neg h, hk]; rfl

/-! ## the table stage and the sync-level sites -/

/-- (`n` is bound by its ascription in the first conjunct, here and in `key_codes`: both hold for every environment.) -/
theorem pfx_codes (c : Conn) (t : Tbl) (raw : List Nat) (h8 : 8 ≤ raw.length) (h10 : raw.getD 1 0 ≠ 10)
    (hs : c.state ≠ .shutdown) :
    Sent (n : Net) (updatePfx c n t raw).2.2.1 (pfxReports c t raw) ∧
    (((pfxRecOf raw).len > maxBitsOf raw ∨ (pfxRecOf raw).maxLen > maxBitsOf raw) →
      pfxReports c t raw = [⟨c.version, 0, raw, txtBadLenPfx⟩]) ∧
    (¬ ((pfxRecOf raw).len > maxBitsOf raw ∨ (pfxRecOf raw).maxLen > maxBitsOf raw) →
      ((flagsOf raw ≠ 0 ∧ flagsOf raw ≠ 1) → pfxReports c t raw = [⟨c.version, 0, raw, txtBadFlagsPfx⟩]) ∧
      (flagsOf raw = 1 → pfxRecOf raw ∈ t.upd.pt → pfxReports c t raw = [⟨c.version, 7, raw, []⟩]) ∧
      (flagsOf raw = 0 → pfxRecOf raw ∉ t.upd.pt → pfxReports c t raw = [⟨c.version, 6, raw, []⟩]) ∧
      (flagsOf raw = 1 → pfxRecOf raw ∉ t.upd.pt → pfxReports c t raw = []) ∧
      (flagsOf raw = 0 → pfxRecOf raw ∈ t.upd.pt → pfxReports c t raw = [])) := by
  refine ⟨updatePfx_sent c n t raw, ?_⟩
  unfold pfxReports
  refine ⟨fun h => by rw [if_pos h]; exact er_repHost_one c raw 0 _ h8 h10 hs, fun hn => ?_⟩
  rw [if_neg hn]
  refine ⟨fun h => by rw [if_pos h]; exact er_repHost_one c raw 0 _ h8 h10 hs, ?_, ?_, ?_, ?_⟩
  · intro hf hm
    rw [if_neg (fun h => h.2 hf), if_pos hf]
    unfold ptAdd; rw [if_pos hm]
    exact er_repHost_one c raw 7 _ h8 h10 hs
  · intro hf hm
    rw [if_neg (fun h => h.1 hf), if_neg (by omega)]
    unfold ptRemove; rw [if_neg hm]
    exact er_repHost_one c raw 6 _ h8 h10 hs
  · intro hf hm
    rw [if_neg (fun h => h.2 hf), if_pos hf]
    unfold ptAdd; rw [if_neg hm]
  · intro hf hm
    rw [if_neg (fun h => h.1 hf), if_neg (by omega)]
    unfold ptRemove; rw [if_pos hm]

theorem key_codes (c : Conn) (t : Tbl) (raw : List Nat) (h8 : 8 ≤ raw.length) (h10 : raw.getD 1 0 ≠ 10)
    (hs : c.state ≠ .shutdown) :
    Sent (n : Net) (updateKey c n t raw).2.2.1 (keyReports c t raw) ∧
    ((flagsOf raw ≠ 0 ∧ flagsOf raw ≠ 1) → keyReports c t raw = [⟨c.version, 0, raw, txtBadFlagsKey⟩]) ∧
    (flagsOf raw = 1 → keyRecOf raw ∈ t.upd.kt → keyReports c t raw = [⟨c.version, 7, raw, []⟩]) ∧
    (flagsOf raw = 0 → keyRecOf raw ∉ t.upd.kt → keyReports c t raw = [⟨c.version, 6, raw, []⟩]) ∧
    (flagsOf raw = 1 → keyRecOf raw ∉ t.upd.kt → keyReports c t raw = []) ∧
    (flagsOf raw = 0 → keyRecOf raw ∈ t.upd.kt → keyReports c t raw = []) := by
  refine ⟨updateKey_sent c n t raw, ?_⟩
  unfold keyReports
  refine ⟨fun h => by rw [if_pos h]; exact er_repHost_one c raw 0 _ h8 h10 hs, ?_, ?_, ?_, ?_⟩
  · intro hf hm
    rw [if_neg (fun h => h.2 hf), if_pos hf]
    unfold ktAdd; rw [if_pos hm]
    exact er_repHost_one c raw 7 _ h8 h10 hs
  · intro hf hm
    rw [if_neg (fun h => h.1 hf), if_neg (by omega)]
    unfold ktRemove; rw [if_neg hm]
    exact er_repHost_one c raw 6 _ h8 h10 hs
  · intro hf hm
    rw [if_neg (fun h => h.2 hf), if_pos hf]
    unfold ktAdd; rw [if_neg hm]
  · intro hf hm
    rw [if_neg (fun h => h.1 hf), if_neg (by omega)]
    unfold ktRemove; rw [if_pos hm]

/-- the End of Data branch: the buffered PDUs are applied; a report is sent exactly when one of them
    cannot be applied — exactly one, echoing that PDU whole, with a table-stage code -/
theorem tables_violation_reported (c : Conn) (n : Net) (t : Tbl) (resetting : Bool) (v4 v6 keys : List (List Nat))
    (hg : ∀ p ∈ v4 ++ v6 ++ keys, GoodPdu p) (hs : c.state ≠ .shutdown) :
    ∃ rs, Sent n (applyTables c n t resetting v4 v6 keys).n rs ∧
      ((applyTables c n t resetting v4 v6 keys).ok = true → rs = []) ∧
      ((applyTables c n t resetting v4 v6 keys).ok = false → rs.length = 1) ∧
      ∀ r ∈ rs, ∃ p ∈ v4 ++ v6 ++ keys, TableReport c p r := by
  obtain ⟨rs, a, run⟩ := er_applyTables c n t resetting v4 v6 keys
  exact ⟨rs, a, fun h => (run.success h).1, fun h => run.failure h hg hs, run.shape⟩

/-- End of Data with a session id other than the socket's: code 0, the whole End of Data PDU echoed -/
theorem eod_session_mismatch_reported (fuel : Nat) (st : St) (v4 v6 keys : List (List Nat)) (raw : List Nat)
    (c1 : Conn) (n1 : Net)
    (hrecv : receivePdu st.c st.n st.t.own Gen.RTR_RECV_TIMEOUT = (.ok raw, c1, n1)) (hty : typeOf raw = 7)
    (hsess : be16 raw 2 ≠ st.ss.session) (h8 : 8 ≤ raw.length) (hs : c1.state ≠ .shutdown) :
    (recvAndStore (fuel + 1) st v4 v6 keys).1 = false ∧
    Sent n1 (recvAndStore (fuel + 1) st v4 v6 keys).2.1.n
      [⟨c1.version, 0, raw, txtEodSession st.ss.session (be16 raw 2)⟩] := by
  have h10 : raw.getD 1 0 ≠ 10 := by unfold typeOf at hty; omega
  unfold recvAndStore
  rw [hrecv]
  simp only [hty]
  rw [if_pos hsess]
  refine ⟨rfl, ?_⟩
  have hq := refuse_sent c1 n1 st.t.own raw (.report 0 (txtEodSession st.ss.session (be16 raw 2)) true)
  rw [Rej.reports, er_repHost_one c1 raw 0 _ h8 h10 hs] at hq
  exact hq

/-- a PDU of a type that does not belong into the answer: code 0, the 8 header bytes echoed -/
theorem unexpected_in_answer_reported (fuel : Nat) (st : St) (v4 v6 keys : List (List Nat)) (raw : List Nat)
    (c1 : Conn) (n1 : Net)
    (hrecv : receivePdu st.c st.n st.t.own Gen.RTR_RECV_TIMEOUT = (.ok raw, c1, n1))
    (hty : typeOf raw ≠ 4 ∧ typeOf raw ≠ 6 ∧ typeOf raw ≠ 9 ∧ typeOf raw ≠ 7 ∧ typeOf raw ≠ 10 ∧ typeOf raw ≠ 0)
    (hs : c1.state ≠ .shutdown) :
    (recvAndStore (fuel + 1) st v4 v6 keys).1 = false ∧
    Sent n1 (recvAndStore (fuel + 1) st v4 v6 keys).2.1.n [⟨c1.version, 0, raw.take 8, txtUnexpectedSync⟩] := by
  obtain ⟨t4, t6, t9, t7, t10, t0⟩ := hty
  unfold recvAndStore
  rw [hrecv]
  simp only
  refine ⟨rfl, ?_⟩
  have hq := er_sendErrorFromHost c1 n1 raw 8 0 txtUnexpectedSync
  rw [er_repHost_hdr c1 raw 0 _ t10 hs] at hq
  exact hq

/-- the first answer is neither Cache Response, Cache Reset nor Error Report: code 0, header echoed -/
theorem unexpected_first_reported (fuel : Nat) (st : St) (raw : List Nat) (st1 : St)
    (hfirst : syncFirst fuel st = (some raw, st1))
    (hty : typeOf raw ≠ 10 ∧ typeOf raw ≠ 8 ∧ typeOf raw ≠ 3) (hs : st1.c.state ≠ .shutdown) :
    (syncG fuel st).1 = false ∧
    Sent st1.n (syncG fuel st).2.1.n [⟨st1.c.version, 0, raw.take 8, txtUnexpectedSync2⟩] := by
  obtain ⟨t10, t8, t3⟩ := hty
  unfold syncG
  rw [hfirst]
  simp only
  refine ⟨trivial, ?_⟩
  have hq := er_sendErrorFromHost st1.c st1.n raw 8 0 txtUnexpectedSync2
  rw [er_repHost_hdr st1.c raw 0 _ t10 hs] at hq
  exact hq

/-- Cache Response with the wrong session id: code 0 and NO encapsulated PDU -/
theorem cache_response_session_reported (c : Conn) (ss : Sess) (n : Net) (own : Nat) (raw : List Nat)
    (hreq : ss.reqSession = false) (hsess : ss.session ≠ be16 raw 2) (hs : c.state ≠ .shutdown) :
    (handleCacheResponse c ss n own raw).1 = false ∧
    Sent n (handleCacheResponse c ss n own raw).2.2.2 [⟨c.version, 0, [], txtWrongSession⟩] := by
  obtain ⟨hq, hiff⟩ := er_handleCacheResponse c ss n own raw
  rw [if_pos ⟨hreq, hsess⟩, er_repOf_one c [] 0 _ (fun h => by simp at h) hs] at hq
  exact ⟨hiff.2 ⟨hreq, hsess⟩, hq⟩

/-! ## nothing in reply to an Error Report -/

/-- `rtr_receive_pdu`: the PDU at the front of the stream is an Error Report ⇒ nothing is sent,
    whatever is wrong with it -/
theorem no_report_for_error_pdu_receive (c : Conn) (n : Net) (own : Nat) (t : Int) (hok : TapeOk n.tape)
    (h10 : (tapeBytes n.tape).getD 1 0 = 10) : Sent n (receivePdu c n own t).2.2 [] := by
  obtain ⟨rs, hs, _, hsh, _⟩ := er_receivePdu c n own t hok _ _ _ rfl
  cases rs with
  | nil => exact hs
  | cons r rs =>
    have h := hsh r List.mem_cons_self
    have h8 := h.header
    exact absurd ⟨by rw [h.enc, List.length_take]; omega, by rw [h.enc, getD_take _ 8 1 (by omega)]; exact h10⟩ h.notErr

/-- an Error Report inside the answer ends the exchange without a reply -/
theorem no_report_for_error_pdu_in_answer (fuel : Nat) (st : St) (v4 v6 keys : List (List Nat)) (raw : List Nat)
    (c1 : Conn) (n1 : Net)
    (hrecv : receivePdu st.c st.n st.t.own Gen.RTR_RECV_TIMEOUT = (.ok raw, c1, n1)) (hty : typeOf raw = 10) :
    (recvAndStore (fuel + 1) st v4 v6 keys).1 = false ∧ Sent n1 (recvAndStore (fuel + 1) st v4 v6 keys).2.1.n [] := by
  unfold recvAndStore
  rw [hrecv]
  simp only [hty]
  exact ⟨rfl, er_handleErrorPdu c1 n1 st.t.own raw⟩

/-- an Error Report as the first answer to a query: handled, not answered -/
theorem no_report_for_error_pdu_first (fuel : Nat) (st : St) (raw : List Nat) (st1 : St)
    (hfirst : syncFirst fuel st = (some raw, st1)) (hty : typeOf raw = 10) :
    (syncG fuel st).1 = false ∧ Sent st1.n (syncG fuel st).2.1.n [] := by
  unfold syncG
  rw [hfirst]
  simp only [hty]
  exact ⟨trivial, er_handleErrorPdu st1.c st1.n st1.t.own raw⟩

/-- `rtr_handle_error_pdu` only changes the state -/
theorem no_report_for_error_pdu_handler (c : Conn) (n : Net) (own : Nat) (raw : List Nat) :
    Sent n (handleErrorPdu c n own raw).2 [] := er_handleErrorPdu c n own raw

/-! ## silent -/

/-- SILENT.  Waiting for a Serial Notify (`rtr_wait_for_sync`), any other PDU that passes the
    checks of `rtr_receive_pdu` makes the call fail with NO Error Report and no state change: the
    PDU is consumed and dropped. -/
theorem waitForSync_silent (st : St) (raw : List Nat) (c1 : Conn) (n1 : Net)
    (hrecv : receivePdu st.c st.n st.t.own
      (if st.ss.lastUpdate + ↑st.tm.refresh - st.n.now < 0 then (0 : Int)
        else st.ss.lastUpdate + ↑st.tm.refresh - st.n.now) = (.ok raw, c1, n1))
    (hty : typeOf raw ≠ 0) (hok : TapeOk st.n.tape) :
    (waitForSync st).1 = false ∧ (waitForSync st).2.c = c1 ∧ (waitForSync st).2.n = n1 ∧
    c1.state = st.c.state ∧ Sent st.n (waitForSync st).2.n [] := by
  obtain ⟨rs, hs, _, _, hd⟩ := er_receivePdu st.c st.n st.t.own _ hok _ c1 n1 hrecv
  -- a PDU was handed on: nothing was sent, and only the live downgrade touched the socket
  obtain ⟨rfl, hc1⟩ := hd raw rfl
  -- the timeout in `hrecv` is `waitTimeout st` written out
  have hrecv' : receivePdu st.c st.n st.t.own (waitTimeout st) = (.ok raw, c1, n1) := hrecv
  rw [waitForSync_eq, hrecv']
  exact ⟨decide_eq_false hty, rfl, rfl, by rw [hc1]; exact downgraded_state _ _, hs⟩

/-- `rtr_send_pdu` sends nothing once the socket is shut down: the report is suppressed -/
theorem shutdown_suppresses (c : Conn) (enc : List Nat) (code : Nat) (text : List Nat)
    (h : c.state = .shutdown) : repOf c enc code text = [] := by
  unfold repOf; rw [if_pos (Or.inr h)]

/-! ## non-vacuity -/

section Examples

/-- a header announcing 7 bytes; an IPv4 Prefix PDU announcing 21 bytes; an unknown type; a version-0
    PDU on a version-1 socket that has already received PDUs -/
def bsSmall : List Nat := [1, 4, 0, 0, 0, 0, 0, 7]
def bsSize : List Nat := [1, 4, 0, 0, 0, 0, 0, 21] ++ List.replicate 13 0
def bsType : List Nat := [1, 5, 0, 0, 0, 0, 0, 8]
def bsVer : List Nat := [0, 3, 0, 7, 0, 0, 0, 8]
def cSync : Conn := { state := .sync, version := 1, hasReceived := true }

example : Quiet [TapeEv.rx bsSmall] ∧ cSync.state ≠ .shutdown ∧ 8 ≤ (tapeBytes [TapeEv.rx bsSmall]).length := by decide
example : classOf cSync bsSmall = .lenSmall := by decide
example : classOf cSync bsSize = .sizeCheck ∧ classOf cSync bsType = .sizeCheck ∧ classOf cSync bsVer = .version := by
  decide
/-- the report for the 21-byte IPv4 PDU: code 0, the header echoed -/
example : ∃ txt, classReports cSync (bsSize.take 8) (classOf cSync bsSize) = [⟨1, 0, [1, 4, 0, 0, 0, 0, 0, 21], txt⟩] :=
  ⟨txtCorrupt, by
    have : classOf cSync bsSize = .sizeCheck := by decide
    rw [this]; exact (receive_codes cSync _ (by decide) (by decide)).2.2.2.1⟩

/-- a duplicate announcement: 10.0.0.0/24-24 AS 65000 is already in the table -/
def rawDup : List Nat := [1, 4, 0, 0, 0, 0, 0, 20, 1, 24, 24, 0, 10, 0, 0, 0, 0, 0, 253, 232]
def tblDup : Tbl := { pt := [⟨false, 167772160, 24, 24, 65000, 0⟩] }
example : pfxReports cSync tblDup rawDup = [⟨1, 7, rawDup, []⟩] := by decide
/-- … and a withdrawal of a record that is not there -/
example : pfxReports cSync {} ([1, 4, 0, 0, 0, 0, 0, 20, 0, 24, 24, 0, 10, 0, 0, 0, 0, 0, 253, 232]) =
    [⟨1, 6, [1, 4, 0, 0, 0, 0, 0, 20, 0, 24, 24, 0, 10, 0, 0, 0, 0, 0, 253, 232], []⟩] := by decide
/-- an Error Report is not echoed -/
example : repOf cSync [1, 10, 0, 2, 0, 0, 0, 16] 0 [] = [] := by decide

/-- the silent case: ESTABLISHED, and the cache sends a Cache Reset instead of a Serial Notify -/
def stWait : St :=
  { c := { state := .established, version := 1, hasReceived := true }, n := { tape := [.rx [1, 8, 0, 0, 0, 0, 0, 8]] } }
example : (receivePdu stWait.c stWait.n stWait.t.own
      (if stWait.ss.lastUpdate + ↑stWait.tm.refresh - stWait.n.now < 0 then (0 : Int)
        else stWait.ss.lastUpdate + ↑stWait.tm.refresh - stWait.n.now)).1 = .ok [1, 8, 0, 0, 0, 0, 0, 8] := by rfl
example : (waitForSync stWait).1 = false ∧ (waitForSync stWait).2.c.state = .established ∧
    (waitForSync stWait).2.n.sendQ = [] ∧ (waitForSync stWait).2.n.tape.length = 0 := by decide

end Examples

end Rtr.C14b
