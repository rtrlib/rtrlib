/-
  C10 — The router-key table is an exact set keyed by AS, SKI, key and source.

  "Under any history of add, remove, remove-by-source, copy and swap, lookup by (AS, SKI) returns
   exactly the stored keys with that AS and SKI and lookup by SKI alone returns exactly those with
   that SKI; duplicates are rejected and unknown removals reported, both without change.  Update
   callbacks mirror every addition and every removal, including removals by source."

  Models: RtrModel.Hashlin (tommyhashlin.c, tommy_inthash_u32), RtrModel.Spki (ht-spkitable.c with
  the fix of defect F9: spki_table_src_remove notifies).  Proof layers: RtrProofs.Hashlin*,
  RtrProofs.Spki*.  Here: the property theorems, the operation histories they quantify over
  (`HOp`, `runH`), their non-vacuity examples and the witness for defect F9 on the unfixed code.
-/
import RtrProofs.SpkiHistory
import RtrProofs.SpkiLog

namespace Rtr.C10
open Rtr Rtr.SpkiTable

/-! ## tommy_hashlin: representation invariant, for any hash values and any history -/

/-- operations of tommy_hashlin on a table whose `data` are of type `α`; the hash is an arbitrary
    argument of every call (so the statement covers every hash function) -/
inductive HOp (α : Type) where
  | insert (data : α) (hash : Nat)
  | remove (cmp : α → Bool) (hash : Nat)

def stepH {α : Type} (h : Hashlin α) : HOp α → Hashlin α
  | .insert d k => h.insert d k
  | .remove cmp k => (h.remove cmp k).1

def runH {α : Type} (h : Hashlin α) (ops : List (HOp α)) : Hashlin α := ops.foldl stepH h

theorem hashlin_inv_init {α : Type} : (Hashlin.init : Hashlin α).Inv := Hashlin.init_inv

/-- **Representation invariant of the linear hash table** (`Hashlin.Inv`, see RtrProofs.HashlinInv:
    `bucket_max = 2^bucket_bit ≥ 64`, masks = max − 1, stable (`low_max = bucket_max`, `split = 0`)
    or resizing (`bucket_max = 2·low_max`, `0 < split < low_max`), every node stored in a bucket
    `i < low_max + split` has `index key = i`, `count` = number of stored nodes) is preserved by
    insert (+ grow step), by remove (+ shrink step) and by remove_existing of a stored node, for
    ANY hash values, and therefore holds after ANY history, whatever the table size. -/
theorem hashlin_inv {α : Type} [DecidableEq α] :
    (∀ (h : Hashlin α), h.Inv → ∀ d k, (h.insert d k).Inv) ∧
    (∀ (h : Hashlin α), h.Inv → ∀ cmp k, (h.remove cmp k).1.Inv) ∧
    (∀ (h : Hashlin α), h.Inv → ∀ n, h.Mem n → (h.removeExisting n).Inv) ∧
    (∀ ops : List (HOp α), (runH Hashlin.init ops).Inv) := by
  have hins : ∀ (h : Hashlin α), h.Inv → ∀ d k, (h.insert d k).Inv :=
    fun h iv d k => (Hashlin.insert_spec h iv d k).1
  have hrem : ∀ (h : Hashlin α), h.Inv → ∀ cmp k, (h.remove cmp k).1.Inv := by
    intro h iv cmp k
    cases hs : (h.search cmp k).isSome with
    | false => rw [Hashlin.remove_none cmp k hs]; exact iv
    | true =>
      obtain ⟨_, _, _, _, hi, _⟩ := Hashlin.remove_some iv cmp k hs
      exact hi
  refine ⟨hins, hrem, fun h iv n hm => (Hashlin.removeExisting_spec iv n hm).1, ?_⟩
  intro ops
  suffices ∀ h : Hashlin α, h.Inv → (runH h ops).Inv from this _ Hashlin.init_inv
  induction ops with
  | nil => exact fun h iv => iv
  | cons op ops ih =>
    intro h iv
    apply ih
    cases op with
    | insert d k => exact hins h iv d k
    | remove cmp k => exact hrem h iv cmp k

/-- what the invariant says, spelled out (so that the statement above can be read without the
    proof library) -/
theorem hashlin_inv_unfold {α : Type} (h : Hashlin α) (iv : h.Inv) :
    h.bucketMax = 2 ^ h.bucketBit ∧ hashlinBit ≤ h.bucketBit ∧
    h.bucketMask = h.bucketMax - 1 ∧ h.lowMask = h.lowMax - 1 ∧
    ((h.state = .stable ∧ h.lowMax = h.bucketMax ∧ h.split = 0) ∨
     (h.state ≠ .stable ∧ h.bucketMax = 2 * h.lowMax ∧ 0 < h.split ∧ h.split < h.lowMax)) ∧
    (∀ i, i < h.lowMax + h.split → ∀ n, n ∈ h.bucket i →
      (if n.key % h.lowMax < h.split then n.key % (2 * h.lowMax) else n.key % h.lowMax) = i) ∧
    (∀ key, h.bucketPos key = (if key % h.lowMax < h.split then key % (2 * h.lowMax) else key % h.lowMax) ∧
      h.bucketPos key < h.lowMax + h.split) ∧
    h.count = sumB List.length h.bucket (h.lowMax + h.split) := by
  refine ⟨iv.max_eq, iv.bit_ge, iv.mask_eq, iv.lowmask_eq, ?_, iv.filed, fun key => ?_, iv.count_eq⟩
  · rcases iv.shape with h1 | ⟨a, _, b, c, d⟩
    · exact Or.inl h1
    · exact Or.inr ⟨a, b, c, d⟩
  · have := Hashlin.bucketPos_eq_index iv.toWf.num key
    exact ⟨this, by rw [this]; exact Hashlin.index_lt_valid iv.toWf.num key⟩

/-- **`tommy_hashlin_search` / the bucket walk finds exactly the stored nodes** with that hash on
    which the compare function returns 0; what it returns is the data of such a node -/
theorem search_iff_mem {α : Type} (h : Hashlin α) (iv : h.Inv) (cmp : α → Bool) (hash : Nat) :
    ((h.search cmp hash).isSome ↔ ∃ x, h.Mem x ∧ x.key = hash ∧ cmp x.data = true) ∧
    (∀ d, h.search cmp hash = some d → h.Mem ⟨hash, d⟩ ∧ cmp d = true) ∧
    (∀ x, h.Mem x ↔ x ∈ h.bucketOf x.key) :=
  ⟨Hashlin.search_isSome_iff iv.toWf cmp hash, fun d => Hashlin.search_some iv.toWf cmp hash d,
   fun x => Hashlin.mem_iff_in_bucket iv.toWf x⟩

-- non-vacuity: forty inserts whose hashes all collide modulo 64 leave the table in the middle of a
-- grow (split 16 of 64); removing down to 12 reverses it into a shrink; both states satisfy Inv.
-- Concrete runs are evaluated by the kernel (`decide +kernel`): the elaborator's evaluation of
-- the `Decidable` instance exceeds its recursion limit on histories of this length.
def demoOps : List (HOp Nat) := (List.range 40).map fun i => .insert i (5 + 64 * i)
def demoOps2 : List (HOp Nat) :=
  demoOps ++ (List.range 28).map fun i => .remove (fun d => d == i) (5 + 64 * i)

example : (runH Hashlin.init demoOps).Inv ∧ (runH Hashlin.init demoOps).state = .grow ∧
    (runH Hashlin.init demoOps).split = 16 ∧ (runH Hashlin.init demoOps).count = 40 ∧
    ((runH Hashlin.init demoOps).bucket 5).length = 20 ∧ ((runH Hashlin.init demoOps).bucket 69).length = 20 :=
  ⟨hashlin_inv.2.2.2 demoOps, by decide +kernel⟩

example : (runH Hashlin.init demoOps2).Inv ∧ (runH Hashlin.init demoOps2).state = .shrink ∧
    (runH Hashlin.init demoOps2).count = 12 ∧ 0 < (runH Hashlin.init demoOps2).split :=
  ⟨hashlin_inv.2.2.2 demoOps2, by decide +kernel⟩

example : ((runH Hashlin.init demoOps).search (fun d => d == 7) (5 + 64 * 7)) = some 7 := by decide +kernel

/-! ## the router-key table refines a finite set of records -/

theorem sinv_init (cb : Bool) : SInv (SpkiTable.init cb) := SpkiTable.sinv_init cb

/-- **hash table and list hold the same entries**: a node is stored in the hash table exactly if
    its entry is in the list and it is filed under `tommy_inthash_u32(asn)`; every entry occurs once
    in either container -/
theorem list_hash_same_elems (T : SpkiTable) (iv : SInv T) :
    (∀ x : HNode SpkiRec, T.ht.Mem x ↔ x.key = inthash x.data.asn ∧ x.data ∈ T.list) ∧
    (∀ r, r ∈ T.list → T.ht.mult (spkiNode r) = 1 ∧ T.list.count r = 1) ∧ T.list.Nodup ∧
    T.ht.count = T.list.length := by
  refine ⟨fun x => mem_node iv x, fun r hr => ?_, iv.nodup, ?_⟩
  · have h1 : T.list.count r = 1 := by rw [iv.nodup.count]; simp [hr]
    refine ⟨?_, h1⟩
    rw [iv.same (spkiNode r)]; simp [spkiNode, h1]
  · exact ht_count_eq_length T iv

/-- **add**: a stored record is rejected as duplicate without any change; a new record is stored
    (success), appended to the list, and the invariant is kept -/
theorem add_refines (T : SpkiTable) (iv : SInv T) (r : SpkiRec) :
    (r ∈ T.list → T.add r = (T, .duplicate)) ∧
    (r ∉ T.list → (T.add r).2 = .success ∧ SInv (T.add r).1 ∧
      ∀ x, x ∈ (T.add r).1.list ↔ (x ∈ T.list ∨ x = r)) := by
  refine ⟨add_dup iv r, fun hr => ?_⟩
  have a := add_new_spec iv r hr
  exact ⟨a.rc, a.sinv, fun x => by rw [a.list]; simp⟩

/-- **remove**: an unknown record is reported as not found without any change; a stored record
    is removed (success) and the invariant is kept -/
theorem remove_refines (T : SpkiTable) (iv : SInv T) (r : SpkiRec) :
    (r ∉ T.list → T.remove r = (T, .notFound)) ∧
    (r ∈ T.list → (T.remove r).2 = .success ∧ SInv (T.remove r).1 ∧
      ∀ x, x ∈ (T.remove r).1.list ↔ (x ∈ T.list ∧ x ≠ r)) := by
  refine ⟨remove_absent iv r, fun hr => ?_⟩
  have a := remove_present_spec iv r hr
  exact ⟨a.rc, a.sinv, fun x => by rw [a.list, iv.nodup.mem_erase_iff]; exact and_comm⟩

/-- **remove by source**: exactly the records of that source disappear -/
theorem srcRemove_refines (T : SpkiTable) (iv : SInv T) (src : Nat) :
    (T.srcRemove src).2 = .success ∧ SInv (T.srcRemove src).1 ∧
    ∀ x, x ∈ (T.srcRemove src).1.list ↔ (x ∈ T.list ∧ x.src ≠ src) := by
  have a := srcRemove_spec iv src
  exact ⟨a.rc, a.sinv, a.mem⟩

/-- **`spki_table_get_all` returns exactly the stored keys with that AS and SKI** (as a multiset:
    each of them once, nothing else) -/
theorem getAll_spec (T : SpkiTable) (iv : SInv T) (asn ski : Nat) :
    (∀ x, x ∈ T.getAll asn ski ↔ (x ∈ T.list ∧ x.asn = asn ∧ x.ski = ski)) ∧ (T.getAll asn ski).Nodup := by
  have hc := getAll_count iv asn ski
  constructor
  · intro x
    rw [← List.count_pos_iff, hc x]
    split
    · rename_i h; rw [List.count_pos_iff]; simp [h]
    · rename_i h; simp; intro _ h1 h2; exact h ⟨h1, h2⟩
  · rw [List.nodup_iff_count]
    intro x
    rw [hc x]
    split
    · exact List.nodup_iff_count.mp iv.nodup x
    · omega

/-- **`spki_table_search_by_ski` returns exactly the stored keys with that SKI** -/
theorem searchBySki_spec (T : SpkiTable) (iv : SInv T) (ski : Nat) :
    (∀ x, x ∈ T.searchBySki ski ↔ (x ∈ T.list ∧ x.ski = ski)) ∧ (T.searchBySki ski).Nodup := by
  constructor
  · intro x; simp [searchBySki, List.mem_filter]
  · exact iv.nodup.sublist List.filter_sublist

/-- **copy except a source**: if none of the copied records is already in the target the copy
    succeeds and the target gains exactly the records of the other sources; otherwise it stops
    with SPKI_ERROR and the target is somewhere between its old contents and the full copy -/
theorem copyExcept_refines (S D : SpkiTable) (is : SInv S) (id : SInv D) (src : Nat) :
    SInv (copyExcept S D src).1 ∧
    (((∀ x, x ∈ S.list → x.src ≠ src → x ∉ D.list) ∧ (copyExcept S D src).2 = .success ∧
        ∀ x, x ∈ (copyExcept S D src).1.list ↔ (x ∈ D.list ∨ (x ∈ S.list ∧ x.src ≠ src))) ∨
     ((∃ x, x ∈ S.list ∧ x.src ≠ src ∧ x ∈ D.list) ∧ (copyExcept S D src).2 = .error ∧
        (∀ x, x ∈ D.list → x ∈ (copyExcept S D src).1.list) ∧
        (∀ x, x ∈ (copyExcept S D src).1.list → (x ∈ D.list ∨ (x ∈ S.list ∧ x.src ≠ src))))) := by
  have c := copyLoop_spec src S.list D id is.nodup
  refine ⟨c.sinv, c.out.imp (fun g => ⟨g.fresh, g.rc, fun x => ?_⟩) fun g => ⟨g.clash, g.rc, g.keeps, g.gained⟩⟩
  show x ∈ (copyLoop src S.list D).1.list ↔ _
  rw [g.list]
  simp [List.mem_filter]

/-- **swap** exchanges the contents (and keeps both invariants); callbacks stay with the tables -/
theorem swap_refines (A B : SpkiTable) (ia : SInv A) (ib : SInv B) :
    SInv (swap A B).1 ∧ SInv (swap A B).2 ∧ (swap A B).1.list = B.list ∧ (swap A B).2.list = A.list ∧
    (swap A B).1.hasCb = A.hasCb ∧ (swap A B).2.hasCb = B.hasCb ∧
    (swap A B).1.log = A.log ∧ (swap A B).2.log = B.log :=
  ⟨(sinv_swap ia ib).1, (sinv_swap ia ib).2, rfl, rfl, rfl, rfl, rfl, rfl⟩

/-- **notify_diff(new, old, src)** leaves `new` unchanged and removes from `old` the records of
    `src` that `new` also holds -/
theorem notifyDiff_refines (N O : SpkiTable) (inn : SInv N) (io : SInv O) (src : Nat) :
    SInv (notifyDiff N O src).1 ∧ SInv (notifyDiff N O src).2 ∧ (notifyDiff N O src).1.list = N.list ∧
    ∀ x, x ∈ (notifyDiff N O src).2.list ↔ (x ∈ O.list ∧ ¬ (x ∈ N.list ∧ x.src = src)) := by
  have d := notifyDiff_spec N O inn io src
  exact ⟨d.sinvN, d.sinvO, d.list, d.memO⟩

/-- **history_refines**: for every finite sequence of operations on a pair of tables (add, remove,
    remove-by-source, copy-except, swap, notify_diff, free) the abstract contents follow the set
    semantics `specStep` step by step, the return codes are those of the set semantics, and both
    tables keep their representation invariant — whatever the table sizes reached on the way -/
theorem history_refines (ops : List SpkiOp) :
    let S0 : Bool → SpkiTable := fun t => SpkiTable.init (!t)
    SpecRun (fun _ _ => False) ops (runOps S0 ops).2 (absT (runOps S0 ops).1) ∧
    (∀ t, SInv ((runOps S0 ops).1 t)) ∧ (runOps S0 ops).2.length = ops.length := by
  intro S0
  have h0 : ∀ t, SInv (S0 t) := fun t => SpkiTable.sinv_init _
  obtain ⟨h1, h2⟩ := runOps_refines S0 h0 ops
  refine ⟨?_, h2, ?_⟩
  · have e : absT S0 = fun _ _ => False := by
      funext t x; simp [absT, S0, SpkiTable.init]
    rw [← e]; exact h1
  · clear h1 h2 h0
    generalize S0 = S
    induction ops generalizing S with
    | nil => rfl
    | cons op ops ih => simp [runOps, ih]

-- non-vacuity: a concrete history with a duplicate, an unknown removal, a lookup with two answers
-- from different sources, a removal by source, a failing and a succeeding copy
def k1 : SpkiRec := ⟨65001, 0xaa, 0xbb, 1⟩
def k2 : SpkiRec := ⟨65001, 0xaa, 0xbb, 2⟩
def k3 : SpkiRec := ⟨1, 0xaa, 0xcc, 1⟩
def demoHist : List SpkiOp :=
  [.add false k1, .add false k1, .add false k2, .add false k3, .remove false ⟨2, 0, 0, 1⟩,
   .add true k2, .copyExcept false 1, .free true, .copyExcept false 1, .srcRemove false 1, .swap]

example : (runOps (fun t => SpkiTable.init (!t)) demoHist).2 =
    [.success, .duplicate, .success, .success, .notFound, .success, .error, .success, .success, .success,
     .success] := by decide +kernel

example : ((runOps (fun t => SpkiTable.init (!t)) (demoHist.take 4)).1 false).getAll 65001 0xaa = [k1, k2] ∧
    ((runOps (fun t => SpkiTable.init (!t)) (demoHist.take 4)).1 false).searchBySki 0xaa = [k1, k2, k3] ∧
    ((runOps (fun t => SpkiTable.init (!t)) demoHist).1 true).list = [k2] := by
  decide +kernel

-- non-vacuity of the single-operation theorems: a concrete table meeting their hypotheses
-- (invariant, a stored record, an unknown record, two sources under one (AS, SKI))
def demoT : SpkiTable := (runOps (fun t => SpkiTable.init (!t)) (demoHist.take 4)).1 false

example : SInv demoT ∧ k1 ∈ demoT.list ∧ (⟨2, 0, 0, 1⟩ : SpkiRec) ∉ demoT.list ∧ demoT.list.length = 3 ∧
    demoT.ht.count = 3 ∧ (demoT.add k1).2 = .duplicate ∧ (demoT.remove ⟨2, 0, 0, 1⟩).2 = .notFound ∧
    ((demoT.srcRemove 1).1.list = [k2]) ∧ (copyExcept demoT (SpkiTable.init false) 2).1.list = [k1, k3] :=
  ⟨(history_refines (demoHist.take 4)).2.1 false, by decide +kernel⟩

/-! ## the callback stream is an exact change log -/

/-- **spki_log_replays**: after every history of additions, removals, removals by source and full
    reloads (shadow copy, updates, swap, notify_diff) on a table with a callback, replaying the
    stream of `update_fp` invocations yields exactly the table's contents -/
theorem spki_log_replays (ops : List LogOp) :
    ∀ x, replayFrom emptySet (runLog (SpkiTable.init true) ops).log x ↔ x ∈ (runLog (SpkiTable.init true) ops).list :=
  (runLog_linv _ linv_init ops).replays

/-- **spki_log_exact**: no event of that stream is spurious or repeated — every reported addition
    concerns a record that was absent, every reported removal one that was present -/
theorem spki_log_exact (ops : List LogOp) : ExactFrom emptySet (runLog (SpkiTable.init true) ops).log :=
  (runLog_linv _ linv_init ops).exact

/-- the log after a single operation, explicitly: add and remove report the record, remove-by-source
    reports every record of that source (this is what defect F9 violated) -/
theorem spki_log_steps (T : SpkiTable) (iv : SInv T) (hcb : T.hasCb = true) :
    (∀ r, r ∉ T.list → (T.add r).1.log = T.log ++ [(true, r)]) ∧
    (∀ r, r ∈ T.list → (T.remove r).1.log = T.log ++ [(false, r)]) ∧
    (∀ r, r ∈ T.list → (T.add r).1.log = T.log) ∧ (∀ r, r ∉ T.list → (T.remove r).1.log = T.log) ∧
    (∀ src, (T.srcRemove src).1.log = T.log ++ (T.list.filter fun e => e.src == src).map fun e => (false, e)) := by
  refine ⟨fun r hr => ?_, fun r hr => ?_, fun r hr => ?_, fun r hr => ?_, fun src => ?_⟩
  · have := (add_new_spec iv r hr).log; rw [hcb] at this; simpa using this
  · have := (remove_present_spec iv r hr).log; rw [hcb] at this; simpa using this
  · rw [add_dup iv r hr]
  · rw [remove_absent iv r hr]
  · have := (srcRemove_spec iv src).log; rw [hcb] at this; simpa using this

/-- **notifyDiff_net**: `spki_table_notify_diff(new, old, src)` reports exactly the records of `src`
    in new \ old as added and those in old \ new as removed, each once -/
theorem notifyDiff_net (N O : SpkiTable) (inn : SInv N) (io : SInv O) (src : Nat) (hcb : N.hasCb = true) :
    ∃ AL RL : List SpkiRec, AL.Nodup ∧ RL.Nodup ∧
      (∀ x, x ∈ AL ↔ (x ∈ N.list ∧ x.src = src ∧ x ∉ O.list)) ∧
      (∀ x, x ∈ RL ↔ (x ∈ O.list ∧ x.src = src ∧ x ∉ N.list)) ∧
      (notifyDiff N O src).1.log = N.log ++ AL.map (fun e => (true, e)) ++ RL.map (fun e => (false, e)) := by
  obtain ⟨RL, r1, r2, r3⟩ := (notifyDiff_spec N O inn io src).log
  refine ⟨N.list.filter fun e => e.src == src && !decide (e ∈ O.list), RL,
    inn.nodup.sublist List.filter_sublist, r1, fun x => by simp [List.mem_filter], r2, ?_⟩
  rw [r3, hcb]; simp

-- non-vacuity: a history with a removal by source and a reload; the log is non-trivial
def demoLog : List LogOp :=
  [.add k1, .add k2, .add k3, .add k1, .srcRemove 1, .add k1,
   .reload 2 [(true, ⟨7, 1, 2, 0⟩), (true, k2), (false, k2), (true, ⟨8, 1, 2, 0⟩)]]

example : (runLog (SpkiTable.init true) demoLog).log =
    [(true, k1), (true, k2), (true, k3), (false, k1), (false, k3), (true, k1),
     (true, ⟨7, 1, 2, 2⟩), (true, ⟨8, 1, 2, 2⟩), (false, k2)] ∧
    (runLog (SpkiTable.init true) demoLog).list = [k1, ⟨7, 1, 2, 2⟩, ⟨8, 1, 2, 2⟩] := by
  decide +kernel

/-! ## defect F9 on the unfixed tree, as a kernel-checked witness

The code before the fix ran the same loop without the notification.  On the witness
"add two keys of source 1, remove source 1" its callback stream replays to both keys while the
table is empty: the property is false of that code.  (corpus/spki/F9_srcremove_no_callback.ops
replays the witness on the implementation.) -/

/-- `spki_table_src_remove` as it was before the fix: no `spki_table_notify_clients` call -/
def srcRemoveLoopUnfixed (src : Nat) : List SpkiRec → SpkiTable → SpkiTable
  | [], T => T
  | e :: rest, T =>
    if e.src == src then
      srcRemoveLoopUnfixed src rest { T with list := T.list.erase e, ht := T.ht.removeExisting (spkiNode e) }
    else srcRemoveLoopUnfixed src rest T

def f9Witness : SpkiTable :=
  let T := ((SpkiTable.init true).add k1).1
  let T := (T.add k3).1
  srcRemoveLoopUnfixed 1 T.list T

theorem F9_unfixed_violates :
    f9Witness.list = [] ∧ f9Witness.log = [(true, k1), (true, k3)] ∧
    ¬ (∀ x, replayFrom emptySet f9Witness.log x ↔ x ∈ f9Witness.list) := by
  obtain ⟨h1, h2⟩ : f9Witness.list = [] ∧ f9Witness.log = [(true, k1), (true, k3)] := by decide +kernel
  refine ⟨h1, h2, fun h => ?_⟩
  have := (h k1).mp (by rw [h2]; simp [replayFrom, applyEv])
  rw [h1] at this; simp at this

/-! ## the comparison function alone keeps records apart, whatever the hash does

The table is exact because of TWO facts: nodes are filed under a hash, and `key_entry_cmp` answers 0
only for the same (AS, SKI, key, source).  The theorems above hold for every hash value a record
might be filed under (`search_iff_mem` quantifies over `hash` and over the compare function), so the
second fact must not lean on the first: two records that differ in the AS number only are different
entries even when their hashes agree in all 32 bits.  (harness: `cmp` calls the static
`key_entry_cmp` directly, `fadd/fget/frm` drive the real tommy_hashlin under a CHOSEN hash.) -/

/-- `key_entry_cmp(arg, obj) == 0` exactly when the two entries agree in all four fields -/
theorem cmp_iff_eq (a b : SpkiRec) :
    SpkiTable.cmp a b = true ↔ (b.asn = a.asn ∧ b.ski = a.ski ∧ b.spki = a.spki ∧ b.src = a.src) := by
  cases a
  cases b
  rw [SpkiTable.cmp, beq_iff_eq, SpkiRec.mk.injEq]

/-- Under ANY hash value — in particular one shared by other records (a full collision) — the search
    with `key_entry_cmp` finds a record iff exactly that record is stored under that hash, and what
    it returns is that record: neighbours in the chain that differ in one field are never taken for it. -/
theorem collision_kept_apart (h : Hashlin SpkiRec) (iv : h.Inv) (r : SpkiRec) (hash : Nat) :
    ((h.search (SpkiTable.cmp r) hash).isSome ↔ h.Mem ⟨hash, r⟩) ∧
    (∀ d, h.search (SpkiTable.cmp r) hash = some d → d = r) := by
  have hs := search_iff_mem h iv (SpkiTable.cmp r) hash
  constructor
  · rw [hs.1]
    constructor
    · rintro ⟨x, hm, hk, hc⟩
      have hd : x.data = r := by simpa [SpkiTable.cmp] using hc
      cases x
      simp only at hk hd
      subst hk; subst hd
      exact hm
    · intro hm
      exact ⟨⟨hash, r⟩, hm, rfl, by simp [SpkiTable.cmp]⟩
  · intro d hd
    have := (hs.2.1 d hd).2
    simpa [SpkiTable.cmp] using this

/-- two records that differ in the AS number only, filed under one and the same hash: both stored,
    each found as itself, the absent third one (again differing in the AS only) not found, and
    removing the absent one removes nothing -/
example :
    let a : SpkiRec := ⟨65001, 0xaa, 0xbb, 1⟩
    let b : SpkiRec := ⟨65002, 0xaa, 0xbb, 1⟩
    let c : SpkiRec := ⟨65003, 0xaa, 0xbb, 1⟩
    let h := ((Hashlin.init : Hashlin SpkiRec).insert a 77).insert b 77
    h.search (SpkiTable.cmp a) 77 = some a ∧ h.search (SpkiTable.cmp b) 77 = some b ∧
    h.search (SpkiTable.cmp c) 77 = none ∧ (h.remove (SpkiTable.cmp c) 77).2 = none ∧
    (SpkiTable.cmp a b = false) := by decide +kernel

end Rtr.C10
