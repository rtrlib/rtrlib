/-
  C03 — A cache response is applied completely or not at all.

  Model: `Rtr.P.syncG` (rtr_sync: first PDU, Cache Response handling,
  rtr_sync_receive_and_store_pdus with buffering, interval handling, shadow tables, the three apply
  loops, the forward-order undo loops, purge, cleanup) over the abstract tables justified by C02/C10.
  Quantifier: every socket state, every pair of duplicate-free tables (records of this socket and of
  any other sockets), every transport script (any bytes in any segmentation, any placement of
  transport errors, timeouts, closes) — `syncG fuel st` for arbitrary `st`.

  "Records attributed to that cache" = the records with `src = 0`; `OthersSame` = records learned
  from other caches are never altered.
-/
import RtrProofs.SyncAtomic

namespace Rtr.C03
open Rtr Rtr.P

/-- **C03, success**: when `rtr_sync` returns success, the Cache Response `cr` was followed by
    buffered Prefix / Router Key PDUs and an End of Data `b.eod` such that the tables are the
    result of applying every buffered PDU in order (IPv4, IPv6, router keys) to the previous tables
    (incremental update) or to the tables without this cache's records (reset), every PDU was
    acceptable, the stored serial is the one of the End of Data, the session is the one both PDUs
    carry, no new session is requested, and the update time is now. -/
theorem sync_success (fuel : Nat) (st : St) (ht : TblOK st.t) (h : (syncG fuel st).1 = true) :
    ∃ cr b, (syncG fuel st).2.2 = some (cr, b) ∧
      (st.ss.reqSession = false → be16 cr 2 = st.ss.session) ∧
      be16 cr 2 = (syncG fuel st).2.1.ss.session ∧ be16 b.eod 2 = (syncG fuel st).2.1.ss.session ∧
      lsApplyAll (baseOf st.t (resettingAfter st.ss)).pt ((b.v4 ++ b.v6).map pfxOp) = some (syncG fuel st).2.1.t.pt ∧
      lsApplyAll (baseOf st.t (resettingAfter st.ss)).kt (b.keys.map keyOp) = some (syncG fuel st).2.1.t.kt ∧
      (∀ p ∈ b.v4 ++ b.v6, pfxOK p) ∧ (∀ p ∈ b.keys, keyOK p) ∧
      (syncG fuel st).2.1.ss.serial = be32 b.eod 8 ∧ (syncG fuel st).2.1.ss.reqSession = false ∧
      (syncG fuel st).2.1.ss.lastUpdate = (syncG fuel st).2.1.n.now :=
  (syncG_spec fuel st ht).success h

/-- **C03, failure**: when `rtr_sync` fails at any point — malformed or unexpected PDU, duplicate
    announcement, withdrawal of an unknown record, invalid flags or lengths, session mismatch,
    transport error, timeout, close — either the tables hold exactly the records from before and the
    next query is the one that would have been sent before (same session and serial, or again a
    Reset Query), or all of this cache's records are gone and the next query is a Reset Query. -/
theorem sync_failure (fuel : Nat) (st : St) (ht : TblOK st.t) (h : (syncG fuel st).1 = false) :
    (TblSame st.t (syncG fuel st).2.1.t ∧ nextQuery (syncG fuel st).2.1.ss = nextQuery st.ss) ∨
    (NoOwn (syncG fuel st).2.1.t ∧ nextQuery (syncG fuel st).2.1.ss = none) := by
  rcases ((syncG_spec fuel st ht).failure h).2 with h1 | ⟨h1, h2⟩
  · exact Or.inl h1
  · exact Or.inr ⟨h1, by simp [nextQuery, h2]⟩

/-- **C03, other caches**: whatever happens, the records learned from other caches are untouched,
    and the tables stay duplicate-free with no shadow table left behind. -/
theorem others_untouched (fuel : Nat) (st : St) (ht : TblOK st.t) :
    OthersSame st.t (syncG fuel st).2.1.t ∧ TblOK (syncG fuel st).2.1.t :=
  ⟨(syncG_spec fuel st ht).others, (syncG_spec fuel st ht).tblok⟩

/-- the key lemma behind the rollback: a forward-order undo that succeeds at every step restores -/
theorem forward_undo {α : Type} [DecidableEq α] (ops : List (Bool × α)) (t t' t'' : List α) (hn : t.Nodup)
    (ha : lsApplyAll t ops = some t') (hu : lsUndoAll t' ops = some t'') : SameSet t'' t :=
  (ls_forward_undo ops t t' t'' hn ha hu).2

/-- reading of a successful in-order application as a set: a record is present afterwards iff the
    last PDU naming it announced it, or no PDU named it and it was present before
    (= previous + announcements − withdrawals, every PDU having been a real change) -/
theorem applied_membership {α : Type} [DecidableEq α] (ops : List (Bool × α)) (t t' : List α) (hn : t.Nodup)
    (ha : lsApplyAll t ops = some t') (x : α) :
    (x ∈ t') ↔ ((Undo.flagsOf x ops).getLast?.getD (decide (x ∈ t)) = true) := by
  obtain ⟨_, a⟩ := lsApplyAll_abs ops t t' hn ha
  have := Undo.applyB_last _ _ _ (Undo.applyAll_proj x ops (memF t) (memF t') a)
  simp only [memF] at this
  rw [this]
  simp

/-! ### non-vacuity -/

/-- the empty tables satisfy the hypothesis -/
example : TblOK ({} : Tbl) := ⟨rfl, List.nodup_nil, List.nodup_nil⟩

def pB : List Nat := [1, 4, 0, 0, 0, 0, 0, 20, 1, 8, 8, 0, 11, 0, 0, 0, 0, 0, 253, 234]      -- announce 11.0.0.0/8 AS 65002
def pBw : List Nat := [1, 4, 0, 0, 0, 0, 0, 20, 0, 8, 8, 0, 11, 0, 0, 0, 0, 0, 253, 234]     -- withdraw it
def pC : List Nat := [1, 4, 0, 0, 0, 0, 0, 20, 1, 8, 8, 0, 12, 0, 0, 0, 0, 0, 253, 235]      -- announce 12.0.0.0/8
def pDw : List Nat := [1, 4, 0, 0, 0, 0, 0, 20, 0, 8, 8, 0, 13, 0, 0, 0, 0, 0, 253, 236]     -- withdraw unknown 13.0.0.0/8

/-- the history of finding F3 (DESIGN.md §6): announce B, withdraw B, announce C, withdraw unknown D.  The forward undo fails
    at its first step (B is no longer there), so the records are purged — C does not stay. -/
example : (applyTablesU ⟨[], []⟩ [pB, pBw, pC, pDw] [] []).ok = false ∧
    (applyTablesU ⟨[], []⟩ [pB, pBw, pC, pDw] [] []).undone = false := by decide

/-- a failure whose undo restores: announce B, then withdraw unknown D -/
example : (applyTablesU ⟨[], []⟩ [pB, pDw] [] []).ok = false ∧
    (applyTablesU ⟨[], []⟩ [pB, pDw] [] []).undone = true ∧ (applyTablesU ⟨[], []⟩ [pB, pDw] [] []).u.pt = [] := by decide

example : (applyTablesU ⟨[], []⟩ [pB, pC] [] []).ok = true ∧
    ((applyTablesU ⟨[], []⟩ [pB, pC] [] []).u.pt.map (·.addr)) = [0x0c000000, 0x0b000000] := by decide

end Rtr.C03
