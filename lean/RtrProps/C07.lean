/-
  C07 — Data that can no longer be refreshed expires; stopping a socket removes its data.

  Model: `Rtr.P.fsmStep` (one iteration of rtr_fsm_start, incl. rtr_purge_outdated_records before
  every open() and after the no-data / no-incremental errors), `syncG` (rtr_sync), `stop`
  (rtr_stop after the thread has ended), over the abstract tables justified by C02/C10; the clock is
  the monotone `now` of the transport script (`dt:n` entries, sleeps, timeouts).
  `ss.lastUpdate` is `rtr_socket.last_update`: `last_update_written` shows it is exactly "time of
  the last successful synchronisation, 0 after a purge", for every history.
  Quantifier: every state of socket and tables that satisfies the invariant (a freshly initialised
  socket does), every transport script (all fault patterns, all lengths of unreachability), every
  interval setting (`tm.expire` is an arbitrary natural number).
-/
import RtrProofs.Expiry

namespace Rtr.C07
open Rtr Rtr.P

/-- **the time stamp means what the property says**: one iteration of the state machine either
    leaves `last_update` alone (and the socket's records are the same set, or gone), or clears it
    together with a purge of the socket's records and a pending Reset Query, or — the iteration
    was a successful `rtr_sync` — sets it to the time at which that synchronisation completed.
    In particular a failed or interrupted reload does not touch it (the C code did until it was repaired:
    finding F7 of DESIGN.md §6). -/
theorem last_update_written (fuel : Nat) (st st' : St) (h : fsmStep fuel st = some st') (ht : TblOK st.t) :
    (st'.ss.lastUpdate = st.ss.lastUpdate ∧ (TblSame st.t st'.t ∨ NoOwn st'.t)) ∨
    (st'.ss.lastUpdate = 0 ∧ NoOwn st'.t ∧ st'.ss.reqSession = true) ∨
    (st.c.state = .sync ∧ (syncG fuel st).1 = true ∧ st'.ss.lastUpdate = (syncG fuel st).2.1.n.now) := by
  have same : ∀ {a : St}, a.ss.lastUpdate = st.ss.lastUpdate → a.t = st.t → Purged a st' →
      (st'.ss.lastUpdate = st.ss.lastUpdate ∧ (TblSame st.t st'.t ∨ NoOwn st'.t)) ∨
      (st'.ss.lastUpdate = 0 ∧ NoOwn st'.t ∧ st'.ss.reqSession = true) := by
    intro a hl hat p
    rcases p.elim with ⟨e1, e2⟩ | ⟨hn, _, _, hr, hl0⟩
    · refine Or.inl ⟨by rw [e1, hl], Or.inl ?_⟩
      rw [e2, hat]
      exact TblSame.refl _
    · exact Or.inr ⟨hl0, hn, hr⟩
  rcases fsmStep_data fuel st st' h with p | ⟨_, p⟩ | ⟨hs, e⟩
  · exact (same (a := st) rfl rfl p).elim Or.inl fun x => Or.inr (Or.inl x)
  · exact (same (a := requestReset st) rfl rfl p).elim Or.inl fun x => Or.inr (Or.inl x)
  · rw [e.1, e.2.1]
    cases hok : (syncG fuel st).1
    · obtain ⟨hl, hc⟩ := (syncG_spec fuel st ht).failure hok
      exact Or.inl ⟨hl, hc.elim (fun x => Or.inl x.1) fun x => Or.inr x.1⟩
    · exact Or.inr (Or.inr ⟨hs, rfl, (syncG_spec fuel st ht).stamp hok⟩)

/-- **invariant over all histories**: in every state reachable from one that satisfies it, a socket
    that has records in the tables has a non-zero time stamp, a socket without a time stamp will
    ask with a Reset Query, and the clock is positive. -/
theorem invariant (fuel : Nat) {st st' : St} (h : Reach fuel st st') (ht : TblOK st.t) (hi : Inv7 st) : Inv7 st' :=
  reach_inv7 fuel h ht hi

/-- a freshly initialised socket (rtr_init: no time stamp, session requested) on tables that hold
    nothing of it satisfies the invariant whenever the clock reads a positive value -/
theorem invariant_init (st : St) (_h0 : st.ss.lastUpdate = 0) (hr : st.ss.reqSession = true) (hn : NoOwn st.t)
    (hc : 0 < st.n.now) : Inv7 st :=
  ⟨fun h => absurd hn h, fun _ => hr, hc⟩

/-- the state in which `rtr_fsm_start` calls the transport's open(): after the purge check -/
def atOpen (st : St) : St := purgeOutdated (clearReceived st)

/-- **expiry at (re)connection**: in the connecting state, when more than `expire_interval` has
    passed since the last successful synchronisation (`last_update + expire < now`; with no such
    synchronisation the invariant already says there is nothing to remove), then at the moment the
    transport's open() is called the tables hold no record of this socket, the records of other
    sockets are untouched, and — if open() succeeds — the next state is RTR_RESET, which sends a
    Reset Query (`C05.reset_query`). -/
theorem expiry_at_open (st : St) (ht : TblOK st.t) (hi : Inv7 st)
    (hexp : st.ss.lastUpdate + st.tm.expire < st.n.now) :
    NoOwn (atOpen st).t ∧ OthersSame st.t (atOpen st).t ∧ TblOK (atOpen st).t ∧ (atOpen st).ss.reqSession = true ∧
    stepConnecting st =
      (if (trOpen (atOpen st)).1 = -1 then (trOpen (atOpen st)).2.change .errTransport
       else (trOpen (atOpen st)).2.change .reset) ∧
    (trOpen (atOpen st)).2.t = (atOpen st).t := by
  have key : NoOwn (atOpen st).t ∧ OthersSame st.t (atOpen st).t ∧ TblOK (atOpen st).t ∧ (atOpen st).ss.reqSession = true := by
    unfold atOpen
    rcases (purgeOutdated_spec (clearReceived st)).2.2.2 with ⟨e, hn⟩ | ⟨_, _, htb, hr, _, _⟩
    · -- no purge: then the time stamp is 0, so by the invariant nothing is there
      have h0 : st.ss.lastUpdate = 0 := by
        have hn' : ¬ (st.ss.lastUpdate ≠ 0 ∧ st.ss.lastUpdate + st.tm.expire < st.n.now) := hn
        exact Decidable.byContradiction fun h => hn' ⟨h, hexp⟩
      rw [e]
      exact ⟨Classical.byContradiction fun h => hi.1 h h0, OthersSame.refl _, ht, hi.2.1 h0⟩
    · rw [htb]
      have pn := purge_noOwn (clearReceived st).t
      exact ⟨pn.1, pn.2.1, pn.2.2 ht, hr⟩
  refine ⟨key.1, key.2.1, key.2.2.1, key.2.2.2, ?_, (trOpen_frame (atOpen st)).2.1⟩
  have hr : (trOpen (atOpen st)).2.ss.reqSession = true := by
    rw [(trOpen_frame (atOpen st)).1]
    exact key.2.2.2
  exact stepConnected_reset _ _ hr

/-- the same purge runs after a no-data / no-incremental-update answer -/
theorem expiry_after_error (st : St) (hl : st.ss.lastUpdate ≠ 0) (hexp : st.ss.lastUpdate + st.tm.expire < st.n.now) :
    NoOwn (purgeOutdated st).t ∧ OthersSame st.t (purgeOutdated st).t ∧ (purgeOutdated st).ss.reqSession = true := by
  rcases (purgeOutdated_spec st).2.2.2 with ⟨_, hn⟩ | ⟨_, _, htb, hr, _, _⟩
  · exact absurd ⟨hl, hexp⟩ hn
  · rw [htb]; exact ⟨(purge_noOwn st.t).1, (purge_noOwn st.t).2.1, hr⟩

/-- **stop**: after `rtr_stop` none of the socket's records remain, records of other sockets are
    untouched, the time stamp is cleared and a later start begins with a Reset Query. -/
theorem stop_clears (st : St) :
    NoOwn (stop st).t ∧ OthersSame st.t (stop st).t ∧ (TblOK st.t → TblOK (stop st).t) ∧
    (stop st).ss.lastUpdate = 0 ∧ (stop st).ss.reqSession = true ∧ (stop st).c.state = .closed := by
  have e : (stop st).t = st.t.purge := by
    show (trClose (st.change .shutdown)).t.purge = _
    have : (trClose (st.change .shutdown)).t = st.t := (change_sameData st .shutdown).2.1
    rw [this]
  rw [e]
  exact ⟨(purge_noOwn st.t).1, (purge_noOwn st.t).2.1, (purge_noOwn st.t).2.2, rfl, rfl, rfl⟩

/-- **stop on a running thread** (`rtr_stop` = stop request, the thread's remaining work `f`, then
    close / reset / purge): none of the socket's records remain — including those the thread applied
    after the stop request — and the purge leaves the records of other sockets as the thread left them. -/
theorem stop_live_clears (st : St) (f : St → St) :
    NoOwn (stopFinish (f (stopBegin st))).t ∧ OthersSame (f (stopBegin st)).t (stopFinish (f (stopBegin st))).t ∧
    (TblOK (f (stopBegin st)).t → TblOK (stopFinish (f (stopBegin st))).t) := by
  rw [stopFinish_tbl]
  exact ⟨(purge_noOwn _).1, (purge_noOwn _).2.1, (purge_noOwn _).2.2⟩

/-- **other sockets**: along every history the records of other sockets are untouched -/
theorem others_untouched (fuel : Nat) {st st' : St} (h : Reach fuel st st') (ht : TblOK st.t) :
    OthersSame st.t st'.t ∧ TblOK st'.t :=
  ⟨(reach_inv fuel h ht).2.2, (reach_inv fuel h ht).2.1⟩

/-! ### non-vacuity -/

/-- a freshly initialised socket at clock 1 satisfies the invariant -/
example : Inv7 { n := { now := 1 } } :=
  invariant_init _ rfl rfl ⟨(fun _ h => nomatch h), (fun _ h => nomatch h)⟩ (by decide)

def r1 : Rec := { v6 := false, addr := 0x0a000000, len := 8, maxLen := 8, asn := 1, src := 0 }
def sExpired : St := { ss := { lastUpdate := 10, reqSession := false }, tm := { expire := 7200 }, n := { now := 7211 }, t := { pt := [r1] } }
def sFresh : St := { ss := { lastUpdate := 10, reqSession := false }, tm := { expire := 7200 }, n := { now := 7210 }, t := { pt := [r1] } }

/-- an expired socket with a record: the purge removes it -/
example : (purgeOutdated sExpired).t.pt = [] := by decide
/-- not yet expired (exactly `expire` seconds): kept -/
example : (purgeOutdated sFresh).t.pt = [r1] := by decide

end Rtr.C07
