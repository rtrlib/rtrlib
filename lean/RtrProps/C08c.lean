/-
  C08c — convergence over more than one exchange (continuation of RtrProps/C08b.lean, which proves the
  single good exchange).  Model: `Rtr.P` (RtrModel/Rtr.lean), one iteration of rtr_fsm_start =
  `fsmStep`; a run of `k` iterations = `CvRun fuel k st st'` (deterministic, `C08b.run_deterministic`).

  THE ENVIRONMENT is a script; a reactive cache is expressed by what the script holds.  The
  connection is one tape: in the cases (B), (C) the socket does not close the connection between the
  refusal and the next query, so the next answer follows on the same tape — as on the wire.  In
  (D) the socket closes and reconnects; the model has no per-connection flush, so what follows the
  refused Cache Response on the tape is what the cache sends on the NEXT connection.

  (A) the wait in ESTABLISHED (rtr_wait_for_sync): a Serial Notify of the socket's version — the model, like the C
      code, looks at the PDU type only — or a timeout of the transport (`block`: the refresh timer) makes the socket
      send its Serial Query, at once resp. at `max now (last_update + refresh_interval)` (cf. C17 `poll_deadline` for
      the interval model).
  (B) Cache Reset, then the data set: SYNC → ERROR_NO_INCR_UPDATE_AVAIL → RESET → SYNC → ESTABLISHED, k = 4, no sleep.
  (C) "No Data Available", then the data set: SYNC → ERROR_NO_DATA_AVAIL → (sleep) RESET → SYNC → ESTABLISHED, k = 4,
      exactly one retry interval.
  (D) a Cache Response of another session: ERROR_FATAL, nothing is purged, so by C05 the next query is again the
      Serial Query with the OLD session; the cache answers it with Cache Reset, then the data set: three exchanges,
      k = 7, one retry interval; two exchanges, k ≤ 5, if the data has expired when the socket reconnects.
  (E) a reactive cache as a function from the query to the answer (`CvmCache.reply`): from the seven states of the
      recovery path at most 2 exchanges, 6 iterations, 1 retry interval (attained: ERROR_TRANSPORT / ERROR_FATAL /
      FAST_RECONNECT with a Serial Query the cache cannot serve takes 2 + 4 iterations); from ESTABLISHED, when the
      wait ends, 5 iterations and no time after the wait.

  WHAT IS NOT COVERED HERE.  * A cache that answers a query with "No Data Available" an unbounded number of
  times (each round costs one retry interval by (C) — the bound of C08 then has the form
  c·retry with c = number of refusals; not stated as an induction).  * Version negotiation by Error
  Report (code 4, FAST_RECONNECT) followed by a good exchange: the first step is C13, the rest is
  C08b from FAST_RECONNECT; not composed here.  * Serial Notify PDUs or clock advances *inside* an
  answer.  * In (A), other events before the timeout (`intr`, unexpected PDUs: C17).
-/
import RtrProofs.Converge
import RtrProps.C08b

namespace Rtr.C08c
open Rtr Rtr.P
open Rtr.C08b (goodResetAnswer goodSerialAnswer)

/-! ## (A) the wait in ESTABLISHED -/

/-- the deadline of the wait: the timeout handed to rtr_receive_pdu is
    `max 0 (last_update + refresh_interval − now)`, so a wait in which nothing arrives ends at
    `max now (last_update + refresh_interval)` — one refresh interval after the last
    synchronisation, at once if that moment has passed -/
theorem poll_deadline (st : St) :
    waitTimeout st = max 0 (st.ss.lastUpdate + st.tm.refresh - st.n.now) ∧
    cvmDeadline st = st.n.now + waitTimeout st ∧ cvmDeadline st = max st.n.now (st.ss.lastUpdate + st.tm.refresh) ∧
    st.n.now ≤ cvmDeadline st := by
  obtain ⟨e, h0⟩ := cvmDeadline_eq st
  refine ⟨?_, e, rfl, by omega⟩
  unfold waitTimeout
  split <;> omega

/-- what ends the wait at time `w`, leaving `bytes` on the tape: (i) a Serial Notify (any session,
    any serial) of the socket's version at the head of a fault-free tape, `w` = now; or (ii) a
    timeout of the transport, `w` = the deadline -/
def PollTrigger (st : St) (bytes : List Nat) (w : Int) : Prop :=
  (∃ sess sn, FaultFree st.n.tape ∧ tapeBytes st.n.tape = cvmSerialNotify st.c.version sess sn ++ bytes ∧ w = st.n.now) ∨
  (∃ tp, st.n.tape = .block :: tp ∧ FaultFree tp ∧ tapeBytes tp = bytes ∧ w = cvmDeadline st)

theorem polled_of_trigger (fuel : Nat) (st : St) (bytes : List Nat) (w : Int) (hs : st.c.state = .established)
    (hq : NoFail st.n.sendQ) (trig : PollTrigger st bytes w) :
    ∃ st1 c1, fsmStep fuel st = some st1 ∧ c1.state = .sync ∧ c1.version = st.c.version ∧
      CvRep st1 ⟨c1, st.ss, st.tm, st.t, w, false⟩ bytes ∧ st.n.now ≤ w := by
  rcases trig with ⟨sess, sn, hff, hb, rfl⟩ | ⟨tp, htp, hff, hb, rfl⟩
  · obtain ⟨st1, h1, r⟩ := cv_iter_notify fuel st false sess sn bytes hs hq (fun h => nomatch h) ⟨hff, hb⟩
    exact ⟨st1, { st.c with hasReceived := true, state := .sync }, h1, rfl, rfl, r, Int.le_refl _⟩
  · obtain ⟨st1, h1, r⟩ := cv_iter_timeout fuel st false tp bytes hs hq (fun h => nomatch h) htp hff hb
    exact ⟨st1, { st.c with state := .sync }, h1, rfl, rfl, r, (poll_deadline st).2.2.2⟩

/-- **ESTABLISHED polls**: Serial Query, SYNC, at time `w`; nothing else changes -/
theorem established_polls (fuel : Nat) (st : St) (bytes : List Nat) (w : Int) (hs : st.c.state = .established)
    (hq : NoFail st.n.sendQ) (trig : PollTrigger st bytes w) :
    ∃ st1, fsmStep fuel st = some st1 ∧ st1.c.state = .sync ∧ st1.n.now = w ∧ st.n.now ≤ w ∧
      st1.ss = st.ss ∧ st1.t = st.t ∧ st1.tm = st.tm ∧ st1.c.version = st.c.version ∧
      nextQuery st1.ss = nextQuery st.ss ∧ FaultFree st1.n.tape ∧ tapeBytes st1.n.tape = bytes := by
  obtain ⟨st1, c1, h1, hc, hv, r, hw⟩ := polled_of_trigger fuel st bytes w hs hq trig
  have ess : st1.ss = st.ss := r.ss
  exact ⟨st1, h1, by rw [r.c]; exact hc, r.now, hw, ess, r.t, r.tm, by rw [r.c]; exact hv, by rw [ess], r.tape.ff, r.tape.eq⟩

/-- **ESTABLISHED polls and updates**: the socket has a session (`reqSession = false`, no reload
    pending); the wait ends at `w`; the tape then holds the good incremental answer for the socket's
    session (a consistent list of announcements / withdrawals, see C08b `sync_complete_serial`).
    After 2 iterations the socket is ESTABLISHED again; the tables are the old ones plus the
    announced minus the withdrawn records; serial as in the End of Data; update time = `w` = the
    current time. -/
theorem established_polls_and_updates (fuel : Nat) (st : St) (serial : Nat) (iv : CvIvals) (items : List CvItem)
    (rest : List Nat) (w : Int)
    (hs : st.c.state = .established) (hr : st.ss.reqSession = false) (hres : st.ss.isResetting = false)
    (hv : st.c.version ≤ 1) (hq : NoFail st.n.sendQ) (ht : TblOK st.t)
    (hsess : st.ss.session < 65536) (hserial : serial < 4294967296) (hok : ∀ i ∈ items, i.OK)
    (hnp : ((cvPfxOps items).map Prod.snd).Nodup) (hnk : ((cvKeyOps items).map Prod.snd).Nodup)
    (hcp : ∀ op ∈ cvPfxOps items, (op.1 = true ↔ op.2 ∉ st.t.pt))
    (hck : ∀ op ∈ cvKeyOps items, (op.1 = true ↔ op.2 ∉ st.t.kt))
    (trig : PollTrigger st (goodSerialAnswer st.c.version st.ss.session serial iv items ++ rest) w)
    (hfuel : items.length < fuel) :
    ∃ st1 st', fsmStep fuel st = some st1 ∧ st1.c.state = .sync ∧ st1.n.now = w ∧
      fsmStep fuel st1 = some st' ∧ CvRun fuel 2 st st' ∧ st'.c.state = .established ∧
      (∀ x, x ∈ st'.t.pt ↔ ((true, x) ∈ cvPfxOps items ∨ (x ∈ st.t.pt ∧ (false, x) ∉ cvPfxOps items))) ∧
      (∀ x, x ∈ st'.t.kt ↔ ((true, x) ∈ cvKeyOps items ∨ (x ∈ st.t.kt ∧ (false, x) ∉ cvKeyOps items))) ∧
      TblOK st'.t ∧ st'.ss.session = st.ss.session ∧ st'.ss.serial = serial ∧ st'.ss.reqSession = false ∧
      st'.ss.lastUpdate = w ∧ st'.n.now = w ∧ st.n.now ≤ w ∧
      st'.tm = applyEodIntervals st.tm (cvEndOfData st.c.version st.ss.session serial iv) ∧
      FaultFree st'.n.tape ∧ tapeBytes st'.n.tape = rest := by
  obtain ⟨st1, c1, h1, hc, hv1, r, hw⟩ := polled_of_trigger fuel st _ w hs hq trig
  obtain ⟨st', h2, u⟩ := cv_polled_update fuel st st1 _ serial iv items rest r hc hv1 rfl rfl rfl hr hres hv ht hsess hserial hok hnp
    hnk hcp hck hfuel
  exact ⟨st1, st', h1, by rw [r.c]; exact hc, r.now, h2, .cons h1 (.one h2), u.state, u.pt, u.kt, u.tblok, u.session_eq,
    u.serial_eq, u.no_request, u.update_time, u.now, hw, u.tm, u.tape.ff, u.tape.eq⟩

/-! ## the outcome of a reload -/

/-- the socket is ESTABLISHED with exactly the data set `recs`, `keys`, `d` seconds after `st`.  Neither a
    number of iterations nor a bound on `d` is built in: this is the conclusion for any scenario that ends in
    a reload (from `CvDone` by `reloaded_of_done`). -/
structure Reloaded (st st' : St) (ver sess serial : Nat) (iv : CvIvals) (recs : List Rec) (keys : List KeyRec) (d : Nat)
    (rest : List Nat) : Prop where
  state : st'.c.state = .established
  own_pfx : ∀ x : Rec, x.src = 0 → (x ∈ st'.t.pt ↔ x ∈ recs)
  own_keys : ∀ x : KeyRec, x.src = 0 → (x ∈ st'.t.kt ↔ x ∈ keys)
  others : OthersSame st.t st'.t
  tblok : TblOK st'.t
  session_eq : st'.ss.session = sess
  serial_eq : st'.ss.serial = serial
  no_request : st'.ss.reqSession = false
  update_time : st'.ss.lastUpdate = st'.n.now
  intervals : st'.tm = applyEodIntervals st.tm (cvEndOfData ver sess serial iv)
  version : st'.c.version = ver
  time : st'.n.now = st.n.now + d
  fault_free : FaultFree st'.n.tape
  bytes : tapeBytes st'.n.tape = rest
  send_ok : NoFail st.n.sendQ → NoFail st'.n.sendQ

theorem reloaded_of_done {st st' : St} {ver sess serial : Nat} {iv : CvIvals} {recs : List Rec} {keys : List KeyRec} {d : Nat}
    {rest : List Nat} (done : CvDone st st' ver sess serial iv d rest)
    (hrok : ∀ r ∈ recs, cvRecOK r) (hkok : ∀ k ∈ keys, cvKeyOK k)
    (mp : ∀ x, x ∈ st'.t.pt ↔ (x ∈ recs ∨ (x ∈ st.t.pt ∧ x.src ≠ 0)))
    (mk : ∀ x, x ∈ st'.t.kt ↔ (x ∈ keys ∨ (x ∈ st.t.kt ∧ x.src ≠ 0))) :
    Reloaded st st' ver sess serial iv recs keys d rest := by
  obtain ⟨op, ok, oo⟩ := cv_reload_tables hrok hkok mp mk
  exact ⟨done.state, op, ok, oo, done.tblok, done.session_eq, done.serial_eq, done.no_request, done.update_time, done.tm, done.version, done.now, done.tape.ff, done.tape.eq, done.send⟩

/-! ## (B) Cache Reset -/

/-- **convergence after a Cache Reset.**  The socket is in SYNC (a query has been sent; typically a
    Serial Query, `reqSession = false`, data present — but nothing of this is needed); the tape
    holds a Cache Reset PDU of the socket's version and then the good answer to the Reset Query the
    socket is going to send.  State sequence SYNC → ERROR_NO_INCR_UPDATE_AVAIL → RESET → SYNC →
    ESTABLISHED: `k = 4` iterations, no time passes (`d = 0`); afterwards the socket's own records
    are exactly the cache's data set (the old ones replaced), other sockets' records untouched. -/
theorem converges_after_cache_reset (fuel : Nat) (st : St) (sess serial : Nat) (iv : CvIvals) (recs : List Rec)
    (keys : List KeyRec) (rest : List Nat) (hs : st.c.state = .sync) (hq : NoFail st.n.sendQ) (hv : st.c.version ≤ 1)
    (ht : TblOK st.t) (hi : st.ss.lastUpdate = 0 → NoOwn st.t) (hsess : sess < 65536) (hserial : serial < 4294967296)
    (hrok : ∀ r ∈ recs, cvRecOK r) (hkok : ∀ k ∈ keys, cvKeyOK k) (hrn : recs.Nodup) (hkn : keys.Nodup)
    (hff : FaultFree st.n.tape)
    (hb : tapeBytes st.n.tape = cvmCacheReset st.c.version ++ (goodResetAnswer st.c.version sess serial iv recs keys ++ rest))
    (hfuel : recs.length + keys.length < fuel) :
    ∃ s1 s2 s3 st', fsmStep fuel st = some s1 ∧ s1.c.state = .errNoIncr ∧ fsmStep fuel s1 = some s2 ∧ s2.c.state = .reset ∧
      fsmStep fuel s2 = some s3 ∧ s3.c.state = .sync ∧ fsmStep fuel s3 = some st' ∧ CvRun fuel 4 st st' ∧
      Reloaded st st' st.c.version sess serial iv recs keys 0 rest := by
  obtain ⟨s1, s2, s3, st', h1, e1, h2, e2, h3, e3, h4, hdone, mp, mk⟩ := cv_cacheReset_reload fuel 0 st st false (st.abs false)
    st.c.version sess serial iv recs keys rest (CvRep.of_st st false _ ⟨hff, hb⟩ hq (fun h => nomatch h)) rfl (CvKeeps.refl _)
    (Int.add_zero _).symm hs hv
    ht hi hsess hserial hrok hkok hrn hkn hfuel
  exact ⟨s1, s2, s3, st', h1, e1, h2, e2, h3, e3, h4, .cons h1 (.cons h2 (.cons h3 (.one h4))),
    reloaded_of_done hdone hrok hkok mp mk⟩

/-! ## (C) "No Data Available" -/

/-- **convergence after "No Data Available".**  The socket is in SYNC; the tape holds an Error Report
    with code 2 (of any version `ever`, with any encapsulated PDU `enc` and text within the maximum
    PDU length) and then the good answer to the Reset Query.  SYNC → ERROR_NO_DATA_AVAIL → (sleep
    `retry_interval`) RESET → SYNC → ESTABLISHED: `k = 4`, the time that passes is exactly one retry
    interval. -/
theorem converges_after_no_data (fuel : Nat) (st : St) (ever : Nat) (enc text : List Nat) (sess serial : Nat) (iv : CvIvals)
    (recs : List Rec) (keys : List KeyRec) (rest : List Nat) (hs : st.c.state = .sync) (hq : NoFail st.n.sendQ)
    (hv : st.c.version ≤ 1) (hsz : enc.length + text.length + 16 ≤ Gen.RTR_MAX_PDU_LEN)
    (ht : TblOK st.t) (hi : st.ss.lastUpdate = 0 → NoOwn st.t) (hsess : sess < 65536) (hserial : serial < 4294967296)
    (hrok : ∀ r ∈ recs, cvRecOK r) (hkok : ∀ k ∈ keys, cvKeyOK k) (hrn : recs.Nodup) (hkn : keys.Nodup)
    (hff : FaultFree st.n.tape)
    (hb : tapeBytes st.n.tape = errorPduBytes ever enc 2 text ++ (goodResetAnswer st.c.version sess serial iv recs keys ++ rest))
    (hfuel : recs.length + keys.length < fuel) :
    ∃ s1 s2 s3 st', fsmStep fuel st = some s1 ∧ s1.c.state = .errNoData ∧ fsmStep fuel s1 = some s2 ∧ s2.c.state = .reset ∧
      fsmStep fuel s2 = some s3 ∧ s3.c.state = .sync ∧ fsmStep fuel s3 = some st' ∧ CvRun fuel 4 st st' ∧
      Reloaded st st' st.c.version sess serial iv recs keys st.tm.retry rest := by
  obtain ⟨s1, h1, r1⟩ := cv_ev_step fuel (.noData ever enc text) (CvRep.of_st st false _ ⟨hff, hb⟩ hq (fun h => nomatch h))
    ⟨hs, by omega, hsz⟩
  obtain ⟨s2, h2, r2⟩ := cv_ev_step fuel .errNoData r1 rfl
  obtain ⟨s3, h3, r3⟩ := cv_ev_step fuel .sendReset r2 rfl
  obtain ⟨st', h4, hdone, mp, mk⟩ := cv_done_reset fuel st.c.version st.tm.retry st s3 false _ sess serial iv recs keys rest r3
    (cvPath_keeps [.noData ever enc text, .errNoData, .sendReset] _ rfl) rfl rfl (Or.inl rfl) rfl hv ht hi hsess hserial
    hrok hkok hrn hkn hfuel
  exact ⟨s1, s2, s3, st', h1, by rw [r1.c]; rfl, h2, by rw [r2.c]; rfl, h3, by rw [r3.c]; rfl, h4,
    .cons h1 (.cons h2 (.cons h3 (.one h4))), reloaded_of_done hdone hrok hkok mp mk⟩

/-! ## (D) session change -/

/-- **a Cache Response of another session is refused**: the socket is in SYNC having sent a Serial
    Query; the Cache Response carries `sess' ≠` the stored session.  An Error Report is sent (whatever
    the outcome of the send), the state is ERROR_FATAL; session part, tables, intervals, clock are
    unchanged, nothing is purged: the next query (C05 `nextQuery`) is the same Serial Query. -/
theorem session_change_refused (fuel : Nat) (st : St) (sess' : Nat) (rest : List Nat) (hf : 0 < fuel)
    (hs : st.c.state = .sync) (hr : st.ss.reqSession = false) (hne : st.ss.session ≠ sess') (hs16 : sess' < 65536)
    (hff : FaultFree st.n.tape) (hb : tapeBytes st.n.tape = cvCacheResponse st.c.version sess' ++ rest) :
    ∃ st1, fsmStep fuel st = some st1 ∧ st1.c.state = .errFatal ∧ st1.ss = st.ss ∧ st1.t = st.t ∧ st1.tm = st.tm ∧
      st1.n.now = st.n.now ∧ nextQuery st1.ss = some (st.ss.session, st.ss.serial) ∧
      FaultFree st1.n.tape ∧ tapeBytes st1.n.tape = rest := by
  obtain ⟨n1, st1, h1, t1, s1, h⟩ := cv_ev_recv fuel (.wrongSession sess') st false rest ⟨hff, hb⟩ (fun h => nomatch h) rfl
    ⟨hs, hf, hr, hne, hs16⟩
  refine ⟨st1, h1, by rw [h.c]; rfl, h.ss, h.t, h.tm, h.now, ?_, (h.cvTape t1).ff, (h.cvTape t1).eq⟩
  rw [h.ss]
  show nextQuery st.ss = _
  unfold nextQuery; rw [hr]; rfl

/-- **convergence after a session change.**  The socket is in SYNC having sent a Serial Query with its
    session; the cache has a new session `sess`.  The tape holds: the Cache Response of the new
    session (refused); then — on the next connection — the Cache Reset with which the cache
    answers the Serial Query of the old session; then the good answer to the Reset Query.  The data
    has not expired when the socket reconnects.  Three exchanges, `k = 7` iterations (SYNC →
    ERROR_FATAL → CONNECTING → SYNC → ERROR_NO_INCR_UPDATE_AVAIL → RESET → SYNC → ESTABLISHED), time =
    exactly one retry interval. -/
theorem converges_after_session_change (fuel : Nat) (st : St) (sess serial : Nat) (iv : CvIvals) (recs : List Rec)
    (keys : List KeyRec) (rest : List Nat) (hs : st.c.state = .sync) (hr : st.ss.reqSession = false)
    (hne : st.ss.session ≠ sess) (ho : CvOpenOK st.n.openQ) (hq : NoFail st.n.sendQ) (hv : st.c.version ≤ 1)
    (hx : ¬ cvExpired st (st.n.now + st.tm.retry))
    (ht : TblOK st.t) (hi : st.ss.lastUpdate = 0 → NoOwn st.t) (hsess : sess < 65536) (hserial : serial < 4294967296)
    (hrok : ∀ r ∈ recs, cvRecOK r) (hkok : ∀ k ∈ keys, cvKeyOK k) (hrn : recs.Nodup) (hkn : keys.Nodup)
    (hff : FaultFree st.n.tape)
    (hb : tapeBytes st.n.tape = cvCacheResponse st.c.version sess ++ (cvmCacheReset st.c.version ++
      (goodResetAnswer st.c.version sess serial iv recs keys ++ rest)))
    (hfuel : recs.length + keys.length < fuel) :
    ∃ st', CvRun fuel 7 st st' ∧ Reloaded st st' st.c.version sess serial iv recs keys st.tm.retry rest := by
  obtain ⟨st1, st', run, h, hdone, mp, mk⟩ := cv_path_reload fuel st.c.version st true
    [.wrongSession sess, .closeErr, .connectSerial, .cacheReset, .errNoIncr, .sendReset] sess serial iv recs keys rest rfl
    (CvRep.of_st st true _ ⟨hff, hb⟩ hq (fun _ => ho))
    ⟨⟨hs, by omega, hr, hne, hsess⟩, Or.inr rfl,
     ⟨rfl, rfl, hr, fun h => hx ((CvAbs.expired_iff (cvPath [.wrongSession sess, .closeErr] (st.abs true)) st rfl rfl).1 h)⟩,
     ⟨rfl, by omega⟩, rfl, rfl, trivial⟩
    rfl (Or.inl rfl) rfl hv ht hi hsess hserial hrok hkok hrn hkn hfuel
  exact ⟨st', run.snoc h, reloaded_of_done hdone hrok hkok mp mk⟩

/-- … and when the data expires before the socket has reconnected (`rtr_purge_outdated_records` in
    CONNECTING), the next query is a Reset Query and the cache answers it directly: two exchanges,
    `k ≤ 5`, one retry interval -/
theorem converges_after_session_change_expired (fuel : Nat) (st : St) (sess serial : Nat) (iv : CvIvals) (recs : List Rec)
    (keys : List KeyRec) (rest : List Nat) (hs : st.c.state = .sync) (hr : st.ss.reqSession = false)
    (hne : st.ss.session ≠ sess) (ho : CvOpenOK st.n.openQ) (hq : NoFail st.n.sendQ) (hv : st.c.version ≤ 1)
    (hx : cvExpired st (st.n.now + st.tm.retry))
    (ht : TblOK st.t) (hi : st.ss.lastUpdate = 0 → NoOwn st.t) (hsess : sess < 65536) (hserial : serial < 4294967296)
    (hrok : ∀ r ∈ recs, cvRecOK r) (hkok : ∀ k ∈ keys, cvKeyOK k) (hrn : recs.Nodup) (hkn : keys.Nodup)
    (hff : FaultFree st.n.tape)
    (hb : tapeBytes st.n.tape = cvCacheResponse st.c.version sess ++ (goodResetAnswer st.c.version sess serial iv recs keys ++ rest))
    (hfuel : recs.length + keys.length < fuel) :
    ∃ k st', k ≤ 5 ∧ CvRun fuel k st st' ∧ Reloaded st st' st.c.version sess serial iv recs keys st.tm.retry rest := by
  -- the socket that reconnects after the retry sleep: its expiry is the hypothesis `hx`
  have hx' := (CvAbs.expired_iff (cvPath [.wrongSession sess, .closeErr] (st.abs true)) st rfl rfl).2 hx
  obtain ⟨st4, st', run, h5, hdone, mp, mk⟩ := cv_path_reload fuel st.c.version st true
    [.wrongSession sess, .closeErr, .connectReset, .sendReset] sess serial iv recs keys rest rfl
    (CvRep.of_st st true _ ⟨hff, hb⟩ hq (fun _ => ho))
    ⟨⟨hs, by omega, hr, hne, hsess⟩, Or.inr rfl, ⟨rfl, rfl, Or.inr hx'⟩, rfl, trivial⟩ rfl (Or.inl rfl)
    (cv_connectReset_req (cvPath [.wrongSession sess, .closeErr] (st.abs true)) st rfl rfl (Or.inr hx)) hv ht hi hsess hserial
    hrok hkok hrn hkn hfuel
  exact ⟨5, st', Nat.le_refl _, run.snoc h5, reloaded_of_done hdone hrok hkok mp mk⟩

/-! ## (E) a reactive cache -/

/-- **convergence on a reactive cache.**  `q` is the query the socket sends first — a Reset Query
    (`cvSendsReset st`) or the Serial Query with its stored session and serial (`cvSendsSerial st`); the tape
    holds `C.script q`: the reply to `q` and, if that is a Cache Reset, the reply to the Reset Query that
    follows.  The cache speaks the socket's version; the increment it serves, if any, fits the
    socket's tables (`CvmIncOK`: the socket holds what the cache had at that serial).  From each of
    ERROR_TRANSPORT, ERROR_FATAL, ERROR_NO_DATA_AVAIL, ERROR_NO_INCR_UPDATE_AVAIL, FAST_RECONNECT,
    CONNECTING, RESET the socket is ESTABLISHED with exactly the cache's data set, session and
    serial after at most 2 exchanges, `k ≤ 6` iterations and at most one retry interval. -/
theorem converges_eventually (fuel : Nat) (st : St) (C : CvmCache) (q : Option (Nat × Nat)) (rest : List Nat)
    (hq : (cvSendsReset st ∧ q = none) ∨ (cvSendsSerial st ∧ q = some (st.ss.session, st.ss.serial)))
    (hver : C.ver = st.c.version) (hv : C.ver ≤ 1) (hres : st.ss.reqSession = false → st.ss.isResetting = false)
    (ho : CvOpenOK st.n.openQ) (hs : NoFail st.n.sendQ)
    (ht : TblOK st.t) (hi : st.ss.lastUpdate = 0 → NoOwn st.t)
    (hsess : C.sess < 65536) (hserial : C.serial < 4294967296)
    (hrok : ∀ r ∈ C.recs, cvRecOK r) (hkok : ∀ k ∈ C.keys, cvKeyOK k) (hrn : C.recs.Nodup) (hkn : C.keys.Nodup)
    (hinc : ∀ items, C.incr (st.ss.session, st.ss.serial) = some items → CvmIncOK st C items ∧ items.length < fuel)
    (hff : FaultFree st.n.tape) (hb : tapeBytes st.n.tape = C.script q ++ rest)
    (hfuel : C.recs.length + C.keys.length < fuel) :
    CvmConverged fuel 6 st C rest := by
  rcases hq with ⟨hsr, rfl⟩ | ⟨hss, rfl⟩
  · obtain ⟨es, hk, hd, p, hreq, hcv⟩ := cv_toSync_reset fuel C.ver st hsr (Or.inl hver)
    obtain ⟨st1, st', run, hstep, hdone, mp, mk⟩ := cv_path_reload fuel C.ver st true es C.sess C.serial C.iv C.recs C.keys rest
      p.quiet (by rw [p.bytes]; exact CvRep.of_st st true _ ⟨hff, hb⟩ hs (fun _ => ho)) p.ok p.state hcv hreq hv ht hi hsess
      hserial hrok hkok hrn hkn hfuel
    exact cvm_converged_of_done fuel (es.length + 1) 6 _ st st' C rest (by omega) hd (run.snoc hstep) hdone
      (cv_reload_tables hrok hkok mp mk)
  · have hreq := cvSendsSerial_req hss
    obtain ⟨es, hk, hd, p, hss1, ht1, hcv⟩ := cv_toSync_serial fuel C.ver st hss (Or.inl hver)
    cases hin : C.incr (st.ss.session, st.ss.serial) with
    | some items =>
      obtain ⟨io, ilen⟩ := hinc items hin
      obtain ⟨hsame, hscript⟩ := CvmCache.script_served hin
      rw [hscript] at hb
      obtain ⟨st1, st', run, hstep, hdone, mp, mk⟩ := cv_path_items fuel C.ver st true es C.serial C.iv items rest p.quiet
        (by rw [p.bytes]; exact CvRep.of_st st true _ ⟨hff, hb⟩ hs (fun _ => ho)) p.ok p.state hcv hss1 ht1 hreq (hres hreq) hv ht
        (by rw [hsame]; exact hsess) hserial io.ok io.np io.nk io.cp io.ck ilen
      rw [hsame] at hdone
      exact cvm_converged_of_done fuel (es.length + 1) 6 _ st st' C rest (by omega) hd (run.snoc hstep) hdone
        (cvm_incr_tables io mp mk)
    | none =>
      rw [CvmCache.script_refused hin, List.append_assoc] at hb
      obtain ⟨st1, run, r1⟩ := cv_path fuel es (by rw [p.bytes]; exact CvRep.of_st st true _ ⟨hff, hb⟩ hs (fun _ => ho)) p.ok
      obtain ⟨s1, s2, s3, st', h1, _, h2, _, h3, _, h4, hdone, mp, mk⟩ := cv_cacheReset_reload fuel _ st st1 true _ C.ver C.sess
        C.serial C.iv C.recs C.keys rest r1 ((cvPath_keeps es _ p.quiet).ver.trans hver.symm) (cvPath_keeps es _ p.quiet)
        (cvPath_now es _ p.quiet) p.state hv ht hi hsess hserial hrok hkok hrn hkn hfuel
      exact cvm_converged_of_done fuel (es.length + 4) 6 _ st st' C rest (by omega) hd
        (run.append (.cons h1 (.cons h2 (.cons h3 (.one h4))))) hdone (cv_reload_tables hrok hkok mp mk)

/-- **the steady state against a reactive cache**: from ESTABLISHED, when the wait ends at `w` (Serial
    Notify or refresh timer), the cache's reply to the Serial Query follows on the tape: the socket
    is ESTABLISHED again with exactly the cache's data after at most 2 exchanges, `k ≤ 5` iterations
    (2 if the increment is served, 5 after a Cache Reset), at time `w`. -/
theorem established_converges_eventually (fuel : Nat) (st : St) (C : CvmCache) (rest : List Nat) (w : Int)
    (hs : st.c.state = .established) (hr : st.ss.reqSession = false) (hres : st.ss.isResetting = false)
    (hver : C.ver = st.c.version) (hv : C.ver ≤ 1) (hq : NoFail st.n.sendQ)
    (ht : TblOK st.t) (hi : st.ss.lastUpdate = 0 → NoOwn st.t)
    (hsess : C.sess < 65536) (hserial : C.serial < 4294967296)
    (hrok : ∀ r ∈ C.recs, cvRecOK r) (hkok : ∀ k ∈ C.keys, cvKeyOK k) (hrn : C.recs.Nodup) (hkn : C.keys.Nodup)
    (hinc : ∀ items, C.incr (st.ss.session, st.ss.serial) = some items → CvmIncOK st C items ∧ items.length < fuel)
    (trig : PollTrigger st (C.script (some (st.ss.session, st.ss.serial)) ++ rest) w)
    (hfuel : C.recs.length + C.keys.length < fuel) :
    CvmConvergedAt fuel 5 st C w rest := by
  obtain ⟨st1, c1, h1, hc, hv1, r, _⟩ := polled_of_trigger fuel st _ w hs hq trig
  cases hin : C.incr (st.ss.session, st.ss.serial) with
  | some items =>
    obtain ⟨io, ilen⟩ := hinc items hin
    obtain ⟨hsame, hscript⟩ := CvmCache.script_served hin
    rw [hscript, hver] at r
    obtain ⟨st', h2, u⟩ := cv_polled_update fuel st st1 _ C.serial C.iv items rest r hc hv1 rfl rfl rfl hr hres
      (by rw [← hver]; exact hv) ht (by rw [hsame]; exact hsess) hserial io.ok io.np io.nk io.cp io.ck ilen
    obtain ⟨op, ok, oo⟩ := cvm_incr_tables io u.pt u.kt
    exact ⟨2, st', by omega, .cons h1 (.one h2), u.state, op, ok, oo,
      u.tblok, u.session_eq.trans hsame, u.serial_eq, u.no_request, u.update_time, by rw [u.version, hver], u.now, u.tape.ff, u.tape.eq⟩
  | none =>
    rw [CvmCache.script_refused hin, List.append_assoc] at r
    have et : st1.t = st.t := r.t
    have ess : st1.ss = st.ss := r.ss
    obtain ⟨s1, s2, s3, st', g1, _, g2, _, g3, _, g4, hdone, mp, mk⟩ := cv_cacheReset_reload fuel 0 st1 st1 false _ C.ver C.sess
      C.serial C.iv C.recs C.keys rest r (hv1.trans hver.symm) (r.keeps false) (by rw [r.now]; exact (Int.add_zero _).symm) hc hv
      (by rw [et]; exact ht) (by rw [ess, et]; exact hi) hsess hserial hrok hkok hrn hkn hfuel
    have hnow : st'.n.now = w := by rw [hdone.now, r.now]; simp
    rw [et] at mp mk
    obtain ⟨op, ok, oo⟩ := cv_reload_tables hrok hkok mp mk
    exact ⟨5, st', Nat.le_refl _, .cons h1 (.cons g1 (.cons g2 (.cons g3 (.one g4)))), hdone.state, op, ok, oo, hdone.tblok,
      hdone.session_eq, hdone.serial_eq, hdone.no_request, hdone.update_time.trans hnow, hdone.version, hnow, hdone.tape.ff, hdone.tape.eq⟩

/-! ## non-vacuity (data of RtrProps/C08b.lean: exR4, exR6, exKey of this socket, exOther of another one) -/

open Rtr.C08b (exR4 exR6 exR4b exKey exOther exIv exItems exFatal exFatal' exErr exItems_ok exFatal'_tape exObs exObs_map
  exFatal'_run)

/-- a socket in ESTABLISHED holding the cache's data of session 77, serial 5, synchronised at 900 -/
def exEst : St :=
  { c := { state := .established, version := 1, hasReceived := true },
    ss := { session := 77, serial := 5, reqSession := false, lastUpdate := 900 },
    t := { pt := [exR6, exR4, exOther], kt := [exKey] },
    n := { threaded := true } }
theorem exEst_tbl : TblOK exEst.t := ⟨rfl, by decide, by decide⟩
/-- the increment to serial 6 (withdraw 10/8 and the key, announce 10.128/9), 195 bytes -/
def exIncr : List Nat := goodSerialAnswer 1 77 6 exIv exItems
/-- (i) a Serial Notify, then the increment, in chunks that ignore the PDU boundaries -/
def exEstN : St :=
  { exEst with n := { exEst.n with tape := [.rx (cvmSerialNotify 1 77 6 ++ exIncr.take 3), .rx (exIncr.drop 3)] } }
/-- (ii) the refresh timer expires, then the increment -/
def exEstT : St := { exEst with n := { exEst.n with tape := [.block, .rx exIncr] } }

-- `poll_deadline`: now = 1000, last update 900, refresh 3600: the wait is 3500 s, the deadline 4500
example : waitTimeout exEstT = 3500 ∧ cvmDeadline exEstT = 4500 := by decide
example : cvmDeadline exEstT = exEstT.n.now + waitTimeout exEstT := (poll_deadline exEstT).2.1

-- `established_polls`, `established_polls_and_updates` (i): hypotheses instantiated, result evaluated
example : ∃ st1, fsmStep 10 exEstN = some st1 ∧ st1.c.state = .sync ∧ st1.n.now = 1000 :=
  have ⟨st1, h1, h2, h3, _⟩ := established_polls 10 exEstN (exIncr ++ []) 1000 rfl (by decide)
    (Or.inl ⟨77, 6, by decide, by decide +kernel, rfl⟩)
  ⟨st1, h1, h2, h3⟩
example : ∃ st1 st', fsmStep 10 exEstN = some st1 ∧ st1.c.state = .sync ∧ fsmStep 10 st1 = some st' ∧
    st'.c.state = .established ∧ st'.ss.serial = 6 ∧ st'.n.now = 1000 :=
  have ⟨st1, st', h1, h2, _, h4, _, h6, _, _, _, _, h11, _, _, h14, _⟩ :=
    established_polls_and_updates 10 exEstN 6 exIv exItems [] 1000 rfl rfl rfl (by decide) (by decide)
      exEst_tbl (by decide) (by decide) exItems_ok.1 exItems_ok.2.1 exItems_ok.2.2.1
      exItems_ok.2.2.2.1 exItems_ok.2.2.2.2 (Or.inl ⟨77, 6, by decide, by decide +kernel, rfl⟩) (by decide)
  ⟨st1, st', h1, h2, h4, h6, h11, h14⟩
theorem exEstN_run : (cvIter 10 2 exEstN).map exObs =
    some ⟨.established, [exR4b, exR6, exOther], [], 1000, 77, 6, false, 1000, 300⟩ := by decide +kernel
example : (cvIter 10 2 exEstN).map (fun s => (s.c.state, s.t.pt, s.t.kt, s.ss.serial)) =
    some (.established, [exR4b, exR6, exOther], [], 6) := exObs_map exEstN_run fun o => (o.state, o.pt, o.kt, o.serial)
example : (cvIter 10 2 exEstN).map (fun s => (s.ss.lastUpdate, s.n.now)) = some (1000, 1000) :=
  exObs_map exEstN_run fun o => (o.lastUpdate, o.now)
-- (ii): the Serial Query is sent at the deadline 4500
example : ∃ st1 st', fsmStep 10 exEstT = some st1 ∧ st1.c.state = .sync ∧ st1.n.now = 4500 ∧ fsmStep 10 st1 = some st' ∧
    st'.c.state = .established ∧ st'.ss.lastUpdate = 4500 :=
  have ⟨st1, st', h1, h2, h3, h4, _, h6, _, _, _, _, _, _, h13, _⟩ :=
    established_polls_and_updates 10 exEstT 6 exIv exItems [] 4500 rfl rfl rfl (by decide) (by decide)
      exEst_tbl (by decide) (by decide) exItems_ok.1 exItems_ok.2.1 exItems_ok.2.2.1
      exItems_ok.2.2.2.1 exItems_ok.2.2.2.2 (Or.inr ⟨[.rx exIncr], rfl, by decide, by decide +kernel, by decide⟩) (by decide)
  ⟨st1, st', h1, h2, h3, h4, h6, h13⟩
example : (cvIter 10 2 exEstT).map (fun s => (s.c.state, s.t.pt, s.ss.serial, s.ss.lastUpdate, s.n.now)) =
    some (.established, [exR4b, exR6, exOther], 6, 4500, 4500) := by decide +kernel

/-- the one prefix the restarted cache holds -/
def exNew : Rec := ⟨false, 0x0d000000, 8, 24, 65020, 0⟩
/-- the cache has restarted: session 88, serial 1, one prefix, no key -/
def exReload : List Nat := goodResetAnswer 1 88 1 exIv [exNew] []
theorem exNew_ok : (∀ r ∈ [exNew], cvRecOK r) ∧ (∀ k ∈ ([] : List KeyRec), cvKeyOK k) ∧ [exNew].Nodup ∧ ([] : List KeyRec).Nodup :=
  ⟨by decide, by decide, by decide, by decide⟩
/-- the socket in SYNC, Serial Query (77, 5) sent -/
def exSyncS : St := { exEst with c := { exEst.c with state := .sync } }

def exB : St := { exSyncS with n := { exSyncS.n with tape := [.rx (cvmCacheReset 1 ++ exReload.take 40), .rx (exReload.drop 40)] } }
example : ∃ st', CvRun 10 4 exB st' ∧ Reloaded exB st' 1 88 1 exIv [exNew] [] 0 [] :=
  have ⟨_, _, _, st', _, _, _, _, _, _, _, h8, h9⟩ :=
    converges_after_cache_reset 10 exB 88 1 exIv [exNew] [] [] rfl (by decide) (by decide) exEst_tbl
      (fun h => absurd h (by decide)) (by decide) (by decide) exNew_ok.1 exNew_ok.2.1 exNew_ok.2.2.1 exNew_ok.2.2.2
      (by decide) (by decide +kernel) (by decide)
  ⟨st', h8, h9⟩
example : (List.range 5).map (fun k => (cvIter 10 k exB).map (·.c.state)) =
    [some .sync, some .errNoIncr, some .reset, some .sync, some .established] := by decide +kernel
example : (cvIter 10 4 exB).map (fun s => (s.t.pt, s.t.kt, s.ss.session, s.ss.serial, s.n.now)) =
    some ([exNew, exOther], [], 88, 1, 1000) := by decide +kernel

-- (C) `converges_after_no_data`: the Error Report echoes the Serial Query and carries a text
def exErrRep : List Nat := errorPduBytes 1 (serialQueryBytes 1 77 5) 2 [78, 111, 32, 100, 97, 116, 97]
def exC : St := { exSyncS with n := { exSyncS.n with tape := [.rx (exErrRep ++ exReload)] } }
example : ∃ st', CvRun 10 4 exC st' ∧ Reloaded exC st' 1 88 1 exIv [exNew] [] exC.tm.retry [] :=
  have ⟨_, _, _, st', _, _, _, _, _, _, _, h8, h9⟩ :=
    converges_after_no_data 10 exC 1 (serialQueryBytes 1 77 5) [78, 111, 32, 100, 97, 116, 97] 88 1 exIv [exNew] [] [] rfl
      (by decide) (by decide) (by decide) exEst_tbl
      (fun h => absurd h (by decide)) (by decide) (by decide) exNew_ok.1 exNew_ok.2.1 exNew_ok.2.2.1 exNew_ok.2.2.2
      (by decide) (by decide +kernel) (by decide)
  ⟨st', h8, h9⟩
example : (List.range 5).map (fun k => (cvIter 10 k exC).map (fun s => (s.c.state, s.n.now))) =
    [some (.sync, 1000), some (.errNoData, 1000), some (.reset, 1600), some (.sync, 1600), some (.established, 1600)] := by
  decide +kernel

def exD : St :=
  { exSyncS with n := { exSyncS.n with tape := [.rx (cvCacheResponse 1 88), .rx (cvmCacheReset 1 ++ exReload)] } }
example : ∃ st1, fsmStep 10 exD = some st1 ∧ st1.c.state = .errFatal ∧ nextQuery st1.ss = some (77, 5) :=
  have ⟨st1, h1, h2, _, _, _, _, h7, _⟩ := session_change_refused 10 exD 88 (cvmCacheReset 1 ++ exReload) (by decide) rfl rfl
    (by decide) (by decide) (by decide) (by decide +kernel)
  ⟨st1, h1, h2, h7⟩
example : ∃ st', CvRun 10 7 exD st' ∧ Reloaded exD st' 1 88 1 exIv [exNew] [] exD.tm.retry [] :=
  converges_after_session_change 10 exD 88 1 exIv [exNew] [] [] rfl rfl (by decide) (by decide) (by decide) (by decide)
    (fun h => absurd h.2 (by decide)) exEst_tbl (fun h => absurd h (by decide)) (by decide) (by decide)
    exNew_ok.1 exNew_ok.2.1 exNew_ok.2.2.1 exNew_ok.2.2.2 (by decide) (by decide +kernel) (by decide)
example : (List.range 8).map (fun k => (cvIter 10 k exD).map (·.c.state)) =
    [some .sync, some .errFatal, some .connecting, some .sync, some .errNoIncr, some .reset, some .sync, some .established] := by
  decide +kernel
example : (cvIter 10 7 exD).map (fun s => (s.t.pt, s.ss.session, s.ss.serial, s.n.now)) =
    some ([exNew, exOther], 88, 1, 1600) := by decide +kernel
-- `converges_after_session_change_expired`: data of time -6000 expires (7200 s) at 1200, before the reconnect at 1600
def exDx : St :=
  { exSyncS with ss := { exSyncS.ss with lastUpdate := -6000 },
                 n := { exSyncS.n with tape := [.rx (cvCacheResponse 1 88), .rx exReload] } }
example : ∃ k st', k ≤ 5 ∧ CvRun 10 k exDx st' ∧ Reloaded exDx st' 1 88 1 exIv [exNew] [] exDx.tm.retry [] :=
  converges_after_session_change_expired 10 exDx 88 1 exIv [exNew] [] [] rfl rfl (by decide) (by decide) (by decide) (by decide)
    ⟨by decide, by decide⟩ exEst_tbl (fun h => absurd h (by decide)) (by decide) (by decide)
    exNew_ok.1 exNew_ok.2.1 exNew_ok.2.2.1 exNew_ok.2.2.2 (by decide) (by decide +kernel) (by decide)
example : (cvIter 10 5 exDx).map (fun s => (s.c.state, s.t.pt, s.ss.session, s.n.now)) =
    some (.established, [exNew, exOther], 88, 1600) := by decide +kernel

-- (E) `converges_eventually`: the cache of session 77 at serial 6 that still knows serial 5
def exCache : CvmCache :=
  { ver := 1, sess := 77, serial := 6, iv := exIv, recs := [exR6, exR4b], keys := [],
    diff := fun n => if n = 5 then some exItems else none }
example : exCache.reply none = goodResetAnswer 1 77 6 exIv [exR6, exR4b] [] ∧
    exCache.reply (some (77, 5)) = goodSerialAnswer 1 77 6 exIv exItems ∧
    exCache.reply (some (77, 3)) = cvmCacheReset 1 ∧ exCache.reply (some (12, 5)) = cvmCacheReset 1 := ⟨rfl, rfl, rfl, rfl⟩
-- the increment the cache serves from serial 5 fits every socket that holds the tables of `exFatal`
theorem exIncOK (st : St) (ht : st.t = exFatal.t) : CvmIncOK st exCache exItems := by
  refine ⟨exItems_ok.1, exItems_ok.2.1, exItems_ok.2.2.1, ?_, ?_, ?_, by decide +kernel, ?_, ?_, by decide +kernel, ?_⟩
  all_goals rw [ht]
  · exact exItems_ok.2.2.2.1
  · exact exItems_ok.2.2.2.2
  · decide +kernel
  · decide +kernel
  · decide +kernel
  · decide +kernel
-- the socket in ERROR_FATAL at serial 5 (C08b `exFatal'`): the increment is served — one exchange
example : CvmConverged 10 6 exFatal' exCache [] :=
  converges_eventually 10 exFatal' exCache (some (77, 5)) []
    (Or.inr ⟨show exFatal'.ss.reqSession = false ∧ ¬ cvExpired exFatal' _ from ⟨rfl, fun h => absurd h.2 (by decide)⟩, rfl⟩)
    rfl (by decide) (fun _ => rfl) (by decide) (by decide) exEst_tbl (fun h => absurd h (by decide))
    (by decide) (by decide) (by decide) (by decide) (by decide) (by decide)
    (fun items h => by
      have e : some exItems = some items := h
      cases e
      exact ⟨exIncOK _ rfl, by decide⟩)
    exFatal'_tape.1 exFatal'_tape.2 (by decide)
example : (cvIter 10 3 exFatal').map (fun s => (s.c.state, s.t.pt, s.t.kt, s.ss.serial)) =
    some (.established, [exR4b, exR6, exOther], [], 6) := exObs_map exFatal'_run fun o => (o.state, o.pt, o.kt, o.serial)
-- the same socket at serial 3, which the cache no longer knows: Cache Reset, then the reload — two exchanges, 6 iterations
def exFatalOld : St :=
  { exFatal with ss := { exFatal.ss with serial := 3 },
                 n := { exFatal.n with tape := [.rx (exCache.script (some (77, 3)))] } }
example : CvmConverged 10 6 exFatalOld exCache [] :=
  converges_eventually 10 exFatalOld exCache (some (77, 3)) []
    (Or.inr ⟨show exFatalOld.ss.reqSession = false ∧ ¬ cvExpired exFatalOld _ from ⟨rfl, fun h => absurd h.2 (by decide)⟩, rfl⟩)
    rfl (by decide) (fun _ => rfl) (by decide) (by decide) exEst_tbl (fun h => absurd h (by decide))
    (by decide) (by decide) (by decide) (by decide) (by decide) (by decide)
    (fun items h => by
      have e : (none : Option (List CvItem)) = some items := h
      cases e)
    (by decide) (by decide +kernel) (by decide)
example : (List.range 7).map (fun k => (cvIter 10 k exFatalOld).map (·.c.state)) =
    [some .errFatal, some .connecting, some .sync, some .errNoIncr, some .reset, some .sync, some .established] := by
  decide +kernel
example : (cvIter 10 6 exFatalOld).map (fun s => (s.t.pt, s.t.kt, s.ss.session, s.ss.serial, s.n.now)) =
    some ([exR6, exR4b, exOther], [], 77, 6, 1600) := by decide +kernel
-- a socket that sends a Reset Query (C08b `exErr`: ERROR_TRANSPORT, new session requested)
def exErrC : St := { exErr with n := { exErr.n with tape := [.rx (exCache.script none)] } }
example : CvmConverged 10 6 exErrC exCache [] :=
  converges_eventually 10 exErrC exCache none []
    (Or.inl ⟨show exErrC.ss.reqSession = true ∨ _ from Or.inl rfl, rfl⟩)
    rfl (by decide) (fun h => absurd h (by decide)) (by decide) (by decide) ⟨rfl, by decide, by decide⟩
    (fun h => absurd h (by decide)) (by decide) (by decide) (by decide) (by decide) (by decide) (by decide)
    (fun items h => by
      have e : (none : Option (List CvItem)) = some items := h
      cases e)
    (by decide) (by decide +kernel) (by decide)

-- `established_converges_eventually`: the steady state; the increment is served (2 iterations) …
example : CvmConvergedAt 10 5 exEstN exCache 1000 [] :=
  established_converges_eventually 10 exEstN exCache [] 1000 rfl rfl rfl rfl (by decide) (by decide)
    exEst_tbl (fun h => absurd h (by decide)) (by decide) (by decide) (by decide) (by decide) (by decide)
    (by decide)
    (fun items h => by
      have e : some exItems = some items := h
      cases e
      exact ⟨exIncOK _ rfl, by decide⟩)
    (Or.inl ⟨77, 6, by decide, by decide +kernel, rfl⟩) (by decide)
-- … or, for a socket at serial 3, refused and reloaded (5 iterations), after the refresh timer
def exEstOld : St :=
  { exEst with ss := { exEst.ss with serial := 3 },
               n := { exEst.n with tape := [.block, .rx (exCache.script (some (77, 3)))] } }
example : CvmConvergedAt 10 5 exEstOld exCache 4500 [] :=
  established_converges_eventually 10 exEstOld exCache [] 4500 rfl rfl rfl rfl (by decide) (by decide)
    exEst_tbl (fun h => absurd h (by decide)) (by decide) (by decide) (by decide) (by decide) (by decide)
    (by decide)
    (fun items h => by
      have e : (none : Option (List CvItem)) = some items := h
      cases e)
    (Or.inr ⟨[.rx (exCache.script (some (77, 3)))], rfl, by decide, by decide +kernel, by decide⟩) (by decide)
example : (List.range 6).map (fun k => (cvIter 10 k exEstOld).map (fun s => (s.c.state, s.n.now))) =
    [some (.established, 1000), some (.sync, 4500), some (.errNoIncr, 4500), some (.reset, 4500), some (.sync, 4500),
     some (.established, 4500)] := by decide +kernel

end Rtr.C08c
