/-
  C14 (part a) — "Every byte sequence handed to the transport is a sequence of complete RTR PDUs of
  the negotiated version whose length field equals the bytes sent and does not exceed the client's
  own maximum PDU size, however the transport splits the writes. … [an Error Report carries] a text
  length consistent with the PDU length … (except in reply to an Error Report)".

  Model: `Rtr.P` (RtrModel/Rtr.lean): `serialQueryBytes`, `resetQueryBytes`, `errorPduBytes` are the
  byte strings `rtr_send_serial_query`, `rtr_send_reset_query`, `rtr_send_error_pdu` hand to
  `rtr_send_pdu` (after its conversion to network byte order, see RtrProofs/PduConv.lean for the
  conversion itself); `sendAll` is the loop of `tr_send_all` over a scripted transport whose send
  script decides per call: everything / the first k bytes / error / would-block.
-/
import RtrProofs.SentPdus
import RtrProofs.FsmLift

namespace Rtr.C14
open Rtr.P

theorem serialQuery_wf (ver sess sn : Nat) : WellFormedPdu ver (serialQueryBytes ver sess sn) :=
  P.serialQuery_wf ver sess sn

theorem serialQuery_fields (ver sess sn : Nat) (hs : sess < 65536) (hn : sn < 4294967296) :
    typeOf (serialQueryBytes ver sess sn) = 1 ∧ be16 (serialQueryBytes ver sess sn) 2 = sess ∧
    (serialQueryBytes ver sess sn).length = 12 ∧ be32 (serialQueryBytes ver sess sn) 8 = sn ∧
    (ver < 256 → verOf (serialQueryBytes ver sess sn) = ver) ∧
    checkSize (serialQueryBytes ver sess sn) = true := P.serialQuery_fields ver sess sn hs hn

theorem resetQuery_wf (ver : Nat) : WellFormedPdu ver (resetQueryBytes ver) := P.resetQuery_wf ver

theorem resetQuery_fields (ver : Nat) :
    typeOf (resetQueryBytes ver) = 2 ∧ be16 (resetQueryBytes ver) 2 = 0 ∧ (resetQueryBytes ver).length = 8 ∧
    (ver < 256 → verOf (resetQueryBytes ver) = ver) ∧ checkSize (resetQueryBytes ver) = true :=
  P.resetQuery_fields ver

/-- an Error Report that fits the client's maximum is well formed -/
theorem errorPdu_wf (ver : Nat) (enc : List Nat) (code : Nat) (text : List Nat)
    (h : enc.length + text.length + 16 ≤ Gen.RTR_MAX_PDU_LEN) :
    WellFormedPdu ver (errorPduBytes ver enc code text) := P.errorPdu_wf ver enc code text h

theorem errorPdu_fields (ver : Nat) (enc : List Nat) (code : Nat) (text : List Nat)
    (h : enc.length + text.length + 16 ≤ Gen.RTR_MAX_PDU_LEN) :
    typeOf (errorPduBytes ver enc code text) = 10 ∧
    (code < 65536 → be16 (errorPduBytes ver enc code text) 2 = code) ∧
    be32 (errorPduBytes ver enc code text) 8 = enc.length ∧
    ((errorPduBytes ver enc code text).drop 12).take enc.length = enc ∧
    be32 (errorPduBytes ver enc code text) (12 + enc.length) = text.length ∧
    (errorPduBytes ver enc code text).drop (16 + enc.length) = text ∧
    (errorPduBytes ver enc code text).length = 16 + enc.length + text.length ∧
    checkSize (errorPduBytes ver enc code text) = true := P.errorPdu_fields ver enc code text h

/-- the two query functions succeed exactly when `rtr_send_pdu` does on `serialQueryBytes` / `resetQueryBytes` of
    the socket's current version, session and serial number (the statement compares the results only) -/
theorem queries_sent (st : St) :
    (sendSerialQuery st).1 = (sendPdu st.c st.n (serialQueryBytes st.c.version st.ss.session st.ss.serial)).1 ∧
    (sendResetQuery st).1 = (sendPdu st.c st.n (resetQueryBytes st.c.version)).1 := by
  have key : ∀ b, (sendQuery st b).1 = (sendPdu st.c st.n b).1 := by
    intro b
    unfold sendQuery
    rcases sendPdu st.c st.n b with ⟨ok, n⟩
    cases ok <;> rfl
  rw [sendSerialQuery_eq, sendResetQuery_eq]
  exact ⟨key _, key _⟩

/-- `tr_send_all` with partial writes.  Whatever the sequence of complete / partial write
    outcomes in the send script (no failures): the result is `bytes.length`; the trace gains exactly
    the lines `W <offered> -> <k> <hex chunk>` of the calls made, all successful, and the chunks
    accepted, concatenated in order, are `bytes`; the send script loses one entry per call and
    nothing else changes. -/
theorem sendAll_chunking (n : Net) (bytes : List Nat) (hq : NoFail n.sendQ) :
    ∃ calls : List SendCall,
      sendAll n bytes = ((bytes.length : Int),
        { n with sendQ := n.sendQ.drop calls.length, trace := (calls.map SendCall.line).reverse ++ n.trace }) ∧
      (∀ c ∈ calls, c.isOk = true) ∧ accepted calls = bytes := by
  obtain ⟨hacc, hrc, hok⟩ := (sendAllCalls_spec n.sendQ bytes).resolve_right fun h => h.1 hq
  exact ⟨sendCalls (bytes.length + 1) n.sendQ bytes, by rw [sendAll_calls, hrc], hok, hacc⟩

/-- With failures (`err` / `block` anywhere in the send script): the chunks accepted before
    form a prefix of `bytes`; the result is negative exactly when a call failed. -/
theorem sendAll_prefix (n : Net) (bytes : List Nat) :
    ∃ calls : List SendCall,
      sendAll n bytes = (callsRc calls 0,
        { n with sendQ := n.sendQ.drop calls.length, trace := (calls.map SendCall.line).reverse ++ n.trace }) ∧
      accepted calls <+: bytes ∧ (callsRc calls 0 < 0 ↔ ∃ c ∈ calls, c.isOk = false) := by
  refine ⟨sendCalls (bytes.length + 1) n.sendQ bytes, sendAll_calls n bytes, ?_, callsRc_neg_iff _ _⟩
  rcases sendAllCalls_spec n.sendQ bytes with ⟨h, _⟩ | ⟨_, _, k, _, h⟩
  · rw [h]
    exact List.prefix_refl _
  · rw [h]
    exact List.take_prefix _ _

theorem no_reply_to_error (c : Conn) (n : Net) (enc : List Nat) (code : Nat) (text : List Nat)
    (h2 : 2 ≤ enc.length) (h10 : enc.getD 1 0 = 10) : sendErrorPdu c n enc code text = (true, n) :=
  P.no_reply_to_error c n enc code text h2 h10

theorem sendErrorPdu_sends (c : Conn) (n : Net) (enc : List Nat) (code : Nat) (text : List Nat)
    (h : ¬ (2 ≤ enc.length ∧ enc.getD 1 0 = 10)) :
    sendErrorPdu c n enc code text = sendPdu c n (errorPduBytes c.version enc code text) := by
  unfold sendErrorPdu
  rw [if_neg h]

/-- `tr_send_all` when the write calls take time (a congested link: each call may block for any
    time before it accepts part of the data or fails; the loop hands the transport the time left
    until its deadline, negative once the deadline has passed, and never gives up by itself).
    Whatever the script of outcomes and durations: a return value ≥ 0 — what `rtr_send_pdu` takes
    for success — means that every byte of the PDU was accepted by the transport, in order, and the
    value is the length. -/
theorem sendAll_deadline_complete (q : List SendStep) (now : Int) (bytes : List Nat) (timeout : Int)
    (h : 0 ≤ (sendAllT q now bytes timeout).rc) :
    (sendAllT q now bytes timeout).handed = bytes ∧ (sendAllT q now bytes timeout).rc = (bytes.length : Int) := by
  obtain ⟨hrc, hh⟩ := P.sendAllT_calls q now bytes timeout
  rw [hrc] at h ⊢
  rw [hh]
  rcases sendAllCalls_spec (q.map (·.ev)) bytes with ⟨a, b, _⟩ | ⟨_, hneg, _⟩
  · exact ⟨a, b⟩
  · omega

/-- … and a negative value means that a call failed; what was accepted before is a proper prefix -/
theorem sendAll_deadline_failure (q : List SendStep) (now : Int) (bytes : List Nat) (timeout : Int)
    (h : (sendAllT q now bytes timeout).rc < 0) :
    ∃ k, k < bytes.length ∧ (sendAllT q now bytes timeout).handed = bytes.take k := by
  obtain ⟨hrc, hh⟩ := P.sendAllT_calls q now bytes timeout
  rw [hrc] at h
  rw [hh]
  rcases sendAllCalls_spec (q.map (·.ev)) bytes with ⟨_, b, _⟩ | ⟨_, _, k, hk, a⟩
  · omega
  · exact ⟨k, hk, a⟩

/-- when no time passes inside the write calls this loop returns what `sendAll` (the loop inside the
    protocol model, theorems above) returns on the same outcomes -/
theorem sendAll_deadline_conservative (n : Net) (bytes : List Nat) (timeout : Int) :
    (sendAllT (P.stepsOf n.sendQ) n.now bytes timeout).rc = (sendAll n bytes).1 := by
  rw [(P.sendAllT_calls _ _ _ _).1, P.stepsOf_ev, sendAll_calls]

/-! ## non-vacuity -/

section Examples

/-- a Serial Query on a stalled link: the first write takes 61 s (one more than the 60 s the call was
    given) and accepts 5 bytes; the loop goes on (time left: -1) and the PDU is handed over completely -/
example : (sendAllT [⟨61, .part 5⟩] 1000 (serialQueryBytes 1 48879 5) 60).rc = 12 ∧
    (sendAllT [⟨61, .part 5⟩] 1000 (serialQueryBytes 1 48879 5) 60).now = 1061 ∧
    (sendAllT [⟨61, .part 5⟩] 1000 (serialQueryBytes 1 48879 5) 60).lines =
      ["V 12 60 -> 5 0101beef00", "V 7 -1 -> 7 00000c00000005"] := by decide

/-- an Error Report echoing an 8-byte header with a 3-byte text -/
example : errorPduBytes 1 [1, 4, 0, 0, 0, 0, 0, 21] 0 [65, 66, 0] =
    [1, 10, 0, 0, 0, 0, 0, 27, 0, 0, 0, 8, 1, 4, 0, 0, 0, 0, 0, 21, 0, 0, 0, 3, 65, 66, 0] := by decide

example : [1, 4, 0, 0, 0, 0, 0, 21].length + [65, 66, 0].length + 16 ≤ Gen.RTR_MAX_PDU_LEN := by decide

/-- the send script of the next example has no failing entry; with `.err` behind it, it has -/
example : ¬ NoFail [.part 3, .part 0, .all, .err] ∧ NoFail [.part 3, .part 0, .all] := by decide

/-- a Reset Query written in three pieces: 3 bytes, 1 byte (a `part 0` still moves one byte), the rest -/
example : (sendAll { sendQ := [.part 3, .part 0, .all] } (resetQueryBytes 1)).1 = 8 ∧
    (sendAll { sendQ := [.part 3, .part 0, .all] } (resetQueryBytes 1)).2.trace =
      ["W 4 -> 4 00000008", "W 5 -> 1 00", "W 8 -> 3 010200"] := by decide

/-- a failing write after 3 bytes: -1 (that the 3 bytes are a prefix is `sendAll_prefix`) -/
example : (sendAll { sendQ := [.part 3, .err] } (resetQueryBytes 1)).1 = -1 := by decide

/-- an Error Report is not answered: enc = the header of an Error Report -/
example : sendErrorPdu {} {} [1, 10, 0, 2, 0, 0, 0, 16] 0 [] = (true, {}) :=
  no_reply_to_error _ _ _ _ _ (by decide) (by decide)

end Examples

end Rtr.C14
