/-
  C06 — A full reload replaces a cache's data atomically for concurrent readers.

  Model: the synchronising thread runs `reloadProg`, the sequence of table calls of
  `rtr_sync_receive_and_store_pdus` in reset mode, over the lock IR extracted from the current
  source: copy of the live tables into thread-private shadow tables (reads of the live table
  under its read lock), filling of the shadows, then — on success — `rtr_swap_tables` (ONE
  critical section: write lock of the live prefix table, then of the live router-key table, then
  of the two shadows, both swaps inside, release in reverse order), the two `notify_diff`s; on
  failure the reload returns before the swap.  Reader threads run any sequence of validate / enumerate / key look-ups on the
  live tables.

  Per live table: every reader critical section sees the complete old or the complete new contents, never new and
  afterwards old.  Across the two tables (the data set = prefixes AND router keys): outside the combined section both
  swaps are still ahead or both are done.  What the lock IR of the current source must satisfy for that is re-checked
  on every run (section "Generated obligations").

  Why ONE section: with `pfx_table_swap` and `spki_table_swap` called one after the other — two
  critical sections — the synchronising thread holds no lock between them while the new prefixes and the
  old router keys are in place.  `gapAt` is that state as a predicate; no such run is modelled here:
  `sample_states` finds the state nowhere on the sample run and `cross_table_no_gap` excludes it for every run.
  Not modelled: the purge path after a failed undo (`rtr_purge_records_after_failed_undo` removes
  this cache's records from the live tables, C03's concern), two concurrently synchronising
  sockets (not quantified by the property).
-/
import RtrProofs.Locks
import RtrProofs.LocksChecker
import RtrProofs.LocksReload
import RtrProofs.LocksPair
import RtrModel.Generated.Locks

namespace Rtr.C06
open Rtr.Locks Rtr.Generated.Locks

/-! ## The reload system -/

def livePfx : Nat := 0
def shadowPfx : Nat := 1
def liveSpki : Nat := 2
def shadowSpki : Nat := 3

-- `call1`, `Runs` and `bodyOf` below are the definitions C16 has under the same names, and `readerProg` is C16's reader
-- with this system's table ids (C16 numbers its two tables 0 and 1)
def call1 (f : Nat) (t : Nat) : Prog := .act (.call f [t] [] 0)
def call2 (f : Nat) (a b : Nat) : Prog := .act (.call f [a, b] [] 0)

/-- the table ids behind the class names the translator gives to the arguments of a call in
    `rtr_sync_receive_and_store_pdus`; any other name gets 99, the id of none of the four tables
    (`reload_sequence` then fails: its last clauses want exactly the four) -/
def tblId : String → Nat
  | "live_pfx" => livePfx
  | "shadow_pfx" => shadowPfx
  | "live_spki" => liveSpki
  | "shadow_spki" => shadowSpki
  | _ => 99

/-- actual tables of `rtr_swap_tables` at its call in the reload, in the order of its IR table list
    (whatever its C signature is: socket + shadows, or four tables) -/
def swapTables : List Nat := ((reloadIrCalls.lookup "rtr_swap_tables").getD []).map tblId

/-- the combined swap: `rtr_swap_tables(rtr_socket, pfx_shadow_table, spki_shadow_table)` -/
def swapCall : Prog := .act (.call f_rtr_swap_tables swapTables [] 0)

/-- what `rtr_sync_receive_and_store_pdus` does to the tables when `is_resetting` -/
def reloadProg : Prog := Prog.ofList [
  call2 f_pfx_table_copy_except_socket livePfx shadowPfx,
  .alt .ret .skip,                                                      -- copy failed: shadow discarded
  call2 f_spki_table_copy_except_socket liveSpki shadowSpki,
  .alt .ret .skip,
  .loop (.alt (call1 f_pfx_table_add shadowPfx) (call1 f_pfx_table_remove shadowPfx)),        -- rtr_update_pfx_table / undo
  .loop (.alt (call1 f_spki_table_add_entry shadowSpki) (call1 f_spki_table_remove_entry shadowSpki)),
  .alt .ret .skip,                                                      -- an update failed: shadow discarded
  swapCall,
  .alt (call2 f_pfx_table_notify_diff livePfx shadowPfx) .skip,
  .alt (call2 f_spki_table_notify_diff liveSpki shadowSpki) .skip
]

def readerProg : Prog :=
  .loop (.alt (call1 f_pfx_table_validate_r livePfx) (.alt (call1 f_pfx_table_validate livePfx)
        (.alt (call1 f_pfx_table_for_each_ipv4_record livePfx) (.alt (call1 f_pfx_table_for_each_ipv6_record livePfx)
        (.alt (call1 f_spki_table_get_all liveSpki) (call1 f_spki_table_search_by_ski liveSpki))))))

/-- `π` is the event sequence of a complete run of `p` through the generated function table; a thread that has not
    finished needs no other notion, since `Reach` contains every intermediate state of a complete run -/
def Runs (p : Prog) (π : List Ev) : Prop := ∃ o, Exec fns p π o ∧ o ≠ .brk

/-- thread 0 synchronises, every other thread reads (or idles) -/
def ReloadSystem (paths : Nat → List Ev) : Prop :=
  Runs reloadProg (paths 0) ∧ ∀ i, i ≠ 0 → Runs readerProg (paths i)

/-! ## Generated obligations -/

/-- the table calls of `rtr_sync_receive_and_store_pdus` that name a LIVE table, in source order, are the modelled ones
    (calls on the update / shadow tables may be regrouped freely by refactorings):
    in reset mode `update` = `shadow`; the only calls that touch a live table are the two copies
    (read side), the combined swap, the two notify_diffs (read side) — and the purge path
    (`rtr_purge_records_after_failed_undo`: src_remove on both live tables when an undo step of a
    rejected update fails; no swap follows), which is outside this model: it is the failure
    handling judged by C03, and it leaves a third state (this cache's records removed). -/
theorem reload_sequence : reloadCalls.filter (fun c => c.2.contains "live") = [
    ("pfx_table_copy_except_socket", ["live", "update"]),
    ("spki_table_copy_except_socket", ["live", "update"]),
    ("rtr_swap_tables", ["live", "shadow"]),
    ("pfx_table_notify_diff", ["live", "shadow"]),
    ("spki_table_notify_diff", ["live", "shadow"])] ∧
    reloadCalls.any (fun c => c.1 == "rtr_purge_records_after_failed_undo") = true ∧
    -- the one lock-taking function of packets.c, called once, with exactly the four tables of the model
    reloadFns = [f_rtr_swap_tables] ∧ reloadIrCalls.length = 1 ∧
    (fns[f_rtr_swap_tables]?.map (·.ntbl)) = some 4 ∧ swapTables.length = 4 ∧
    (∀ t ∈ [livePfx, shadowPfx, liveSpki, shadowSpki], t ∈ swapTables) := by decide +kernel

/-- the lock-free workers (`pfx_table_swap_locked`, `spki_table_swap_locked`) are exactly these two and are called from
    translated code only: every one of their call sites is a `wr` under the eyes of the checker -/
theorem unlocked_writers_translated :
    unlockedWriters = ["pfx_table_swap_locked", "spki_table_swap_locked"] ∧ unlockedWriterCalls = [] := by decide +kernel

/-- all writes of the reload are under the write lock of their table, locks balanced
    (strictness off: `spki_table_notify_diff` reads the lists unlocked, see C16) -/
theorem reload_wellLocked : wellLockedProg false fns reloadProg = true := by decide +kernel

theorem readers_wellLocked : wellLockedProg true fns readerProg = true := by decide +kernel

/-- the reload write-locks the live prefix table at most once on any path (the swap) … -/
theorem reload_single_swap_pfx : acqBound (selL livePfx) fns fuel reloadProg = some 1 := by decide +kernel
/-- … and the live router-key table at most once -/
theorem reload_single_swap_spki : acqBound (selL liveSpki) fns fuel reloadProg = some 1 := by decide +kernel

/-- readers never take any write lock -/
theorem readers_never_write : acqBound anyW fns fuel readerProg = some 0 := by decide +kernel

def bodyOf (f : Nat) : Prog := (fns[f]?.map (·.body)).getD (.act (.unknown 0))

/- The reload does not call the public `pfx_table_swap` / `spki_table_swap` (lock-taking wrappers of the private table
   API, judged like every API function by C16); what is demanded of `rtr_swap_tables`, the code it does run, follows. -/

/-- the body of `rtr_swap_tables` at its call in the reload -/
def swapBody : Prog := (bodyOf f_rtr_swap_tables).inst swapTables []

/-- **the two swaps are ONE critical section**: on every path through the reload, the live router-key table is
    write-acquired only inside a write section of the live prefix table, at most once per section, and no write section
    of the live prefix table ends without it (the automaton `pairδ` accepts every path, see RtrProofs/LocksPair.lean) -/
theorem swap_section_combined : acceptsProg (pairδ livePfx liveSpki) fns reloadProg .out = true := by decide +kernel

/-- `rtr_swap_tables` holds the write locks of BOTH live tables at each of its writes (and is well locked as it stands:
    the lock-free workers run under the write locks of all four tables) … -/
theorem swap_atomic_both : wellLockedProg true fns (swapBody.requireAtWrites [livePfx, liveSpki]) = true ∧
    wellLockedProg true fns swapBody = true := by decide +kernel
/-- … and assigns the two trie roots of both prefix tables and hashtable and list of both router-key tables -/
theorem swap_writes_both :
    ∀ x ∈ ([⟨livePfx, .ipv4⟩, ⟨livePfx, .ipv6⟩, ⟨shadowPfx, .ipv4⟩, ⟨shadowPfx, .ipv6⟩,
            ⟨liveSpki, .hashtable⟩, ⟨liveSpki, .list⟩, ⟨shadowSpki, .hashtable⟩, ⟨shadowSpki, .list⟩] : List Loc),
      x ∈ swapBody.writes := by decide +kernel

/-- the obligation discriminates: the same two swaps as two critical sections are rejected … -/
example : acceptsProg (pairδ livePfx liveSpki) fns (Prog.ofList [
    .act (.acq .W livePfx 0), .act (.wr ⟨livePfx, .ipv4⟩ 0), .act (.rel livePfx 0),
    .act (.acq .W liveSpki 0), .act (.wr ⟨liveSpki, .list⟩ 0), .act (.rel liveSpki 0)]) .out = false := by decide +kernel
/-- … so is a prefix-table section that never takes the router-key lock, … -/
example : acceptsProg (pairδ livePfx liveSpki) fns (Prog.ofList [
    .act (.acq .W livePfx 0), .act (.wr ⟨livePfx, .ipv4⟩ 0), .act (.rel livePfx 0)]) .out = false := by decide +kernel
/-- … and one that takes it on some paths only; the nested section is accepted -/
example : acceptsProg (pairδ livePfx liveSpki) fns (Prog.ofList [
    .act (.acq .W livePfx 0), .alt (Prog.ofList [.act (.acq .W liveSpki 0), .act (.rel liveSpki 0)]) .skip,
    .act (.rel livePfx 0)]) .out = false ∧
  acceptsProg (pairδ livePfx liveSpki) fns (Prog.ofList [
    .act (.acq .W livePfx 0), .act (.acq .W liveSpki 0), .act (.wr ⟨liveSpki, .list⟩ 0), .act (.rel liveSpki 0),
    .act (.rel livePfx 0)]) .out = true := by decide +kernel

theorem Runs.balanced {strict : Bool} {p : Prog} (hw : wellLockedProg strict fns p = true) {π : List Ev}
    (h : Runs p π) : Balanced strict π := by
  obtain ⟨o, hx, ho⟩ := h
  exact wellLockedProg_sound hw hx ho

theorem Runs.count {p : Prog} {sel : Mode → Nat → Bool} {b : Nat} (hb : acqBound sel fns fuel p = some b)
    {π : List Ev} (h : Runs p π) : countAcq sel π ≤ b := by
  obtain ⟨o, hx, _⟩ := h
  exact acqBound_sound hx fuel b hb

/-- strictness per thread: the synchronising thread is only write-guarded -/
def σ : Nat → Bool := fun i => decide (i ≠ 0)

theorem ReloadSystem.guarded {paths : Nat → List Ev} (h : ReloadSystem paths) : ∀ i, Guarded (σ i) (paths i) := by
  intro i
  by_cases hi : i = 0
  · subst hi; exact (Runs.balanced reload_wellLocked h.1).guarded
  · have : σ i = true := by simp [σ, hi]
    rw [this]; exact (Runs.balanced readers_wellLocked (h.2 i hi)).guarded

theorem readers_no_acqW {paths : Nat → List Ev} (h : ReloadSystem paths) (j : Nat) (hj : j ≠ 0) :
    countAcq anyW (paths j) = 0 := by
  have := Runs.count readers_never_write (h.2 j hj); omega

theorem readers_no_swap {paths : Nat → List Ev} (h : ReloadSystem paths) (L j : Nat) (hj : j ≠ 0) :
    countAcq (selL L) (paths j) = 0 := by
  have h1 := countAcq_selL_le_anyW L (paths j)
  have h2 := readers_no_acqW h j hj
  omega

def IsLive (L : Nat) : Prop := L = livePfx ∨ L = liveSpki

theorem reload_count {paths : Nat → List Ev} (h : ReloadSystem paths) {L : Nat} (hL : IsLive L) :
    countAcq (selL L) (paths 0) ≤ 1 := by
  rcases hL with rfl | rfl
  · exact Runs.count reload_single_swap_pfx h.1
  · exact Runs.count reload_single_swap_spki h.1

theorem reload_budget {store : Loc → Nat} {paths : Nat → List Ev} (h : ReloadSystem paths) {L : Nat} (hL : IsLive L)
    {s : Sys} (hr : Reach store paths s) : countAcq (selL L) (s.thr 0).rest ≤ 1 :=
  Nat.le_trans (Reach.pending_le hr) (reload_count h hL)

/-- the old contents of table `L` (at the start) and the new contents (old overwritten by the
    writes the synchronising thread performs on `L`, all of them inside the swap) -/
def oldAbs (store : Loc → Nat) (L : Nat) : Part → Nat := fun p => store ⟨L, p⟩
def newAbs (store : Loc → Nat) (paths : Nat → List Ev) (L : Nat) : Part → Nat := applyW L (paths 0) (oldAbs store L)

/-- In every interleaving, in every state in which some reader `j` holds
    the read lock of a live table `L` (i.e. anywhere inside a reader critical section on `L`):
    the table's abstract value is the old one if the swap is still ahead, the new one if it is
    over.  Never empty, never half loaded.  (The reader keeps the synchronising thread out of its
    swap, `reader_excludes_writer`; the statement does not repeat that.) -/
theorem reload_two_states {store : Loc → Nat} {paths : Nat → List Ev} (h : ReloadSystem paths)
    {L : Nat} (hL : IsLive L) {s : Sys} (hr : Reach store paths s) {j : Nat} (hj : j ∈ s.readers L) :
    (swapPending 0 L s ∧ abs s L = oldAbs store L) ∨ (¬ swapPending 0 L s ∧ abs s L = newAbs store paths L) := by
  have hI := inv_reach h.guarded hr
  have hout : (L, Mode.W) ∉ (s.thr 0).held := reader_excludes_writer hI hj
  exact two_states 0 L h.guarded (reload_count h hL) (readers_no_swap h L) hr hout

/-- The swap, once over, stays over — with `reload_two_states`: a reader
    section that saw the new value is never followed by one that sees the old value. -/
theorem reload_monotone {L : Nat} {s s' : Sys} (hs : Steps s s') (hdone : ¬ swapPending 0 L s)
    (hle : countAcq (selL L) (s.thr 0).rest ≤ 1) : ¬ swapPending 0 L s' :=
  swapPending_done_steps hs hle hdone

/-- never new and afterwards old (`_hj` only says that `s` lies inside a reader section, where `hnew` is what the reader
    has seen; the conclusion holds without it) -/
theorem never_new_then_old {store : Loc → Nat} {paths : Nat → List Ev} (h : ReloadSystem paths)
    {L : Nat} (hL : IsLive L) {s s' : Sys} (hr : Reach store paths s) (hs : Steps s s')
    {j j' : Nat} (_hj : j ∈ s.readers L) (hj' : j' ∈ s'.readers L)
    (hnew : ¬ swapPending 0 L s) : abs s' L = newAbs store paths L := by
  have hr' : Reach store paths s' := Steps.trans hr hs
  have hle := reload_budget h hL hr
  rcases reload_two_states h hL hr' hj' with ⟨hp, _⟩ | ⟨_, hn⟩
  · exact absurd hp (reload_monotone hs hnew hle)
  · exact hn

/-- A query whose answer is the same under the old and the new data set
    returns that answer at all times. -/
theorem stable_answers {α : Type} (answer : (Part → Nat) → α)
    {store : Loc → Nat} {paths : Nat → List Ev} (h : ReloadSystem paths)
    {L : Nat} (hL : IsLive L) (hsame : answer (oldAbs store L) = answer (newAbs store paths L))
    {s : Sys} (hr : Reach store paths s) {j : Nat} (hj : j ∈ s.readers L) :
    answer (abs s L) = answer (oldAbs store L) := by
  rcases reload_two_states h hL hr hj with ⟨_, ho⟩ | ⟨_, hn⟩
  · rw [ho]
  · rw [hn, hsame]

/-- no data race between the reload and any number of readers -/
theorem reload_no_race {store : Loc → Nat} {paths : Nat → List Ev} (h : ReloadSystem paths)
    {s : Sys} (hr : Reach store paths s) : ¬ Race s := by
  apply single_writer_no_race 0 _ _ _ hr
  · exact (Runs.balanced reload_wellLocked h.1).guarded
  · intro j hj; exact (Runs.balanced readers_wellLocked (h.2 j hj)).guarded
  · intro j hj; exact readers_no_acqW h j hj

/-! ## Across the two tables -/

theorem reload_accepts {paths : Nat → List Ev} (h : ReloadSystem paths) :
    runQ (pairδ livePfx liveSpki) .out (paths 0) = some .out := by
  obtain ⟨o, hx, ho⟩ := h.1
  exact acceptsProg_sound (fun _ _ _ => rfl) swap_section_combined hx ho

/-- In every interleaving, in every state in which the synchronising thread does not hold the
    write lock of the live prefix table (in particular: whenever it holds no lock, and whenever some reader is inside a
    read section of the prefix table): both swaps are still ahead, or both are done.  There is no state "prefixes
    swapped, router keys not yet" outside the combined section. -/
theorem cross_table_atomic {store : Loc → Nat} {paths : Nat → List Ev} (h : ReloadSystem paths)
    {s : Sys} (hr : Reach store paths s) (hout : (livePfx, Mode.W) ∉ (s.thr 0).held) :
    (swapPending 0 livePfx s ∧ swapPending 0 liveSpki s) ∨ (¬ swapPending 0 livePfx s ∧ ¬ swapPending 0 liveSpki s) := by
  -- the two write sections have begun together or not at all
  have hiff := swapPending_congr (pair_atomic 0 livePfx liveSpki (by decide) (reload_accepts h) hr hout)
  by_cases hp : swapPending 0 livePfx s
  · exact Or.inl ⟨hp, hiff.mp hp⟩
  · exact Or.inr ⟨hp, fun hk => hp (hiff.mpr hk)⟩

/-- no lock held ⇒ no state with the prefix swap over and the router-key swap ahead, nor the reverse -/
theorem cross_table_no_gap {store : Loc → Nat} {paths : Nat → List Ev} (h : ReloadSystem paths)
    {s : Sys} (hr : Reach store paths s) (hnone : (s.thr 0).held = []) :
    ¬ (¬ swapPending 0 livePfx s ∧ swapPending 0 liveSpki s) ∧ ¬ (swapPending 0 livePfx s ∧ ¬ swapPending 0 liveSpki s) := by
  have hout : (livePfx, Mode.W) ∉ (s.thr 0).held := by rw [hnone]; simp
  rcases cross_table_atomic h hr hout with ⟨hp, hk⟩ | ⟨hp, hk⟩
  · exact ⟨fun hx => hx.1 hp, fun hx => hx.2 hk⟩
  · exact ⟨fun hx => hk hx.2, fun hx => hp hx.1⟩

/-- Outside the combined section (the synchronising thread holds neither live write lock)
    the PAIR of live tables has one of exactly two values: the complete old data set or the complete new one. -/
theorem cross_table_two_states {store : Loc → Nat} {paths : Nat → List Ev} (h : ReloadSystem paths)
    {s : Sys} (hr : Reach store paths s)
    (hp : (livePfx, Mode.W) ∉ (s.thr 0).held) (hk : (liveSpki, Mode.W) ∉ (s.thr 0).held) :
    (abs s livePfx = oldAbs store livePfx ∧ abs s liveSpki = oldAbs store liveSpki) ∨
    (abs s livePfx = newAbs store paths livePfx ∧ abs s liveSpki = newAbs store paths liveSpki) := by
  have tp := two_states 0 livePfx h.guarded (reload_count h (Or.inl rfl)) (readers_no_swap h livePfx) hr hp
  have tk := two_states 0 liveSpki h.guarded (reload_count h (Or.inr rfl)) (readers_no_swap h liveSpki) hr hk
  rcases cross_table_atomic h hr hp with ⟨pp, pk⟩ | ⟨np, nk⟩
  · exact Or.inl ⟨(tp.resolve_right fun n => n.1 pp).2, (tk.resolve_right fun n => n.1 pk).2⟩
  · exact Or.inr ⟨(tp.resolve_left fun p => np p.1).2, (tk.resolve_left fun p => nk p.1).2⟩

/-- **never new prefixes and afterwards old router keys.**  A reader section on the prefix table that saw the new
    prefixes (`¬ swapPending` there, by `reload_two_states`) is never followed by a reader section on the router-key
    table that sees the old keys. -/
theorem never_new_pfx_then_old_keys {store : Loc → Nat} {paths : Nat → List Ev} (h : ReloadSystem paths)
    {s s' : Sys} (hr : Reach store paths s) (hs : Steps s s')
    {j j' : Nat} (hj : j ∈ s.readers livePfx) (hj' : j' ∈ s'.readers liveSpki)
    (hnew : ¬ swapPending 0 livePfx s) : abs s' liveSpki = newAbs store paths liveSpki := by
  have hI := inv_reach h.guarded hr
  have hout : (livePfx, Mode.W) ∉ (s.thr 0).held := reader_excludes_writer hI hj
  have hk : ¬ swapPending 0 liveSpki s := by
    rcases cross_table_atomic h hr hout with ⟨hp, _⟩ | ⟨_, hk⟩
    · exact absurd hp hnew
    · exact hk
  have hk' := reload_monotone hs hk (reload_budget h (Or.inr rfl) hr)
  rcases reload_two_states h (Or.inr rfl) (Steps.trans hr hs) hj' with ⟨hp, _⟩ | ⟨_, hn⟩
  · exact absurd hp hk'
  · exact hn

/-- **never new router keys and afterwards old prefixes.**  (`_hj` as in `never_new_then_old`.) -/
theorem never_new_keys_then_old_pfx {store : Loc → Nat} {paths : Nat → List Ev} (h : ReloadSystem paths)
    {s s' : Sys} (hr : Reach store paths s) (hs : Steps s s')
    {j j' : Nat} (_hj : j ∈ s.readers liveSpki) (hj' : j' ∈ s'.readers livePfx)
    (hnew : ¬ swapPending 0 liveSpki s) : abs s' livePfx = newAbs store paths livePfx := by
  have hr' : Reach store paths s' := Steps.trans hr hs
  have hI' := inv_reach h.guarded hr'
  have hout' : (livePfx, Mode.W) ∉ (s'.thr 0).held := reader_excludes_writer hI' hj'
  have hk' := reload_monotone hs hnew (reload_budget h (Or.inr rfl) hr)
  have hp' : ¬ swapPending 0 livePfx s' := by
    rcases cross_table_atomic h hr' hout' with ⟨_, hk⟩ | ⟨hp, _⟩
    · exact absurd hk hk'
    · exact hp
  rcases reload_two_states h (Or.inl rfl) hr' hj' with ⟨hp, _⟩ | ⟨_, hn⟩
  · exact absurd hp hp'
  · exact hn

/-- A query over BOTH tables whose answer is the same under the complete old and the
    complete new data set returns that answer whenever it is evaluated outside the combined section. -/
theorem stable_pair_answers {α : Type} (answer : (Part → Nat) → (Part → Nat) → α)
    {store : Loc → Nat} {paths : Nat → List Ev} (h : ReloadSystem paths)
    (hsame : answer (oldAbs store livePfx) (oldAbs store liveSpki) =
             answer (newAbs store paths livePfx) (newAbs store paths liveSpki))
    {s : Sys} (hr : Reach store paths s)
    (hp : (livePfx, Mode.W) ∉ (s.thr 0).held) (hk : (liveSpki, Mode.W) ∉ (s.thr 0).held) :
    answer (abs s livePfx) (abs s liveSpki) = answer (oldAbs store livePfx) (oldAbs store liveSpki) := by
  rcases cross_table_two_states h hr hp hk with ⟨ap, ak⟩ | ⟨ap, ak⟩
  · rw [ap, ak]
  · rw [ap, ak, hsame]

/-! ## Non-vacuity -/

/-- is `cs` a resolution of the branch points that takes `runPath` through a complete reload which write-locks each
    live table exactly once?  (Fuel 300 covers the nesting depth of the reload's calls; with too little `runPath`
    gives `none` and `sampleChoices_good` fails.) -/
def goodChoices (cs : List Bool) : Bool :=
  match runPath fns 300 reloadProg cs with
  | some (π, .norm, []) => countAcq (selL livePfx) π == 1 && countAcq (selL liveSpki) π == 1
  | _ => false

/-- choices steering `runPath` through a complete successful reload (empty tables, nothing to copy, nothing to add,
    both swaps, no diff): "always the second alternative", as many times as the generated IR has branch points on that
    path - a number read off the IR by search (below 80), not written down -/
def sampleChoices : List Bool :=
  (((List.range 80).map fun n => List.replicate n false).find? goodChoices).getD []

def samplePath : List Ev := ((runPath fns 300 reloadProg sampleChoices).map (·.1)).getD []

theorem sampleChoices_good : goodChoices sampleChoices = true := by decide +kernel

theorem goodChoices_spec {cs : List Bool} (h : goodChoices cs = true) :
    ∃ π, runPath fns 300 reloadProg cs = some (π, .norm, []) ∧
      countAcq (selL livePfx) π = 1 ∧ countAcq (selL liveSpki) π = 1 := by
  unfold goodChoices at h
  split at h
  · rename_i π heq
    exact ⟨π, heq, by simpa using h⟩
  · cases h

theorem samplePath_spec : runPath fns 300 reloadProg sampleChoices = some (samplePath, .norm, []) ∧
    countAcq (selL livePfx) samplePath = 1 ∧ countAcq (selL liveSpki) samplePath = 1 := by
  obtain ⟨π, hq, hc⟩ := goodChoices_spec sampleChoices_good
  have hπ : samplePath = π := by
    unfold samplePath
    rw [hq]
    rfl
  rw [hπ]
  exact ⟨hq, hc⟩

theorem samplePath_runs : Runs reloadProg samplePath :=
  ⟨.norm, runPath_sound samplePath_spec.1, nofun⟩

/-- the hypotheses are satisfiable, and the sample reload really swaps both tables -/
example : Runs reloadProg samplePath ∧ countAcq (selL livePfx) samplePath = 1 ∧
    countAcq (selL liveSpki) samplePath = 1 ∧ samplePath ≠ [] := by
  refine ⟨samplePath_runs, samplePath_spec.2.1, samplePath_spec.2.2, ?_⟩
  intro hnil
  have h := samplePath_spec.2.1
  rw [hnil] at h
  cases h

def samplePaths : Nat → List Ev := fun i => if i = 0 then samplePath else []

theorem sample_system : ReloadSystem samplePaths := by
  refine ⟨samplePath_runs, ?_⟩
  intro i hi
  have : samplePaths i = [] := by simp [samplePaths, hi]
  rw [this]
  exact ⟨.norm, .loopDone, by decide⟩

instance (w L : Nat) (s : Sys) : Decidable (swapPending w L s) := by unfold swapPending; infer_instance

/-- the sample reload is accepted by the automaton of the combined section (as `reload_accepts` says of every reload) -/
example : runQ (pairδ livePfx liveSpki) .out samplePath = some .out := by
  have h := reload_accepts sample_system
  rwa [show samplePaths 0 = samplePath from if_pos rfl] at h

/-- after `k` steps of the synchronising thread: no lock held, prefix swap over, router-key swap ahead -/
def gapAt (k : Nat) : Bool :=
  decide (((fireN (init (fun _ => 0) samplePaths) 0 k).thr 0).held = []) &&
  decide (¬ swapPending 0 livePfx (fireN (init (fun _ => 0) samplePaths) 0 k)) &&
  decide (swapPending 0 liveSpki (fireN (init (fun _ => 0) samplePaths) 0 k))

/-- after `k` steps: no lock held and both swaps over -/
def bothDoneAt (k : Nat) : Bool :=
  decide (((fireN (init (fun _ => 0) samplePaths) 0 k).thr 0).held = []) &&
  decide (¬ swapPending 0 livePfx (fireN (init (fun _ => 0) samplePaths) 0 k)) &&
  decide (¬ swapPending 0 liveSpki (fireN (init (fun _ => 0) samplePaths) 0 k))

/-- inside the combined section: the synchronising thread write-holds the prefix table, router-key swap still ahead
    (the state that the hypothesis of `cross_table_atomic` excludes: it exists, the hypothesis is needed) -/
def insideAt (k : Nat) : Bool :=
  decide ((livePfx, Mode.W) ∈ ((fireN (init (fun _ => 0) samplePaths) 0 k).thr 0).held) &&
  decide (¬ swapPending 0 livePfx (fireN (init (fun _ => 0) samplePaths) 0 k)) &&
  decide (swapPending 0 liveSpki (fireN (init (fun _ => 0) samplePaths) 0 k))

/-- on the sample run: at step 0 the prefix swap is still ahead; at some step no lock is held and both swaps are over;
    the combination that `cross_table_atomic` excludes occurs inside the section (`insideAt`), and there is NO lock-free
    state with the prefix swap over and the router-key swap ahead -/
theorem sample_states : gapAt 0 = false ∧ bothDoneAt 0 = false ∧ (List.range (samplePath.length + 1)).any bothDoneAt = true ∧
    (List.range (samplePath.length + 1)).any insideAt = true ∧ (List.range (samplePath.length + 1)).any gapAt = false := by
  decide +kernel

example : ∃ (paths : Nat → List Ev) (s : Sys), ReloadSystem paths ∧ Reach (fun _ => 0) paths s ∧ (s.thr 0).held = [] ∧
    ¬ swapPending 0 livePfx s ∧ ¬ swapPending 0 liveSpki s := by
  obtain ⟨k, _, hk⟩ := List.any_eq_true.1 sample_states.2.2.1
  unfold bothDoneAt at hk
  simp only [Bool.and_eq_true, decide_eq_true_eq] at hk
  exact ⟨samplePaths, fireN (init (fun _ => 0) samplePaths) 0 k, sample_system, fireN_steps _ _ _, hk.1.1, hk.1.2, hk.2⟩

/- `cross_table_no_gap` excludes, for EVERY reload system and every reachable state, a lock-free state with the prefix
   swap over and the router-key swap ahead (`gapAt`); `sample_states` shows it on the sample run.  On the real code the
   check looks for the same state (harness/locks_harness.c, mode `xtable`, corpus/locks/C06_cross_table.xops): a run in
   which a reader sees new prefixes with old router keys is a violation. -/

end Rtr.C06
