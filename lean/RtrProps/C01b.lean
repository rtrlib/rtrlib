/-
  C01 (continued) — the literal IPv6 bit code computes the abstract bit view: `lrtr_ipv6_get_bits`
  (the four-word cascade with `bits_left`, model `ipv6GetBits`, transcribed from rtrlib/lib/ipv6.c)
  as used by `is_left_child` (one bit at `lvl`) and by the covering test of `trie_lookup` (`len` bits
  from 0), on the address representation `V6.ofNat` (the four host-order words `addr[0..3]` of a
  128-bit number).  The IPv4 counterparts are `bits_link4` / `bits_cover4` in RtrProps/C01.
-/
import RtrProofs.BitsLink6

namespace Rtr.C01
open Rtr

/-- `is_left_child(addr, lvl)` as transcribed from the C text (IPv6) is the model's `isLeft`, at
    every level — including `lvl ≥ 128`, where the cascade touches no word and answers "left" -/
theorem bits_link6 (a : Nat) (_ha : a < 2^128) (lvl : Nat) :
    isLeftChildC6 (V6.ofNat a) lvl = isLeft 128 a lvl := isLeftChildC6_eq a lvl

/-- the covering test of `trie_lookup` as transcribed from the C text (IPv6),
    `lrtr_ip_addr_equal(get_bits(p, 0, len), get_bits(q, 0, len))`, is the model's `prefixEq` -/
theorem bits_cover6 (p q : Nat) (hp : p < 2^128) (hq : q < 2^128) (len : Nat) (h : len ≤ 128) :
    coversC6 (V6.ofNat p) len (V6.ofNat q) = prefixEq 128 p q len := coversC6_eq p q hp hq len h

/-- `V6.ofNat` is the faithful word view of a 128-bit number (so the two theorems above speak
    about every IPv6 address) -/
theorem v6_roundtrip (a : Nat) (ha : a < 2^128) : (V6.ofNat a).toNat = a := by
  simp only [V6.ofNat, V6.toNat, BitVec.toNat_ofNat]
  omega

/-! ### non-vacuity: both sides evaluated on concrete addresses, across word boundaries -/

example : isLeftChildC6 (V6.ofNat 0x20010db8000000000000000100000000) 95 = false := by decide
example : isLeft 128 0x20010db8000000000000000100000000 95 = false := by decide
example : isLeftChildC6 (V6.ofNat 0x20010db8000000000000000100000000) 96 = true := by decide
example : isLeftChildC6 (V6.ofNat (2^128 - 1)) 128 = true := by decide
example : coversC6 (V6.ofNat 0x20010db8000000000000000000000000) 33 (V6.ofNat 0x20010db8700000000000000000000001) = true := by
  decide
example : prefixEq 128 0x20010db8000000000000000000000000 0x20010db8700000000000000000000001 33 = true := by decide
example : coversC6 (V6.ofNat 0x20010db8000000000000000000000000) 34 (V6.ofNat 0x20010db8700000000000000000000001) = false := by
  decide
example : coversC6 (V6.ofNat 5) 128 (V6.ofNat 5) = true ∧ coversC6 (V6.ofNat 5) 128 (V6.ofNat 4) = false := by decide

end Rtr.C01
