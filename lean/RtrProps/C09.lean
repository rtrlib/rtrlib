/-
  C09 — Update callbacks are a complete and exact change log of the prefix table.

  Model: the ghost field `PfxTable.log` records every `update_fp` invocation in order.
  Statement: replaying the stream from table creation (a) never meets an entry that reports a
  change that did not happen (`replay` returns `some`: an "added" entry for a record already
  present, or a "removed" entry for an absent one, makes it `none` — this rules out spurious and
  repeated callbacks), and (b) ends in exactly the table's contents (rules out missing ones) —
  after every public operation: add, remove, remove-by-source, destruction.

  The atomic reload (copy_except_socket + swap + pfx_table_notify_diff: "only the net difference
  for the reloading cache is reported") is proved in RtrProps/C09b.lean (`notifyDiff_net`,
  `reload_log_replays`, `log_replays_reload`: histories that mix reloads with the operations
  below).  The rollback of a failed synchronisation is a sequence of add/remove and is covered by
  `log_replays`.
-/
import RtrProofs.TableSet
import RtrProps.C02

namespace Rtr.C09
open Rtr PfxTable

/-- replay of a callback stream over a multiset of records; `none` = some entry is not a real change -/
def replay : List (Bool × Rec) → List Rec → Option (List Rec)
  | [], s => some s
  | (true, r) :: l, s => if r ∈ s then none else replay l (r :: s)
  | (false, r) :: l, s => if r ∈ s then replay l (s.erase r) else none

theorem replay_append : ∀ (l1 l2 : List (Bool × Rec)) (s : List Rec),
    replay (l1 ++ l2) s = (replay l1 s).bind (replay l2) := by
  intro l1
  induction l1 with
  | nil => intro l2 s; simp [replay]
  | cons x xs ih =>
    intro l2 s
    obtain ⟨b, r⟩ := x
    cases b <;> simp only [List.cons_append, replay] <;> split <;> simp [ih]

/-- the log is an exact change log of the contents: it replays without a spurious entry to a
    list that is the table's contents up to order -/
def LogOK (T : PfxTable) : Prop := ∃ s, replay T.log [] = some s ∧ s.Perm T.recs

theorem replay_removals : ∀ (gone s : List Rec), gone.Nodup → (∀ g ∈ gone, g ∈ s) → s.Nodup →
    ∃ s', replay (gone.map fun r => (false, r)) s = some s' ∧ (∀ x, x ∈ s' ↔ x ∈ s ∧ x ∉ gone) ∧ s'.Nodup := by
  intro gone
  induction gone with
  | nil => intro s _ _ hs; exact ⟨s, rfl, by simp, hs⟩
  | cons g gs ih =>
    intro s hg hin hs
    rw [List.nodup_cons] at hg
    have hgin : g ∈ s := hin g (by simp)
    have hs' : (s.erase g).Nodup := hs.sublist (List.erase_sublist)
    have hin' : ∀ x ∈ gs, x ∈ s.erase g := by
      intro x hx
      have : x ≠ g := fun e => hg.1 (e ▸ hx)
      exact (List.mem_erase_of_ne this).2 (hin x (List.mem_cons_of_mem _ hx))
    obtain ⟨s', h1, h2, h3⟩ := ih (s.erase g) hg.2 hin' hs'
    refine ⟨s', by simp [replay, hgin, h1], fun x => ?_, h3⟩
    rw [h2 x, hs.mem_erase_iff, List.mem_cons, not_or, and_assoc, and_left_comm]

theorem replay_additions : ∀ (added s : List Rec), added.Nodup → (∀ a ∈ added, a ∉ s) → s.Nodup →
    ∃ s', replay (added.map fun r => (true, r)) s = some s' ∧ (∀ x, x ∈ s' ↔ x ∈ s ∨ x ∈ added) ∧ s'.Nodup := by
  intro added
  induction added with
  | nil => intro s _ _ hs; exact ⟨s, rfl, by simp, hs⟩
  | cons a as ih =>
    intro s ha hnot hs
    rw [List.nodup_cons] at ha
    have hain : a ∉ s := hnot a (by simp)
    have hnot' : ∀ x ∈ as, x ∉ a :: s := by
      intro x hx hin
      rcases List.mem_cons.1 hin with rfl | hin'
      · exact ha.1 hx
      · exact hnot x (List.mem_cons_of_mem _ hx) hin'
    obtain ⟨s', h1, h2, h3⟩ := ih (a :: s) ha.2 hnot' (List.nodup_cons.2 ⟨hain, hs⟩)
    refine ⟨s', by simp [replay, hain, h1], fun x => ?_, h3⟩
    rw [h2 x, List.mem_cons, List.mem_cons, or_assoc, or_left_comm]

/-- A stream that replays to `recs`, extended by a run of additions of records not held and then a run
    of removals of records held by then, replays to `recs'` = `(recs ∪ added) \ gone`. -/
theorem replay_net {log : List (Bool × Rec)} {s recs recs' : List Rec} (h0 : replay log [] = some s)
    (hp : s.Perm recs) (nd : recs.Nodup) (nd' : recs'.Nodup) (added gone : List Rec)
    (na : added.Nodup) (ng : gone.Nodup) (da : ∀ a ∈ added, a ∉ recs) (dg : ∀ g ∈ gone, g ∈ recs ∨ g ∈ added)
    (hrecs : ∀ x, x ∈ recs' ↔ (x ∈ recs ∨ x ∈ added) ∧ x ∉ gone) :
    ∃ s', replay (log ++ (added.map (fun r => (true, r)) ++ gone.map (fun r => (false, r)))) [] = some s' ∧
      s'.Perm recs' := by
  obtain ⟨s1, a1, a2, a3⟩ := replay_additions added s na (fun a ha hin => da a ha (hp.mem_iff.1 hin))
    (hp.nodup_iff.2 nd)
  obtain ⟨s2, r1, r2, r3⟩ := replay_removals gone s1 ng
    (fun g hg => (a2 g).2 ((dg g hg).imp_left hp.mem_iff.2)) a3
  refine ⟨s2, ?_, (List.perm_ext_iff_of_nodup r3 nd').2 fun x => ?_⟩
  · rw [replay_append, h0, Option.bind_some, replay_append, a1]
    exact r1
  · rw [r2 x, a2 x, hrecs x, hp.mem_iff]

/-- the same for tables: every operation extends the stream of the table in this way (the router-key
    table has the same statement over its own replay: `SpkiTable.linv_of_changes`, RtrProofs/SpkiLog) -/
theorem logOK_of_changes (T T' : PfxTable) (hl : LogOK T) (nd : T.recs.Nodup) (nd' : T'.recs.Nodup)
    (added gone : List Rec) (na : added.Nodup) (ng : gone.Nodup) (da : ∀ a ∈ added, a ∉ T.recs)
    (dg : ∀ g ∈ gone, g ∈ T.recs ∨ g ∈ added)
    (hlog : T'.log = T.log ++ (added.map (fun r => (true, r)) ++ gone.map (fun r => (false, r))))
    (hrecs : ∀ x, x ∈ T'.recs ↔ (x ∈ T.recs ∨ x ∈ added) ∧ x ∉ gone) : LogOK T' := by
  obtain ⟨s, hs, hp⟩ := hl
  unfold LogOK
  rw [hlog]
  exact replay_net hs hp nd nd' added gone na ng da dg hrecs

theorem logOK_init : LogOK {} := ⟨[], rfl, by simp [PfxTable.recs, recs4, recs6, trieRecs, Trie.nodes]⟩

/-- **C09** for one operation: add, remove, remove-by-source keep the log an exact change log -/
theorem step_logOK (T : PfxTable) (op : C02.Op) (h : TableWF T) (hcb : T.hasCb = true) (hl : LogOK T) (hop : op.OK) :
    LogOK (C02.stepT T op).1 ∧ (C02.stepT T op).1.hasCb = true := by
  have nd := recs_nodup T h
  cases op with
  | add r =>
    have a := add_spec T r h hop
    simp only [C02.stepT]
    by_cases hin : r ∈ T.recs
    · rw [(a.dup hin).2]
      exact ⟨hl, hcb⟩
    · obtain ⟨_, h2, h3, h4⟩ := a.ok hin
      rw [hcb, if_pos rfl] at h3
      refine ⟨logOK_of_changes T _ hl nd (recs_nodup _ a.wf) [r] [] (List.pairwise_singleton _ r) List.nodup_nil
        (fun x hx => List.mem_singleton.1 hx ▸ hin) (fun _ hg => nomatch hg) h3 fun x => ?_, h4.trans hcb⟩
      rw [h2.mem_iff, List.mem_cons, List.mem_singleton, or_comm]
      exact (and_iff_left List.not_mem_nil).symm
  | remove r =>
    have a := remove_spec T r h
    simp only [C02.stepT]
    by_cases hin : r ∈ T.recs
    · obtain ⟨_, _, h3, h4⟩ := a.ok hin
      rw [hcb, if_pos rfl] at h3
      refine ⟨logOK_of_changes T _ hl nd (recs_nodup _ a.wf) [] [r] List.nodup_nil (List.pairwise_singleton _ r)
        (fun _ hx => nomatch hx) (fun x hx => Or.inl (List.mem_singleton.1 hx ▸ hin)) h3 fun x => ?_, h4.trans hcb⟩
      rw [mem_remove_iff T r h hin x, List.mem_singleton]
      exact ⟨fun hx => ⟨Or.inl hx.2, hx.1⟩, fun hx => ⟨hx.2, hx.1.resolve_right List.not_mem_nil⟩⟩
    · rw [(a.nf hin).2]
      exact ⟨hl, hcb⟩
  | srcRemove src =>
    have a := srcRemove_spec T src h
    simp only [C02.stepT]
    obtain ⟨gone, hg, hlog⟩ := a.log
    rw [hcb, if_pos rfl] at hlog
    have gm : ∀ x, x ∈ gone ↔ x ∈ T.recs ∧ x.src = src := fun x => by
      rw [hg.mem_iff, List.mem_filter, beq_iff_eq]
    refine ⟨logOK_of_changes T _ hl nd (recs_nodup _ a.wf) [] gone List.nodup_nil
      (hg.nodup_iff.2 (nd.sublist List.filter_sublist)) (fun _ hx => nomatch hx)
      (fun g hx => Or.inl ((gm g).1 hx).1) hlog fun x => ?_, a.cb.trans hcb⟩
    rw [a.recs.mem_iff, List.mem_filter, gm x, bne_iff_ne]
    exact ⟨fun ⟨hx, hne⟩ => ⟨Or.inl hx, fun k => hne k.2⟩,
      fun ⟨hx, hn⟩ => ⟨hx.resolve_right List.not_mem_nil, fun e => hn ⟨hx.resolve_right List.not_mem_nil, e⟩⟩⟩

/-- **C09**: after every finite history of public operations on a table created with a callback,
    replaying the callback stream from creation meets no spurious entry and reproduces exactly
    the table's contents. -/
theorem log_replays : ∀ (ops : List C02.Op) (T : PfxTable), TableWF T → T.hasCb = true → LogOK T →
    (∀ op ∈ ops, op.OK) → LogOK (C02.runT ops T).1 := by
  intro ops
  induction ops with
  | nil => intro T _ _ hl _; exact hl
  | cons op ops ih =>
    intro T h hcb hl hok
    have s := step_logOK T op h hcb hl (hok op (by simp))
    have w := (C02.step_refines T T.recs op h (List.Perm.refl _) (hok op (by simp))).1
    simp only [C02.runT]
    exact ih _ w s.2 s.1 (fun o ho => hok o (List.mem_cons_of_mem _ ho))

/-- a successful replay keeps the set duplicate-free (`replay` accepts an "added" entry only for an
    absent record and a "removed" entry only for a present one) -/
theorem log_exact (l : List (Bool × Rec)) (s s' : List Rec) (h : replay l s = some s') (hs : s.Nodup) : s'.Nodup := by
  induction l generalizing s with
  | nil => simp [replay] at h; exact h ▸ hs
  | cons x xs ih =>
    obtain ⟨b, r⟩ := x
    cases b
    · simp only [replay] at h
      split at h
      · exact ih _ h (hs.sublist List.erase_sublist)
      · cases h
    · simp only [replay] at h
      split at h
      · cases h
      · rename_i hn
        exact ih _ h (List.nodup_cons.2 ⟨hn, hs⟩)

/-- `pfx_table_free` reports the removal of every stored record exactly once and leaves the
    table empty, so the replayed stream ends in the empty set -/
theorem free_log (T : PfxTable) (h : TableWF T) (hcb : T.hasCb = true) (hl : LogOK T) :
    LogOK T.free ∧ T.free.recs = [] := by
  have nd := recs_nodup T h
  have f := free_spec T
  obtain ⟨gone, hgone, hlog⟩ := f.log
  rw [hcb, if_pos rfl] at hlog
  have hrecs : T.free.recs = [] := by simp [PfxTable.recs, recs4, recs6, f.v4, f.t6, trieRecs, Trie.nodes]
  refine ⟨logOK_of_changes T _ hl nd (hrecs ▸ List.nodup_nil) [] gone List.nodup_nil (hgone.nodup_iff.2 nd)
    (fun _ hx => nomatch hx) (fun g hg => Or.inl (hgone.mem_iff.1 hg)) hlog fun x => ?_, hrecs⟩
  -- every record held is among those reported, so nothing is left
  rw [hrecs, hgone.mem_iff]
  exact ⟨(fun hx => nomatch hx), fun ⟨hx, hn⟩ => absurd (hx.resolve_right List.not_mem_nil) hn⟩

/-! ### non-vacuity -/

example : LogOK (C02.runT C02.demo {}).1 :=
  log_replays C02.demo {} C02.init_ok.1 rfl logOK_init (fun op hop => C02.demo_ok op (List.mem_append_left _ hop))

example : replay (C02.runT C02.demo {}).1.log [] = some [C02.r4, C02.r1, C02.r2] := by decide +kernel

end Rtr.C09
