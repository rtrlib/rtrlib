/-
  C04 — (reception part) "how the stream is split into reads does not change the outcome", "PDUs whose
  length field is smaller than a header, larger than the client's maximum, or inconsistent with
  their type, and PDUs of unknown type, are never [handed on]", "always returns".

  Model: `Rtr.P` (RtrModel/Rtr.lean) — `tr_recv_all`'s loop over a scripted transport whose input tape
  is a list of chunks (`rx`), transport faults (`err`/`block`/`intr`/`closed`) and clock advances
  (`dt`); `rtr_receive_pdu`; `rtr_sync_receive_and_store_pdus`; `rtr_sync`; `rtr_wait_for_sync`.

  All theorems hold for every tape and every socket state, without bound.  (a)-(d) number the parts of the
  first claim: (a) enough data, (b) too little data before a fault or the end of the script, (c)
  `rtr_receive_pdu` on the same stream chunked differently, (d) the lift of (c) to the synchronisation.

  "Same stream" is `SameStream`: equal tapes after merging adjacent chunks (`mergeRx`), no empty
  chunk (a successful `tr_recv` delivers ≥ 1 byte — assumption of the transport model, see
  tools/rtrcheck.py), same send script / open script / clock / threading flag.
  Not here: memory safety of the C code itself (sanitizer run of the tie) and the table part
  "never applied to the tables" (C03/C05: only PDUs returned `.ok` reach the tables).
-/
import RtrProofs.Chunking

namespace Rtr.C04
open Rtr.P

/-! ## (a) (b) `tr_recv_all` -/

/-- (a) On a fault-free tape holding at least `len` bytes `tr_recv_all(len)` returns `len`, delivers
    exactly the first `len` bytes of the stream, sees no stop request, and leaves a fault-free tape
    holding the rest of the stream; clock, send script, open script are untouched and the trace
    gains only recv lines.  The chunking of the tape does not appear in the result. -/
theorem recvAll_chunking (n : Net) (len : Nat) (timeout : Int) (hff : FaultFree n.tape)
    (hen : len ≤ (tapeBytes n.tape).length) :
    ∃ n', recvAll n len timeout = ((len : Int), (tapeBytes n.tape).take len, n', false) ∧
      FaultFree n'.tape ∧ tapeBytes n'.tape = (tapeBytes n.tape).drop len ∧
      n'.now = n.now ∧ n'.sendQ = n.sendQ ∧ n'.openQ = n.openQ ∧ n'.threaded = n.threaded ∧
      dropRecv n'.trace = dropRecv n.trace := by
  obtain ⟨n', h1, _, h3, h4, h5⟩ := recvAll_chunking_quiet n len timeout hff.quiet hen
  exact ⟨n', h1, (h5 hff).1, h3, (h5 hff).2, h4.sendQ, h4.openQ, h4.threaded, h4.trace⟩

/-- (a) with time passing between the chunks (`dt` only advances the clock) -/
theorem recvAll_chunking_dt (n : Net) (len : Nat) (timeout : Int) (hq : Quiet n.tape)
    (hen : len ≤ (tapeBytes n.tape).length) :
    ∃ n', recvAll n len timeout = ((len : Int), (tapeBytes n.tape).take len, n', false) ∧
      Quiet n'.tape ∧ tapeBytes n'.tape = (tapeBytes n.tape).drop len ∧
      n'.sendQ = n.sendQ ∧ n'.openQ = n.openQ ∧ n'.threaded = n.threaded ∧
      dropRecv n'.trace = dropRecv n.trace := by
  obtain ⟨n', h1, h2, h3, h4, _⟩ := recvAll_chunking_quiet n len timeout hq hen
  exact ⟨n', h1, h2, h3, h4.sendQ, h4.openQ, h4.threaded, h4.trace⟩

/-- (b) fewer than `len` bytes (in any chunking, with any clock advances), then a transport fault
    `e`: the result is `e`'s code, the bytes before it are consumed, what follows `e` stays -/
theorem recvAll_short_fault (n : Net) (len : Nat) (timeout : Int) (pre rest : List TapeEv) (e : TapeEv)
    (htape : n.tape = pre ++ e :: rest) (hq : Quiet pre) (hokr : TapeOk rest) (he : e.isFault = true)
    (hlt : (tapeBytes pre).length < len) :
    ∃ n', recvAll n len timeout = (e.code, tapeBytes pre, n', false) ∧ mergeRx n'.tape = mergeRx rest :=  by
  obtain ⟨n', h1, h2, _, _⟩ := P.recvAll_short_fault n len timeout pre rest e htape hq hokr he hlt
  exact ⟨n', h1, (mergeRx_eq_iff _ _).2 h2⟩

/-- (b) fewer than `len` bytes, then the script ends: -1; in a threaded run the stop request is seen -/
theorem recvAll_short_eof (n : Net) (len : Nat) (timeout : Int) (hq : Quiet n.tape)
    (hlt : (tapeBytes n.tape).length < len) :
    ∃ n', recvAll n len timeout = (-1, tapeBytes n.tape, n', n.threaded) ∧ n'.tape = [] := by
  obtain ⟨n', h1, h2, _⟩ := P.recvAll_short_eof n len timeout hq hlt
  exact ⟨n', h1, h2⟩

theorem fault_codes : TapeEv.err.code = -1 ∧ TapeEv.block.code = -2 ∧ TapeEv.intr.code = -3 ∧
    TapeEv.closed.code = -4 := ⟨rfl, rfl, rfl, rfl⟩

/-! ## (c) `rtr_receive_pdu` -/

/-- (c) Two environments that hold the same stream chunked differently (and agree on the trace
    up to recv lines): `rtr_receive_pdu` returns the same result and leaves the same socket fields;
    the environments afterwards are again the same stream, with the same trace up to recv lines. -/
theorem receivePdu_chunk_independent {n n' : Net} (hs : SameStream n n') (ht : SameTrace n n')
    (c : Conn) (own : Nat) (timeout : Int) :
    (receivePdu c n own timeout).1 = (receivePdu c n' own timeout).1 ∧
    (receivePdu c n own timeout).2.1 = (receivePdu c n' own timeout).2.1 ∧
    SameStream (receivePdu c n own timeout).2.2 (receivePdu c n' own timeout).2.2 ∧
    SameTrace (receivePdu c n own timeout).2.2 (receivePdu c n' own timeout).2.2 := by
  obtain ⟨h1, h2, h3⟩ := receivePdu_sim ((sim_iff n n').2 ⟨hs, ht⟩) c own timeout
  exact ⟨h1, h2, ((sim_iff _ _).1 h3).1, ((sim_iff _ _).1 h3).2⟩

/-- splitting a chunk anywhere (or merging two adjacent chunks) gives the same stream -/
theorem sameStream_split (n : Net) (pre : List TapeEv) (a b : List Nat) (rest : List TapeEv)
    (ha : a ≠ []) (hb : b ≠ []) (htape : n.tape = pre ++ .rx (a ++ b) :: rest) (hok : TapeOk n.tape) :
    SameStream n { n with tape := pre ++ .rx a :: .rx b :: rest } := by
  have hflat : flat n.tape = flat (pre ++ .rx a :: .rx b :: rest) := by
    rw [htape, flat_append, flat_append, flat_split]
  refine ⟨(mergeRx_eq_iff _ _).2 hflat, hok, ?_, rfl, rfl, rfl, rfl⟩
  rw [htape] at hok
  intro bs hm
  simp only [List.mem_append, List.mem_cons] at hm
  rcases hm with hm | hm | hm | hm
  · exact hok bs (List.mem_append_left _ hm)
  · cases hm; exact ha
  · cases hm; exact hb
  · exact hok bs (List.mem_append_right _ (List.mem_cons_of_mem _ hm))

/-! ## (d) the synchronisation -/

/-- two socket states that differ only in how the unread input is chunked (and in the recv lines
    of the trace) -/
structure SameStreamSt (st st' : St) : Prop where
  c : st.c = st'.c
  ss : st.ss = st'.ss
  tm : st.tm = st'.tm
  t : st.t = st'.t
  stream : SameStream st.n st'.n
  trace : SameTrace st.n st'.n

theorem sameStreamSt_iff (st st' : St) : SameStreamSt st st' ↔ SimSt st st' :=
  ⟨fun h => ⟨h.c, h.ss, h.tm, h.t, (sim_iff _ _).2 ⟨h.stream, h.trace⟩⟩,
   fun h => ⟨h.c, h.ss, h.tm, h.t, ((sim_iff _ _).1 h.n).1, ((sim_iff _ _).1 h.n).2⟩⟩

/-- the first loop of `rtr_sync` (skip Serial Notify, return the first other PDU) -/
theorem syncFirst_chunk_independent (fuel : Nat) {st st' : St} (h : SameStreamSt st st') :
    (syncFirst fuel st).1 = (syncFirst fuel st').1 ∧ SameStreamSt (syncFirst fuel st).2 (syncFirst fuel st').2 := by
  have hs := (sameStreamSt_iff _ _).1 h
  rw [hs.eq_with]
  obtain ⟨h1, h2⟩ := syncFirst_sim fuel st st'.n hs.n
  exact ⟨h1, (sameStreamSt_iff _ _).2 h2⟩

/-- `rtr_sync_receive_and_store_pdus`: same return value, same socket, session, timers, tables,
    same buffered PDUs (ghost), for any buffered prefix/key lists — on arbitrary tapes -/
theorem recvAndStore_chunk_independent (fuel : Nat) {st st' : St} (h : SameStreamSt st st')
    (v4 v6 keys : List (List Nat)) :
    (recvAndStore fuel st v4 v6 keys).1 = (recvAndStore fuel st' v4 v6 keys).1 ∧
    SameStreamSt (recvAndStore fuel st v4 v6 keys).2.1 (recvAndStore fuel st' v4 v6 keys).2.1 ∧
    (recvAndStore fuel st v4 v6 keys).2.2 = (recvAndStore fuel st' v4 v6 keys).2.2 := by
  have hs := (sameStreamSt_iff _ _).1 h
  rw [hs.eq_with]
  obtain ⟨h1, h2, h3⟩ := recvAndStore_sim fuel st st'.n hs.n v4 v6 keys
  exact ⟨h1, (sameStreamSt_iff _ _).2 h2, h3⟩

/-- `rtr_sync` with its ghost output -/
theorem syncG_chunk_independent (fuel : Nat) {st st' : St} (h : SameStreamSt st st') :
    (syncG fuel st).1 = (syncG fuel st').1 ∧ SameStreamSt (syncG fuel st).2.1 (syncG fuel st').2.1 ∧
    (syncG fuel st).2.2 = (syncG fuel st').2.2 := by
  have hs := (sameStreamSt_iff _ _).1 h
  rw [hs.eq_with]
  obtain ⟨h1, h2, h3⟩ := syncG_sim fuel st st'.n hs.n
  exact ⟨h1, (sameStreamSt_iff _ _).2 h2, h3⟩

/-- `rtr_sync`: the return value, the socket and the tables do not depend on the chunking -/
theorem sync_chunk_independent (fuel : Nat) {st st' : St} (h : SameStreamSt st st') :
    (sync fuel st).1 = (sync fuel st').1 ∧ SameStreamSt (sync fuel st).2 (sync fuel st').2 := by
  obtain ⟨h1, h2, _⟩ := syncG_chunk_independent fuel h
  exact ⟨h1, h2⟩

theorem waitForSync_chunk_independent {st st' : St} (h : SameStreamSt st st') :
    (waitForSync st).1 = (waitForSync st').1 ∧ SameStreamSt (waitForSync st).2 (waitForSync st').2 := by
  have hs := (sameStreamSt_iff _ _).1 h
  rw [hs.eq_with]
  obtain ⟨h1, h2⟩ := waitForSync_sim st st'.n hs.n
  exact ⟨h1, (sameStreamSt_iff _ _).2 h2⟩

/-! ## bad lengths, unknown types -/

/-- `rtr_pdu_check_size` accepts exactly: one of the ten known types with exactly the size the
    type (and, for End of Data, the version) requires; Error Report: 16 + encapsulated length +
    text length, the text length being read after the encapsulated PDU.  Sizes from the generated
    layout. -/
theorem checkSize_spec (raw : List Nat) : checkSize raw = true ↔ KnownSize raw := P.checkSize_spec raw

theorem knownSize_types (raw : List Nat) (h : KnownSize raw) :
    typeOf raw ∈ [0, 1, 2, 3, 4, 6, 7, 8, 9, 10] := by
  unfold KnownSize at h
  rcases h with h | h | h | h | h | h | h | h | h | h | h <;> rw [h.1] <;> decide

/-- `+ 4`: the length word of the error text, which lies in `rest[]` behind the encapsulated PDU and is not
    counted in `sizeof(struct pdu_error)` -/
theorem sizes : Gen.sizeof_pdu_serial_notify = 12 ∧ Gen.sizeof_pdu_serial_query = 12 ∧
    Gen.sizeof_pdu_reset_query = 8 ∧ Gen.sizeof_pdu_cache_response = 8 ∧ Gen.sizeof_pdu_ipv4 = 20 ∧
    Gen.sizeof_pdu_ipv6 = 32 ∧ Gen.sizeof_pdu_end_of_data_v0 = 12 ∧ Gen.sizeof_pdu_end_of_data_v1 = 24 ∧
    Gen.sizeof_pdu_header = 8 ∧ Gen.sizeof_pdu_router_key = 123 ∧ Gen.sizeof_pdu_error + 4 = 16 :=
  ⟨rfl, rfl, rfl, rfl, rfl, rfl, rfl, rfl, rfl, rfl, rfl⟩

/-- A PDU with a bad length is never handed to the caller.  The stream (fault-free, in any
    chunking, clock advances allowed) starts with 8 bytes whose length field is < 8 or
    > RTR_MAX_PDU_LEN, or the complete PDU is there and fails the size check (length inconsistent
    with the type, unknown type): `rtr_receive_pdu` returns RTR_ERROR. -/
theorem bad_length_rejected (c : Conn) (n : Net) (own : Nat) (timeout : Int) (hq : Quiet n.tape)
    (h8 : 8 ≤ (tapeBytes n.tape).length)
    (hbad : be32 (tapeBytes n.tape) 4 < 8 ∨ be32 (tapeBytes n.tape) 4 > Gen.RTR_MAX_PDU_LEN ∨
      (be32 (tapeBytes n.tape) 4 ≤ (tapeBytes n.tape).length ∧
        ¬ KnownSize ((tapeBytes n.tape).take (be32 (tapeBytes n.tape) 4)))) :
    (receivePdu c n own timeout).1 = .rc (-1) := by
  apply bad_length_rejected_quiet c n own timeout hq
  rcases hbad with h | h | ⟨h1, h2⟩
  · exact Or.inl h
  · exact Or.inr (Or.inl h)
  · refine Or.inr (Or.inr ⟨h1, ?_⟩)
    rw [← P.checkSize_spec] at h2
    simpa using h2

/-- Whatever the tape (faults, truncation, any chunking): a PDU that `rtr_receive_pdu` hands to
    the caller passed the size check, its length field is its length and lies in
    [8, RTR_MAX_PDU_LEN], its version is the socket's unless it is an Error Report, and it is
    exactly the next bytes of the stream. -/
theorem receivePdu_ok_checked (c : Conn) (n : Net) (own : Nat) (timeout : Int) (hok : TapeOk n.tape)
    (raw : List Nat) (h : (receivePdu c n own timeout).1 = .ok raw) :
    KnownSize raw ∧ 8 ≤ raw.length ∧ raw.length ≤ Gen.RTR_MAX_PDU_LEN ∧ lenOf raw = raw.length ∧
    (verOf raw = (receivePdu c n own timeout).2.1.version ∨ typeOf raw = 10) ∧
    tapeBytes n.tape = raw ++ tapeBytes (receivePdu c n own timeout).2.2.tape := by
  obtain ⟨_, hout⟩ := receivePdu_cases c n own timeout hok (receivePdu c n own timeout).1
    (receivePdu c n own timeout).2.1 (receivePdu c n own timeout).2.2 rfl
  rcases hout with ⟨k, hk, _⟩ | ⟨raw', hr, hcs, h8, hmax, hlen, hver, htb, _⟩
  · rw [h] at hk; cases hk
  · rw [h] at hr
    cases hr
    exact ⟨(P.checkSize_spec raw).1 hcs, by omega, by omega, hlen.symm, hver, htb⟩

/-! ## progress -/

/-- number of symbols on the tape: bytes + fault events + clock advances -/
def tapeSize (t : List TapeEv) : Nat := (flat t).length

/-- Every call of `rtr_receive_pdu` makes progress.  A call that returns a PDU has consumed
    exactly its `raw.length ≥ 8` bytes from the front of the stream; a call that returns a code
    has consumed at least one tape symbol, unless the tape was already empty or the socket was
    shut down; no call puts anything back.  (This is the fact behind "always returns": the loops of
    `rtr_sync` run at most `tapeSize` + 1 times.) -/
theorem recv_terminates_consumes (c : Conn) (n : Net) (own : Nat) (timeout : Int) (hok : TapeOk n.tape) :
    tapeSize (receivePdu c n own timeout).2.2.tape ≤ tapeSize n.tape ∧
    (∀ raw, (receivePdu c n own timeout).1 = .ok raw →
      8 ≤ raw.length ∧ tapeBytes n.tape = raw ++ tapeBytes (receivePdu c n own timeout).2.2.tape ∧
      tapeSize (receivePdu c n own timeout).2.2.tape + 8 ≤ tapeSize n.tape) ∧
    (∀ k, (receivePdu c n own timeout).1 = .rc k →
      c.state = .shutdown ∨ n.tape = [] ∨
      tapeSize (receivePdu c n own timeout).2.2.tape < tapeSize n.tape) := by
  obtain ⟨hcons, hout⟩ := receivePdu_cases c n own timeout hok (receivePdu c n own timeout).1
    (receivePdu c n own timeout).2.1 (receivePdu c n own timeout).2.2 rfl
  refine ⟨hcons.length_le, ?_, ?_⟩
  · intro raw h
    rcases hout with ⟨k, hk, _⟩ | ⟨raw', hr, _, h8, _, hlen, _, htb, _⟩
    · rw [h] at hk; cases hk
    · rw [h] at hr
      cases hr
      refine ⟨by omega, htb, ?_⟩
      obtain ⟨pre, hpre⟩ := hcons
      have hb : symBytes pre = raw := by
        have := htb
        rw [tapeBytes_eq, tapeBytes_eq, hpre, symBytes_append] at this
        exact List.append_cancel_right this
      have hl := symBytes_length_le pre
      rw [hb] at hl
      unfold tapeSize
      rw [hpre, List.length_append]
      omega
  · intro k h
    rcases hout with ⟨k', _, _, hp⟩ | ⟨raw', hr, _⟩
    · exact hp
    · rw [h] at hr; cases hr

/-! ## non-vacuity -/

section Examples

/-- a Serial Notify (12 bytes) followed by the start of another PDU, in three chunks … -/
def tapeA : List TapeEv := [.rx [1, 0, 0, 7, 0], .rx [0, 0, 12, 0, 0], .rx [0, 5, 1, 3]]
/-- … and the same stream in other chunks: single bytes, a pair, one big chunk at the end -/
def tapeB : List TapeEv := [.rx [1], .rx [0], .rx [0, 7], .rx [0, 0, 0, 12, 0, 0, 0, 5, 1, 3]]

def netA : Net := { tape := tapeA }
def netB : Net := { tape := tapeB, trace := ["R 8 60 -> 1 01"] }

example : FaultFree tapeA ∧ 8 ≤ (tapeBytes tapeA).length := by decide

example : SameStream netA netB ∧ SameTrace netA netB ∧ tapeA.length ≠ tapeB.length :=
  ⟨⟨rfl, tapeOk_of_tapeOkB _ rfl, tapeOk_of_tapeOkB _ rfl, rfl, rfl, rfl, rfl⟩, by decide, by decide⟩

/-- both chunkings deliver the Serial Notify -/
example : (receivePdu {} netA 0 60).1 = .ok [1, 0, 0, 7, 0, 0, 0, 12, 0, 0, 0, 5] ∧
    (receivePdu {} netB 0 60).1 = .ok [1, 0, 0, 7, 0, 0, 0, 12, 0, 0, 0, 5] := ⟨by rfl, by rfl⟩

/-- (b): two bytes, a clock advance, a third byte, then the connection is closed -/
example : ∃ n', recvAll { tape := [.rx [1, 2], .dt 5, .rx [3], .closed, .rx [9]] } 8 60 = (-4, [1, 2, 3], n', false) ∧
    mergeRx n'.tape = mergeRx [.rx [9]] :=
  recvAll_short_fault _ 8 60 [.rx [1, 2], .dt 5, .rx [3]] [.rx [9]] .closed rfl (by decide)
    (tapeOk_of_tapeOkB _ rfl) rfl (by decide)

/-- bad lengths: a header announcing 7 bytes; an IPv4 Prefix PDU announcing 21 bytes (all there);
    an unknown type 5 -/
example : be32 (tapeBytes [.rx [1, 4, 0, 0], .rx [0, 0, 0, 7]]) 4 < 8 := by decide
example : ¬ KnownSize ((tapeBytes [.rx ([1, 4, 0, 0, 0, 0, 0, 21] ++ List.replicate 13 0)]).take 21) := by
  rw [← P.checkSize_spec]; decide
example : ¬ KnownSize [1, 5, 0, 0, 0, 0, 0, 8] := by rw [← P.checkSize_spec]; decide
/-- and a good one: an Error Report with a 8-byte encapsulated PDU and a 3-byte text -/
example : KnownSize ([1, 10, 0, 2, 0, 0, 0, 27, 0, 0, 0, 8] ++ [1, 1, 0, 0, 0, 0, 0, 12] ++ [0, 0, 0, 3, 65, 66, 67]) := by
  rw [← P.checkSize_spec]; decide

end Examples

end Rtr.C04
