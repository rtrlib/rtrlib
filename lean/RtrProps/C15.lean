/-
  C15 — Cache-group failover honours the preference order.

  Model: `RtrModel/Mgr.lean` (rtr_mgr.c with rtr_start / rtr_stop / rtr_change_socket_state, as
  fixed for F13).  Everything below is for an arbitrary number of groups and sockets and for an
  arbitrary finite history of socket state changes (all eleven `rtr_socket_state` values, on any
  socket, in any order — a superset of what the socket threads can produce), add/remove-group,
  start and stop calls: `Reachable` is the inductive closure of a successful `init` under `step`.

  Reading of the statement (fixed here, the oracle of tools/mgrcheck.py uses the same reading):
   * "a group is reported ESTABLISHED" = the group's status *becomes* ESTABLISHED, resp. a status
     callback with ESTABLISHED is issued for a group that was not ESTABLISHED before the operation.
     `set_status` re-issues the unchanged status on every socket state change, so a group that is
     already ESTABLISHED keeps being re-reported as ESTABLISHED while one of its sockets passes
     through states outside {ESTABLISHED, RESET, SYNC}; `rereport_while_unsynced` exhibits this on a
     concrete history (it is what the C code does, recorded as an observation, not counted as a
     violation).
   * "shut down" = `rtr_stop` on every socket; "started" = `rtr_mgr_start_sockets`, i.e. `rtr_start`
     on the sockets in order up to the first failure, status CONNECTING iff none failed.  A failure
     needs a socket that still has a thread, which a CLOSED group never has in histories without an
     injected RTR_SHUTDOWN event (`closed_groups_have_no_thread`).
-/
import RtrModel.Mgr
import RtrProofs.MgrSort
import RtrProofs.MgrCb
import RtrProofs.MgrStep
import RtrProofs.MgrHist

namespace Rtr.C15

open Rtr.Mgr

/-- `rtr_mgr_init` (with the F13 fix) fails — returning no configuration — exactly when the group
    array is empty, some group has no socket, or two groups share a preference value; otherwise it
    yields the groups in strictly ascending preference order, all CLOSED. -/
theorem init_rejects (specs : List (Nat × Nat)) :
    (specs = [] → init specs = none) ∧
    ((∃ s ∈ specs, s.2 = 0) → init specs = none) ∧
    (¬ (specs.map (·.1)).Nodup → init specs = none) ∧
    (specs ≠ [] → (∀ s ∈ specs, s.2 ≠ 0) → (specs.map (·.1)).Nodup →
      ∃ gs, init specs = some gs ∧ Sorted gs ∧ (prefs gs).Perm (specs.map (·.1)) ∧
        ∀ g ∈ gs, g.status = .closed) := by
  refine ⟨?_, ?_, ?_, ?_⟩
  · intro h; subst h; rfl
  · rintro ⟨s, hs, h0⟩
    cases h : init specs with
    | none => rfl
    | some gs => exact absurd h0 ((init_ok h).socks s hs)
  · intro hnd
    cases h : init specs with
    | none => rfl
    | some gs => exact absurd (init_ok h).nodup hnd
  · intro hne hsock hnd
    obtain ⟨gs, h⟩ := init_accepts hne hsock hnd
    have := init_ok h
    exact ⟨gs, h, this.sorted, this.perm, this.closed⟩

example : init [] = none ∧ init [(5, 1), (3, 0)] = none ∧ init [(5, 1), (3, 2), (5, 3)] = none ∧
    (init [(5, 2), (3, 1), (9, 1)]).map prefs = some [3, 5, 9] := by decide +kernel

/-- `rtr_mgr_add_group` refuses (RTR_INVALID_PARAM, nothing changes, nothing is started) a
    preference value that is in use, and accepts every other one — provided the call is not refused
    for one of the two other reasons an add can fail for (`failed_add_changes_nothing`): the
    intervals copied from the existing groups' sockets pass `rtr_init`'s range check and no
    allocation is refused. -/
theorem add_rejects_dup (gs : List Group) (p n k : Nat) :
    ((∃ g ∈ gs, g.pref = p) → add gs p n k = (gs, [], -2)) ∧
    ((∀ g ∈ gs, g.pref ≠ p) → ivsOk (pickIvs defaultIvs gs) = true → k ≠ 1 → k ≠ 2 →
      (add gs p n k).2.2 = 0 ∧ (prefs (add gs p n k).1).Perm (p :: prefs gs)) := by
  constructor
  · intro h
    exact add_refused (addRefusal_dup h k) n
  · intro h hiv hk1 hk2
    rw [add_accepted ((addRefusal_none_iff gs p k).mpr ⟨h, hk1, hiv, hk2⟩) n]
    refine ⟨rfl, ?_⟩
    show (prefs (startFirstIfClosed (addedList gs p n)).1).Perm _
    rw [startedOne_prefs (startFirstIfClosed_shape _)]
    exact prefs_addedList gs p n

example : add [mkGroup 3 1, mkGroup 5 2] 5 1 = ([mkGroup 3 1, mkGroup 5 2], [], -2) ∧
    prefs (add [mkGroup 3 1, mkGroup 5 2] 4 1).1 = [3, 4, 5] := by decide +kernel

/-- A failing `rtr_mgr_add_group` changes nothing and starts nothing, whatever the reason:
    the call fails exactly when the preference is in use, or the allocation of the group is refused
    (`k = 1`), or the intervals it copies from `sockets[0]` of the existing groups (cache-controlled
    in RTR_INTERVAL_MODE_ACCEPT_ANY) are rejected by `rtr_init`, or the allocation of the list node
    is refused (`k = 2`); for a fresh preference and rejected intervals the return code is
    RTR_INVALID_PARAM, unless the allocation of the group was refused before (`k = 1`).  The new group's sockets get the copied intervals when the add succeeds. -/
theorem failed_add_changes_nothing (gs : List Group) (p n k : Nat) :
    ((add gs p n k).2.2 ≠ 0 → (add gs p n k).1 = gs ∧ (add gs p n k).2.1 = []) ∧
    ((add gs p n k).2.2 ≠ 0 ↔
      ((∃ g ∈ gs, g.pref = p) ∨ k = 1 ∨ ivsOk (pickIvs defaultIvs gs) = false ∨ k = 2)) ∧
    ((∀ g ∈ gs, g.pref ≠ p) → ivsOk (pickIvs defaultIvs gs) = false → k ≠ 1 → add gs p n k = (gs, [], -2)) ∧
    ((add gs p n k).2.2 = 0 → ∃ g' ∈ (add gs p n k).1, g'.pref = p ∧ g'.ivs = pickIvs defaultIvs gs ∧
      ivsOk g'.ivs = true) := by
  refine ⟨?_, ?_, ?_, ?_⟩
  · intro hrc
    rcases add_cases gs p n k with ⟨rc, _, _, h⟩ | ⟨_, _, h⟩
    · rw [h]
      exact ⟨rfl, rfl⟩
    · rw [h] at hrc
      exact absurd rfl hrc
  · -- not accepted = one of the four conditions of `addRefusal_none_iff` fails
    rw [Ne, add_rc_zero_iff, addRefusal_none_iff]
    simp only [Classical.not_and_iff_not_or_not, Classical.not_forall, Classical.not_not, Bool.not_eq_true,
      exists_prop]
  · intro hfresh hiv hk
    exact add_refused (addRefusal_ivs hfresh hk hiv) n
  · intro hrc
    have hnone := (add_rc_zero_iff gs p n k).mp hrc
    have hiv := ((addRefusal_none_iff gs p k).mp hnone).2.2.1
    rw [add_accepted hnone n]
    obtain ⟨g', hg', h1, h2⟩ := startedOne_keeps (startFirstIfClosed_shape (addedList gs p n)) (mem_addedList.mpr (Or.inr rfl))
    exact ⟨g', hg', h1, h2, by rw [h2]; exact hiv⟩

/-- an End of Data with refresh 200000 (> RTR_REFRESH_MAX) on group 3's first socket makes the next
    add fail with RTR_INVALID_PARAM and no effect; with refresh 0 ("not set") the defaults are used
    and the add succeeds; an add with a refused allocation fails with RTR_ERROR -/
example :
    (init [(3, 1)]).map (fun gs => step (run gs [.setiv 3 200000 7200 600]) (.add 5 1))
      = (init [(3, 1)]).map (fun gs => (run gs [.setiv 3 200000 7200 600], [], -2)) ∧
    (init [(3, 1)]).map (fun gs => (step (run gs [.setiv 3 0 7200 600]) (.add 5 1)).2.2) = some 0 ∧
    (init [(3, 1)]).map (fun gs => step gs (.add 5 1 1)) = (init [(3, 1)]).map (fun gs => (gs, [], -1)) ∧
    (init [(3, 1)]).map (fun gs => step gs (.add 5 1 2)) = (init [(3, 1)]).map (fun gs => (gs, [], -1)) := by
  decide +kernel

/-- the last remaining group cannot be removed (RTR_ERROR, nothing changes), and no reachable
    configuration is empty -/
theorem last_group_kept :
    (∀ (gs : List Group) (p : Nat), gs.length = 1 → remove gs p = (gs, [], -1)) ∧
    (∀ gs, Reachable gs → gs ≠ []) := by
  constructor
  · intro gs p h
    exact remove_last h p
  · intro gs h
    exact h.ne_nil

example : remove [mkGroup 3 1] 3 = ([mkGroup 3 1], [], -1) ∧ prefs (remove [mkGroup 3 1, mkGroup 5 1] 3).1 = [5] := by
  decide +kernel

/-- The same over histories, *including* adds that fail for any reason and cache-controlled interval
    changes: after every history of socket events, `rtr_mgr_add_group` calls (accepted, duplicate, refused
    allocation, intervals rejected by `rtr_init`), `setiv`, `rtr_mgr_remove_group`, start and stop
      * at least one group is left,
      * if exactly one is left, every further `remove_group` returns RTR_ERROR without any effect —
        so the history extended by it ends in the same configuration,
      * `rtr_mgr_get_first_group` has a group to return. -/
theorem last_group_never_removed {specs : List (Nat × Nat)} {gs0 : List Group} (h : init specs = some gs0)
    (ops : List Op) :
    run gs0 ops ≠ [] ∧
    (∀ p, (run gs0 ops).length = 1 →
      step (run gs0 ops) (.remove p) = (run gs0 ops, [], -1) ∧ run gs0 (ops ++ [.remove p]) = run gs0 ops) ∧
    (firstGroup (run gs0 ops)).isSome = true := by
  have hne := (reachable_run (Reachable.init h) ops).ne_nil
  refine ⟨hne, ?_, ?_⟩
  · intro p hl
    have hr : step (run gs0 ops) (.remove p) = (run gs0 ops, [], -1) := last_group_kept.1 _ p hl
    refine ⟨hr, ?_⟩
    rw [run_append]
    simp only [run, hr]
  · cases hl : run gs0 ops with
    | nil => exact absurd hl hne
    | cons b t => rfl

/-- `rtr_mgr_remove_group` guards the last group by the counter `config->len`; the counter as the C
    code maintains it (`len++` on a successful add, `len--` on a successful remove,
    nothing else — in particular not on a failed add) equals the length of the group list after
    every operation, so the guard `len == 1` and "one group is left" are the same test. -/
theorem len_bookkeeping (gs : List Group) (o : Op) :
    (step gs o).1.length = lenAfter gs.length o (step gs o).2.2 := (step_inv_len gs o).length

/-- End of Data with an out-of-range refresh interval (ACCEPT_ANY) on the least preferable group (the
    last one in list order is the one whose non-zero intervals `rtr_mgr_add_group` ends up with);
    one add with a fresh preference succeeds before, two adds fail after it (RTR_INVALID_PARAM from
    `rtr_init`, nothing changes); the removals go down to one group and the next removal — of the
    last group — is refused, twice; the group is still there. -/
example :
    (init [(3, 1), (5, 1)]).map (fun gs =>
      let ops := [Op.start, .add 7 1, .setiv 7 200000 7200 600, .add 9 1, .add 11 2, .remove 5, .remove 3]
      (prefs (run gs ops), (step (run gs ops) (.add 9 1)).2.2, step (run gs ops) (.remove 7) == (run gs ops, [], -1),
       prefs (run gs (ops ++ [.remove 7, .remove 7])))) = some ([7], -2, true, [7]) := by decide +kernel

/-- after every operation of every history the group list is in strictly ascending preference
    order; `rtr_mgr_get_first_group` is the group with the smallest preference value and
    `rtr_mgr_for_each_group` enumerates in that order -/
theorem sorted_inv {gs : List Group} (h : Reachable gs) :
    Sorted gs ∧ forEachGroup gs = gs ∧ ∃ b, firstGroup gs = some b ∧ ∀ g ∈ gs, b.pref ≤ g.pref := by
  obtain ⟨hs, hn⟩ := h.inv
  refine ⟨hs, rfl, ?_⟩
  cases gs with
  | nil => exact absurd rfl hn
  | cons b t =>
    refine ⟨b, rfl, ?_⟩
    intro g hg
    rcases List.mem_cons.mp hg with rfl | hg
    · exact Nat.le_refl _
    · exact Nat.le_of_lt ((List.pairwise_cons.mp hs).1 g hg)

theorem sorted_inv_run {specs : List (Nat × Nat)} {gs0 : List Group} (h : init specs = some gs0) (ops : List Op) :
    Sorted (run gs0 ops) := (reachable_run (Reachable.init h) ops).sorted

example : (init [(9, 1), (3, 1)]).map (fun gs => prefs (run gs [.add 5 2, .start, .add 1 1, .remove 3, .stop]))
    = some [1, 5, 9] := by decide +kernel

/-! ## ESTABLISHED only when synced -/

/-- A group that is ESTABLISHED after an operation either already was ESTABLISHED before it, or the
    operation is an RTR_ESTABLISHED event of one of its sockets and in the resulting configuration
    every socket of the group has `last_update != 0` and is in ESTABLISHED / RESET / SYNC.
    Likewise every ESTABLISHED status callback issued by an operation is either for a group that
    already was ESTABLISHED, or for the event's own group, which then is synced in the result. -/
theorem established_only_if_synced (gs : List Group) (o : Op) :
    (∀ g' ∈ (step gs o).1, g'.status = .established →
      (∃ g ∈ gs, g.pref = g'.pref ∧ g.status = .established) ∨
      (g'.isSynced = true ∧ ∃ i sy, o = .ev g'.pref i .established sy)) ∧
    (∀ q x, Ev.status q .established x ∈ (step gs o).2.1 →
      (∃ g ∈ gs, g.pref = q ∧ g.status = .established) ∨
      ((∃ i sy, o = .ev q i .established sy) ∧
        ∀ g' ∈ (step gs o).1, g'.pref = q → g'.status = .established ∧ g'.isSynced = true)) := by
  rcases step_est_cases gs o with hno | ⟨p, i, sy, rfl, hest⟩
  · exact ⟨fun g' hg' he => Or.inl (hno.groups g' hg' he), fun q x hl => Or.inl (hno.log q x hl)⟩
  · constructor
    · intro g' hg' he
      rcases hest.groups g' hg' he with h | h
      · exact Or.inl h
      · exact Or.inr ⟨(hest.own g' hg' h).2, i, sy, by rw [h]⟩
    · intro q x hl
      rcases hest.log q x hl with h | rfl
      · exact Or.inl h
      · exact Or.inr ⟨⟨i, sy, rfl⟩, hest.own⟩

/-- a history on which group 3 becomes ESTABLISHED (both sockets synced), and one on which the
    second socket is not synced and the group stays CONNECTING -/
example :
    ((init [(3, 2)]).map fun gs => (run gs [.start, .ev 3 0 .established true, .ev 3 1 .established true]).map (·.status))
      = some [.established] ∧
    ((init [(3, 2)]).map fun gs => (run gs [.start, .ev 3 0 .established true, .ev 3 1 .established false]).map (·.status))
      = some [.connecting] := by decide +kernel

/-- Observation (behaviour of the C code, see the header): an ESTABLISHED group is re-reported as
    ESTABLISHED by the status callback while its only socket is in RTR_FAST_RECONNECT. -/
theorem rereport_while_unsynced :
    ∃ gs0, init [(3, 1)] = some gs0 ∧
      let ops := [Op.start, .ev 3 0 .sync true, .ev 3 0 .established true]
      let gs := run gs0 ops
      let r := step gs (.ev 3 0 .fastReconnect true)
      Ev.status 3 .established (some (3, 0)) ∈ r.2.1 ∧ ∀ g ∈ r.1, g.isSynced = false := by
  refine ⟨_, rfl, ?_⟩
  decide +kernel

/-! ## failover -/

/-- Whenever a socket event makes its group (preference `p`) ESTABLISHED, then afterwards every
    group with a larger preference value is CLOSED, and for every such group that was not CLOSED
    before, `rtr_stop` was called on each of its sockets and a CLOSED status callback (carrying the
    establishing socket) was issued.  (Holds for any configuration.) -/
theorem established_closes_less_preferred {gs : List Group} {p i : Nat} {st : SockState} {sy : Bool}
    {gs' : List Group} {l : List Ev} (h : event gs p i st sy = some (gs', l))
    (hpre : ∀ g ∈ gs, g.pref = p → g.status ≠ .established)
    (hpost : ∃ g' ∈ gs', g'.pref = p ∧ g'.status = .established) :
    (∀ g' ∈ gs', p < g'.pref → g'.status = .closed) ∧
    (∀ g ∈ gs, p < g.pref → g.status ≠ .closed →
      Ev.status g.pref .closed (some (p, i)) ∈ l ∧ ∀ j, j < g.socks.length → Ev.stop g.pref j ∈ l) := by
  rcases event_dichotomy h with ⟨hno, _⟩ | ⟨_, _, _, _, hest⟩
  · obtain ⟨g', hg', hp', he⟩ := hpost
    obtain ⟨g, hg, hgp, hge⟩ := hno.groups g' hg' he
    exact absurd hge (hpre g hg (hgp.trans hp'))
  · exact ⟨hest.closes, hest.emits⟩

/-- groups 5 (in ERROR since its socket failed) and 9 (CONNECTING) are closed when group 3 recovers from ERROR -/
example :
    (init [(3, 1), (5, 1), (9, 1)]).map (fun gs =>
      (run gs [.start, .ev 3 0 .errFatal false, .ev 5 0 .established true, .ev 5 0 .errTransport true,
               .ev 3 0 .connecting false, .ev 3 0 .established true]).map (fun g => (g.pref, g.status)))
      = some [(3, .established), (5, .closed), (9, .closed)] := by decide +kernel

/-- Every `rtr_stop` issued while the manager handles a socket event of group `p` targets a group
    with a strictly larger preference value, and is issued because group `p` — not ESTABLISHED
    before — has just become ESTABLISHED with all its sockets synced.  No other event stops
    anything; `rtr_mgr_add_group` and `rtr_mgr_start` never stop a socket and `rtr_mgr_remove_group p` stops only sockets
    of the group being removed. -/
theorem never_closed_for_worse {gs : List Group} (hr : Reachable gs) :
    (∀ p i st sy gs' l, event gs p i st sy = some (gs', l) → ∀ q j, Ev.stop q j ∈ l →
      p < q ∧ st = .established ∧ (∀ g ∈ gs, g.pref = p → g.status ≠ .established) ∧
      (∀ g' ∈ gs', g'.pref = p → g'.status = .established ∧ g'.isSynced = true)) ∧
    (∀ p n k q j, Ev.stop q j ∉ (add gs p n k).2.1) ∧
    (∀ q j, Ev.stop q j ∉ (start gs).2.1) ∧
    (∀ p q j, Ev.stop q j ∈ (remove gs p).2.1 → q = p) := by
  refine ⟨?_, ?_, ?_, ?_⟩
  · intro p i st sy gs' l h q j hl
    rcases event_dichotomy h with ⟨_, hno⟩ | ⟨g, hg, hst, hgs, hest⟩
    · exact absurd hl (hno q j)
    · refine ⟨hest.stops q j hl, hst, ?_, hest.own⟩
      intro g0 hg0 hp0
      have hgm := findG_some hg
      have := hr.sorted.unique hg0 hgm.1 (hp0.trans hgm.2.symm)
      subst this
      rcases hgs with h1 | h1
      · rw [h1]
        decide
      · rw [h1]
        decide
  · intro p n k q j hl
    exact (step_stops (o := .add p n k) rfl hl).elim nofun nofun
  · intro q j hl
    exact (step_stops (o := .start) rfl hl).elim nofun nofun
  · intro p q j hl
    rcases step_stops (o := .remove p) rfl hl with ho | ho
    · cases ho
      rfl
    · cases ho

/-- the stops of the previous example's last step: sockets of groups 5 and 9 only -/
example :
    (init [(3, 1), (5, 1), (9, 1)]).map (fun gs =>
      let gs1 := run gs [.start, .ev 3 0 .errFatal false, .ev 5 0 .established true, .ev 5 0 .errTransport true,
               .ev 3 0 .connecting false]
      (step gs1 (.ev 3 0 .established true)).2.1.filter (fun e => match e with | .stop .. => true | _ => false))
      = some [.stop 5 0, .stop 9 0] := by decide +kernel

/-- Whenever a socket of group `p` really changes to one of the error states (ERROR_FATAL,
    ERROR_TRANSPORT, ERROR_NO_DATA_AVAIL) the group is reported ERROR, and if no other group is
    ESTABLISHED then:
     * the most preferable group `q` that is CLOSED (other than `p`) is handed to
       `rtr_mgr_start_sockets`: the rest of the log is exactly its `rtr_start` calls, `q` is replaced
       by the started group, every other group except `p` is untouched; if no socket of `q` has a
       thread, every socket of `q` is started successfully and `q` becomes CONNECTING;
     * if no other group is CLOSED nothing is started.
    If some other group is ESTABLISHED nothing is started either. -/
theorem error_starts_best_closed {gs : List Group} (hr : Reachable gs) {p i : Nat} {st : SockState} {sy : Bool}
    {gs' : List Group} {l : List Ev} (h : event gs p i st sy = some (gs', l)) (hst : st.isError = true)
    {g : Group} {s : Sock} (hg : g ∈ gs) (hp : g.pref = p) (hsock : g.socks[i]? = some s)
    (hch : s.state ≠ st) (hnsd : s.state ≠ .shutdown) :
    (∀ g' ∈ gs', g'.pref = p → g'.status = .error) ∧
    ((∀ c ∈ gs, c.pref ≠ p → c.status ≠ .established) →
      (∀ q ∈ gs, q.pref ≠ p → q.status = .closed →
        (∀ c ∈ gs, c.pref ≠ p → c.status = .closed → q.pref ≤ c.pref) →
          l = Ev.status p .error (some (p, i)) :: q.startSockets.2.1 ∧
          q.startSockets.1 ∈ gs' ∧
          (∀ c ∈ gs, c.pref ≠ p → c.pref ≠ q.pref → c ∈ gs') ∧
          ((∀ x ∈ q.socks, x.thread = false) →
            q.startSockets.1.status = .connecting ∧ (∀ x ∈ q.startSockets.1.socks, x.thread = true) ∧
            ∀ j, j < q.socks.length → Ev.start q.pref j true ∈ l)) ∧
      ((∀ c ∈ gs, c.pref ≠ p → c.status ≠ .closed) → l = [Ev.status p .error (some (p, i))])) ∧
    ((∃ c ∈ gs, c.pref ≠ p ∧ c.status = .established) → l = [Ev.status p .error (some (p, i))]) := by
  obtain ⟨gs1, hs1, hmem1, hp1, hse, hr1⟩ := event_error_spec h hst hr.sorted hg hp hsock hch hnsd
  refine ⟨?_, ?_, ?_⟩
  · intro g' hg' hp'
    by_cases he : someEstablished gs1 = true
    · rw [if_pos he] at hr1
      cases hr1
      exact hp1 g' hg' hp'
    · rw [if_neg he] at hr1
      cases hr1
      rcases startBest_mem hg' with hm | ⟨q, _, hq1, _, rfl⟩
      · exact hp1 g' hm hp'
      · exact absurd hp' hq1
  · intro hnoest
    have he : ¬ someEstablished gs1 = true := by
      intro e
      obtain ⟨c, hc, hcp, hce⟩ := hse.mp e
      exact hnoest c hc hcp hce
    rw [if_neg he] at hr1
    cases hr1
    constructor
    · intro q hq hqp hqc hmin
      obtain ⟨k1, k2, k3⟩ := startBest_spec hs1 ((hmem1 q hqp).mpr hq) hqp hqc
        (fun c hc hcp hcc => hmin c ((hmem1 c hcp).mp hc) hcp hcc)
      refine ⟨by rw [k1], k2, ?_, ?_⟩
      · intro c hc hcp hcq
        exact k3 c ((hmem1 c hcp).mpr hc) (fun e => hcq (by rw [e]))
      · intro hthr
        obtain ⟨c1, c2, c3⟩ := startSockets_ok hthr
        refine ⟨c1, c2, fun j hj => List.mem_cons_of_mem _ ?_⟩
        rw [k1]
        exact c3 j hj
    · intro hnocl
      rw [startBest_none]
      intro c hc ⟨hcp, hcc⟩
      exact hnocl c ((hmem1 c hcp).mp hc) hcp hcc
  · intro hex
    rw [if_pos (hse.mpr hex)] at hr1
    cases hr1
    rfl

/-- group 3 is in ERROR, group 5 CONNECTING and 9 still CLOSED when socket 1 of group 5 fails: 9 is the group started -/
example :
    (init [(3, 1), (5, 2), (9, 1)]).map (fun gs =>
      let gs1 := run gs [.start, .ev 3 0 .errTransport false]
      ((step gs1 (.ev 5 1 .errNoData false)).2.1, (step gs1 (.ev 5 1 .errNoData false)).1.map (fun g => (g.pref, g.status))))
      = some ([.status 5 .error (some (5, 1)), .start 9 0 true],
              [(3, .error), (5, .error), (9, .connecting)]) := by decide +kernel

/-- In every history that contains no injected RTR_SHUTDOWN event (the library itself enters that
    state only inside `rtr_stop`), no socket of a CLOSED group has a thread — so the group chosen
    by `error_starts_best_closed` is always started completely and becomes CONNECTING. -/
theorem closed_groups_have_no_thread {specs : List (Nat × Nat)} {gs0 : List Group} (h : init specs = some gs0)
    (ops : List Op) (hno : ∀ o ∈ ops, ∀ p i sy, o ≠ .ev p i .shutdown sy) :
    ClosedThreadless (run gs0 ops) := by
  have h0 : ClosedThreadless gs0 := fun g hg _ => (init_ok h).threadless g hg
  have hr0 : Reachable gs0 := Reachable.init h
  clear h
  induction ops generalizing gs0 with
  | nil => exact h0
  | cons o os ih =>
    exact ih (fun o' ho' => hno o' (List.mem_cons_of_mem _ ho'))
      (step_ct hr0.sorted h0 o (hno o List.mem_cons_self)) (Reachable.step o hr0)

/-- with an injected RTR_SHUTDOWN the invariant can fail: the thread stays recorded while the group
    is reported CLOSED, and the next failover's `rtr_start` on that socket fails -/
example :
    (init [(3, 1), (5, 1)]).map (fun gs =>
      (step (run gs [.start, .ev 3 0 .shutdown false, .add 1 1]) (.ev 1 0 .errFatal false)).2.1)
      = some [.status 1 .error (some (1, 0)), .start 3 0 false] := by decide +kernel

end Rtr.C15
