/-
  C11 — A BGPsec path is VALID only if every hop's signature verifies under its AS's key.

  Model: RtrModel.Bgpsec (byte-level `align_byte_sequence`, `req_stream_size`, the offset loop of
  `rtr_bgpsec_validate_as_path`, key selection, error-code order) over uninterpreted `hash`/`verify`.
  Spec:  Rtr.Rfc8205.digest (RFC 8205 §4.2, written as a recursion over the path).

  `KeyMode.skiAndAs` + `stop = true` is the code of the repository: a router key counts only if it is registered
  for the segment's SKI AND for the AS of the corresponding Secure_Path segment, and the validation
  loop ends with the Signature Segment list.  `KeyMode.skiOnly` and `stop = false` describe the code before
  two repairs (keys selected by SKI only: finding F10, signature "C11/key-as-mismatch"; loop bounded by the
  stream offset only: signature "C11/loop-overrun").  These instances serve the witness theorems: for SKI-only
  selection the full-strength statement is refuted on a concrete input (`decision_fails_skiOnly`), what does
  hold of it is `decision_partial`, and `loop_overrun_current` exhibits the overrun.
-/
import RtrProofs.Bgpsec

namespace Rtr.C11
open Rtr.Bgpsec Rtr.Rfc8205

/-- **Layout.** For every path length, all signature lengths and all NLRI lengths, and for every hop
    `i`: the bytes that iteration `i` of the validation loop hashes — the suffix of the stream written
    by `align_byte_sequence(VALIDATION)` at `offset_i = Σ_{k<i} next_offset_k` — are exactly the RFC 8205
    §4.2 sequence for Signature Segment `i`.  This includes the pun that the last four bytes of
    Secure_Path Segment `i` double as the Target AS Number of hop `i+1`. -/
theorem align_eq_rfc (d : Data) (hlen : d.path.length = d.sigs.length)
    (hski : ∀ s ∈ d.sigs, s.ski.length = 20) (i : Nat) (hi : i < d.sigs.length) :
    (alignBytes .validation d).drop (offsetAt d.sigs i) = digest d i := by
  obtain ⟨s, ss, hs⟩ := List.exists_cons_of_length_pos (Nat.zero_lt_of_lt hi)
  rw [hs] at hi hski
  rw [hs] at hlen
  rw [alignBytes_validation hs, hs, drop_offsetAt i d.targetAs d.path s ss (tailBytes d)
    (fun x hx => hski x (List.mem_cons_of_mem _ hx)) hlen (Nat.le_of_lt_succ hi),
    alignLoop_eq_segments (d.path.drop i) (ss.drop i) (length_drop_succ hlen (hlen ▸ hi)), digest, hs]
  rfl

/-- `req_stream_size` is exactly the number of bytes `align_byte_sequence` writes (no overflow of the
    stream buffer, no trailing zero bytes hashed), for both alignment types. -/
theorem align_length (ty : AlignType) (d : Data) (hn : d.nlri.bytes.length = nlriB d.nlri.len)
    (hski : ∀ s ∈ d.sigs, s.ski.length = 20) (hl : (startSigs ty d.sigs).length ≤ d.path.length) :
    (alignBytes ty d).length = reqStreamSize ty d :=
  alignBytes_length ty d hn hski hl

section
variable {H : Type} (hash : List Nat → H) (verify : List Nat → H → List Nat → VRes)

/-- **Decision** for any combination of key selection and loop bound: `HopsOk` against one table, written out -/
theorem decision_general (m : KeyMode) (stop : Bool) (d : Data) (T : Table) (hski : ∀ s ∈ d.sigs, s.ski.length = 20)
    (hover : stop = true ∨ NoOverrun d) :
    validate hash verify m stop d T = .valid ↔
      Supported d ∧ ∀ i s p, d.sigs[i]? = some s → d.path[i]? = some p →
        ∃ k ∈ T, keyOk m s.ski p.asn k = true ∧ verify k.spki (hash (digest d i)) s.sig = .valid := by
  rw [validate_iff hski hover, hopsOk_iff]
  -- what is left is `KeyVerifies` written out
  rfl

/-- **Decision, full strength** (repaired key selection, repaired loop bound).  The answer is VALID
    exactly when the pre-checks pass and, for every Signature Segment `i`, some router key registered
    for the segment's SKI and for the AS number of Secure_Path Segment `i` verifies the signature over
    the RFC 8205 §4.2 sequence of hop `i`.  Only hypothesis: SKIs are 20 octets (`uint8_t ski[20]`). -/
theorem decision (d : Data) (T : Table) (hski : ∀ s ∈ d.sigs, s.ski.length = 20) :
    validate hash verify .skiAndAs true d T = .valid ↔
      Supported d ∧ ∀ i s p, d.sigs[i]? = some s → d.path[i]? = some p →
        ∃ k ∈ T, k.ski = s.ski ∧ k.asn = p.asn ∧ verify k.spki (hash (digest d i)) s.sig = .valid := by
  rw [decision_general hash verify .skiAndAs true d T hski (Or.inl rfl)]
  simp only [keyOk, Bool.and_eq_true, decide_eq_true_eq, and_assoc]

/-- **Decision of the code before the two repairs** (`_partial`: SKI-only key selection, loop bounded by the stream
    offset).  MISSING w.r.t. the property: (1) `k.asn = p.asn` — the key need not be registered for the
    AS of the Secure_Path segment (F10); (2) the hypothesis `NoOverrun` (RtrProofs.Bgpsec): the loop
    stops after the last segment only if the last signature is longer than `nlri octets - 13`, which
    holds for `nlri_len ≤ 128` and any ≥ 4-octet signature, but not in general (`loop_overrun_current`). -/
theorem decision_partial (d : Data) (T : Table) (hski : ∀ s ∈ d.sigs, s.ski.length = 20) (hover : NoOverrun d) :
    validate hash verify .skiOnly false d T = .valid ↔
      Supported d ∧ ∀ i s p, d.sigs[i]? = some s → d.path[i]? = some p →
        ∃ k ∈ T, k.ski = s.ski ∧ verify k.spki (hash (digest d i)) s.sig = .valid := by
  rw [decision_general hash verify .skiOnly false d T hski (Or.inr hover)]
  simp only [keyOk, decide_eq_true_eq]

end

/-! ### the key table changes while a path is being validated; signature fields must be strict DER

One call sees a sequence of table snapshots `V 0, V 1, …` (`View`, RtrModel/Bgpsec.lean): lookups `0 … n-1` are made
by `check_router_keys`, lookup `n + i` by iteration `i` of the validation loop (`n` = number of segments).
`wf sig` = "the octets of the signature field are exactly the DER encoding of an ECDSA-Sig-Value" (what `ECDSA_verify`
demands before it checks anything), `verify` the ECDSA check proper. -/

section lookups
variable {H : Type} (hash : List Nat → H) (verify : List Nat → H → List Nat → VRes) (wf : List Nat → Bool)

theorem decision_lookups_general (m : KeyMode) (stop : Bool) (d : Data) (V : View) (hski : ∀ s ∈ d.sigs, s.ski.length = 20)
    (hover : stop = true ∨ NoOverrun d) :
    validateFull hash verify wf m stop d V = .valid ↔
      Supported d ∧
      (∀ i s p, d.sigs[i]? = some s → d.path[i]? = some p → ∃ k ∈ V i, keyOk m s.ski p.asn k = true) ∧
      (∀ i s p, d.sigs[i]? = some s → d.path[i]? = some p →
        wf s.sig = true ∧ ∃ k ∈ V (d.sigs.length + i), keyOk m s.ski p.asn k = true ∧
          verify k.spki (hash (digest d i)) s.sig = .valid) := by
  rw [validateFull, validateV_iff hski hover]
  refine and_congr_right fun hsup => and_congr ?_ ?_
  · rw [checkRouterKeysV_success_iff hsup.2.2.1]
    simp only [keysFor_ne_nil_iff, Nat.zero_add]
  · simp only [hopsOk_iff, keyVerifies_validateSignature]
    rfl

/-- **Decision with independent lookups, full strength** (the tree as repaired: keys count only under the
    segment's AS, the loop ends with the Signature Segment list).  VALID exactly when the pre-checks pass,
    every lookup of `check_router_keys` found a key of the segment's SKI and AS, and for every hop `i` the
    signature field is strict DER and verifies, over the RFC 8205 §4.2 sequence of hop `i`, under a key of
    the hop's SKI and AS that was RETURNED BY THE LOOKUP OF THAT HOP'S OWN LOOP ITERATION — not by the
    pre-check, not by another hop's lookup, not by an earlier state of the table. -/
theorem decision_lookups (d : Data) (V : View) (hski : ∀ s ∈ d.sigs, s.ski.length = 20) :
    validateFull hash verify wf .skiAndAs true d V = .valid ↔
      Supported d ∧
      (∀ i s p, d.sigs[i]? = some s → d.path[i]? = some p → ∃ k ∈ V i, k.ski = s.ski ∧ k.asn = p.asn) ∧
      (∀ i s p, d.sigs[i]? = some s → d.path[i]? = some p →
        wf s.sig = true ∧ ∃ k ∈ V (d.sigs.length + i), k.ski = s.ski ∧ k.asn = p.asn ∧
          verify k.spki (hash (digest d i)) s.sig = .valid) := by
  rw [decision_lookups_general hash verify wf .skiAndAs true d V hski (Or.inl rfl)]
  simp only [keyOk, Bool.and_eq_true, decide_eq_true_eq, and_assoc]

/-- VALID ⇒ every hop's signature field is a strict DER ECDSA-Sig-Value and verifies under a key of the hop's
    SKI and AS that is among the keys `spki_table_search_by_ski` returned in that hop's iteration. -/
theorem valid_needs_own_lookup (d : Data) (V : View) (hski : ∀ s ∈ d.sigs, s.ski.length = 20)
    (h : validateFull hash verify wf .skiAndAs true d V = .valid) (i : Nat) (s : SigSeg) (p : PathSeg)
    (hs : d.sigs[i]? = some s) (hp : d.path[i]? = some p) :
    wf s.sig = true ∧ ∃ k ∈ searchBySki (V (d.sigs.length + i)) s.ski, k.asn = p.asn ∧
      verify k.spki (hash (digest d i)) s.sig = .valid := by
  obtain ⟨hw, k, hk, hski', hasn, hv⟩ := ((decision_lookups hash verify wf d V hski).mp h).2.2 i s p hs hp
  exact ⟨hw, k, by simp [searchBySki, List.mem_filter, hk, hski'], hasn, hv⟩

/-- **A hop whose own lookup returned no key is never VALID** — whatever `check_router_keys` saw a moment
    earlier, whatever the other hops do (any key selection; any loop bound that terminates, `hover`). -/
theorem empty_lookup_never_valid (m : KeyMode) (stop : Bool) (d : Data) (V : View)
    (hski : ∀ s ∈ d.sigs, s.ski.length = 20) (hover : stop = true ∨ NoOverrun d)
    (i : Nat) (s : SigSeg) (hs : d.sigs[i]? = some s) (hempty : searchBySki (V (d.sigs.length + i)) s.ski = []) :
    validateFull hash verify wf m stop d V ≠ .valid := by
  intro h
  obtain ⟨hsup, _, hh⟩ := (validateV_iff hski hover).mp h
  have hi : i < d.path.length := Nat.lt_of_lt_of_eq (List.getElem?_eq_some_iff.mp hs).1 hsup.2.2.1.symm
  obtain ⟨k, hk, hok, _⟩ := hopsOk_iff.mp hh i s d.path[i] hs (List.getElem?_eq_getElem hi)
  exact search_ne_nil_of_keyOk hk hok hempty

/-- the same for the tree as repaired, without side condition -/
theorem empty_lookup_never_valid_repaired (d : Data) (V : View) (hski : ∀ s ∈ d.sigs, s.ski.length = 20)
    (i : Nat) (s : SigSeg) (hs : d.sigs[i]? = some s) (hempty : searchBySki (V (d.sigs.length + i)) s.ski = []) :
    validateFull hash verify wf .skiAndAs true d V ≠ .valid :=
  empty_lookup_never_valid hash verify wf .skiAndAs true d V hski (Or.inl rfl) i s hs hempty

/-- a signature field that is not strict DER is never VALID, whatever `verify` would say about it -/
theorem malformed_signature_never_valid (m : KeyMode) (stop : Bool) (d : Data) (V : View)
    (hski : ∀ s ∈ d.sigs, s.ski.length = 20) (hover : stop = true ∨ NoOverrun d)
    (s : SigSeg) (hs : s ∈ d.sigs) (hbad : wf s.sig = false) :
    validateFull hash verify wf m stop d V ≠ .valid := by
  intro h
  obtain ⟨hsup, _, hh⟩ := (validateV_iff hski hover).mp h
  obtain ⟨i, hi, rfl⟩ := List.getElem_of_mem hs
  have hp : i < d.path.length := Nat.lt_of_lt_of_eq hi hsup.2.2.1.symm
  have hw := (keyVerifies_validateSignature.mp
    (hopsOk_iff.mp hh i d.sigs[i] d.path[i] (List.getElem?_eq_getElem hi) (List.getElem?_eq_getElem hp))).1
  rw [hbad] at hw
  cases hw

/-- one fixed table is the special case of a constant view: `decision` with the strict-DER requirement -/
theorem decision_wf (d : Data) (T : Table) (hski : ∀ s ∈ d.sigs, s.ski.length = 20) :
    validateFull hash verify wf .skiAndAs true d (fun _ => T) = .valid ↔
      Supported d ∧ ∀ i s p, d.sigs[i]? = some s → d.path[i]? = some p →
        wf s.sig = true ∧ ∃ k ∈ T, k.ski = s.ski ∧ k.asn = p.asn ∧ verify k.spki (hash (digest d i)) s.sig = .valid := by
  rw [validateFull, ← validate, validate_iff hski (Or.inl rfl)]
  simp only [hopsOk_iff, keyVerifies_validateSignature]
  simp only [KeyVerifies, keyOk, Bool.and_eq_true, decide_eq_true_eq, and_assoc]

end lookups

/-! ### F10: the full-strength statement is false for SKI-only key selection

Toy crypto for the witness: a "signature" is the key followed by the hashed octets.  The path is
the shape of the RFC 8208 example (AS 64496 → AS 65536 → validator 65537, 192.0.2.0/24); the two
router keys are filed under AS 11111 and 22222. -/

def toyHash (m : List Nat) : List Nat := m
def toyVerify (spki : List Nat) (h : List Nat) (sig : List Nat) : VRes := if sig = spki ++ h then .valid else .notValid
def toySign (sk : List Nat) (h : List Nat) : List Nat := sk ++ h

def ski1 : List Nat := List.replicate 20 1
def ski2 : List Nat := List.replicate 20 2

/-- origin AS 64496 signs towards 65536 -/
def w1 : Data :=
  { alg := 1, afi := 1, safi := 1, targetAs := 65536, nlri := ⟨1, 24, [192, 0, 2]⟩,
    path := [⟨1, 0, 64496⟩], sigs := [] }
def wsig2 : List Nat := toySign [22] (toyHash (alignBytes .signing w1))
/-- AS 65536 signs towards 65537 -/
def w2 : Data :=
  { w1 with targetAs := 65537, path := [⟨1, 0, 65536⟩, ⟨1, 0, 64496⟩], sigs := [⟨ski2, wsig2⟩] }
def wsig1 : List Nat := toySign [11] (toyHash (alignBytes .signing w2))
/-- what the validator AS 65537 receives -/
def witness : Data := { w2 with sigs := [⟨ski1, wsig1⟩, ⟨ski2, wsig2⟩] }

def keysRight : Table := [⟨65536, ski1, [11]⟩, ⟨64496, ski2, [22]⟩]
def keysWrongAs : Table := [⟨11111, ski1, [11]⟩, ⟨22222, ski2, [22]⟩]

/-- with the keys under other AS numbers the SKI-only code still answers VALID … -/
theorem witness_valid_skiOnly : validate toyHash toyVerify .skiOnly false witness keysWrongAs = .valid := by decide +kernel

/-- … so the property's statement does not hold for it: -/
theorem decision_fails_skiOnly :
    ¬ (∀ (d : Data) (T : Table), (∀ s ∈ d.sigs, s.ski.length = 20) → NoOverrun d →
        (validate toyHash toyVerify .skiOnly false d T = .valid ↔
          Supported d ∧ ∀ i s p, d.sigs[i]? = some s → d.path[i]? = some p →
            ∃ k ∈ T, k.ski = s.ski ∧ k.asn = p.asn ∧ toyVerify k.spki (toyHash (digest d i)) s.sig = .valid)) := by
  intro h
  have h' := (h witness keysWrongAs (by decide +kernel) (by decide +kernel)).mp witness_valid_skiOnly
  obtain ⟨k, hk, _, hasn, _⟩ := h'.2 0 ⟨ski1, wsig1⟩ ⟨1, 0, 65536⟩ (by decide +kernel) (by decide +kernel)
  simp only [keysWrongAs, List.mem_cons, List.not_mem_nil, or_false] at hk
  rcases hk with rfl | rfl <;> simp at hasn

/-- the repaired selection refuses the same input (not VALID, and with the specific code) -/
theorem witness_refused_skiAndAs : validate toyHash toyVerify .skiAndAs true witness keysWrongAs = .routerKeyNotFound := by decide +kernel

/-! ### the loop bounded by the stream offset alone (`stop = false`, the code before its repair)

Toy crypto in which a short signature verifies: one hop, `nlri_len = 255` (32 octets, never checked
against the AFI), a 3-octet signature.  After the only segment has verified, `offset = 3 + 28 = 31`
(28 = target AS 4 + SKI 20 + length field 2 + pCount, flags 2) is still `≤ stream size = 47`
(= 4 + 6 + 5 + 32), the loop runs again with `tmp_sig == NULL`. -/

def toyVerifyShort (spki : List Nat) (_ : List Nat) (sig : List Nat) : VRes := if sig = spki then .valid else .notValid
def overrunData : Data :=
  { alg := 1, afi := 1, safi := 1, targetAs := 65537, nlri := ⟨1, 255, List.replicate 32 170⟩,
    path := [⟨1, 0, 64500⟩], sigs := [⟨ski1, [7, 7, 7]⟩] }
def overrunKeys : Table := [⟨64500, ski1, [7, 7, 7]⟩]

/-- with that bound the loop dereferences NULL although every hop verifies under a key of its AS … -/
theorem loop_overrun_current : validate toyHash toyVerifyShort .skiOnly false overrunData overrunKeys = .fault := by decide +kernel
/-- … the loop that also ends with the Signature Segment list answers VALID -/
theorem loop_overrun_repaired : validate toyHash toyVerifyShort .skiAndAs true overrunData overrunKeys = .valid := by decide +kernel

/-! ### every signed field is determined by the hashed octets -/

/-- **Injectivity.**  Two paths with the same number of segments whose RFC sequences for hop `i`
    are equal agree on every field signed at hop `i`: the Target AS, every Secure_Path Segment from
    `i` on (pCount, flags, AS), every Signature Segment after `i` (SKI, length, signature), the
    algorithm suite, AFI, SAFI, NLRI length and NLRI octets.  Signature lengths and the NLRI length
    need not be assumed equal, they are part of what is recovered. -/
theorem digest_injective (d d' : Data) (w : WfData d) (w' : WfData d')
    (hl : d.path.length = d.sigs.length) (hl' : d'.path.length = d'.sigs.length)
    (hn : d.path.length = d'.path.length) (i : Nat) (hi : i < d.path.length)
    (h : digest d i = digest d' i) :
    targetAt d i = targetAt d' i ∧ d.path.drop i = d'.path.drop i ∧ d.sigs.drop (i + 1) = d'.sigs.drop (i + 1) ∧
      d.alg = d'.alg ∧ d.afi = d'.afi ∧ d.safi = d'.safi ∧ d.nlri.len = d'.nlri.len ∧ d.nlri.bytes = d'.nlri.bytes := by
  obtain ⟨a, h⟩ := List.append_inj h rfl
  obtain ⟨b, c, e⟩ := segments_append_inj
    (by rw [List.length_drop, List.length_drop, hn]) (length_drop_succ hl hi) (length_drop_succ hl' (hn ▸ hi))
    (fun p hp => w.path p (List.mem_of_mem_drop hp)) (fun p hp => w'.path p (List.mem_of_mem_drop hp))
    (fun s hs => w.sigs s (List.mem_of_mem_drop hs)) (fun s hs => w'.sigs s (List.mem_of_mem_drop hs)) h
  exact ⟨be32_inj (targetAt_lt d w i) (targetAt_lt d' w' i) a, b, c, tailBytes_inj w w' e⟩

/-- Contrapositive: changing any signed field (any single bit of it) changes the hashed octets of
    hop `i`.  (From "different octets" to "the signature no longer verifies" is the assumption on
    SHA-256 / ECDSA.) -/
theorem digest_changes (d d' : Data) (w : WfData d) (w' : WfData d')
    (hl : d.path.length = d.sigs.length) (hl' : d'.path.length = d'.sigs.length)
    (hn : d.path.length = d'.path.length) (i : Nat) (hi : i < d.path.length)
    (hdiff : targetAt d i ≠ targetAt d' i ∨ d.path.drop i ≠ d'.path.drop i ∨ d.sigs.drop (i + 1) ≠ d'.sigs.drop (i + 1) ∨
      d.alg ≠ d'.alg ∨ d.afi ≠ d'.afi ∨ d.safi ≠ d'.safi ∨ d.nlri.len ≠ d'.nlri.len ∨ d.nlri.bytes ≠ d'.nlri.bytes) :
    digest d i ≠ digest d' i := by
  intro h
  obtain ⟨a, b, c, e, f, g, k, l⟩ := digest_injective d d' w w' hl hl' hn i hi h
  rcases hdiff with x | x | x | x | x | x | x | x <;> contradiction

/-! ### error codes, in the order the entry point checks them -/

section
variable {H : Type} (hash : List Nat → H) (verify : List Nat → H → List Nat → VRes) (m : KeyMode) (stop : Bool)

/-- `!data || !table` -/
theorem err_null (d : Option Data) (T : Option Table) (h : d = none ∨ T = none) :
    validateArgs hash verify m stop d T = .invalidArguments := by
  rcases h with rfl | rfl
  · rfl
  · cases d <;> rfl

/-- `!data->nlri` (repaired argument check) -/
theorem err_null_nlri (d : Option Data) (T : Option Table) :
    validateEntry hash verify m stop d true T = .invalidArguments := rfl

/-- `!data->path || !data->sigs` (this and the following error theorems: for EVERY sequence of table
    snapshots `V`; one fixed table `T` is `V = fun _ => T`, i.e. `validate hash verify m stop d T`) -/
theorem err_arguments (d : Data) (V : View) (h : d.path = [] ∨ d.sigs = []) :
    validateV hash verify m stop d V = .invalidArguments := by
  rw [validateV, if_pos h]

theorem err_segment_count (d : Data) (V : View) (h0 : ¬ (d.path = [] ∨ d.sigs = []))
    (h : d.path.length ≠ d.sigs.length) : validateV hash verify m stop d V = .wrongSegmentCount := by
  rw [validateV, if_neg h0, if_pos h]

theorem err_suite (d : Data) (V : View) (h0 : ¬ (d.path = [] ∨ d.sigs = []))
    (h1 : d.path.length = d.sigs.length) (h : d.alg ≠ 1) :
    validateV hash verify m stop d V = .unsupportedAlgorithmSuite := by
  rw [validateV, if_neg h0, if_neg (fun h => h h1), if_pos h]

theorem err_afi (d : Data) (V : View) (h0 : ¬ (d.path = [] ∨ d.sigs = []))
    (h1 : d.path.length = d.sigs.length) (h2 : d.alg = 1) (h : d.nlri.afi ≠ 1 ∧ d.nlri.afi ≠ 2) :
    validateV hash verify m stop d V = .unsupportedAfi := by
  rw [validateV, if_neg h0, if_neg (fun h => h h1), if_neg (fun h => h h2), if_pos h]

/-- a Signature Segment for which the lookup of `check_router_keys` (lookup number `i`) finds no key that
    counts (`skiOnly`: none with that SKI; `skiAndAs`: none with that SKI under the AS of the Secure_Path
    segment) → `ROUTER_KEY_NOT_FOUND` -/
theorem err_missing_key (d : Data) (V : View) (hsup : Supported d) (i : Nat) (s : SigSeg) (p : PathSeg)
    (hs : d.sigs[i]? = some s) (hp : d.path[i]? = some p) (hk : keysFor m (V i) s.ski p.asn = []) :
    validateV hash verify m stop d V = .routerKeyNotFound := by
  rw [validateV_of_supported hsup, checkRouterKeysV_missing hs hp (by rwa [Nat.zero_add])]

/-- the four pre-checks in one statement (`err_arguments` … `err_afi` say which code an input that fails one gets) -/
theorem never_valid_unless_supported (d : Data) (V : View) (h : ¬ Supported d) :
    validateV hash verify m stop d V ≠ .valid :=
  fun hv => h (supported_of_valid hv)

end

/-! ### non-vacuity -/

-- the witness path meets every hypothesis of `decision`, and validates with the keys under the right AS
example : (∀ s ∈ witness.sigs, s.ski.length = 20) ∧ NoOverrun witness ∧ Supported witness := by decide +kernel
example : validate toyHash toyVerify .skiAndAs true witness keysRight = .valid := by decide +kernel
example : validate toyHash toyVerify .skiOnly false witness keysRight = .valid := by decide +kernel
-- align_eq_rfc at hop 1 of the witness, the first hop whose offset is not 0
example : offsetAt witness.sigs 1 = wsig2.length + 28 ∧ (alignBytes .validation witness).drop (offsetAt witness.sigs 1) = digest witness 1 := by decide +kernel
-- the hop-1 sequence is the RFC 8208 origin sequence: target 65536, (1,0,64496), suite 1, AFI 1, SAFI 1, /24 192.0.2
example : digest witness 1 = [0, 1, 0, 0, 1, 0, 0, 0, 251, 240, 1, 0, 1, 1, 24, 192, 0, 2] := by decide +kernel
-- digest_injective: hypotheses satisfiable, and a one-bit change of pCount of the origin changes hop 0's octets
example : WfData witness := by
  constructor <;> decide +kernel
example : digest witness 0 ≠ digest { witness with path := [⟨1, 0, 65536⟩, ⟨0, 0, 64496⟩] } 0 := by decide +kernel
-- independent lookups: the witness validates while the table stays as it is …
def toyWf (sig : List Nat) : Bool := sig.length ≤ 200
example : validateFull toyHash toyVerify toyWf .skiAndAs true witness (fun _ => keysRight) = .valid := by decide +kernel
-- … a key withdrawn after `check_router_keys` (lookups 0, 1) and before the lookup of loop iteration 1
-- (lookup 3) is answered with `RTR_BGPSEC_SUCCESS` (= 0, not VALID: `hash_byte_sequence`'s status) …
example : validateFull toyHash toyVerify toyWf .skiAndAs true witness (fun k => if k < 3 then keysRight else keysRight.take 1) = .success := by decide +kernel
example : searchBySki ((fun k => if k < 3 then keysRight else keysRight.take 1) (witness.sigs.length + 1)) ski2 = [] := by decide +kernel
-- … replaced by the same key under another AS: NOT_VALID; a key that arrives after the pre-check is too late
example : validateFull toyHash toyVerify toyWf .skiAndAs true witness (fun k => if k < 2 then keysRight else keysWrongAs) = .notValid := by decide +kernel
example : validateFull toyHash toyVerify toyWf .skiAndAs true witness (fun k => if k < 1 then keysWrongAs else keysRight) = .routerKeyNotFound := by decide +kernel
-- … while a key missing only at a lookup that does not ask for it (lookup 1 asks for ski2) does not disturb
example : validateFull toyHash toyVerify toyWf .skiAndAs true witness (fun k => if k = 1 then keysRight.drop 1 else keysRight) = .valid := by decide +kernel
-- a signature field that is not well-formed is an ERROR although `verify` accepts it
example : validateFull toyHash toyVerify (fun sig => sig.length ≤ 30) .skiAndAs true witness (fun _ => keysRight) = .error := by decide +kernel
example : toyVerify [11] (toyHash (digest witness 0)) wsig1 = .valid ∧ wsig1.length > 30 := by decide +kernel
-- error codes reached
example : validate toyHash toyVerify .skiOnly false { witness with sigs := witness.sigs.drop 1 } keysRight = .wrongSegmentCount := by decide +kernel
example : validate toyHash toyVerify .skiOnly false { witness with alg := 2 } keysRight = .unsupportedAlgorithmSuite := by decide +kernel
example : validate toyHash toyVerify .skiOnly false { witness with nlri := ⟨3, 24, [192, 0, 2]⟩ } keysRight = .unsupportedAfi := by decide +kernel
example : validate toyHash toyVerify .skiOnly false witness (keysRight.drop 1) = .routerKeyNotFound := by decide +kernel

end Rtr.C11
