/-
  C16 — Concurrent readers and writers of the tables are linearizable and race-free.

  Two kinds of theorems.
  * GENERIC, for any number of threads running any paths: proved in RtrProofs/Locks*.lean and restated here;
    `reads_linearizable_partial` (the reader half of linearizability) is put together from them.
  * GENERATED, re-checked on every run against the lock IR that tools/gen_locks.py extracts from
    the current source (`RtrModel/Generated/Locks.lean`), up to the end-to-end statements `api_no_race`,
    `api_reads_snapshot` about the system "one thread adds / removes records, any number of threads validate /
    look up / enumerate".

  Model assumptions (trusted base): POSIX rwlock semantics as in `Locks.enabled`/`apply`;
  a data race = two different threads simultaneously about to perform conflicting accesses of
  one location; distinct table parameters denote distinct tables; user callbacks (`update_fp`,
  the `fp` of `pfx_table_for_each_*`) do not touch table state; the extractor's effect table
  for the tommyds entry points.
-/
import RtrProofs.Locks
import RtrProofs.LocksChecker
import RtrModel.Generated.Locks

namespace Rtr.C16
open Rtr.Locks Rtr.Generated.Locks

/-! ## Generic theorems -/

/-- If all accesses of all threads are guarded (reads under R or W of the location's lock,
    writes under W), then in every reachable state of every interleaving no two conflicting
    accesses (same location, at least one write, different threads) are simultaneously enabled. -/
theorem guarded_no_race {store : Loc → Nat} {paths : Nat → List Ev}
    (hg : ∀ i, Guarded true (paths i)) {s : Sys} (hr : Reach store paths s) : ¬ Race s :=
  Rtr.Locks.guarded_no_race hg hr

/-- Variant for one writer thread `w` whose reads need not be guarded (only its writes), all
    other threads strictly guarded and never taking a write lock. -/
theorem single_writer_no_race {store : Loc → Nat} {paths : Nat → List Ev} (w : Nat)
    (hw : Guarded false (paths w)) (hg : ∀ j, j ≠ w → Guarded true (paths j))
    (hro : ∀ j, j ≠ w → countAcq anyW (paths j) = 0)
    {s : Sys} (hr : Reach store paths s) : ¬ Race s :=
  Rtr.Locks.single_writer_no_race w hw hg hro hr

/-- The checker is sound: `wellLocked` ⇒ every complete path through the function body (all
    branches, any number of loop iterations, callees inlined) is guarded and releases every lock. -/
theorem wellLocked_sound {strict : Bool} {T : List Fn} {f : Nat} (hw : wellLocked strict T f = true)
    {fn : Fn} (hf : T[f]? = some fn) {π : List Ev} {o : Out} (hx : Exec T fn.body π o) (hob : o ≠ .brk) :
    Balanced strict π := by
  -- at a function of the table `wellLocked` is `wellLockedProg` of its body
  unfold wellLocked at hw
  rw [hf] at hw
  exact Rtr.Locks.wellLockedProg_sound hw hx hob

theorem wellLockedProg_sound {strict : Bool} {T : List Fn} {p : Prog} (hw : wellLockedProg strict T p = true)
    {π : List Ev} {o : Out} (hx : Exec T p π o) (hob : o ≠ .brk) : Balanced strict π :=
  Rtr.Locks.wellLockedProg_sound hw hx hob

/-- The abstract value of a table changes only in steps of the thread that holds its write lock. -/
theorem writes_only_under_W {σ : Nat → Bool} {store : Loc → Nat} {paths : Nat → List Ev}
    (hg : ∀ i, Guarded (σ i) (paths i)) {s s' : Sys} (hr : Reach store paths s) {i : Nat}
    (hf : fire s i = some s') {l : Nat} (hne : abs s' l ≠ abs s l) : s.writer l = some i :=
  abs_changes_only_under_W (inv_reach hg hr) hf hne

/-- A read critical section sees one abstract value: from any state in which thread `j` holds the
    read lock of table `l`, as long as it keeps holding it, `abs l` does not change. -/
theorem read_section_snapshot {σ : Nat → Bool} {store : Loc → Nat} {paths : Nat → List Ev}
    (hg : ∀ i, Guarded (σ i) (paths i)) {s s' : Sys} (hr : Reach store paths s) {j l : Nat}
    (hrun : StepsWhile (fun t => j ∈ t.readers l) s s') : abs s' l = abs s l :=
  Rtr.Locks.read_section_snapshot (inv_reach hg hr) hrun

/-
  The full statement of the property is serialisability.  It is NOT stated in Lean (there is no declaration for it),
  only here in words:
    every interleaving of guarded threads is equivalent (same per-thread observations, same final
    store) to one in which the critical sections run one after the other, atomically, in the
    order of their lock acquisitions; hence every API call whose accesses lie in one critical
    section takes effect atomically at its acquisition, an instant between call and return.
  What is proved instead (`reads_linearizable_partial`): the reader half, stated directly on the
  interleaving semantics — every value read inside a read critical section on table `l` is the
  value of the single abstract table state that was current when the section began, and that
  state can only have been produced by complete write critical sections (no thread holds the
  write lock while a reader holds the read lock).  Missing for the full statement:
    (a) the commutation argument that reorders independent steps of different threads (a
        reduction proof over `Steps`);
    (b) the composition with the sequential correctness of each function ("its result is the
        answer for the snapshot it read"), which is the single-threaded correspondence of
        C01/C02/C10, not a concurrency fact;
    (c) writers with several critical sections per call (`pfx_table_src_remove` takes the lock
        once per address family) are atomic per section, not per call.
-/
theorem reads_linearizable_partial {σ : Nat → Bool} {store : Loc → Nat} {paths : Nat → List Ev}
    (hg : ∀ i, Guarded (σ i) (paths i)) {s s' : Sys} (hr : Reach store paths s) {j l : Nat}
    (hrun : StepsWhile (fun t => j ∈ t.readers l) s s') :
    -- (1) no writer inside the section, at its begin or at any later point of it
    (j ∈ s'.readers l → s'.writer l = none) ∧
    -- (2) the table's abstract value is still the one of the section's begin
    abs s' l = abs s l ∧
    -- (3) whatever any thread reads from table `l` now is that snapshot's value
    (∀ k x v, x.tbl = l → observes s' k = some (x, v) → v = abs s l x.part) := by
  have hI := inv_reach hg hr
  refine ⟨?_, Rtr.Locks.read_section_snapshot hI hrun, ?_⟩
  · intro hj
    have hI' := inv_steps hI hrun.steps
    cases hw : s'.writer l with
    | none => rfl
    | some k => have := hI'.excl l k hw; rw [this] at hj; simp at hj
  · intro k x v hx hobs
    exact read_observes_snapshot hI hrun hx hobs

/-! ## Generated obligations (re-checked on every run) -/

/-- API functions that are correct only in the single-writer regime: they read table state
    without the lock.  `spki_table_notify_diff` walks `new_table->list` and `old_table->list`
    unlocked; it is run by the synchronising thread only. -/
def singleWriterOnly : List Nat := [f_spki_table_notify_diff]

/-- Every public table function of the current source, except the single-writer ones, has all
    its accesses guarded on every path, acquires no lock twice, releases only what it holds and
    returns with no lock held.  A moved access or a missing unlock makes this `decide` fail. -/
theorem api_wellLocked : ∀ f ∈ publicFns, f ∉ singleWriterOnly → wellLocked true fns f = true := by
  decide +kernel

/-- Every public table function, including the single-writer ones, performs all its *writes*
    under the write lock and is lock-balanced. -/
theorem api_writes_guarded : ∀ f ∈ publicFns, wellLocked false fns f = true := by
  decide +kernel

def readerApi : List Nat :=
  [f_pfx_table_validate_r, f_pfx_table_validate, f_pfx_table_for_each_ipv4_record,
   f_pfx_table_for_each_ipv6_record, f_spki_table_get_all, f_spki_table_search_by_ski]

def bodyOf (f : Nat) : Prog := (fns[f]?.map (·.body)).getD (.act (.unknown 0))

/-- a reader call takes a lock at most once: all its reads lie in one critical section, i.e. it
    observes a single snapshot (`read_section_snapshot`) -/
theorem readers_single_section : ∀ f ∈ readerApi, acqBound anyAcq fns fuel (bodyOf f) = some 1 := by
  decide +kernel

/-- the single-record update API: each call decides (duplicate? present?) and acts on what it found -/
def recordWriterApi : List Nat :=
  [f_pfx_table_add, f_pfx_table_remove, f_spki_table_add_entry, f_spki_table_remove_entry]

/-- a single-record update takes a lock at most once: its test (is the record there?) and its effect lie in ONE
    critical section, so no other writer can change the table between the two.  This is what makes the sequential
    set semantics of add / remove (C02, C10) and the exactness of the callback log (C09) carry over to several
    writer threads (one per cache); a call that looks under one lock acquisition and updates under another
    passes `api_wellLocked` (every access is guarded) and still loses updates or reports a change twice. -/
theorem record_writers_single_section : ∀ f ∈ recordWriterApi, acqBound anyAcq fns fuel (bodyOf f) = some 1 := by
  decide +kernel

/-- a reader call never takes a write lock (hence never writes, by `api_wellLocked`) -/
theorem readers_never_write : ∀ f ∈ readerApi, acqBound anyW fns fuel (bodyOf f) = some 0 := by
  decide +kernel

/-! ## The system of the property: one writer thread, any number of reader threads -/

-- table ids of the system: 0 = the prefix table, 1 = the router-key table
def call1 (f : Nat) (t : Nat) : Prog := .act (.call f [t] [] 0)

/-- a reader thread: any sequence of validate / enumerate / key look-ups -/
def readerProg : Prog :=
  .loop (.alt (call1 f_pfx_table_validate_r 0) (.alt (call1 f_pfx_table_validate 0)
        (.alt (call1 f_pfx_table_for_each_ipv4_record 0) (.alt (call1 f_pfx_table_for_each_ipv6_record 0)
        (.alt (call1 f_spki_table_get_all 1) (call1 f_spki_table_search_by_ski 1))))))

/-- the writer thread: any sequence of additions and removals on both tables -/
def writerProg : Prog :=
  .loop (.alt (call1 f_pfx_table_add 0) (.alt (call1 f_pfx_table_remove 0)
        (.alt (call1 f_pfx_table_src_remove 0) (.alt (call1 f_spki_table_add_entry 1)
        (.alt (call1 f_spki_table_remove_entry 1) (call1 f_spki_table_src_remove 1))))))

/-- `π` is the event sequence of a complete run of `p` (a thread that has not finished is
    simply not scheduled to the end: `Reach` contains every intermediate state) -/
def Runs (p : Prog) (π : List Ev) : Prop := ∃ o, Exec fns p π o ∧ o ≠ .brk

theorem readerProg_wellLocked : wellLockedProg true fns readerProg = true := by decide +kernel
theorem writerProg_wellLocked : wellLockedProg true fns writerProg = true := by decide +kernel

theorem Runs.guarded {p : Prog} (hw : wellLockedProg true fns p = true) {π : List Ev} (h : Runs p π) :
    Guarded true π := by
  obtain ⟨o, hx, ho⟩ := h
  exact (Rtr.Locks.wellLockedProg_sound hw hx ho).guarded

/-- the threads of the system: thread 0 is the writer, every other thread a reader (a thread
    that does nothing runs the empty path, which is a run of `readerProg`) -/
def ApiSystem (paths : Nat → List Ev) : Prop :=
  Runs writerProg (paths 0) ∧ ∀ i, i ≠ 0 → Runs readerProg (paths i)

theorem ApiSystem.guarded {paths : Nat → List Ev} (h : ApiSystem paths) : ∀ i, Guarded true (paths i) := by
  intro i
  by_cases hi : i = 0
  · subst hi; exact Runs.guarded writerProg_wellLocked h.1
  · exact Runs.guarded readerProg_wellLocked (h.2 i hi)

/-- **No execution contains a data race on table state**: for the functions of the current
    source, any number of reader threads, any operation sequence of the writer, any
    interleaving. -/
theorem api_no_race {store : Loc → Nat} {paths : Nat → List Ev} (h : ApiSystem paths)
    {s : Sys} (hr : Reach store paths s) : ¬ Race s :=
  guarded_no_race h.guarded hr

/-- **Every read sees the table contents of one instant between call and return**: while a
    reader is inside its (single, `readers_single_section`) read critical section the table's
    abstract value stays the one of the section's begin, no writer is inside, and every value
    read is that snapshot's. -/
theorem api_reads_snapshot {store : Loc → Nat} {paths : Nat → List Ev} (h : ApiSystem paths)
    {s s' : Sys} (hr : Reach store paths s) {j l : Nat}
    (hrun : StepsWhile (fun t => j ∈ t.readers l) s s') :
    (j ∈ s'.readers l → s'.writer l = none) ∧ abs s' l = abs s l ∧
    (∀ k x v, x.tbl = l → observes s' k = some (x, v) → v = abs s l x.part) :=
  reads_linearizable_partial (σ := fun _ => true) h.guarded hr hrun

/-! ## Non-vacuity -/

/-- all resolutions of the first `n` branch points -/
def choiceSeqs : Nat → List (List Bool)
  | 0 => [[]]
  | n + 1 => (choiceSeqs n).flatMap fun cs => [true :: cs, false :: cs]

/-- does some resolution of the first `n` branch points give a complete run whose events satisfy `good`?
    (the branch points are those of the generated IR, so a run is searched for, not written down; fuel 200 covers the
    nesting depth of the API functions' calls) -/
def hasRun (p : Prog) (n : Nat) (good : List Ev → Bool) : Bool :=
  (choiceSeqs n).any fun cs =>
    match runPath fns 200 p cs with
    | some (π, .norm, _) => good π
    | _ => false

theorem hasRun_sound {p : Prog} {n : Nat} {good : List Ev → Bool} (h : hasRun p n good = true) :
    ∃ π, Runs p π ∧ good π = true := by
  unfold hasRun at h
  obtain ⟨cs, _, hc⟩ := List.any_eq_true.1 h
  split at hc
  · rename_i π _ heq
    exact ⟨π, ⟨.norm, runPath_sound heq, by decide⟩, hc⟩
  · exact absurd hc (by decide)

/-- a concrete run of the reader program through the generated IR: it starts by taking a read lock, reads
    trie nodes inside the read section and ends by releasing the lock (found among the resolutions of the first 10
    branch points) -/
example : ∃ π, Runs readerProg π ∧ π.head? = some (.acq .R 0) ∧ Ev.rd ⟨0, .nodes⟩ ∈ π ∧ π.getLast? = some (.rel 0) := by
  obtain ⟨π, h1, h2⟩ := hasRun_sound (p := readerProg) (n := 10)
    (good := fun π => decide (π.head? = some (.acq .R 0) ∧ Ev.rd ⟨0, .nodes⟩ ∈ π ∧ π.getLast? = some (.rel 0))) (by decide +kernel)
  exact ⟨π, h1, of_decide_eq_true h2⟩

/-- a concrete run of the writer program: some path of `pfx_table_add` assigns the IPv4 root (found among the
    resolutions of the first 9 branch points) -/
example : ∃ π, Runs writerProg π ∧ Ev.wr ⟨0, .ipv4⟩ 0 ∈ π := by
  obtain ⟨π, h1, h2⟩ := hasRun_sound (p := writerProg) (n := 9) (good := fun π => decide (Ev.wr ⟨0, .ipv4⟩ 0 ∈ π)) (by decide +kernel)
  exact ⟨π, h1, of_decide_eq_true h2⟩

/-- hypotheses of `guarded_no_race` are satisfiable with real contention: a writer and a reader
    on the same location; the reader gets in first, the writer is then blocked (not racing) -/
example : ∃ (paths : Nat → List Ev) (s : Sys),
    (∀ i, Guarded true (paths i)) ∧ Reach (fun _ => 0) paths s ∧ 1 ∈ s.readers 0 ∧
    next s 0 = some (.acq .W 0) ∧ fire s 0 = none := by
  let paths : Nat → List Ev := fun i =>
    if i = 0 then [.acq .W 0, .wr ⟨0, .ipv4⟩ 7, .rel 0]
    else if i = 1 then [.acq .R 0, .rd ⟨0, .ipv4⟩, .rel 0] else []
  refine ⟨paths, apply (init (fun _ => 0) paths) 1 (.acq .R 0) [.rd ⟨0, .ipv4⟩, .rel 0], ?_, ?_, ?_, ?_, ?_⟩
  · intro i
    by_cases h0 : i = 0
    · subst h0; simp [paths, Guarded, runHeld, okEv, updHeld, holds, holdsW]
    · by_cases h1 : i = 1
      · subst h1; simp [paths, Guarded, runHeld, okEv, updHeld, holds]
      · simp [paths, h0, h1, Guarded, runHeld]
  · exact .tail (.refl _) ⟨1, rfl⟩
  · simp [apply, upd, init]
  · rfl
  · rfl

end Rtr.C16
