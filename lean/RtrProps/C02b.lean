/-
  C02b — C02 for ARBITRARY records (non-canonical prefixes included).

  `pfx_table_add` does not check that the prefix of the record is canonical for its family
  (length ≤ 32/128, address within the width, host bits zero).  The set refinement of C02 does
  not need it: under the weaker invariant `TableWFg` (RtrProofs/TrieGen: nothing about the shape of
  the prefix) add / remove / remove-by-source refine the mathematical set of records for every
  record whatsoever.
  Quantifier: every finite sequence of operations, NO hypothesis on the operations.
  `TableWF T → TableWFg T` (`Rtr.TableWF_TableWFg`), so every table reachable under C02 is covered.

  Scope of the tie: these are theorems about the model.  The correspondence (tools/pfxcheck.py, classes
  "ncspine" and "random-noncanonical") compares the model with trie.c / trie-pfx.c on records with host bits
  set and lengths ≤ 32/128 - what a cache can make rtr_sync store: only the two length fields of a Prefix PDU
  are checked on receipt - including root paths of 2w+1 nodes (depth 64 / 256, the maximum for such lengths).
  For lengths beyond the width (reachable through the C API only) a path can get deeper than 256 nodes; trie.c
  passes the level through a `uint8_t` (`lrtr_ip_addr_get_bits(addr, lvl, 1)`), the model's `isLeft` does not
  wrap: model and code then build different (both set-correct) tries.  The set semantics of the implementation's
  own answers is evaluated by the Python oracle in either case.
-/
import RtrProps.C02
import RtrProofs.TrieGen

namespace Rtr.C02
open Rtr PfxTable

/-! ### per-operation refinement, any record -/

/-- adding a present record reports a duplicate and changes nothing; adding an absent one
    succeeds and the contents gain exactly that record — for every record -/
theorem add_refines_any (T : PfxTable) (r : Rec) (h : TableWFg T) :
    TableWFg (T.add r).1 ∧
    (r ∈ T.recs → (T.add r).2 = .duplicate ∧ (T.add r).1 = T) ∧
    (r ∉ T.recs → (T.add r).2 = .success ∧ (T.add r).1.recs.Perm (r :: T.recs)) := by
  have s := add_spec_p (fun _ => nodeInv_NodeOKg) T r ((TableWFg_iff T).1 h) ⟨by simp, by simp⟩
  exact ⟨(TableWFg_iff _).2 s.wf, s.dup, fun hn => ⟨(s.ok hn).1, (s.ok hn).2.1⟩⟩

/-- removing an absent record reports not-found and changes nothing; removing a present one
    succeeds and the contents lose exactly that record -/
theorem remove_refines_any (T : PfxTable) (r : Rec) (h : TableWFg T) :
    TableWFg (T.remove r).1 ∧
    (r ∉ T.recs → (T.remove r).2 = .notFound ∧ (T.remove r).1 = T) ∧
    (r ∈ T.recs → (T.remove r).2 = .success ∧ T.recs.Perm (r :: (T.remove r).1.recs)) := by
  have s := remove_spec_p (fun _ => nodeInv_NodeOKg) T r ((TableWFg_iff T).1 h)
  exact ⟨(TableWFg_iff _).2 s.wf, s.nf, fun hn => ⟨(s.ok hn).1, (s.ok hn).2.1⟩⟩

/-- removing by source deletes exactly that source's records -/
theorem srcRemove_refines_any (T : PfxTable) (src : Nat) (h : TableWFg T) :
    TableWFg (T.srcRemove src) ∧ (T.srcRemove src).recs.Perm (T.recs.filter fun r => r.src != src) := by
  have s := srcRemove_spec_p (fun _ => nodeInv_NodeOKg) T src ((TableWFg_iff T).1 h)
  exact ⟨(TableWFg_iff _).2 s.wf, s.recs⟩

theorem forEach_enumerates_any (T : PfxTable) (h : TableWFg T) : T.recs.Nodup :=
  recs_nodup_p (fun _ => nodeInv_NodeOKg) T ((TableWFg_iff T).1 h)

/-! ### histories -/

/-- **C02 for arbitrary records**: for every finite history of add / remove / remove-by-source
    over ANY records (non-canonical prefixes included), starting from any table satisfying the
    general invariant whose contents are the set `s`, the final contents are the set obtained by
    applying the same operations to `s`, every return code is the one the set semantics
    prescribes, and the enumeration has no repeated record. -/
theorem history_refines_any : ∀ (ops : List Op) (T : PfxTable) (s : List Rec), TableWFg T → T.recs.Perm s →
    TableWFg (runT ops T).1 ∧ (runT ops T).1.recs.Perm (runS ops s).1 ∧ (runT ops T).2 = (runS ops s).2 ∧
      (runT ops T).1.recs.Nodup := by
  intro ops T s h hp
  have newOK : ∀ op ∈ ops, op.NewOK (fun _ => NodeOKg) := by
    intro op _
    cases op with
    | add r => exact ⟨by simp, by simp⟩
    | remove _ => trivial
    | srcRemove _ => trivial
  have a := history_refines_p (fun _ => nodeInv_NodeOKg) ops T s ((TableWFg_iff T).1 h) hp newOK
  exact ⟨(TableWFg_iff _).2 a.1, a.2⟩

theorem init_ok_any : TableWFg {} := ⟨trivial, trivial⟩

/-- from the empty table, every history whatsoever -/
theorem history_from_empty_any (ops : List Op) :
    (runT ops {}).1.recs.Perm (runS ops []).1 ∧ (runT ops {}).2 = (runS ops []).2 ∧ (runT ops {}).1.recs.Nodup := by
  have h := history_refines_any ops {} [] init_ok_any (by rw [init_ok.2])
  exact ⟨h.2.1, h.2.2.1, h.2.2.2⟩

/-! ### non-vacuity: a concrete history over NON-canonical records (host bits set, length beyond
    the width, address beyond the width), with a duplicate, an unknown removal, a removal that
    pulls a payload up, and a removal by source, evaluated by the kernel -/

/-- IPv4, length 0, host bits set (0x80000001/0) -/
def n1 : Rec := ⟨false, 0x80000001, 0, 32, 65001, 1⟩

/-- IPv4, length 0, another address with host bits set: a different key than `n1` -/
def n2 : Rec := ⟨false, 0x00000001, 0, 0, 65002, 2⟩

/-- IPv4, length 40 > 32 -/
def n3 : Rec := ⟨false, 0x80000001, 40, 40, 1, 3⟩

/-- IPv4, address ≥ 2^32, length 33 -/
def n4 : Rec := ⟨false, 0x180000001, 33, 5, 7, 1⟩

/-- IPv6, address ≥ 2^128, length 200 -/
def n5 : Rec := ⟨true, 0x100000000000000000000000000000005, 200, 0, 7, 2⟩

/-- none of them satisfies the hypothesis `RecOK` of `add_refines` / `history_refines` -/
example : ¬ RecOK n1 ∧ ¬ RecOK n2 ∧ ¬ RecOK n3 ∧ ¬ RecOK n4 ∧ ¬ RecOK n5 := by
  refine ⟨fun h => ?_, fun h => ?_, fun h => absurd h.len (by decide), fun h => absurd h.len (by decide),
    fun h => absurd h.len (by decide)⟩
  · exact absurd (h.hz 0 (by decide) (by decide)) (by decide)
  · exact absurd (h.hz 31 (by decide) (by decide)) (by decide)

def demoAny : List Op :=
  [.add n1, .add n2, .add n1, .add n3, .add n4, .add n5, .remove n2, .remove n2, .add n2, .remove n1, .srcRemove 1]

example : (runT demoAny {}).2 =
    [.success, .success, .duplicate, .success, .success, .success, .success, .notFound, .success, .success, .success] := by
  decide +kernel

example : (runT demoAny.dropLast {}).1.recs = [n2, n3, n4, n5] := by decide +kernel

/-- the final contents (`removeId` is defined by well-founded recursion, which the elaborator's
    `decide` does not unfold; the kernel evaluates it) -/
example : (runT demoAny {}).1.recs = [n2, n3, n5] := by decide +kernel

example : (runS demoAny []).1 = [n2, n5, n3] := by decide +kernel

/-- `history_from_empty_any` applies to it as it stands: there is no hypothesis to meet -/
example : (runT demoAny {}).1.recs.Perm (runS demoAny []).1 ∧ (runT demoAny {}).2 = (runS demoAny []).2 ∧
    (runT demoAny {}).1.recs.Nodup := history_from_empty_any demoAny

end Rtr.C02
