/-
  C09 (continued) — the atomic reload reports exactly the net difference.

  What RtrProps/C09 proves of add / remove / remove-by-source and destruction, for the atomic reload
  performed by `rtr_sync_receive_and_store_pdus` (rtrlib/rtr/packets.c) —

      shadow table without callback
      pfx_table_copy_except_socket(live, shadow, socket)      -- records of the other sources
      pfx_table_add(shadow, r) for the new data set of `socket`
      pfx_table_swap(live, shadow)                            -- roots change places
      pfx_table_notify_diff(live, shadow, socket)             -- callbacks on the live table
      shadow (old roots) dropped without notification

  (model: `Rtr.reload`, built from `PfxTable.copyExcept`, `PfxTable.add`, `PfxTable.swap`,
  `PfxTable.notifyDiff`; helper lemmas in RtrProofs/NotifyDiff).
-/
import RtrProofs.NotifyDiff
import RtrProps.C09

namespace Rtr.C09
open Rtr PfxTable

/-! ### pfx_table_notify_diff reports the net difference -/

/-- **C09 (reload), the diff pass.**  For well-formed tables `N` (new roots, callback set) and `O`
    (old roots): `pfx_table_notify_diff(N, O, src)` does not change what `N` holds, and extends
    `N`'s callback stream by `added` ("added" entries) followed by `gone` ("removed" entries),
    where `added` is — up to order — the duplicate-free list of records of `src` that are in `N`
    and not in `O`, and `gone` the duplicate-free list of records of `src` that are in `O` and
    not in `N`.  Nothing else is appended: no entry for another source, none for a record held by
    both, none twice. -/
theorem notifyDiff_net (N O : PfxTable) (src : Nat) (hN : TableWF N) (hO : TableWF O) (hcb : N.hasCb = true) :
    (notifyDiff N O src).1.recs = N.recs ∧
    (notifyDiff N O src).1.v4 = N.v4 ∧ (notifyDiff N O src).1.t6 = N.t6 ∧
    (notifyDiff N O src).1.hasCb = true ∧
    ∃ added gone : List Rec,
      (notifyDiff N O src).1.log = N.log ++ added.map (fun r => (true, r)) ++ gone.map (fun r => (false, r)) ∧
      added.Perm (N.recs.filter fun r => r.src == src && !decide (r ∈ O.recs)) ∧
      gone.Perm (O.recs.filter fun r => r.src == src && !decide (r ∈ N.recs)) ∧
      added.Nodup ∧ gone.Nodup := by
  have s := notifyDiff_spec N O src hN hO
  obtain ⟨gone, g1, g2⟩ := s.log
  rw [hcb, if_pos rfl] at g2
  refine ⟨recs_of_roots _ _ s.v4 s.t6, s.v4, s.t6, by rw [s.cb, hcb], addedBy src N.recs O.recs, gone, g2,
    List.Perm.refl _, g1, (recs_nodup N hN).sublist List.filter_sublist, ?_⟩
  exact g1.nodup_iff.2 ((recs_nodup O hO).sublist List.filter_sublist)

/-- the table that holds the old roots afterwards: still well formed, its (absent) callback never
    invoked, and it has lost exactly the records of `src` that the new table also holds -/
theorem notifyDiff_old (N O : PfxTable) (src : Nat) (hN : TableWF N) (hO : TableWF O) :
    TableWF (notifyDiff N O src).2 ∧ (notifyDiff N O src).2.log = O.log ∧
    (notifyDiff N O src).2.hasCb = O.hasCb ∧
    ∀ x, x ∈ (notifyDiff N O src).2.recs ↔ (x ∈ O.recs ∧ ¬ (x.src = src ∧ x ∈ N.recs)) := by
  have s := notifyDiff_spec N O src hN hO
  exact ⟨s.owf, s.olog, s.ocb, s.omem⟩

/-! ### replaying a net difference -/

/-- **C09 (reload), the diff pass as a change log.**  If the live table's stream replayed to the
    contents of the old roots, and the new and old roots agree on every record of the other
    sources (which is what copy-except-socket establishes), then after
    `pfx_table_notify_diff` the stream replays — without a spurious or repeated entry — to the
    contents of the new roots. -/
theorem notifyDiff_logOK (N O : PfxTable) (src : Nat) (hN : TableWF N) (hO : TableWF O) (hcb : N.hasCb = true)
    (s : List Rec) (hs : replay N.log [] = some s) (hp : s.Perm O.recs)
    (hagree : ∀ x, x.src ≠ src → (x ∈ N.recs ↔ x ∈ O.recs)) :
    LogOK (notifyDiff N O src).1 := by
  obtain ⟨hrecs, _, _, _, added, gone, hlog, pa, pg, na, ng⟩ := notifyDiff_net N O src hN hO hcb
  have ma : ∀ x, x ∈ added ↔ (x ∈ N.recs ∧ x.src = src ∧ x ∉ O.recs) := by
    intro x; rw [pa.mem_iff, List.mem_filter]; simp
  have mg : ∀ x, x ∈ gone ↔ (x ∈ O.recs ∧ x.src = src ∧ x ∉ N.recs) := by
    intro x; rw [pg.mem_iff, List.mem_filter]; simp
  unfold LogOK
  rw [hlog, List.append_assoc, hrecs]
  refine replay_net hs hp (recs_nodup O hO) (recs_nodup N hN) added gone na ng
    (fun a ha => ((ma a).1 ha).2.2) (fun g hg => Or.inl ((mg g).1 hg).1) fun x => ?_
  rw [ma x, mg x]
  exact (net_diff (hagree x)).symm

/-! ### the whole reload -/

/-- **C09 (reload).**  Let `L` be a well-formed live table with a callback whose stream is an
    exact change log, and `news` a data set for `src` (well-formed records of that source,
    pairwise distinct).  Then the reload `Rtr.reload L src news`
    (copy-except-socket into a shadow table, add the new records, swap, notify_diff):
    every step succeeds; the live table is again well formed, keeps its callback, holds exactly
    the old records of the other sources together with `news`; and its callback stream — the old
    one extended by the net difference only — is again an exact change log. -/
theorem reload_log_replays (L : PfxTable) (src : Nat) (news : List Rec)
    (h : TableWF L) (hcb : L.hasCb = true) (hl : LogOK L) (hn : NewsOK src news) :
    LogOK (reload L src news) ∧ TableWF (reload L src news) ∧ (reload L src news).hasCb = true ∧
    (reload L src news).recs.Perm ((L.recs.filter fun r => r.src != src) ++ news) ∧
    (reloadFull L src news).2 = true := by
  obtain ⟨s, hs, hp⟩ := hl
  have sh := shadow_spec L src news h hn
  unfold reload
  rw [reloadFull_eq]
  generalize shadow L src news = S at sh
  -- after the swap: the shadow table's roots under the live table's callback and stream, and the old roots
  have hN : TableWF (swap L S.1).1 := ⟨sh.wf.w4, sh.wf.w6⟩
  have hO : TableWF (swap L S.1).2 := ⟨h.w4, h.w6⟩
  have d := notifyDiff_spec _ _ src hN hO
  refine ⟨notifyDiff_logOK _ _ src hN hO hcb s hs hp (fun x hx => ?_), WF_of_roots _ _ d.v4 d.t6 hN,
    d.cb.trans hcb, ?_, sh.ok⟩
  · show x ∈ S.1.recs ↔ x ∈ L.recs
    rw [sh.recs.mem_iff, List.mem_append, List.mem_filter]
    have : x ∉ news := fun hin => hx (hn.2 x hin).2
    simp [this, hx]
  · exact (List.Perm.of_eq (recs_of_roots _ _ d.v4 d.t6)).trans (sh.recs.trans List.perm_append_comm)

/-- the shadow table that ends up with the old roots was created without a callback and never
    reported anything: dropping it (`pfx_table_free_without_notify`) adds nothing to any stream -/
theorem reload_old_silent (L : PfxTable) (src : Nat) (news : List Rec) (h : TableWF L) (hn : NewsOK src news) :
    (reloadFull L src news).1.2.log = [] ∧ (reloadFull L src news).1.2.hasCb = false := by
  have sh := shadow_spec L src news h hn
  rw [reloadFull_eq]
  generalize shadow L src news = S at sh
  have d := notifyDiff_spec (swap L S.1).1 (swap L S.1).2 src ⟨sh.wf.w4, sh.wf.w6⟩ ⟨h.w4, h.w6⟩
  exact ⟨d.olog.trans sh.log, d.ocb.trans sh.cb⟩

/-! ### histories that include reloads -/

/-- the public operations of C02 plus the atomic reload of one source -/
inductive Op' where
  | base (op : C02.Op)
  | reload (src : Nat) (news : List Rec)

def Op'.OK : Op' → Prop
  | .base op => op.OK
  | .reload src news => NewsOK src news

def stepT' (T : PfxTable) : Op' → PfxTable
  | .base op => (C02.stepT T op).1
  | .reload src news => Rtr.reload T src news

/-- the set semantics of a reload: the source's records are replaced by the new data set -/
def stepS' (s : List Rec) : Op' → List Rec
  | .base op => (C02.stepS s op).1
  | .reload src news => (s.filter fun r => r.src != src) ++ news

def runT' : List Op' → PfxTable → PfxTable
  | [], T => T
  | op :: ops, T => runT' ops (stepT' T op)

def runS' : List Op' → List Rec → List Rec
  | [], s => s
  | op :: ops, s => runS' ops (stepS' s op)

theorem step_logOK' (T : PfxTable) (s : List Rec) (op : Op') (h : TableWF T) (hcb : T.hasCb = true) (hl : LogOK T)
    (hp : T.recs.Perm s) (hop : op.OK) :
    TableWF (stepT' T op) ∧ (stepT' T op).hasCb = true ∧ LogOK (stepT' T op) ∧ (stepT' T op).recs.Perm (stepS' s op) := by
  cases op with
  | base op =>
    have a := step_logOK T op h hcb hl hop
    have b := C02.step_refines T s op h hp hop
    exact ⟨b.1, a.2, a.1, b.2.1⟩
  | reload src news =>
    obtain ⟨l, w, c, p, _⟩ := reload_log_replays T src news h hcb hl hop
    exact ⟨w, c, l, p.trans (List.Perm.append_right _ (hp.filter _))⟩

/-- **C09, with reloads**: after every finite history of add / remove / remove-by-source /
    atomic reload on a table created with a callback, replaying the callback stream from creation
    meets no spurious entry and reproduces exactly the table's contents; the contents are the
    set obtained by applying the same operations to the specification set. -/
theorem log_replays_reload : ∀ (ops : List Op') (T : PfxTable) (s : List Rec), TableWF T → T.hasCb = true → LogOK T →
    T.recs.Perm s → (∀ op ∈ ops, op.OK) →
    LogOK (runT' ops T) ∧ TableWF (runT' ops T) ∧ (runT' ops T).recs.Perm (runS' ops s) := by
  intro ops
  induction ops with
  | nil => intro T s h _ hl hp _; exact ⟨hl, h, hp⟩
  | cons op ops ih =>
    intro T s h hcb hl hp hok
    obtain ⟨w, c, l, p⟩ := step_logOK' T s op h hcb hl hp (hok op (by simp))
    simp only [runT', runS']
    exact ih _ _ w c l p (fun o ho => hok o (List.mem_cons_of_mem _ ho))

/-! ### non-vacuity -/

def n5 : Rec := ⟨false, 0x0a020000, 16, 20, 65005, 1⟩

def n6 : Rec := ⟨true, 0x20010db8000100000000000000000000, 48, 48, 65006, 1⟩

/-- live table before: two records of source 1 (one per family), one of source 2 -/
def live0 : PfxTable := (C02.runT [.add C02.r2, .add C02.r1, .add C02.r4] {}).1

/-- new data set of source 1: `r1` again, `n5` and `n6` new; `r4` is not announced any more -/
def news1 : List Rec := [C02.r1, n5, n6]

theorem news1_ok : NewsOK 1 news1 := by
  refine ⟨by decide, ?_⟩
  intro r hr
  simp only [news1, List.mem_cons, List.not_mem_nil, or_false] at hr
  rcases hr with rfl | rfl | rfl <;> exact ⟨RecOK.of_mod (by decide) (by decide) (by decide), rfl⟩

theorem live0_ok : TableWF live0 ∧ live0.hasCb = true ∧ LogOK live0 := by
  have ok : ∀ op ∈ [C02.Op.add C02.r2, .add C02.r1, .add C02.r4], op.OK := by
    intro op hop
    exact C02.demo_ok op (by
      simp only [List.mem_cons, List.not_mem_nil, or_false] at hop
      rcases hop with rfl | rfl | rfl <;> simp [C02.demo])
  exact ⟨(C02.history_refines _ {} [] C02.init_ok.1 (by rw [C02.init_ok.2]) ok).1, by decide,
    log_replays _ {} C02.init_ok.1 rfl logOK_init ok⟩

/-- the hypotheses of `reload_log_replays` are met by a concrete reload -/
example : LogOK (reload live0 1 news1) :=
  (reload_log_replays live0 1 news1 live0_ok.1 live0_ok.2.1 live0_ok.2.2 news1_ok).1

/-- the reload, evaluated: only the net difference is reported (`r1` is in both data sets and is
    not mentioned; `r2` belongs to another source and is not mentioned) -/
example : (reload live0 1 news1).log =
    live0.log ++ [(true, n5), (true, n6), (false, C02.r4)] := by decide +kernel

example : (reload live0 1 news1).recs = [n5, C02.r2, C02.r1, n6] := by decide +kernel

example : replay (reload live0 1 news1).log [] = some [n6, n5, C02.r1, C02.r2] := by decide +kernel

example : (reloadFull live0 1 news1).2 = true := by decide +kernel

/-- a history mixing public operations and three reloads (the second one withdraws everything) -/
def demo' : List Op' :=
  [.base (.add C02.r2), .base (.add C02.r1), .reload 1 news1, .base (.remove n5), .reload 1 [], .reload 2 [C02.r2]]

example : (runT' demo' {}).log =
    [(true, C02.r2), (true, C02.r1), (true, n5), (true, n6), (false, n5), (false, C02.r1), (false, n6)] := by decide +kernel

example : (runT' demo' {}).recs = [C02.r2] := by decide +kernel

end Rtr.C09
