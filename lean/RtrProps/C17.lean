/-
  C17 -- Timer values stay within protocol bounds whatever the cache sends.

  "Initialisation rejects refresh, retry or expire intervals outside the RFC 8210 ranges.  After
   any End of Data, the socket's three intervals are exactly what the configured interval mode
   prescribes (unchanged, as sent, clamped to the range, or as sent only if inside the range), so
   that in every mode except accept-any they lie within the ranges; version-0 exchanges never
   change them.  While established, the client polls the cache as soon as a Serial Notify arrives
   and otherwise no later than the refresh interval after the last synchronisation."

  All statements quantify over ALL 32-bit values (`UInt32`), all sockets and all mode integers;
  nothing is sampled.  The range constants and enumerator values are the regenerated ones
  (`Rtr.Gen.*`); `constants_are_rfc8210` ties them to the fixed literals of `Rtr.Rfc8210`;
  `InRange` / `Sock.InRange` say "within the RFC 8210 ranges" in those literals.
-/
import RtrModel.Intervals
import RtrModel.Rfc8210
import RtrProofs.Intervals

namespace Rtr.C17
open Rtr.Intervals

/-! ### the code's constants are the specification's -/

/-- the interval ranges and defaults declared by the current tree are those of RFC 8210 -/
theorem constants_are_rfc8210 :
    Gen.RTR_REFRESH_MIN = Rfc8210.refreshMin ∧ Gen.RTR_REFRESH_MAX = Rfc8210.refreshMax ∧
    Gen.RTR_RETRY_MIN = Rfc8210.retryMin ∧ Gen.RTR_RETRY_MAX = Rfc8210.retryMax ∧
    Gen.RTR_EXPIRATION_MIN = Rfc8210.expireMin ∧ Gen.RTR_EXPIRATION_MAX = Rfc8210.expireMax ∧
    Gen.RTR_REFRESH_DEFAULT = Rfc8210.refreshDefault ∧ Gen.RTR_RETRY_DEFAULT = Rfc8210.retryDefault ∧
    Gen.RTR_EXPIRATION_DEFAULT = Rfc8210.expireDefault := by decide

/-- the bounds as the code's local variables hold them (`uint16_t minimum`, `uint32_t maximum`) are
    the RFC values: nothing is lost in the narrowing assignment -/
theorem bounds_are_rfc8210 :
    (u16 Gen.RTR_REFRESH_MIN).toNat = Rfc8210.refreshMin ∧ (u32 Gen.RTR_REFRESH_MAX).toNat = Rfc8210.refreshMax ∧
    (u16 Gen.RTR_RETRY_MIN).toNat = Rfc8210.retryMin ∧ (u32 Gen.RTR_RETRY_MAX).toNat = Rfc8210.retryMax ∧
    (u16 Gen.RTR_EXPIRATION_MIN).toNat = Rfc8210.expireMin ∧ (u32 Gen.RTR_EXPIRATION_MAX).toNat = Rfc8210.expireMax ∧
    (u32 Gen.RTR_REFRESH_MIN).toNat = Rfc8210.refreshMin ∧ (u32 Gen.RTR_RETRY_MIN).toNat = Rfc8210.retryMin ∧
    (u32 Gen.RTR_EXPIRATION_MIN).toNat = Rfc8210.expireMin := by decide

/-- the interval modes are the four of the public API; protocol versions are 0 and 1 and 1 is the
    newest the client speaks (so "version ≥ 1" and "version = 1" coincide) -/
theorem modes_and_versions :
    Gen.intervalModes = Rfc8210.intervalModes ∧
    Gen.RTR_PROTOCOL_VERSION_0 = Rfc8210.version0 ∧ Gen.RTR_PROTOCOL_VERSION_1 = Rfc8210.version1 ∧
    Gen.RTR_PROTOCOL_MIN_SUPPORTED_VERSION = Rfc8210.version0 ∧
    Gen.RTR_PROTOCOL_MAX_SUPPORTED_VERSION = Rfc8210.version1 := ⟨rfl, rfl, rfl, rfl, rfl⟩

/-- "within the RFC 8210 ranges" -/
def InRange (refresh expire retry : Nat) : Prop :=
  (Rfc8210.refreshMin ≤ refresh ∧ refresh ≤ Rfc8210.refreshMax) ∧
  (Rfc8210.expireMin ≤ expire ∧ expire ≤ Rfc8210.expireMax) ∧
  (Rfc8210.retryMin ≤ retry ∧ retry ≤ Rfc8210.retryMax)

def _root_.Rtr.Intervals.Sock.InRange (s : Sock) : Prop := C17.InRange s.refresh.toNat s.expire.toNat s.retry.toNat

instance (a b c : Nat) : Decidable (InRange a b c) := by unfold InRange; infer_instance
instance (s : Sock) : Decidable (Sock.InRange s) := by unfold Sock.InRange; infer_instance

/-! ### initialisation -/

theorem initOk_iff (refresh expire retry : UInt32) :
    initOk refresh expire retry = true ↔ InRange refresh.toNat expire.toNat retry.toNat := by
  obtain ⟨_, rHi, _, yHi, _, eHi, rLo, yLo, eLo⟩ := bounds_are_rfc8210
  unfold initOk InRange
  simp only [range_inside_iff, UInt32.le_iff_toNat_le, decide_eq_true_eq, rLo, rHi, yLo, yHi, eLo, eHi]

/-- `rtr_init` succeeds exactly for intervals inside the RFC 8210 ranges, returns
    RTR_INVALID_PARAM for every other combination of 32-bit values, and on success stores exactly
    what it was given -/
theorem init_rejects_out_of_range (refresh expire retry : UInt32) (mode : Int) :
    (InRange refresh.toNat expire.toNat retry.toNat →
        rtrInit refresh expire retry mode =
          (Gen.RTR_SUCCESS, some { refresh := refresh, expire := expire, retry := retry, ivMode := mode })) ∧
    (¬ InRange refresh.toNat expire.toNat retry.toNat →
        rtrInit refresh expire retry mode = (Gen.RTR_INVALID_PARAM, none)) := by
  unfold rtrInit
  constructor
  · intro h
    rw [if_pos ((initOk_iff _ _ _).mpr h)]
  · intro h
    rw [if_neg (fun c => h ((initOk_iff _ _ _).mp c))]

/-- `rtr_mgr_init` (well-formed groups): out-of-range intervals are refused with
    RTR_INVALID_PARAM; otherwise every socket starts in range with mode DEFAULT_MIN_MAX -/
theorem mgr_init_rejects_out_of_range (groupSizes : List Nat) (refresh expire retry : UInt32)
    (hg : groupSizes ≠ []) (hs : ∀ n ∈ groupSizes, n ≠ 0) :
    (¬ InRange refresh.toNat expire.toNat retry.toNat →
        mgrInit groupSizes refresh expire retry = (Gen.RTR_INVALID_PARAM, [])) ∧
    (InRange refresh.toNat expire.toNat retry.toNat →
        (mgrInit groupSizes refresh expire retry).1 = Gen.RTR_SUCCESS ∧
        ∀ s ∈ (mgrInit groupSizes refresh expire retry).2,
          s.InRange ∧ s.ivMode = Gen.RTR_INTERVAL_MODE_DEFAULT_MIN_MAX ∧
          s.refresh = refresh ∧ s.expire = expire ∧ s.retry = retry) := by
  have hcond : ¬ (groupSizes = [] ∨ groupSizes.any (· = 0) = true) := by
    simp only [hg, false_or, List.any_eq_true, decide_eq_true_eq, not_exists, not_and]
    exact hs
  unfold mgrInit
  rw [if_neg hcond]
  have hi := init_rejects_out_of_range refresh expire retry Gen.RTR_INTERVAL_MODE_DEFAULT_MIN_MAX
  constructor
  · intro h
    rw [hi.2 h]
  · intro h
    rw [hi.1 h]
    refine ⟨rfl, ?_⟩
    intro s hs'
    have := List.eq_of_mem_replicate hs'
    subst this
    exact ⟨h, rfl, rfl, rfl, rfl⟩

/-! ### End of Data -/

/-- For each of the four modes and ALL 32-bit values `e r y` sent in a
    version-1 End of Data, each interval of the socket afterwards is exactly what the mode
    prescribes (unchanged / as sent / clamped / as sent only if inside the range), processing
    continues, and nothing else in the socket changes. -/
theorem eod_intervals (m : Mode) (s : Sock) (e r y : UInt32) (hm : s.ivMode = m.code) :
    let s' := (eodIntervals s Gen.RTR_PROTOCOL_VERSION_1 e r y).1
    (eodIntervals s Gen.RTR_PROTOCOL_VERSION_1 e r y).2 = true ∧
    s'.expire.toNat = prescribed m Rfc8210.expireMin Rfc8210.expireMax s.expire.toNat e.toNat ∧
    s'.refresh.toNat = prescribed m Rfc8210.refreshMin Rfc8210.refreshMax s.refresh.toNat r.toNat ∧
    s'.retry.toNat = prescribed m Rfc8210.retryMin Rfc8210.retryMax s.retry.toNat y.toNat ∧
    s'.ivMode = s.ivMode ∧ s'.version = s.version ∧ s'.lastUpdate = s.lastUpdate ∧
    s'.hasReceivedPdus = s.hasReceivedPdus := by
  obtain ⟨rLo, rHi, yLo, yHi, eLo, eHi, _⟩ := bounds_are_rfc8210
  rw [eodIntervals_eq]
  by_cases hi : m = .ignoreAny
  · subst hi
    rw [if_neg (fun c => c.2 hm)]
    exact ⟨rfl, rfl, rfl, rfl, rfl, rfl, rfl, rfl⟩
  · have hne : s.ivMode ≠ Gen.RTR_INTERVAL_MODE_IGNORE_ANY := by
      rw [hm]
      cases m
      · exact absurd rfl hi
      all_goals decide
    rw [if_pos ⟨rfl, hne⟩, hm]
    refine ⟨rfl, ?_, ?_, ?_, rfl, rfl, rfl, rfl⟩
    · rw [← eLo, ← eHi]
      exact optVal_prescribed m e _ _ _ hi
    · rw [← rLo, ← rHi]
      exact optVal_prescribed m r _ _ _ hi
    · rw [← yLo, ← yHi]
      exact optVal_prescribed m y _ _ _ hi

/-- For every mode integer other than ACCEPT_ANY (declared or
    not), every protocol version and all 32-bit values sent: a socket whose intervals are in range
    (as `rtr_init` guarantees) still has all three in range after End of Data. -/
theorem in_range_unless_accept_any (s : Sock) (ver : Nat) (e r y : UInt32)
    (hs : s.InRange) (hm : s.ivMode ≠ Gen.RTR_INTERVAL_MODE_ACCEPT_ANY) :
    (eodIntervals s ver e r y).1.InRange := by
  obtain ⟨rLo, rHi, yLo, yHi, eLo, eHi, _⟩ := bounds_are_rfc8210
  rw [eodIntervals_eq]
  split
  · exact ⟨optVal_in_range _ r _ _ _ hm rLo rHi (by decide) hs.1,
      optVal_in_range _ e _ _ _ hm eLo eHi (by decide) hs.2.1,
      optVal_in_range _ y _ _ _ hm yLo yHi (by decide) hs.2.2⟩
  · exact hs

theorem eodIntervals_mode (s : Sock) (ver : Nat) (e r y : UInt32) :
    (eodIntervals s ver e r y).1.ivMode = s.ivMode := by
  rw [eodIntervals_eq]
  split <;> rfl

/-- **whatever the cache sends, for the whole life of the socket**: starting in range (as `rtr_init`
    leaves it), after any sequence of End-of-Data PDUs (any versions, any 32-bit values) and mode
    changes that never configure ACCEPT_ANY, the three timers are in range. -/
theorem history_in_range (h : List HEv) :
    ∀ (s : Sock), s.InRange → s.ivMode ≠ Gen.RTR_INTERVAL_MODE_ACCEPT_ANY →
      (∀ ev ∈ h, ev ≠ .setMode Gen.RTR_INTERVAL_MODE_ACCEPT_ANY) →
      (runHistory s h).InRange ∧ (runHistory s h).ivMode ≠ Gen.RTR_INTERVAL_MODE_ACCEPT_ANY := by
  induction h with
  | nil => intro s hs hm _; exact ⟨hs, hm⟩
  | cons ev rest ih =>
    intro s hs hm hno
    have hrest : ∀ ev' ∈ rest, ev' ≠ .setMode Gen.RTR_INTERVAL_MODE_ACCEPT_ANY :=
      fun ev' h' => hno ev' (List.mem_cons_of_mem _ h')
    have hev := hno ev (List.mem_cons_self ..)
    unfold runHistory
    rw [List.foldl_cons]
    cases ev with
    | eod ver e r y =>
      exact ih _ (in_range_unless_accept_any s ver e r y hs hm) (by show (eodIntervals s ver e r y).1.ivMode ≠ _; rw [eodIntervals_mode]; exact hm) hrest
    | setMode o =>
      have ho : o ≠ Gen.RTR_INTERVAL_MODE_ACCEPT_ANY := fun c => hev (by rw [c])
      simp only [applyEv, setIntervalMode]
      split
      · exact ih _ hs ho hrest
      · exact ih _ hs hm hrest

/-- the exception is real: in ACCEPT_ANY mode a cache can push the refresh interval to 0 and the
    expire interval to 2^32-1 -/
theorem accept_any_leaves_range :
    let s : Sock := { refresh := 3600, expire := 7200, retry := 600, ivMode := Gen.RTR_INTERVAL_MODE_ACCEPT_ANY }
    let s' := (eodIntervals s 1 4294967295 0 0).1
    s.InRange ∧ s'.refresh = 0 ∧ s'.expire = 4294967295 ∧ ¬ s'.InRange := by decide

/-- A version-0 End of Data leaves the socket exactly as it was, in every
    mode and for all values; so does a whole version-0 synchronisation as far as the timers go. -/
theorem v0_never_changes (s : Sock) (e r y : UInt32) :
    eodIntervals s Gen.RTR_PROTOCOL_VERSION_0 e r y = (s, true) := by
  rw [eodIntervals_eq]
  have : ¬ (Gen.RTR_PROTOCOL_VERSION_0 = Gen.RTR_PROTOCOL_VERSION_1 ∧ s.ivMode ≠ Gen.RTR_INTERVAL_MODE_IGNORE_ANY) := by
    intro h; exact absurd h.1 (by decide)
  rw [if_neg this]

theorem receiveVersion_timers (s : Sock) (ver : Nat) :
    (receiveVersion s ver).1.refresh = s.refresh ∧ (receiveVersion s ver).1.expire = s.expire ∧
    (receiveVersion s ver).1.retry = s.retry ∧ (receiveVersion s ver).1.ivMode = s.ivMode := by
  unfold receiveVersion
  simp only
  split
  · split <;> exact ⟨rfl, rfl, rfl, rfl⟩
  · exact ⟨rfl, rfl, rfl, rfl⟩

/-- a whole synchronisation (Cache Response, End of Data) changes the timers only through the
    End-of-Data interval handling -/
theorem sync_timers (s : Sock) (ver : Nat) (e r y : UInt32) (now : Int) :
    let s' := (syncCrEod s ver e r y now).1
    (s'.refresh = s.refresh ∧ s'.expire = s.expire ∧ s'.retry = s.retry) ∨
    (∃ s2, s2.refresh = s.refresh ∧ s2.expire = s.expire ∧ s2.retry = s.retry ∧ s2.ivMode = s.ivMode ∧
      s'.refresh = (eodIntervals s2 ver e r y).1.refresh ∧ s'.expire = (eodIntervals s2 ver e r y).1.expire ∧
      s'.retry = (eodIntervals s2 ver e r y).1.retry) := by
  have h1 := receiveVersion_timers s ver
  have h2 := receiveVersion_timers (receiveVersion s ver).1 ver
  unfold syncCrEod
  simp only
  split
  · left; exact ⟨h1.1, h1.2.1, h1.2.2.1⟩
  · split
    · left; exact ⟨h2.1.trans h1.1, h2.2.1.trans h1.2.1, h2.2.2.1.trans h1.2.2.1⟩
    · right
      refine ⟨(receiveVersion (receiveVersion s ver).1 ver).1, h2.1.trans h1.1, h2.2.1.trans h1.2.1,
        h2.2.2.1.trans h1.2.2.1, h2.2.2.2.trans h1.2.2.2, ?_⟩
      split <;> exact ⟨rfl, rfl, rfl⟩

/-- version-0 synchronisations never change the timers -/
theorem sync_v0_never_changes (s : Sock) (e r y : UInt32) (now : Int) :
    let s' := (syncCrEod s Gen.RTR_PROTOCOL_VERSION_0 e r y now).1
    s'.refresh = s.refresh ∧ s'.expire = s.expire ∧ s'.retry = s.retry := by
  rcases sync_timers s Gen.RTR_PROTOCOL_VERSION_0 e r y now with h | ⟨s2, a, b, c, _, d, e', f⟩
  · exact h
  · rw [v0_never_changes] at d e' f
    exact ⟨d.trans a, e'.trans b, f.trans c⟩

theorem inRange_congr {s s' : Sock} (a : s'.refresh = s.refresh) (b : s'.expire = s.expire) (c : s'.retry = s.retry)
    (h : s.InRange) : s'.InRange := by
  unfold Sock.InRange at h ⊢
  rw [a, b, c]
  exact h

/-- after any synchronisation, in any mode but ACCEPT_ANY, the timers are in range -/
theorem sync_in_range (s : Sock) (ver : Nat) (e r y : UInt32) (now : Int)
    (hs : s.InRange) (hm : s.ivMode ≠ Gen.RTR_INTERVAL_MODE_ACCEPT_ANY) :
    (syncCrEod s ver e r y now).1.InRange := by
  rcases sync_timers s ver e r y now with ⟨a, b, c⟩ | ⟨s2, a, b, c, m, d, e', f⟩
  · exact inRange_congr a b c hs
  · exact inRange_congr d e' f
      (in_range_unless_accept_any s2 ver e r y (inRange_congr a b c hs) (by rw [m]; exact hm))

/-! ### polling while established -/

/-- The timeout handed to the transport receive function is
    `max 0 (last_update + refresh_interval − now)`: the wait ends no later than one refresh
    interval after the last synchronisation (at once if that moment has passed). -/
theorem poll_deadline (s : Sock) (now : Int) :
    waitTimeout s now = max 0 (s.lastUpdate + (s.refresh.toNat : Int) - now) ∧
    now + waitTimeout s now = max now (s.lastUpdate + (s.refresh.toNat : Int)) := by
  unfold waitTimeout
  simp only
  split <;> omega

/-- with in-range timers the client never sleeps longer than the RFC 8210 maximum (one day) past
    the last synchronisation -/
theorem poll_deadline_bounded (s : Sock) (now : Int) (hs : s.InRange) (hn : s.lastUpdate ≤ now) :
    0 ≤ waitTimeout s now ∧ waitTimeout s now ≤ (Rfc8210.refreshMax : Int) := by
  have := (poll_deadline s now).1
  have h := hs.1.2
  have : (s.refresh.toNat : Int) ≤ (Rfc8210.refreshMax : Int) := by exact_mod_cast h
  omega

/-- a Serial Notify, or the expiry of the wait, is answered by a Serial Query at once; nothing else
    triggers a query -/
theorem notify_polls_immediately :
    establishedStep .serialNotify = .sendSerialQuery ∧ establishedStep .timeout = .sendSerialQuery ∧
    establishedStep .otherPdu = .waitAgain ∧ establishedStep .intr = .waitAgain ∧
    establishedStep .error = .leave := by decide

/-- in a run of the state machine against a scripted cache: when a Serial Notify arrives (or the
    wait expires) the very next transport action is the Serial Query, sent at the moment of arrival -/
theorem notify_then_query (ver : Nat) (s : Sock) (now : Int) (ev : Ev) (rest : List Ev)
    (h : ev.ev = .serialNotify ∨ ev.ev = .timeout) (hf : ev.frags = []) :
    ∃ tl, fsmEstablished ver s now (ev :: rest) =
      .wait (waitTimeout s now) now :: .send 1 (arrival ev now (waitTimeout s now)) :: tl := by
  have hs : establishedStep ev.ev = .sendSerialQuery := by
    rcases h with h | h <;> rw [h] <;> decide
  unfold fsmEstablished
  simp only [hs, hf, ne_eq, not_true_eq_false, if_false]
  split
  · exact ⟨_, rfl⟩
  · exact ⟨_, rfl⟩

/-- in every such run, for every script, whatever follows a wait happens within the timeout that
    wait was given -- i.e. no later than `last_update + refresh_interval` (or at once) -/
theorem trace_polls_within_timeout (ver : Nat) (s : Sock) (now : Int) (evs : List Ev) :
    pollsOk (fsmEstablished ver s now evs) = true :=
  fsmEstablished_pollsOk ver evs s now

/-! ### PDUs that arrive in pieces (tr_recv_all's loop)

    The wait of `rtr_wait_for_sync` is a `tr_recv_all` for the PDU header with the timeout of
    `poll_deadline`, followed (once the header is complete) by a `tr_recv_all` for the rest of the
    PDU with RTR_RECV_TIMEOUT.  A cache can deliver the PDU byte by byte at times of its choosing. -/

/-- the slack the client grants a cache for the remainder of a PDU whose header has arrived: the `60` of
    `frag_poll_deadline` and `frag_then_query` is RTR_RECV_TIMEOUT of the current tree -/
theorem recv_slack : Gen.RTR_RECV_TIMEOUT = 60 := by decide

/-- Whatever fragments the cache sends and whenever it sends them, for
    every socket and clock reading: EVERY timeout handed to the transport receive function while
    the header is incomplete is non-negative and equals the time left until
    `max now (last_update + refresh_interval)` (so a fragment arriving in the last second, or at the
    deadline itself, never buys the cache more time); every timeout for the rest of the PDU is
    within `0 … RTR_RECV_TIMEOUT`; `rtr_wait_for_sync` returns (and the state machine sends its
    Serial Query) no later than the deadline if the header did not arrive completely, and no later
    than deadline + RTR_RECV_TIMEOUT otherwise. -/
theorem frag_poll_deadline (s : Sock) (now : Int) (body : Nat) (fr : List Frag) :
    let p := waitPdu s now body fr
    let deadline := max now (s.lastUpdate + (s.refresh.toNat : Int))
    (∀ c ∈ p.hcalls, 0 ≤ c.timeout ∧ c.now + c.timeout = deadline ∧ now ≤ c.now) ∧
    (∀ c ∈ p.bcalls, 0 ≤ c.timeout ∧ c.timeout ≤ 60 ∧ now ≤ c.now) ∧
    now ≤ p.now ∧ p.now ≤ deadline + 60 ∧ (p.bcalls = [] → p.now ≤ deadline) := by
  have h := receivePdu_spec body (waitTimeout s now) now fr (waitTimeout_nonneg s now)
  have hd := (poll_deadline s now).2
  have hs : ((Gen.RTR_RECV_TIMEOUT : Nat) : Int) = 60 := by rw [recv_slack]; rfl
  rw [hs, hd] at h
  exact h

/-- in a run of the state machine: a Serial Notify that arrives in fragments (followed by silence)
    is answered by the Serial Query the moment `rtr_wait_for_sync` returns, which is no later than
    `max now (last_update + refresh_interval) + RTR_RECV_TIMEOUT`; the trace shows every transport
    receive call of the wait -/
theorem frag_then_query (ver : Nat) (s : Sock) (now : Int) (ev : Ev) (rest : List Ev) (hf : ev.frags ≠ []) :
    let p := waitPdu s now notifyBody ev.frags
    (∃ tl, fsmEstablished ver s now (ev :: rest) =
      .wait (waitTimeout s now) now :: callItems (p.hcalls ++ p.bcalls) ++ .send 1 p.now :: tl) ∧
    p.now ≤ max now (s.lastUpdate + (s.refresh.toNat : Int)) + 60 := by
  refine ⟨?_, (frag_poll_deadline s now notifyBody ev.frags).2.2.2.1⟩
  unfold fsmEstablished
  simp only [hf, ne_eq, not_false_eq_true, if_true]
  split
  · exact ⟨_, rfl⟩
  · exact ⟨[], rfl⟩

/-! ### non-vacuity -/

example : (rtrInit 3600 7200 600 2).1 = Gen.RTR_SUCCESS := by decide
example : (rtrInit 0 7200 600 2).1 = Gen.RTR_INVALID_PARAM ∧ (rtrInit 3600 599 600 2).1 = Gen.RTR_INVALID_PARAM ∧
    (rtrInit 3600 7200 7201 2).1 = Gen.RTR_INVALID_PARAM := by decide
example : let s : Sock := { refresh := 3600, expire := 7200, retry := 600, ivMode := 2 }
    (eodIntervals s 1 4294967295 0 7201).1 = { s with expire := 172800, refresh := 1, retry := 7200 } := by decide
example : let s : Sock := { refresh := 3600, expire := 7200, retry := 600, ivMode := 3 }
    (eodIntervals s 1 599 86400 1).1 = { s with refresh := 86400, retry := 1 } := by decide
example : waitTimeout { refresh := 3600, expire := 7200, retry := 600, ivMode := 2, lastUpdate := 1000 } 1500 = 3100 := by decide
example : waitTimeout { refresh := 3600, expire := 7200, retry := 600, ivMode := 2, lastUpdate := 1000 } 9000 = 0 := by decide

example : fsmTrace { refresh := 3600, expire := 7200, retry := 600, ivMode := 2 } 1 100 7200 10 600
    [⟨.serialNotify, 4, 7200, 20, 600, []⟩, ⟨.otherPdu, 5, 0, 0, 0, []⟩, ⟨.timeout, 0, 7200, 20, 600, []⟩] =
    [.send 2 100, .wait 10 100, .send 1 104, .wait 20 104, .wait 15 109, .send 1 124, .wait 20 124] := by decide

/-- one byte of a header in the very last second of the refresh interval, then silence: the second
    transport call gets timeout 0 and the wait ends at the deadline -/
example : waitPdu { refresh := 100, expire := 7200, retry := 600, ivMode := 0, lastUpdate := 1000 } 1000 4 [⟨100, 1⟩] =
    ⟨[⟨8, 100, 1000⟩, ⟨7, 0, 1100⟩], [], 1100, false⟩ := by decide +kernel
/-- header byte by byte, complete exactly at the deadline; the rest within RTR_RECV_TIMEOUT -/
example : waitPdu { refresh := 10, expire := 7200, retry := 600, ivMode := 0, lastUpdate := 1000 } 1003 4
      [⟨6, 7⟩, ⟨1, 1⟩, ⟨60, 4⟩] =
    ⟨[⟨8, 7, 1003⟩, ⟨1, 1, 1009⟩], [⟨4, 60, 1010⟩], 1070, true⟩ := by decide +kernel
example : fsmTrace { refresh := 3600, expire := 7200, retry := 600, ivMode := 2 } 1 100 7200 10 600
    [⟨.serialNotify, 0, 7200, 20, 600, [⟨9, 3⟩, ⟨1, 9⟩]⟩] =
    [.send 2 100, .wait 10 100, .recv 8 10 100, .recv 5 1 109, .recv 4 60 110, .send 1 110, .wait 20 110] := by decide

end Rtr.C17
