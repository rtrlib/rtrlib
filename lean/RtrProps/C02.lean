/-
  C02 — The prefix table is an exact set of records under every operation history.

  Model: RtrModel.PfxTable (`add`, `remove`, `srcRemove`, `recs` = the enumeration order of
  pfx_table_for_each_ipv4_record followed by pfx_table_for_each_ipv6_record).
  Specification: a list of records without duplicates, read up to permutation (a finite set).
  Quantifier: every finite sequence of operations over records whose prefix is well formed for
  its family (length ≤ 32/128, host bits zero); max-length, AS and source are arbitrary.
-/
import RtrProofs.TableSet

namespace Rtr.C02
open Rtr PfxTable

/-! ### the mathematical set -/

def specAdd (s : List Rec) (r : Rec) : List Rec × PfxRc :=
  if r ∈ s then (s, .duplicate) else (r :: s, .success)

def specRemove (s : List Rec) (r : Rec) : List Rec × PfxRc :=
  if r ∈ s then (s.erase r, .success) else (s, .notFound)

def specSrcRemove (s : List Rec) (src : Nat) : List Rec := s.filter fun r => r.src != src

inductive Op where
  | add (r : Rec)
  | remove (r : Rec)
  | srcRemove (src : Nat)

def Op.OK : Op → Prop
  | .add r => RecOK r
  | .remove _ => True
  | .srcRemove _ => True

def stepT (T : PfxTable) : Op → PfxTable × PfxRc
  | .add r => T.add r
  | .remove r => T.remove r
  | .srcRemove s => (T.srcRemove s, .success)

def stepS (s : List Rec) : Op → List Rec × PfxRc
  | .add r => specAdd s r
  | .remove r => specRemove s r
  | .srcRemove x => (specSrcRemove s x, .success)

def runT : List Op → PfxTable → PfxTable × List PfxRc
  | [], T => (T, [])
  | op :: ops, T => let (T', c) := stepT T op; let (T'', cs) := runT ops T'; (T'', c :: cs)

def runS : List Op → List Rec → List Rec × List PfxRc
  | [], s => (s, [])
  | op :: ops, s => let (s', c) := stepS s op; let (s'', cs) := runS ops s'; (s'', c :: cs)

/-! ### per-operation refinement -/

/-- adding a present record reports a duplicate and changes nothing; adding an absent one
    succeeds and the contents gain exactly that record -/
theorem add_refines (T : PfxTable) (r : Rec) (h : TableWF T) (hr : RecOK r) :
    TableWF (T.add r).1 ∧
    (r ∈ T.recs → (T.add r).2 = .duplicate ∧ (T.add r).1 = T) ∧
    (r ∉ T.recs → (T.add r).2 = .success ∧ (T.add r).1.recs.Perm (r :: T.recs)) := by
  have s := add_spec T r h hr
  exact ⟨s.wf, s.dup, fun hn => ⟨(s.ok hn).1, (s.ok hn).2.1⟩⟩

/-- removing an absent record reports not-found and changes nothing; removing a present one
    succeeds and the contents lose exactly that record -/
theorem remove_refines (T : PfxTable) (r : Rec) (h : TableWF T) :
    TableWF (T.remove r).1 ∧
    (r ∉ T.recs → (T.remove r).2 = .notFound ∧ (T.remove r).1 = T) ∧
    (r ∈ T.recs → (T.remove r).2 = .success ∧ T.recs.Perm (r :: (T.remove r).1.recs)) := by
  have s := remove_spec T r h
  exact ⟨s.wf, s.nf, fun hn => ⟨(s.ok hn).1, (s.ok hn).2.1⟩⟩

/-- removing by source deletes exactly that source's records -/
theorem srcRemove_refines (T : PfxTable) (src : Nat) (h : TableWF T) :
    TableWF (T.srcRemove src) ∧ (T.srcRemove src).recs.Perm (T.recs.filter fun r => r.src != src) := by
  have s := srcRemove_spec T src h
  exact ⟨s.wf, s.recs⟩

/-- enumeration yields every stored record exactly once: the enumeration of a well-formed table
    has no repeated record (fields intact: the enumeration *is* the list of stored
    (prefix, length, max-length, AS, source) tuples, `PfxTable.recs`) -/
theorem forEach_enumerates (T : PfxTable) (h : TableWF T) : T.recs.Nodup :=
  recs_nodup T h

/-! ### histories

Proved once for the parametric invariant `TableWFp N` (the only thing asked of an operation is
that the node an `add` may create satisfies `N`); `history_refines` is the case `N = NodeOK`,
C02b takes the case without any condition. -/

theorem perm_erase_of_cons {r : Rec} {s t : List Rec} (h : s.Perm (r :: t)) : (s.erase r).Perm t := by
  have := h.erase r
  simpa using this

/-- the node a successful `add` of `r` creates when no node with the prefix of `r` exists -/
def Op.NewOK (N : Nat → NodeC → Prop) : Op → Prop
  | .add r => N r.width ⟨r.addr, r.len, [r.elem]⟩
  | _ => True

theorem step_refines_p {N : Nat → NodeC → Prop} (hN : ∀ w, NodeInv (N w)) (T : PfxTable) (s : List Rec) (op : Op)
    (h : TableWFp N T) (hp : T.recs.Perm s) (hop : op.NewOK N) :
    TableWFp N (stepT T op).1 ∧ (stepT T op).1.recs.Perm (stepS s op).1 ∧ (stepT T op).2 = (stepS s op).2 := by
  cases op with
  | add r =>
    have a := add_spec_p hN T r h hop
    simp only [stepT, stepS, specAdd]
    by_cases hin : r ∈ T.recs
    · have hin' : r ∈ s := hp.mem_iff.1 hin
      obtain ⟨h1, h2⟩ := a.dup hin
      simp only [hin', if_true]
      exact ⟨a.wf, by rw [h2]; exact hp, h1⟩
    · have hin' : r ∉ s := fun x => hin (hp.mem_iff.2 x)
      obtain ⟨h1, h2, _⟩ := a.ok hin
      simp only [hin', if_false]
      exact ⟨a.wf, h2.trans (List.Perm.cons r hp), h1⟩
  | remove r =>
    have a := remove_spec_p hN T r h
    simp only [stepT, stepS, specRemove]
    by_cases hin : r ∈ T.recs
    · have hin' : r ∈ s := hp.mem_iff.1 hin
      obtain ⟨h1, h2, _⟩ := a.ok hin
      simp only [hin', if_true]
      refine ⟨a.wf, ?_, h1⟩
      exact (perm_erase_of_cons (hp.symm.trans h2)).symm
    · have hin' : r ∉ s := fun x => hin (hp.mem_iff.2 x)
      obtain ⟨h1, h2⟩ := a.nf hin
      simp only [hin', if_false]
      exact ⟨a.wf, by rw [h2]; exact hp, h1⟩
  | srcRemove src =>
    have a := srcRemove_spec_p hN T src h
    simp only [stepT, stepS, specSrcRemove]
    exact ⟨a.wf, a.recs.trans (hp.filter _), trivial⟩

theorem history_refines_p {N : Nat → NodeC → Prop} (hN : ∀ w, NodeInv (N w)) : ∀ (ops : List Op) (T : PfxTable)
    (s : List Rec), TableWFp N T → T.recs.Perm s → (∀ op ∈ ops, op.NewOK N) →
    TableWFp N (runT ops T).1 ∧ (runT ops T).1.recs.Perm (runS ops s).1 ∧ (runT ops T).2 = (runS ops s).2 ∧
      (runT ops T).1.recs.Nodup := by
  intro ops
  induction ops with
  | nil => intro T s h hp _; exact ⟨h, hp, rfl, recs_nodup_p hN T h⟩
  | cons op ops ih =>
    intro T s h hp hok
    obtain ⟨w1, p1, c1⟩ := step_refines_p hN T s op h hp (hok op (by simp))
    obtain ⟨w2, p2, c2, n2⟩ := ih (stepT T op).1 (stepS s op).1 w1 p1 (fun o ho => hok o (List.mem_cons_of_mem _ ho))
    simp only [runT, runS]
    exact ⟨w2, p2, by rw [c1, c2], n2⟩

theorem Op.OK.newOK {op : Op} (h : op.OK) : op.NewOK NodeOK := by
  cases op with
  | add r => exact ⟨h.len, h.lt, h.hz, by simp, by simp⟩
  | remove _ => trivial
  | srcRemove _ => trivial

theorem step_refines (T : PfxTable) (s : List Rec) (op : Op) (h : TableWF T) (hp : T.recs.Perm s) (hop : op.OK) :
    TableWF (stepT T op).1 ∧ (stepT T op).1.recs.Perm (stepS s op).1 ∧ (stepT T op).2 = (stepS s op).2 :=
  have a := step_refines_p nodeInv_NodeOK T s op ((TableWF_iff T).1 h) hp hop.newOK
  ⟨(TableWF_iff _).2 a.1, a.2⟩

/-- **C02**: for every finite history of add / remove / remove-by-source, starting from any
    well-formed table whose contents are the set `s`, the final contents are the set obtained
    by applying the same operations to `s`, every return code is the one the set semantics
    prescribes, and the enumeration has no repeated record. -/
theorem history_refines : ∀ (ops : List Op) (T : PfxTable) (s : List Rec), TableWF T → T.recs.Perm s →
    (∀ op ∈ ops, op.OK) →
    TableWF (runT ops T).1 ∧ (runT ops T).1.recs.Perm (runS ops s).1 ∧ (runT ops T).2 = (runS ops s).2 ∧
      (runT ops T).1.recs.Nodup := by
  intro ops T s h hp hok
  have a := history_refines_p nodeInv_NodeOK ops T s ((TableWF_iff T).1 h) hp (fun op ho => (hok op ho).newOK)
  exact ⟨(TableWF_iff _).2 a.1, a.2⟩

/-- the empty table (after `pfx_table_init`) is well formed and holds the empty set -/
theorem init_ok : TableWF {} ∧ ({} : PfxTable).recs = [] := ⟨⟨trivial, trivial⟩, rfl⟩

/-! ### non-vacuity: a concrete history with a duplicate, an unknown removal and a pull-up,
    evaluated by the kernel; with a removal by source appended it meets the hypotheses of
    `history_refines` -/

def r1 : Rec := ⟨false, 0x0a000000, 8, 24, 65001, 1⟩

def r2 : Rec := ⟨false, 0x0a010000, 16, 16, 65002, 2⟩

def r3 : Rec := ⟨false, 0x00000000, 0, 0, 0, 1⟩

def r4 : Rec := ⟨true, 0x20010db8000000000000000000000000, 32, 48, 65001, 1⟩

def demo : List Op := [.add r2, .add r1, .add r1, .add r3, .add r4, .remove r4, .remove r4, .add r4, .remove r3]

example : (runT demo {}).2 = [.success, .success, .duplicate, .success, .success, .success, .notFound, .success, .success] := by
  decide +kernel

example : (runT demo {}).1.recs = [r2, r1, r4] := by decide +kernel

example : (runS demo []).1 = [r4, r1, r2] := by decide +kernel

theorem demo_ok : ∀ op ∈ demo ++ [.srcRemove 1], op.OK := by
  have k1 : RecOK r1 := RecOK.of_mod (by decide) (by decide) (by decide)
  have k2 : RecOK r2 := RecOK.of_mod (by decide) (by decide) (by decide)
  have k3 : RecOK r3 := RecOK.of_mod (by decide) (by decide) (by decide)
  have k4 : RecOK r4 := RecOK.of_mod (by decide) (by decide) (by decide)
  intro op hop
  simp only [demo, List.cons_append, List.nil_append, List.mem_cons, List.not_mem_nil, or_false] at hop
  rcases hop with rfl | rfl | rfl | rfl | rfl | rfl | rfl | rfl | rfl | rfl
  · exact k2
  · exact k1
  · exact k1
  · exact k3
  · exact k4
  · trivial
  · trivial
  · exact k4
  · trivial
  · trivial

example : (runT (demo ++ [.srcRemove 1]) {}).1.recs.Perm (runS (demo ++ [.srcRemove 1]) []).1 :=
  (history_refines _ {} [] init_ok.1 (by rw [init_ok.2]) demo_ok).2.1

end Rtr.C02
