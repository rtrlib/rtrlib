import RtrProofs.TrieWF
import RtrProofs.Validate
import RtrProofs.TrieOps
import RtrProofs.TrieSet
import RtrProofs.TableSet
import RtrProofs.BitsLink
import RtrProofs.Names
import RtrProofs.Intervals
import RtrProofs.HashlinBasic
import RtrProofs.HashlinInv
import RtrProofs.HashlinOps
import RtrProofs.SpkiRefine
import RtrProofs.SpkiHistory
import RtrProofs.SpkiLog
import RtrProofs.MgrSort
import RtrProofs.MgrCb
import RtrProofs.MgrStep
import RtrProofs.MgrHist
import RtrProofs.Digits
import RtrProofs.IpTextDigits
import RtrProofs.IpTextParse
import RtrProofs.IpTextLang
import RtrProofs.IpTextFmt
import RtrProofs.IpTextIp
import RtrProofs.IpTextDefined
import RtrProofs.Locks
import RtrProofs.LocksChecker
import RtrProofs.LocksReload
import RtrProofs.LocksPair
import RtrProofs.Bgpsec
import RtrProofs.BgpsecSign
import RtrProofs.Undo
import RtrProofs.TableOps
import RtrProofs.TableEqs
import RtrProofs.SyncTables
import RtrProofs.BitsLink6
import RtrProofs.DiffPass
import RtrProofs.NotifyDiff
import RtrProofs.SyncAtomic
import RtrProofs.FsmLift
import RtrProofs.Receive
import RtrProofs.Fsm
import RtrProofs.TimeMono
import RtrProofs.Expiry
import RtrProofs.Progress
import RtrProofs.CheckSize
import RtrProofs.Tape
import RtrProofs.RecvOutcome
import RtrProofs.Chunking
import RtrProofs.PduConvRevAt
import RtrProofs.PduConv
import RtrProofs.SentPdus
import RtrProofs.AllocBasic
import RtrProofs.AllocPfx
import RtrProofs.AllocSpki
import RtrProofs.AllocOps
import RtrProofs.AllocSync
import RtrProofs.ConvergeWire
import RtrProofs.ConvergeSync
import RtrProofs.ConvergeAnswer
import RtrProofs.ConvergeIter
import RtrProofs.Converge
import RtrProofs.ErrReports
import RtrProofs.CLink
import RtrProofs.CLinkIntervals
import RtrProofs.CLinkMisc
import RtrProofs.CLinkBits
import RtrProofs.CLinkPdu
import RtrProofs.CLinkSpki
import RtrProofs.CLinkXfer
import RtrProofs.CLinkIo
import RtrProofs.CLinkFsm
import RtrProofs.CLinkFsmModel
import RtrProofs.AllocStore
import RtrProofs.CLinkSync
import RtrProofs.CLinkRecvWalk
import RtrProofs.CLinkRecv
import RtrProofs.CLinkRecvModel
import RtrProofs.TrieGen
import RtrProofs.CLinkErr
import RtrProofs.CLinkFooter
import RtrProofs.CLinkFooterModel
import RtrProofs.CLinkInit
import RtrProofs.CLinkConv
