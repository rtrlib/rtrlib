/-
  Soundness of the path checkers with respect to the path semantics `Exec`.  `checkQ` is the checker text over the
  state of an arbitrary automaton on events (unique automaton state per program point; loops must leave it
  unchanged; every function returns in the state it was entered with); the model's `check` is its instance at the
  automaton `heldδ` whose state is the lock set.
-/
import RtrProofs.Locks

namespace Rtr.Locks

/-! ## A generic path tracker -/

section Track
variable {Q : Type} [DecidableEq Q]

def runQ (δ : Q → Ev → Option Q) : Q → List Ev → Option Q
  | q, [] => some q
  | q, e :: π =>
    match δ q e with
    | some q' => runQ δ q' π
    | none => none

omit [DecidableEq Q] in
theorem runQ_append (δ : Q → Ev → Option Q) (q : Q) (π₁ π₂ : List Ev) :
    runQ δ q (π₁ ++ π₂) = (runQ δ q π₁).bind (fun q' => runQ δ q' π₂) := by
  induction π₁ generalizing q with
  | nil => simp [runQ]
  | cons e π ih =>
    simp only [List.cons_append, runQ]
    split
    · exact ih _
    · rfl

/-- `checkQ δ T fuel p entry lp q`: automaton state after `p` when started in `q`, over all paths
    (same conventions as `check`: `none` = some path is rejected or two paths disagree,
    `some none` = no path completes normally, `some (some q')` = all normal ends in `q'`). -/
def checkQ (δ : Q → Ev → Option Q) (T : List Fn) : Nat → Prog → Q → Option Q → Q → Option (Option Q)
  | 0, _, _, _, _ => none
  | _ + 1, .skip, _, _, h => some (some h)
  | n + 1, .act a, _, _, h =>
    match a with
    | .acq m l _ => (δ h (.acq m l)).map some
    | .rel l _ => (δ h (.rel l)).map some
    | .rd x _ => (δ h (.rd x)).map some
    | .wr x _ => (δ h (.wr x 0)).map some
    | .ext _ => some (some h)
    | .cb _ _ => some (some h)
    | .unknown _ => none
    | .call f tm cbs _ =>
      match T[f]? with
      | none => none
      | some fn =>
        match checkQ δ T n (fn.body.inst tm cbs) h none h with
        | none => none
        | some none => some (some h)
        | some (some h') => if h' = h then some (some h) else none
  | n + 1, .seq p q, e, lp, h =>
    match checkQ δ T n p e lp h with
    | none => none
    | some none => some none
    | some (some h₁) => checkQ δ T n q e lp h₁
  | n + 1, .alt p q, e, lp, h =>
    match checkQ δ T n p e lp h, checkQ δ T n q e lp h with
    | some none, some r => some r
    | some (some h₁), some none => some (some h₁)
    | some (some h₁), some (some h₂) => if h₁ = h₂ then some (some h₁) else none
    | _, _ => none
  | n + 1, .loop p, e, _, h =>
    match checkQ δ T n p e (some h) h with
    | none => none
    | some none => some (some h)
    | some (some h') => if h' = h then some (some h) else none
  | _ + 1, .ret, e, _, h => if h = e then some none else none
  | _ + 1, .brk, _, lp, h => if lp = some h then some none else none

/-- every path through `p` from state `q₀` is accepted and ends (normally or by `return`) in `q₀` -/
def acceptsProg (δ : Q → Ev → Option Q) (T : List Fn) (p : Prog) (q₀ : Q) : Bool :=
  match checkQ δ T fuel p q₀ none q₀ with
  | some none => true
  | some (some q) => decide (q = q₀)
  | none => false

/-- how the checker's answer `r` relates to the state `h'` at the end of a path: a normal end is
    the predicted state, a `return` ends in the entry state `e`, a `break` in the loop's state -/
def outOk (o : Out) (r : Option Q) (e : Q) (lp : Option Q) (h' : Q) : Prop :=
  match o with
  | .norm => r = some h'
  | .ret => h' = e
  | .brk => lp = some h'

variable {δ : Q → Ev → Option Q} {T : List Fn} {n : Nat} {p q : Prog} {e : Q} {lp : Option Q} {h h' : Q}
  {r r' : Option Q} {o : Out}

omit [DecidableEq Q] in
theorem outOk_of_none (hok : outOk o none e lp h') : outOk o r e lp h' := by
  cases o with
  | norm => cases hok
  | ret => exact hok
  | brk => exact hok

omit [DecidableEq Q] in
/-- the one way `outOk` is used on a complete run (no `break` gets out of a whole body) -/
theorem outOk_entry (hob : o ≠ .brk) (hok : outOk o r e lp h') (hnorm : ∀ h₁, r = some h₁ → h₁ = e) : h' = e := by
  cases o with
  | norm => exact hnorm h' hok
  | ret => exact hok
  | brk => exact absurd rfl hob

theorem checkQ_fuel (hc : checkQ δ T n p e lp h = some r) : ∃ k, n = k + 1 := by
  cases n with
  | zero => cases hc
  | succ k => exact ⟨k, rfl⟩

omit [DecidableEq Q] in
theorem runQ_single {ev : Ev} (hc : (δ h ev).map some = some r) : ∃ h', runQ δ h [ev] = some h' ∧ r = some h' := by
  cases hd : δ h ev with
  | none =>
    rw [hd] at hc
    cases hc
  | some q' =>
    rw [hd] at hc
    cases hc
    exact ⟨q', by simp only [runQ, hd], rfl⟩

theorem checkQ_seq (hc : checkQ δ T (n + 1) (.seq p q) e lp h = some r) :
    ∃ r₁, checkQ δ T n p e lp h = some r₁ ∧ ∀ h₁, r₁ = some h₁ → checkQ δ T n q e lp h₁ = some r := by
  simp only [checkQ] at hc
  rcases hp : checkQ δ T n p e lp h with _ | _ | h₁
  · rw [hp] at hc
    cases hc
  · exact ⟨none, rfl, fun _ hn => nomatch hn⟩
  · rw [hp] at hc
    exact ⟨some h₁, rfl, fun _ hs => Option.some.inj hs ▸ hc⟩

theorem checkQ_alt (hc : checkQ δ T (n + 1) (.alt p q) e lp h = some r) :
    ∃ r₁ r₂, checkQ δ T n p e lp h = some r₁ ∧ checkQ δ T n q e lp h = some r₂ ∧
      (r₁ = none ∨ r₁ = r) ∧ (r₂ = none ∨ r₂ = r) := by
  simp only [checkQ] at hc
  split at hc
  · rename_i r' hp hq
    cases hc
    exact ⟨none, r, hp, hq, Or.inl rfl, Or.inr rfl⟩
  · rename_i h₁ hp hq
    cases hc
    exact ⟨some h₁, none, hp, hq, Or.inr rfl, Or.inl rfl⟩
  · rename_i h₁ h₂ hp hq
    by_cases heq : h₁ = h₂
    · rw [if_pos heq] at hc
      cases hc
      exact ⟨some h₁, some h₂, hp, hq, Or.inr rfl, Or.inr (heq ▸ rfl)⟩
    · rw [if_neg heq] at hc
      cases hc
  · cases hc

/-- loops and calls are checked alike: the part inside (the body, the callee) is run from `h`, must lead
    back to `h` if it ends normally, and the whole answers `h` -/
theorem checkQ_back {x : Option (Option Q)}
    (hc : (match x with
      | none => none
      | some none => some (some h)
      | some (some h') => if h' = h then some (some h) else none) = some r) :
    r = some h ∧ ∃ r₁, x = some r₁ ∧ ∀ h', r₁ = some h' → h' = h := by
  rcases x with _ | _ | h₁
  · cases hc
  · cases hc
    exact ⟨rfl, none, rfl, fun _ hn => nomatch hn⟩
  · simp only at hc
    by_cases heq : h₁ = h
    · rw [if_pos heq] at hc
      cases hc
      exact ⟨rfl, some h₁, rfl, fun _ hs => Option.some.inj hs ▸ heq⟩
    · rw [if_neg heq] at hc
      cases hc

theorem checkQ_sound (hwr : ∀ q x v, δ q (.wr x v) = δ q (.wr x 0)) {π : List Ev} (hx : Exec T p π o)
    (n : Nat) (e : Q) (lp : Option Q) (h : Q) (r : Option Q) (hc : checkQ δ T n p e lp h = some r) :
    ∃ h', runQ δ h π = some h' ∧ outOk o r e lp h' := by
  induction hx generalizing n e lp h r with
    -- runs at the head of every case: the fuel is `n + 1` throughout, which is why `loopStep` can hand `n + 1` and `hc`
    -- itself to the induction hypothesis for the remaining iterations
    obtain ⟨n, rfl⟩ := checkQ_fuel hc
  | skip | ext | cbFree =>
    cases hc
    exact ⟨h, rfl, rfl⟩
  | acq | rel | rd => exact runQ_single hc
  | @wr x ln v =>
    simp only [checkQ, ← hwr h x v] at hc
    exact runQ_single hc
  | unknown => cases hc
  | @call f tm cbs ln fn π o hf _ hob ih =>
    simp only [checkQ, hf] at hc
    obtain ⟨rfl, r₁, hb, hback⟩ := checkQ_back hc
    obtain ⟨h', hr, hok⟩ := ih n h none h r₁ hb
    -- the callee ends in the state it was entered with, by `return` or by falling off its end
    cases outOk_entry hob hok hback
    exact ⟨h, hr, rfl⟩
  | seqNorm _ _ ih₁ ih₂ =>
    obtain ⟨r₁, hp, hq⟩ := checkQ_seq hc
    obtain ⟨h₁, hr, hok⟩ := ih₁ n e lp h r₁ hp
    obtain ⟨h₂, hr₂, hok₂⟩ := ih₂ n e lp h₁ r (hq h₁ hok)
    refine ⟨h₂, ?_, hok₂⟩
    rw [runQ_append, hr]
    exact hr₂
  | @seqStop _ _ _ o _ hon ih =>
    obtain ⟨r₁, hp, _⟩ := checkQ_seq hc
    obtain ⟨h', hr, hok⟩ := ih n e lp h r₁ hp
    -- an abrupt end does not look at the answer for a normal end
    cases o with
    | norm => exact absurd rfl hon
    | ret | brk => exact ⟨h', hr, hok⟩
  | altL _ ih =>
    obtain ⟨r₁, _, hp, _, h₁, _⟩ := checkQ_alt hc
    obtain ⟨h', hr, hok⟩ := ih n e lp h r₁ hp
    rcases h₁ with rfl | rfl
    · exact ⟨h', hr, outOk_of_none hok⟩
    · exact ⟨h', hr, hok⟩
  | altR _ ih =>
    obtain ⟨_, r₂, _, hq, _, h₂⟩ := checkQ_alt hc
    obtain ⟨h', hr, hok⟩ := ih n e lp h r₂ hq
    rcases h₂ with rfl | rfl
    · exact ⟨h', hr, outOk_of_none hok⟩
    · exact ⟨h', hr, hok⟩
  | loopDone => exact ⟨h, rfl, (checkQ_back hc).1⟩
  | loopStep _ _ ih₁ ih₂ =>
    obtain ⟨_, r₁, hb, hback⟩ := checkQ_back hc
    obtain ⟨h', hr, hok⟩ := ih₁ n e (some h) h r₁ hb
    cases hback h' hok
    -- the body has led back to the loop's state: the remaining iterations are checked alike
    obtain ⟨h'', hr₂, hok₂⟩ := ih₂ (n + 1) e lp h r hc
    refine ⟨h'', ?_, hok₂⟩
    rw [runQ_append, hr]
    exact hr₂
  | loopBrk _ ih =>
    obtain ⟨rfl, r₁, hb, _⟩ := checkQ_back hc
    obtain ⟨h', hr, hok⟩ := ih n e (some h) h r₁ hb
    cases hok
    exact ⟨h, hr, rfl⟩
  | loopRet _ ih =>
    obtain ⟨_, r₁, hb, _⟩ := checkQ_back hc
    exact ih n e (some h) h r₁ hb
  | ret | brk =>
    simp only [checkQ] at hc
    split at hc
    · rename_i heq
      exact ⟨h, rfl, heq⟩
    · cases hc

theorem acceptsProg_sound (hwr : ∀ q x v, δ q (.wr x v) = δ q (.wr x 0)) {q₀ : Q}
    (hw : acceptsProg δ T p q₀ = true) {π : List Ev} (hx : Exec T p π o) (hob : o ≠ .brk) :
    runQ δ q₀ π = some q₀ := by
  unfold acceptsProg at hw
  cases hc : checkQ δ T fuel p q₀ none q₀ with
  | none =>
    rw [hc] at hw
    cases hw
  | some r =>
    rw [hc] at hw
    obtain ⟨h', hr, hok⟩ := checkQ_sound hwr hx fuel q₀ none q₀ r hc
    have hnorm : ∀ h₁, r = some h₁ → h₁ = q₀ := fun h₁ hr₁ => by
      subst hr₁
      exact of_decide_eq_true hw
    exact outOk_entry hob hok hnorm ▸ hr

end Track

/-! ## The lock-discipline checker is the tracker of the lock set -/

/-- the automaton whose state is the lock set: an event that respects the discipline updates it -/
def heldδ (strict : Bool) (h : Held) (e : Ev) : Option Held :=
  if okEv strict h e then some (updHeld h e) else none

theorem runHeld_eq_runQ (strict : Bool) (h : Held) (π : List Ev) :
    runHeld strict h π = runQ (heldδ strict) h π := by
  induction π generalizing h with
  | nil => rfl
  | cons e π ih =>
    simp only [runHeld, runQ, heldδ]
    split
    · exact ih _
    · rfl

/-- There are two copies of the checker text: `check` is the model's own definition over lock sets,
    run as it stands by the driver and in the generated obligations; `checkQ` is the same text over
    the state of any automaton.  Their `match`es are different auxiliary functions, which compute
    alike once the intermediate results are cases.  `simp`/`unfold` cannot open `check` under the
    induction hypothesis without its unfolding lemma; `whnf` exposes one step of it directly. -/
theorem check_eq_checkQ (strict : Bool) (T : List Fn) : ∀ (n : Nat) (p : Prog) (e : Held) (lp : Option Held) (h : Held),
    check strict T n p e lp h = checkQ (heldδ strict) T n p e lp h := by
  intro n
  have ite_map_some : ∀ (c : Bool) (x : Held),
      (if c then some (some x) else none) = Option.map some (if c then some x else none) := fun c x => by
    cases c <;> rfl
  induction n with
  | zero =>
    intro p e lp h
    rfl
  | succ n ih =>
    intro p e lp h
    cases p with
    | act a =>
      cases a with
      | acq m l ln =>
        show (if holds h l then none else some (some ((l, m) :: h))) =
          Option.map some (if !holds h l then some ((l, m) :: h) else none)
        cases holds h l <;> rfl
      | rel | rd | wr =>
        -- both sides are `if c then some … else none` with the same condition
        exact ite_map_some _ _
      | call f tm cbs ln =>
        conv =>
          lhs
          whnf
        simp only [checkQ, ih]
        cases T[f]? with
        | none => rfl
        | some fn =>
          simp only
          rcases checkQ (heldδ strict) T n (fn.body.inst tm cbs) h none h with _ | _ | _ <;> rfl
      | cb | ext | unknown => rfl
    | seq p q =>
      conv =>
        lhs
        whnf
      simp only [checkQ, ih]
      rcases checkQ (heldδ strict) T n p e lp h with _ | _ | _ <;> rfl
    | alt p q =>
      conv =>
        lhs
        whnf
      simp only [checkQ, ih]
      generalize checkQ (heldδ strict) T n p e lp h = r₁
      generalize checkQ (heldδ strict) T n q e lp h = r₂
      rcases r₁ with _ | _ | _ <;> rcases r₂ with _ | _ | _ <;> rfl
    | loop p =>
      conv =>
        lhs
        whnf
      simp only [checkQ, ih]
      rcases checkQ (heldδ strict) T n p e (some h) h with _ | _ | _ <;> rfl
    | skip | ret | brk => rfl

theorem runHeld_append (strict : Bool) (h : Held) (π₁ π₂ : List Ev) :
    runHeld strict h (π₁ ++ π₂) = (runHeld strict h π₁).bind (fun h' => runHeld strict h' π₂) := by
  simp only [runHeld_eq_runQ, runQ_append]

theorem wellLockedProg_sound {strict : Bool} {T : List Fn} {p : Prog} (hw : wellLockedProg strict T p = true)
    {π : List Ev} {o : Out} (hx : Exec T p π o) (hob : o ≠ .brk) : Balanced strict π := by
  have hacc : acceptsProg (heldδ strict) T p [] = wellLockedProg strict T p := by
    unfold wellLockedProg acceptsProg
    rw [check_eq_checkQ]
    generalize checkQ (heldδ strict) T fuel p [] none [] = r
    rcases r with _ | _ | h
    · rfl
    · rfl
    · cases h <;> rfl
  unfold Balanced
  rw [runHeld_eq_runQ]
  exact acceptsProg_sound (fun _ _ _ => rfl) (hacc.trans hw) hx hob

theorem Balanced.guarded {strict : Bool} {π : List Ev} (h : Balanced strict π) : Guarded strict π := by
  unfold Balanced at h; unfold Guarded; rw [h]; rfl

/-- guardedness is prefix closed: a thread stopped anywhere inside a guarded path is guarded -/
theorem Guarded.prefix {strict : Bool} {π₁ π₂ : List Ev} (h : Guarded strict (π₁ ++ π₂)) : Guarded strict π₁ :=
  (runHeld_split π₁ [] h).1

/-- concatenating balanced paths (a thread calling one checked function after another) -/
theorem Balanced.append {strict : Bool} {π₁ π₂ : List Ev} (h₁ : Balanced strict π₁) (h₂ : Balanced strict π₂) :
    Balanced strict (π₁ ++ π₂) := by
  unfold Balanced at *
  rw [runHeld_append, h₁]
  exact h₂

theorem Reach.accepted {Q : Type} {δ : Q → Ev → Option Q} {q₀ qf : Q} {store : Loc → Nat} {paths : Nat → List Ev}
    {j : Nat} (hacc : runQ δ q₀ (paths j) = some qf) {s : Sys} (hr : Reach store paths s) :
    ∃ d q, paths j = d ++ (s.thr j).rest ∧ (s.thr j).held = d.foldl updHeld [] ∧
      runQ δ q₀ d = some q ∧ runQ δ q (s.thr j).rest = some qf := by
  obtain ⟨d, hd, hh⟩ := Reach.split hr j
  rw [hd, runQ_append] at hacc
  cases hq : runQ δ q₀ d with
  | none =>
    rw [hq] at hacc
    cases hacc
  | some q =>
    rw [hq] at hacc
    exact ⟨d, q, hd, hh, hq, hacc⟩

/-! ### bound on the acquisitions a selector counts -/

theorem acqBound_fuel {sel : Mode → Nat → Bool} {T : List Fn} {n : Nat} {p : Prog} {b : Nat}
    (hb : acqBound sel T n p = some b) : ∃ k, n = k + 1 := by
  cases n with
  | zero => cases hb
  | succ k => exact ⟨k, rfl⟩

/-- the bounds of the two parts of a sequence (`f` = `+`) or a choice (`f` = `max`).  The hypothesis is, word for
    word, what `acqBound` unfolds to at `seq` and `alt`, so that `acqBound … (.seq p q) = some b` is accepted for it
    as it stands -/
theorem acqBound_two {sel : Mode → Nat → Bool} {T : List Fn} {n : Nat} {p q : Prog} {f : Nat → Nat → Nat} {b : Nat}
    (hb : (match acqBound sel T n p, acqBound sel T n q with
      | some a, some c => some (f a c)
      | _, _ => none) = some b) :
    ∃ a c, acqBound sel T n p = some a ∧ acqBound sel T n q = some c ∧ b = f a c := by
  split at hb
  · rename_i a c ha hc
    cases hb
    exact ⟨a, c, ha, hc, rfl⟩
  · cases hb

theorem acqBound_sound {sel : Mode → Nat → Bool} {T : List Fn} {p : Prog} {π : List Ev} {o : Out} (hx : Exec T p π o)
    (n b : Nat) (hb : acqBound sel T n p = some b) : countAcq sel π ≤ b := by
  induction hx generalizing n b with
  | skip | rel | rd | wr | ext | cbFree | unknown | loopDone | ret | brk =>
    -- no acquisition among the events: the count is `0` by evaluation
    exact Nat.zero_le _
  | @acq m l ln =>
    obtain ⟨n, rfl⟩ := acqBound_fuel hb
    cases hb
    cases hs : sel m l <;> simp [countAcq, isAcq, hs]
  | call hf _ _ ih =>
    obtain ⟨n, rfl⟩ := acqBound_fuel hb
    simp only [acqBound, hf] at hb
    exact ih n b hb
  | seqNorm _ _ ih₁ ih₂ =>
    obtain ⟨n, rfl⟩ := acqBound_fuel hb
    obtain ⟨a, c, ha, hc, rfl⟩ := acqBound_two hb
    rw [countAcq_append]
    exact Nat.add_le_add (ih₁ n a ha) (ih₂ n c hc)
  | seqStop _ _ ih =>
    obtain ⟨n, rfl⟩ := acqBound_fuel hb
    obtain ⟨a, c, ha, _, rfl⟩ := acqBound_two hb
    exact Nat.le_trans (ih n a ha) (Nat.le_add_right a c)
  | altL _ ih =>
    obtain ⟨n, rfl⟩ := acqBound_fuel hb
    obtain ⟨a, c, ha, _, rfl⟩ := acqBound_two hb
    exact Nat.le_trans (ih n a ha) (Nat.le_max_left a c)
  | altR _ ih =>
    obtain ⟨n, rfl⟩ := acqBound_fuel hb
    obtain ⟨a, c, _, hc, rfl⟩ := acqBound_two hb
    exact Nat.le_trans (ih n c hc) (Nat.le_max_right a c)
  | loopStep _ _ ih₁ ih₂ =>
    -- a loop has a bound only if its body acquires nothing
    obtain ⟨n, rfl⟩ := acqBound_fuel hb
    have hb' := hb
    simp only [acqBound] at hb
    split at hb
    · rename_i hp
      have h₁ := ih₁ n 0 hp
      have h₂ := ih₂ (n + 1) b hb'
      rw [countAcq_append]
      omega
    · cases hb
  | loopBrk _ ih | loopRet _ ih =>
    obtain ⟨n, rfl⟩ := acqBound_fuel hb
    simp only [acqBound] at hb
    split at hb
    · rename_i hp
      cases hb
      exact ih n 0 hp
    · cases hb

/-! ### concrete paths (non-vacuity witnesses) -/

theorem runPath_sound {T : List Fn} {n : Nat} {p : Prog} {cs cs' : List Bool} {π : List Ev} {o : Out}
    (h : runPath T n p cs = some (π, o, cs')) : Exec T p π o := by
  induction n generalizing p cs cs' π o with
  | zero => cases h
  | succ n ih =>
    cases p with
    | skip | ret | brk =>
      cases h
      constructor
    | act a =>
      cases a with
      | acq | rel | rd | wr | ext | cb | unknown =>
        cases h
        constructor
      | call f tm cbs ln =>
        simp only [runPath] at h
        split at h
        · cases h
        · rename_i fn hf
          split at h
          · cases h
          · rename_i π₁ o₁ cs₁ hnb hr
            cases h
            exact .call hf (ih hr) fun ho => hnb (ho ▸ rfl)
          · cases h
    | seq p q =>
      simp only [runPath] at h
      split at h
      · rename_i π₁ cs₁ hp
        split at h
        · rename_i π₂ o₂ cs₂ hq
          cases h
          exact .seqNorm (ih hp) (ih hq)
        · cases h
      · rename_i r hne
        exact .seqStop (ih h) fun ho => hne _ _ (ho ▸ h)
    | alt p q =>
      simp only [runPath] at h
      split at h
      · exact .altR (ih h)
      · exact .altL (ih h)
      · exact .altL (ih h)
    | loop p =>
      simp only [runPath] at h
      split at h
      · split at h
        · rename_i π₁ cs₁ hp
          split at h
          · rename_i π₂ o₂ cs₂ hq
            cases h
            exact .loopStep (ih hp) (ih hq)
          · cases h
        · rename_i π₁ cs₁ hp
          cases h
          exact .loopBrk (ih hp)
        · rename_i r hn1 hn2
          cases o with
          | norm => exact absurd h (hn1 _ _)
          | brk => exact absurd h (hn2 _ _)
          | ret => exact .loopRet (ih h)
      · cases h
        exact .loopDone
      · cases h
        exact .loopDone

end Rtr.Locks
