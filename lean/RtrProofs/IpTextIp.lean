/-
  IpTextIp: the dispatcher of ip.c (`strchr(str, ':')`) on formatted addresses and on strings of the
  language; soundness of the executable `inet_pton` model (`pton4`, `pton6`) w.r.t. the renders.
-/
import RtrProofs.IpTextFmt

namespace Rtr.IpText

theorem colon_notin_dec8 (n : Nat) : ':' ∉ dec8 n := by
  intro h
  have := ((groupOk_iff _).mp (groupOk_dec8 n)).2.2 ':' h
  rw [hexVal_colon] at this
  cases this

theorem colon_notin_quadStr (q : Nat × Nat × Nat × Nat) : ':' ∉ quadStr q := by
  simp [quadStr, colon_notin_dec8]

/-- every string of the language contains a colon, so `lrtr_ip_str_to_addr` sends it to the IPv6 parser -/
theorem colon_in_render {r : Render} (h : r.WF) : ':' ∈ r.toString := by
  obtain ⟨_, _, _, hcount⟩ := wf_unpack h
  have hqv := quadVals_length r
  cases hgap : r.gap with
  | true => simp [Render.toString, hgap]
  | false =>
    simp only [hgap] at hcount
    obtain ⟨hp0, hc⟩ := hcount
    simp only [Render.toString, hgap, Bool.false_eq_true, if_false]
    have h2 : 2 ≤ r.pre.length := by
      simp only [Render.count, hp0, List.length_nil] at hc
      rw [hqv] at hc
      split at hc <;> omega
    match hp : r.pre, h2 with
    | a :: b :: rest, _ => simp [joinC]

theorem decVal_lt {s : Str} {v : Nat} (h : decVal? s = some v) : v < 256 := by
  unfold decVal? at h
  split at h
  · cases h
  · simp only at h
    split at h
    · rename_i hv; injection h with h; omega
    · cases h

theorem quad_ok {s : Str} {q : Nat × Nat × Nat × Nat} (h : quad? s = some q) : quadOk q = true := by
  unfold quad? at h
  split at h
  · split at h
    · rename_i a b c d _ a' b' c' d' ha hb hc hd
      injection h with h; subst h
      simp [quadOk, decVal_lt ha, decVal_lt hb, decVal_lt hc, decVal_lt hd]
    · cases h
  · cases h

theorem pton4_sound {s : Str} {a : Nat} (h : pton4 s = some a) :
    ∃ q, quadOk q = true ∧ quadStr q = s ∧ a = q.1 * 16777216 + q.2.1 * 65536 + q.2.2.1 * 256 + q.2.2.2 := by
  unfold pton4 at h
  split at h
  · rename_i q hq
    split at h
    · rename_i hs; injection h with h; exact ⟨q, quad_ok hq, hs, h.symm⟩
    · cases h
  · cases h

theorem recognise6_sound {s : Str} {r : Render} (h : recognise6 s = some r) : r.WF ∧ r.toString = s := by
  unfold recognise6 at h
  split at h
  · rename_i hc; injection h with h; subst h; exact hc
  · cases h

theorem pton6_sound {s : Str} {v : List Nat} (h : pton6 s = some v) : ∃ r : Render, r.WF ∧ r.toString = s ∧ r.value = v := by
  unfold pton6 at h
  cases hr : recognise6 s with
  | none => simp [hr] at h
  | some r =>
    simp [hr] at h
    exact ⟨r, (recognise6_sound hr).1, (recognise6_sound hr).2, h⟩

end Rtr.IpText
