/-
  FsmLift: what the operations of the model do to the connection part of the socket and to the
  environment, said once for all properties.

  Every operation is a sequence of a few primitive steps (a trace line, one `tr_send`, one `tr_recv`, a change
  of the socket state, a lowering of the protocol version; an iteration of the state machine also opens the
  transport and sleeps: `StepRel`), so a reflexive, transitive relation `R` on
  (connection part, environment) that holds across those holds across the operation: `<op>_steps`.  A property
  of the version, the clock, the tape, the send script … is an instance: the primitive facts for the concrete
  `R`, then `<op>_steps`.

  What does not fit.  `R` sees only connection part and environment: session part, tables, timers and return
  values are walked where they are needed.  The fields of `SendRel` quantify over every state, byte list and
  trace line: "SHUTDOWN is never left", or which bytes are written, is not an instance (ErrReports.lean walks
  again).  `R` relates the two ends of one run: two runs side by side have their own congruences (`Sim`,
  Chunking.lean).
-/
import RtrProofs.TableEqs

namespace Rtr.P

structure SendRel (R : Conn × Net → Conn × Net → Prop) : Prop where
  refl : ∀ a, R a a
  trans : ∀ {a b c}, R a b → R b c → R a c
  emit : ∀ c n l, R (c, n) (c, Net.emit n l)
  send : ∀ c n b, R (c, n) (c, (trSend n b).2)
  state : ∀ (c : Conn) n s, R (c, n) ({ c with state := s }, n)

/-- the first-PDU flag may change along with the version: the live downgrade sets it, the CONNECTING iteration
    clears it -/
def Lowers (R : Conn × Net → Conn × Net → Prop) : Prop :=
  ∀ (c : Conn) n v b, v ≤ c.version → R (c, n) ({ c with version := v, hasReceived := b }, n)

def Recvs (R : Conn × Net → Conn × Net → Prop) : Prop :=
  ∀ c n len t, R (c, n) (c, (trRecv n len t).2.2.1)

structure StepRel (R : Conn × Net → Conn × Net → Prop) : Prop extends SendRel R where
  lowers : Lowers R
  recvs : Recvs R
  opn : ∀ st : St, R (st.c, st.n) ((trOpen st).2.c, (trOpen st).2.n)
  sleep : ∀ (c : Conn) (n : Net) (k : Nat), R (c, n) (c, { n with now := n.now + k })

/-! ## relations on the environment alone -/

structure EmitRel (R : Net → Net → Prop) : Prop where
  refl : ∀ n, R n n
  trans : ∀ {a b c}, R a b → R b c → R a c
  emit : ∀ n l, R n (Net.emit n l)
  send : ∀ n b, R n (trSend n b).2

structure RecvRel (R : Net → Net → Prop) : Prop extends EmitRel R where
  recv : ∀ n len t, R n (trRecv n len t).2.2.1

structure RunRel (R : Net → Net → Prop) : Prop extends RecvRel R where
  opn : ∀ st, R st.n (trOpen st).2.n
  sleep : ∀ (n : Net) (k : Nat), R n { n with now := n.now + k }

def onNet (R : Net → Net → Prop) : Conn × Net → Conn × Net → Prop := fun a b => R a.2 b.2

theorem EmitRel.sendRel {R : Net → Net → Prop} (h : EmitRel R) : SendRel (onNet R) :=
  { refl := fun a => h.refl a.2
    trans := h.trans
    emit := fun _ n l => h.emit n l
    send := fun _ n b => h.send n b
    state := fun _ n _ => h.refl n }

theorem EmitRel.lowers {R : Net → Net → Prop} (h : EmitRel R) : Lowers (onNet R) :=
  fun _ n _ _ _ => h.refl n

theorem RecvRel.recvs {R : Net → Net → Prop} (h : RecvRel R) : Recvs (onNet R) :=
  fun _ n len t => h.recv n len t

theorem RunRel.stepRel {R : Net → Net → Prop} (h : RunRel R) : StepRel (onNet R) :=
  { h.toEmitRel.sendRel with
    lowers := h.toEmitRel.lowers
    recvs := h.toRecvRel.recvs
    opn := h.opn
    sleep := fun _ n k => h.sleep n k }

/-! ## what single operations compute, as equations -/

theorem foldl_emit_eq : ∀ (ls : List String) (n : Net), ∃ tr, ls.foldl (fun n l => n.emit l) n = { n with trace := tr } := by
  intro ls
  induction ls with
  | nil => intro n; exact ⟨n.trace, rfl⟩
  | cons l ls ih =>
    intro n
    obtain ⟨tr, e⟩ := ih (n.emit l)
    exact ⟨tr, e⟩

theorem trOpen_eq (st : St) :
    ∃ tr, trOpen st = (st.n.openQ.headD 0, { st with n := { st.n with openQ := st.n.openQ.tail, trace := tr } }) := by
  unfold trOpen
  cases st.n.openQ with
  | nil =>
    obtain ⟨tr, e⟩ := foldl_emit_eq (dumpLines "T" st.t) { st.n with openQ := [] }
    simp only [e]
    exact ⟨_, rfl⟩
  | cons x q =>
    obtain ⟨tr, e⟩ := foldl_emit_eq (dumpLines "T" st.t) { st.n with openQ := q }
    simp only [e]
    exact ⟨_, rfl⟩

theorem changeState_alive (c : Conn) (n : Net) (own : Nat) (s : SState) (h : c.state ≠ .shutdown) :
    changeState c n own s =
      ({ c with state := s }, if c.state = s then n else n.emit s!"S {s.name} {n.now} {own}") := by
  unfold changeState
  by_cases h1 : c.state = s
  · rw [if_pos h1, if_pos h1]
    subst h1
    rfl
  · rw [if_neg h1, if_neg h, if_neg h1]

theorem changeState_shutdown (c : Conn) (n : Net) (own : Nat) (s : SState) (h : c.state = .shutdown) :
    changeState c n own s = (c, n) := by
  unfold changeState
  rw [if_pos h]
  exact ite_self _

theorem changeState_ne_shutdown (c : Conn) (n : Net) (own : Nat) (s : SState) (h : c.state ≠ .shutdown)
    (hs : s ≠ .shutdown) : (changeState c n own s).1.state ≠ .shutdown := by
  rw [changeState_alive c n own s h]
  exact hs

/-- the code that the `error:` label of `rtr_receive_pdu` hands to the caller for transport code `code`
    (TR_WOULDBLOCK, TR_INTR and TR_CLOSED are handed on, everything else is RTR_ERROR), and the state it
    changes to, if it does.  Meant to be evaluated: `errExit` of a literal is `rfl`. -/
def errExit (code : Int) : Int × Option SState :=
  if code = -1 then (-1, some .errTransport)
  else if code = -2 then (-2, none)
  else if code = -3 then (-3, none)
  else if code = -4 then (-4, some .errFatal)
  else (-1, some .errFatal)

theorem recvTransportError_eq (c : Conn) (n : Net) (own : Nat) (code : Int) :
    recvTransportError c n own code =
      (.rc (errExit code).1,
        match (errExit code).2 with
        | none => (c, n)
        | some s => changeState c n own s) := by
  unfold recvTransportError errExit
  by_cases h1 : code = -1
  · rw [if_pos h1, if_pos h1]
  · rw [if_neg h1, if_neg h1]
    by_cases h2 : code = -2
    · rw [if_pos h2, if_pos h2]
    · rw [if_neg h2, if_neg h2]
      by_cases h3 : code = -3
      · rw [if_pos h3, if_pos h3]
      · rw [if_neg h3, if_neg h3]
        by_cases h4 : code = -4
        · rw [if_pos h4, if_pos h4]
        · rw [if_neg h4, if_neg h4]

/-- the session part after `rtr_handle_cache_response_pdu` has accepted session id `sess`: a socket that requested a
    new session takes it over (and reloads, if it has synchronised before).  (`cv`: the convergence proofs compute
    with it.) -/
def cvSessAfterCR (ss : Sess) (sess : Nat) : Sess :=
  if ss.reqSession then { (if ss.lastUpdate ≠ 0 then { ss with isResetting := true } else ss) with session := sess }
  else ss

theorem cvSessAfterCR_session (ss : Sess) (sess : Nat) (hq : ss.reqSession = true ∨ ss.session = sess) :
    (cvSessAfterCR ss sess).session = sess := by
  unfold cvSessAfterCR
  by_cases h : ss.reqSession = true
  · rw [if_pos h]
  · rw [if_neg h]
    exact hq.resolve_left h

theorem cvSessAfterCR_frame (ss : Sess) (sess : Nat) :
    (cvSessAfterCR ss sess).serial = ss.serial ∧ (cvSessAfterCR ss sess).reqSession = ss.reqSession ∧
    (cvSessAfterCR ss sess).lastUpdate = ss.lastUpdate := by
  unfold cvSessAfterCR
  split
  · split <;> exact ⟨rfl, rfl, rfl⟩
  · exact ⟨rfl, rfl, rfl⟩

theorem handleCacheResponse_eq (c : Conn) (ss : Sess) (n : Net) (own : Nat) (raw : List Nat) :
    handleCacheResponse c ss n own raw =
      if ss.reqSession = false ∧ ss.session ≠ be16 raw 2 then
        (false, (refuse c n own [] (.report 0 txtWrongSession true)).1, ss,
          (refuse c n own [] (.report 0 txtWrongSession true)).2)
      else (true, c, cvSessAfterCR ss (be16 raw 2), n) := by
  unfold handleCacheResponse cvSessAfterCR
  simp only
  by_cases h1 : ss.reqSession = true
  · have hc : ¬ (ss.reqSession = false ∧ ss.session ≠ be16 raw 2) := fun h => nomatch h1.symm.trans h.1
    rw [if_neg hc, if_pos h1, if_pos h1]
  · have h1' : ss.reqSession = false := Bool.eq_false_iff.2 h1
    rw [if_neg h1, if_neg h1]
    by_cases h2 : ss.session ≠ be16 raw 2
    · rw [if_pos h2, if_pos ⟨h1', h2⟩]
      rfl
    · have hc : ¬ (ss.reqSession = false ∧ ss.session ≠ be16 raw 2) := fun h => h2 h.2
      rw [if_neg h2, if_neg hc]

/-- what `rtr_handle_error_pdu` decides from the Error Report `raw`: the version the socket speaks from now on
    (lowered only for Unsupported Protocol Version carrying a lower supported one) and the state it changes to.
    Error codes and PDU types stand as RFC 8210's numbers (2 No Data Available, 4 Unsupported Protocol Version, type 10
    Error Report …); `RtrModel/Rfc8210.lean` names them. -/
def errPduExit (c : Conn) (raw : List Nat) : Nat × SState :=
  if be16 raw 2 = 2 then (c.version, .errNoData)
  else if be16 raw 2 = 4 ∧ verOf raw ≤ Gen.RTR_PROTOCOL_MAX_SUPPORTED_VERSION ∧
      verOf raw ≥ Gen.RTR_PROTOCOL_MIN_SUPPORTED_VERSION ∧ verOf raw < c.version then (verOf raw, .fastReconnect)
  else (c.version, .errFatal)

theorem errPduExit_cases (c : Conn) (raw : List Nat) :
    errPduExit c raw = (c.version, .errNoData) ∨ errPduExit c raw = (c.version, .errFatal) ∨
    (be16 raw 2 = 4 ∧ verOf raw ≤ Gen.RTR_PROTOCOL_MAX_SUPPORTED_VERSION ∧ verOf raw < c.version ∧
      errPduExit c raw = (verOf raw, .fastReconnect)) := by
  unfold errPduExit
  by_cases h2 : be16 raw 2 = 2
  · rw [if_pos h2]
    exact Or.inl rfl
  · rw [if_neg h2]
    by_cases h4 : be16 raw 2 = 4 ∧ verOf raw ≤ Gen.RTR_PROTOCOL_MAX_SUPPORTED_VERSION ∧
        verOf raw ≥ Gen.RTR_PROTOCOL_MIN_SUPPORTED_VERSION ∧ verOf raw < c.version
    · rw [if_pos h4]
      exact Or.inr (Or.inr ⟨h4.1, h4.2.1, h4.2.2.2, rfl⟩)
    · rw [if_neg h4]
      exact Or.inr (Or.inl rfl)

/-- no hypothesis on the minimum: version 0 is the lowest there is -/
theorem errPduExit_down {c : Conn} {raw : List Nat} (h4 : be16 raw 2 = 4)
    (hm : verOf raw ≤ Gen.RTR_PROTOCOL_MAX_SUPPORTED_VERSION) (hv : verOf raw < c.version) :
    errPduExit c raw = (verOf raw, .fastReconnect) := by
  unfold errPduExit
  rw [if_neg (by omega), if_pos ⟨h4, hm, Nat.zero_le _, hv⟩]

theorem errPduExit_le (c : Conn) (raw : List Nat) : (errPduExit c raw).1 ≤ c.version := by
  rcases errPduExit_cases c raw with e | e | ⟨_, _, hv, e⟩
  · rw [e]
    exact Nat.le_refl _
  · rw [e]
    exact Nat.le_refl _
  · rw [e]
    exact Nat.le_of_lt hv

theorem handleErrorPdu_eq (c : Conn) (n : Net) (own : Nat) (raw : List Nat) :
    handleErrorPdu c n own raw = changeState { c with version := (errPduExit c raw).1 } n own (errPduExit c raw).2 := by
  unfold handleErrorPdu errPduExit
  simp only
  by_cases h2 : be16 raw 2 = 2
  · rw [if_pos h2, if_pos h2]
  · rw [if_neg h2, if_neg h2]
    by_cases h4 : be16 raw 2 = 4
    · rw [if_pos h4]
      by_cases hv : verOf raw ≤ Gen.RTR_PROTOCOL_MAX_SUPPORTED_VERSION ∧
          verOf raw ≥ Gen.RTR_PROTOCOL_MIN_SUPPORTED_VERSION ∧ verOf raw < c.version
      · rw [if_pos hv, if_pos ⟨h4, hv⟩]
      · rw [if_neg hv, if_neg (fun h => hv h.2)]
    · rw [if_neg h4, if_neg (fun h => h4 h.1)]

/-- `rtr_send_serial_query` and `rtr_send_reset_query` once the PDU is built: a failed send is a transport error -/
def sendQuery (st : St) (bytes : List Nat) : Bool × St :=
  match sendPdu st.c st.n bytes with
  | (ok, n) =>
    if ok then (true, { st with n := n })
    else match changeState st.c n st.t.own .errTransport with | (c, n) => (false, { st with c := c, n := n })

theorem sendSerialQuery_eq (st : St) :
    sendSerialQuery st = sendQuery st (serialQueryBytes st.c.version st.ss.session st.ss.serial) := rfl

theorem sendResetQuery_eq (st : St) : sendResetQuery st = sendQuery st (resetQueryBytes st.c.version) := rfl

/-! ## sending, state changes, the table part: `SendRel` -/

section send
variable {R : Conn × Net → Conn × Net → Prop} (hR : SendRel R)
include hR

theorem changeState_steps (c : Conn) (n : Net) (own : Nat) (s : SState) : R (c, n) (changeState c n own s) := by
  unfold changeState
  split
  · exact hR.refl _
  · split
    · exact hR.refl _
    · exact hR.trans (hR.state c n s) (hR.emit _ n _)

theorem applyStop_steps (c : Conn) (n : Net) (stop : Bool) : R (c, n) (applyStop c stop, n) := by
  unfold applyStop
  split
  · exact hR.state c n .shutdown
  · exact hR.refl _

theorem sendAllLoop_steps (c : Conn) : ∀ (fuel : Nat) (n : Net) (rest : List Nat) (total : Nat),
    R (c, n) (c, (sendAllLoop fuel n rest total).2) := by
  intro fuel
  induction fuel with
  | zero => intro n rest total; exact hR.refl _
  | succ fuel ih =>
    intro n rest total
    simp only [sendAllLoop]
    split
    · exact hR.refl _
    · have h := hR.send c n rest
      generalize trSend n rest = r at h
      obtain ⟨rc, n'⟩ := r
      simp only at h ⊢
      split
      · exact h
      · exact hR.trans h (ih _ _ _)

theorem sendPdu_steps (c : Conn) (n : Net) (bytes : List Nat) : R (c, n) (c, (sendPdu c n bytes).2) := by
  unfold sendPdu
  split
  · exact hR.refl _
  · exact sendAllLoop_steps hR c _ n bytes 0

theorem sendErrorPdu_steps (c : Conn) (n : Net) (enc : List Nat) (code : Nat) (text : List Nat) :
    R (c, n) (c, (sendErrorPdu c n enc code text).2) := by
  unfold sendErrorPdu
  split
  · exact hR.refl _
  · exact sendPdu_steps hR c n _

theorem sendErrorFromHost_steps (c : Conn) (n : Net) (raw : List Nat) (k code : Nat) (text : List Nat) :
    R (c, n) (c, (sendErrorFromHost c n raw k code text).2) := by
  unfold sendErrorFromHost
  split
  · exact sendErrorPdu_steps hR c n _ code text
  · split
    · exact hR.refl _
    · exact sendErrorPdu_steps hR c n _ code text

theorem recvTransportError_steps (c : Conn) (n : Net) (own : Nat) (code : Int) :
    R (c, n) (recvTransportError c n own code).2 := by
  rw [recvTransportError_eq]
  cases (errExit code).2 with
  | none => exact hR.refl _
  | some s => exact changeState_steps hR c n own s

theorem refuse_steps (c : Conn) (n : Net) (own : Nat) (raw : List Nat) (r : Rej) : R (c, n) (refuse c n own raw r) := by
  cases r with
  | silent => exact hR.refl _
  | report code text fatal =>
    have h := sendErrorFromHost_steps hR c n raw raw.length code text
    cases fatal with
    | false => exact h
    | true => exact hR.trans h (changeState_steps hR c _ own .errFatal)

theorem handleCacheResponse_steps (c : Conn) (ss : Sess) (n : Net) (own : Nat) (raw : List Nat) :
    R (c, n) ((handleCacheResponse c ss n own raw).2.1, (handleCacheResponse c ss n own raw).2.2.2) := by
  rw [handleCacheResponse_eq]
  split
  · exact refuse_steps hR c n own [] (.report 0 txtWrongSession true)
  · exact hR.refl _

theorem applyVerdict_steps (c : Conn) (n : Net) (t : Tbl) (raw : List Nat) (v : Verdict Tbl) :
    R (c, n) ((applyVerdict c n t raw v).2.1, (applyVerdict c n t raw v).2.2.1) := by
  cases v with
  | accept t' => exact hR.refl _
  | refuse r => exact refuse_steps hR c n t.own raw r

theorem applyRes_steps (c : Conn) (n : Net) (x : Tbl × List (List Nat) × Option (List Nat × Rej)) :
    R (c, n) ((applyRes c n x).2.1, (applyRes c n x).2.2.1) := by
  obtain ⟨t, d, r⟩ := x
  cases r with
  | none => exact hR.refl _
  | some x => exact refuse_steps hR c n t.own x.1 x.2

theorem updatePfx_steps (c : Conn) (n : Net) (t : Tbl) (raw : List Nat) :
    R (c, n) ((updatePfx c n t raw).2.1, (updatePfx c n t raw).2.2.1) := by
  rw [updatePfx_eq]
  exact applyVerdict_steps hR c n t raw _

theorem updateKey_steps (c : Conn) (n : Net) (t : Tbl) (raw : List Nat) :
    R (c, n) ((updateKey c n t raw).2.1, (updateKey c n t raw).2.2.1) := by
  rw [updateKey_eq]
  exact applyVerdict_steps hR c n t raw _

theorem applyPfx_steps (ps : List (List Nat)) (c : Conn) (n : Net) (t : Tbl) (done : List (List Nat)) :
    R (c, n) ((applyPfx c n t ps done).2.1, (applyPfx c n t ps done).2.2.1) := by
  rw [applyPfx_run]
  exact applyRes_steps hR c n _

theorem applyKey_steps (ps : List (List Nat)) (c : Conn) (n : Net) (t : Tbl) (done : List (List Nat)) :
    R (c, n) ((applyKey c n t ps done).2.1, (applyKey c n t ps done).2.2.1) := by
  rw [applyKey_run]
  exact applyRes_steps hR c n _

theorem applyFail_steps (u : Bool) (c : Conn) (n : Net) (t : Tbl) :
    R (c, n) ((applyFail u c n t).c, (applyFail u c n t).n) := by
  unfold applyFail
  exact changeState_steps hR c n _ .errFatal

theorem applyTables_steps (c : Conn) (n : Net) (t : Tbl) (resetting : Bool) (v4 v6 keys : List (List Nat)) :
    R (c, n) ((applyTables c n t resetting v4 v6 keys).c, (applyTables c n t resetting v4 v6 keys).n) := by
  rw [applyTables_eq]
  cases tablesOut (startTbl t resetting).upd v4 v6 keys with
  | applied u => exact hR.refl _
  | refused p r uf undone u => exact hR.trans (refuse_steps hR c n _ p r) (applyFail_steps hR undone _ _ _)

theorem applyBuffered_steps (st : St) (eod : List Nat) (v4 v6 keys : List (List Nat)) :
    R (st.c, st.n) ((applyBuffered st eod v4 v6 keys).2.c, (applyBuffered st eod v4 v6 keys).2.n) :=
  applyTables_steps hR st.c st.n st.t st.ss.isResetting v4 v6 keys

theorem sendQuery_steps (st : St) (bytes : List Nat) :
    R (st.c, st.n) ((sendQuery st bytes).2.c, (sendQuery st bytes).2.n) := by
  unfold sendQuery
  have h := sendPdu_steps hR st.c st.n bytes
  generalize sendPdu st.c st.n bytes = r at h
  obtain ⟨ok, n⟩ := r
  simp only at h ⊢
  split
  · exact h
  · exact hR.trans h (changeState_steps hR st.c n st.t.own .errTransport)

theorem sendSerialQuery_steps (st : St) : R (st.c, st.n) ((sendSerialQuery st).2.c, (sendSerialQuery st).2.n) :=
  sendQuery_steps hR st (serialQueryBytes st.c.version st.ss.session st.ss.serial)

theorem sendResetQuery_steps (st : St) : R (st.c, st.n) ((sendResetQuery st).2.c, (sendResetQuery st).2.n) :=
  sendQuery_steps hR st (resetQueryBytes st.c.version)

theorem change_steps (st : St) (s : SState) : R (st.c, st.n) ((st.change s).c, (st.change s).n) :=
  changeState_steps hR st.c st.n st.t.own s

theorem trClose_steps (st : St) : R (st.c, st.n) ((trClose st).c, (trClose st).n) :=
  hR.emit st.c st.n "C"

theorem handleErrorPdu_steps (hv : Lowers R) (c : Conn) (n : Net) (own : Nat) (raw : List Nat) :
    R (c, n) (handleErrorPdu c n own raw) := by
  rw [handleErrorPdu_eq]
  exact hR.trans (hv c n _ c.hasReceived (errPduExit_le c raw)) (changeState_steps hR _ n own _)

end send

/-! ## receiving: `Recvs` -/

section recv
variable {R : Conn × Net → Conn × Net → Prop} (hR : SendRel R) (hr : Recvs R)
include hR hr

theorem recvAllLoop_steps (c : Conn) (len : Nat) (endTime : Int) : ∀ (fuel : Nat) (n : Net) (acc : List Nat),
    R (c, n) (c, (recvAllLoop len endTime fuel n acc).2.2.1) := by
  intro fuel
  induction fuel with
  | zero => intro n acc; exact hR.refl _
  | succ fuel ih =>
    intro n acc
    simp only [recvAllLoop]
    split
    · have h := hr c n (len - acc.length) (endTime - n.now)
      generalize trRecv n (len - acc.length) (endTime - n.now) = r at h
      obtain ⟨rc, got, n', stop⟩ := r
      simp only at h ⊢
      split
      · exact h
      · exact hR.trans h (ih _ _)
    · exact hR.refl _

theorem recvAll_steps (c : Conn) (n : Net) (len : Nat) (timeout : Int) : R (c, n) (c, (recvAll n len timeout).2.2.1) :=
  recvAllLoop_steps hR hr c len _ _ n []

end recv

end Rtr.P
