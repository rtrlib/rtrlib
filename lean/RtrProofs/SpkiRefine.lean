/-
  SpkiRefine: the router-key table (hash table + list) refines a finite set of
  (asn, ski, spki, src) records; effect of every operation of ht-spkitable.c on contents,
  return code and callback log (`spki_table_free` leaves the initial table: `sinv_free`).
-/
import RtrModel.Spki
import RtrProofs.HashlinOps
import RtrProofs.DiffPass

namespace Rtr
namespace SpkiTable

/-- representation invariant of `struct spki_table`: the hash table satisfies its own invariant,
    the list has no repetition, and hash table and list hold the same entries (every entry once,
    filed under the hash of its AS number) -/
structure SInv (T : SpkiTable) : Prop where
  ht : T.ht.Inv
  nodup : T.list.Nodup
  same : ∀ x : HNode SpkiRec, T.ht.mult x = if x.key = spkiHash x.data then T.list.count x.data else 0

@[simp] theorem notify_ht (T : SpkiTable) (a : Bool) (r : SpkiRec) : (T.notify a r).ht = T.ht := by
  unfold notify; split <;> rfl

@[simp] theorem notify_list (T : SpkiTable) (a : Bool) (r : SpkiRec) : (T.notify a r).list = T.list := by
  unfold notify; split <;> rfl

@[simp] theorem notify_hasCb (T : SpkiTable) (a : Bool) (r : SpkiRec) : (T.notify a r).hasCb = T.hasCb := by
  unfold notify; split <;> rfl

theorem notify_log (T : SpkiTable) (a : Bool) (r : SpkiRec) :
    (T.notify a r).log = T.log ++ (if T.hasCb then [(a, r)] else []) := by
  unfold notify; split <;> simp_all

/-- table `T` after `update_fp` was invoked for the events `evs` (if it is set) -/
def logged (T : SpkiTable) (evs : List (Bool × SpkiRec)) : SpkiTable :=
  { T with log := T.log ++ if T.hasCb then evs else [] }

theorem notify_eq (T : SpkiTable) (a : Bool) (r : SpkiRec) : T.notify a r = logged T [(a, r)] := by
  cases T with
  | mk ht l cb lg => cases cb <;> simp [notify, logged]

theorem logged_nil (T : SpkiTable) : logged T [] = T := by
  cases T with
  | mk ht l cb lg => simp [logged]

theorem logged_logged (T : SpkiTable) (a b : List (Bool × SpkiRec)) : logged (logged T a) b = logged T (a ++ b) := by
  cases T with
  | mk ht l cb lg => cases cb <;> simp [logged]

theorem SInv.of_parts {T T' : SpkiTable} (iv : SInv T) (hh : T'.ht = T.ht) (hl : T'.list = T.list) : SInv T' :=
  ⟨hh ▸ iv.ht, hl ▸ iv.nodup, by rw [hh, hl]; exact iv.same⟩

theorem sinv_notify {T : SpkiTable} (iv : SInv T) (a : Bool) (r : SpkiRec) : SInv (T.notify a r) :=
  iv.of_parts (notify_ht T a r) (notify_list T a r)

theorem sinv_init (cb : Bool) : SInv (init cb) := by
  refine ⟨Hashlin.init_inv, List.nodup_nil, fun x => ?_⟩
  have : ¬ 0 < (Hashlin.init : Hashlin SpkiRec).mult x := by
    rw [← Hashlin.mem_iff_mult_pos]; exact Hashlin.init_not_mem x
  show (Hashlin.init : Hashlin SpkiRec).mult x = _
  simp [init]; omega

theorem sinv_free (T : SpkiTable) : SInv T.free := (sinv_init T.hasCb).of_parts rfl rfl

/-! ### hash table and list hold the same entries -/

theorem mem_node {T : SpkiTable} (iv : SInv T) (x : HNode SpkiRec) :
    T.ht.Mem x ↔ x.key = spkiHash x.data ∧ x.data ∈ T.list := by
  rw [Hashlin.mem_iff_mult_pos, iv.same x]
  split
  · rw [List.count_pos_iff]; simp [*]
  · simp [*]

theorem search_iff {T : SpkiTable} (iv : SInv T) (r : SpkiRec) :
    (T.ht.search (cmp r) (spkiHash r)).isSome = true ↔ r ∈ T.list := by
  rw [Hashlin.search_isSome_iff iv.ht.toWf]
  constructor
  · rintro ⟨x, hm, _, hc⟩
    have := (mem_node iv x).mp hm
    simp [cmp] at hc
    rw [← hc]; exact this.2
  · intro hr
    exact ⟨⟨spkiHash r, r⟩, (mem_node iv _).mpr ⟨rfl, hr⟩, rfl, by simp [cmp]⟩

/-! ### add -/

theorem add_found {T : SpkiTable} {r : SpkiRec} (h : (T.ht.search (cmp r) (spkiHash r)).isSome = true) :
    T.add r = (T, .duplicate) := by
  simp [add, h]

theorem add_not_found {T : SpkiTable} {r : SpkiRec} (h : ¬ (T.ht.search (cmp r) (spkiHash r)).isSome = true) :
    T.add r = (({ T with ht := T.ht.insert r (spkiHash r), list := T.list ++ [r] } : SpkiTable).notify true r,
      .success) := by
  simp [add, h]

theorem add_dup {T : SpkiTable} (iv : SInv T) (r : SpkiRec) (hr : r ∈ T.list) : T.add r = (T, .duplicate) :=
  add_found ((search_iff iv r).mpr hr)

theorem add_new {T : SpkiTable} (iv : SInv T) (r : SpkiRec) (hr : r ∉ T.list) :
    T.add r = (({ T with ht := T.ht.insert r (spkiHash r), list := T.list ++ [r] } : SpkiTable).notify true r,
      .success) :=
  add_not_found fun h => hr ((search_iff iv r).mp h)

theorem node_eq_iff (x : HNode SpkiRec) (r : SpkiRec) :
    x = ⟨spkiHash r, r⟩ ↔ x.key = spkiHash x.data ∧ x.data = r := by
  cases x with
  | mk k d =>
    rw [HNode.mk.injEq]
    exact and_congr_left fun h => h ▸ Iff.rfl

/-- storing a new record through any hash-table state that holds exactly the old nodes plus the
    new one keeps the table invariant -/
theorem sinv_insert {T : SpkiTable} (iv : SInv T) (r : SpkiRec) (hr : r ∉ T.list) (ht' : Hashlin SpkiRec)
    (hi : ht'.Inv) (hm : ∀ x, ht'.mult x = T.ht.mult x + if x = ⟨spkiHash r, r⟩ then 1 else 0) :
    SInv { T with ht := ht', list := T.list ++ [r] } := by
  refine ⟨hi, List.nodup_append.mpr ⟨iv.nodup, by simp, ?_⟩, fun x => ?_⟩
  · intro a ha b hb e
    rw [List.mem_singleton.mp hb] at e
    exact hr (e ▸ ha)
  · show ht'.mult x = if x.key = spkiHash x.data then (T.list ++ [r]).count x.data else 0
    rw [hm x, iv.same x, List.count_append, count_single]
    by_cases hk : x.key = spkiHash x.data
    · simp only [node_eq_iff, hk, true_and, if_true]
    · simp only [node_eq_iff, hk, false_and, if_false]

/-- what `spki_table_add_entry` leaves when the record was not stored -/
structure AddedOK (T : SpkiTable) (r : SpkiRec) (res : SpkiTable × SpkiRc) : Prop where
  rc : res.2 = .success
  sinv : SInv res.1
  list : res.1.list = T.list ++ [r]
  cb : res.1.hasCb = T.hasCb
  log : res.1.log = T.log ++ (if T.hasCb then [(true, r)] else [])

theorem add_new_spec {T : SpkiTable} (iv : SInv T) (r : SpkiRec) (hr : r ∉ T.list) : AddedOK T r (T.add r) := by
  obtain ⟨hi, hm⟩ := Hashlin.insert_spec T.ht iv.ht r (spkiHash r)
  rw [add_new iv r hr]
  exact ⟨rfl, sinv_notify (sinv_insert iv r hr _ hi hm) _ _, notify_list _ _ _, notify_hasCb _ _ _, notify_log _ _ _⟩

/-! ### remove -/

theorem remove_absent {T : SpkiTable} (iv : SInv T) (r : SpkiRec) (hr : r ∉ T.list) :
    T.remove r = (T, .notFound) := by
  have : ¬ (T.ht.search (cmp r) (spkiHash r)).isSome = true := fun h => hr ((search_iff iv r).mp h)
  have : (T.ht.search (cmp r) (spkiHash r)).isNone = true := by
    cases h : T.ht.search (cmp r) (spkiHash r) <;> simp_all
  simp [remove, this]

theorem sinv_erase {T : SpkiTable} (iv : SInv T) (r : SpkiRec) (ht' : Hashlin SpkiRec) (hi : ht'.Inv)
    (hm : ∀ x, ht'.mult x = T.ht.mult x - if x = ⟨spkiHash r, r⟩ then 1 else 0) :
    SInv { T with ht := ht', list := T.list.erase r } := by
  refine ⟨hi, iv.nodup.erase r, fun x => ?_⟩
  show ht'.mult x = if x.key = spkiHash x.data then (T.list.erase r).count x.data else 0
  rw [hm x, iv.same x, List.count_erase]
  by_cases hk : x.key = spkiHash x.data
  · simp only [node_eq_iff, hk, true_and, if_true, beq_iff_eq, @eq_comm _ r x.data]
  · simp only [node_eq_iff, hk, false_and, if_false]

/-- what `spki_table_remove_entry` leaves when the record was stored -/
structure RemovedOK (T : SpkiTable) (r : SpkiRec) (res : SpkiTable × SpkiRc) : Prop where
  rc : res.2 = .success
  sinv : SInv res.1
  list : res.1.list = T.list.erase r
  cb : res.1.hasCb = T.hasCb
  log : res.1.log = T.log ++ (if T.hasCb then [(false, r)] else [])

theorem remove_present_spec {T : SpkiTable} (iv : SInv T) (r : SpkiRec) (hr : r ∈ T.list) :
    RemovedOK T r (T.remove r) := by
  have hs := (search_iff iv r).mpr hr
  obtain ⟨d, h2, hc, _, hi, hm⟩ := Hashlin.remove_some iv.ht (cmp r) (spkiHash r) hs
  have hd : d = r := by simpa [cmp] using hc
  subst hd
  have hnone : ¬ (T.ht.search (cmp d) (spkiHash d)).isNone = true := by
    cases h : T.ht.search (cmp d) (spkiHash d) <;> simp_all
  have e : T.remove d = (({ T with ht := (T.ht.remove (cmp d) (spkiHash d)).1, list := T.list.erase d } : SpkiTable).notify false d,
      .success) := by
    unfold remove
    rw [if_neg hnone, show T.ht.remove (cmp d) (spkiHash d) = (_, some d) from Prod.ext rfl h2]
  rw [e]
  exact ⟨rfl, sinv_notify (sinv_erase iv d _ hi hm) _ _, notify_list _ _ _, notify_hasCb _ _ _, notify_log _ _ _⟩

/-- `spki_table_add_entry`, stored before or not -/
theorem add_spec {T : SpkiTable} (iv : SInv T) (r : SpkiRec) :
    SInv (T.add r).1 ∧ (T.add r).1.hasCb = T.hasCb ∧ ∀ x, x ∈ (T.add r).1.list ↔ x ∈ T.list ∨ x = r := by
  by_cases hr : r ∈ T.list
  · rw [add_dup iv r hr]
    exact ⟨iv, rfl, fun x => ⟨Or.inl, fun h => h.elim id fun e => e ▸ hr⟩⟩
  · have a := add_new_spec iv r hr
    exact ⟨a.sinv, a.cb, fun x => by rw [a.list, List.mem_append, List.mem_singleton]⟩

/-- `spki_table_remove_entry`, stored before or not -/
theorem remove_spec {T : SpkiTable} (iv : SInv T) (r : SpkiRec) :
    SInv (T.remove r).1 ∧ (T.remove r).1.hasCb = T.hasCb ∧
    ∀ x, x ∈ (T.remove r).1.list ↔ x ≠ r ∧ x ∈ T.list := by
  by_cases hr : r ∈ T.list
  · have a := remove_present_spec iv r hr
    exact ⟨a.sinv, a.cb, fun x => by rw [a.list, iv.nodup.mem_erase_iff]⟩
  · rw [remove_absent iv r hr]
    exact ⟨iv, rfl, fun x => ⟨fun h => ⟨fun e => hr (e ▸ h), h⟩, And.right⟩⟩

theorem sinv_add {T : SpkiTable} (iv : SInv T) (r : SpkiRec) : SInv (T.add r).1 := (add_spec iv r).1

theorem sinv_remove {T : SpkiTable} (iv : SInv T) (r : SpkiRec) : SInv (T.remove r).1 := (remove_spec iv r).1

/-! ### the node count -/

theorem ht_count_eq_length (T : SpkiTable) (iv : SInv T) : T.ht.count = T.list.length := by
  generalize hl : T.list = l
  induction l generalizing T with
  | nil =>
    rw [iv.ht.count_eq]
    apply sumB_zero
    intro i hi
    cases hb : T.ht.bucket i with
    | nil => rfl
    | cons a l =>
      have hm := (mem_node iv a).mp ⟨i, hi, hb ▸ List.mem_cons_self⟩
      rw [hl] at hm
      exact absurd hm.2 List.not_mem_nil
  | cons e rest ih =>
    have hmem : T.ht.Mem (spkiNode e) := (mem_node iv _).mpr ⟨rfl, hl ▸ List.mem_cons_self⟩
    obtain ⟨hi, hm, hc⟩ := Hashlin.removeExisting_spec iv.ht (spkiNode e) hmem
    have hr : (T.ht.removeExisting (spkiNode e)).count = rest.length :=
      ih _ (sinv_erase iv e _ hi hm) (by
        show T.list.erase e = rest
        rw [hl, List.erase_cons_head])
    rw [← hc, hr, List.length_cons]

/-! ### remove by source -/

/-- one step of the loop of `spki_table_src_remove` on an entry of the source -/
def srcRemoved (T : SpkiTable) (e : SpkiRec) : SpkiTable :=
  ({ T with list := T.list.erase e, ht := T.ht.removeExisting (spkiNode e) } : SpkiTable).notify false e

theorem srcRemoved_list (T : SpkiTable) (e : SpkiRec) : (srcRemoved T e).list = T.list.erase e :=
  notify_list _ _ _

theorem srcRemoved_ht (T : SpkiTable) (e : SpkiRec) : (srcRemoved T e).ht = T.ht.removeExisting (spkiNode e) :=
  notify_ht _ _ _

theorem srcRemoved_hasCb (T : SpkiTable) (e : SpkiRec) : (srcRemoved T e).hasCb = T.hasCb :=
  notify_hasCb _ _ _

theorem srcRemoved_log (T : SpkiTable) (e : SpkiRec) :
    (srcRemoved T e).log = T.log ++ (if T.hasCb then [(false, e)] else []) :=
  notify_log _ _ _

theorem srcRemoveLoop_take {src : Nat} {e : SpkiRec} (hs : e.src = src) (rest : List SpkiRec) (T : SpkiTable) :
    srcRemoveLoop src (e :: rest) T = srcRemoveLoop src rest (srcRemoved T e) := by
  simp [srcRemoveLoop, srcRemoved, hs]

theorem srcRemoveLoop_skip {src : Nat} {e : SpkiRec} (hs : e.src ≠ src) (rest : List SpkiRec) (T : SpkiTable) :
    srcRemoveLoop src (e :: rest) T = srcRemoveLoop src rest T := by
  simp [srcRemoveLoop, hs]

/-- induction along the loop of `spki_table_src_remove` over a repetition-free list of stored entries: whenever a
    step is taken the table satisfies its invariant, before and after, and the entry it removes is stored -/
theorem srcRemoveLoop_ind (src : Nat) {M : List SpkiRec → SpkiTable → Prop} (nil : ∀ T, SInv T → M [] T)
    (skip : ∀ e rest T, e.src ≠ src → M rest T → M (e :: rest) T)
    (take : ∀ e rest T, SInv T → e ∈ T.list → e.src = src → SInv (srcRemoved T e) → M rest (srcRemoved T e) →
      M (e :: rest) T) :
    ∀ (L : List SpkiRec) (T : SpkiTable), SInv T → L.Nodup → (∀ e, e ∈ L → e ∈ T.list) → M L T := by
  intro L
  induction L with
  | nil => exact fun T iv _ _ => nil T iv
  | cons e rest ih =>
    intro T iv hL hsub
    obtain ⟨he, hrest⟩ := List.nodup_cons.mp hL
    by_cases hs : e.src = src
    · have hin : e ∈ T.list := hsub e List.mem_cons_self
      obtain ⟨hi, hm, _⟩ := Hashlin.removeExisting_spec iv.ht (spkiNode e) ((mem_node iv _).mpr ⟨rfl, hin⟩)
      have iv1 : SInv (srcRemoved T e) := sinv_notify (sinv_erase iv e _ hi hm) false e
      refine take e rest T iv hin hs iv1 (ih _ iv1 hrest fun x hx => ?_)
      rw [srcRemoved_list]
      exact (List.mem_erase_of_ne fun h : x = e => he (h ▸ hx)).mpr (hsub x (List.mem_cons_of_mem _ hx))
    · exact skip e rest T hs (ih T iv hrest fun x hx => hsub x (List.mem_cons_of_mem _ hx))

theorem srcRemoveLoop_spec (src : Nat) : ∀ (L : List SpkiRec) (T : SpkiTable), SInv T → L.Nodup →
    (∀ e, e ∈ L → e ∈ T.list) →
    SInv (srcRemoveLoop src L T) ∧
    (∀ x, x ∈ (srcRemoveLoop src L T).list ↔ x ∈ T.list ∧ ¬ (x.src = src ∧ x ∈ L)) ∧
    (srcRemoveLoop src L T).hasCb = T.hasCb ∧
    (srcRemoveLoop src L T).log =
      T.log ++ (if T.hasCb then (L.filter fun e => e.src == src).map (fun e => (false, e)) else []) := by
  refine srcRemoveLoop_ind src (fun T iv => ⟨iv, fun x => by simp [srcRemoveLoop], rfl, by simp [srcRemoveLoop]⟩) ?_ ?_
  · intro e rest T hs ⟨a, b, c, d⟩
    rw [srcRemoveLoop_skip hs]
    refine ⟨a, fun x => ?_, c, ?_⟩
    · rw [b x, List.mem_cons]
      exact skip_head fun h q => hs (h ▸ q.2)
    · rw [d, List.filter_cons_of_neg (by simpa using hs)]
  · intro e rest T iv _ hs _ ⟨a, b, c, d⟩
    rw [srcRemoveLoop_take hs]
    refine ⟨a, fun x => ?_, by rw [c, srcRemoved_hasCb], ?_⟩
    · rw [b x, srcRemoved_list, List.mem_cons]
      exact drop_head (fun h => h ▸ hs) iv.nodup.mem_erase_iff
    · rw [d, srcRemoved_log, srcRemoved_hasCb]
      show T.log ++ _ ++ _ = _
      cases T.hasCb <;> simp [hs]

structure SrcRemovedOK (T : SpkiTable) (src : Nat) (res : SpkiTable × SpkiRc) : Prop where
  rc : res.2 = .success
  sinv : SInv res.1
  mem : ∀ x, x ∈ res.1.list ↔ x ∈ T.list ∧ x.src ≠ src
  cb : res.1.hasCb = T.hasCb
  log : res.1.log =
    T.log ++ (if T.hasCb then (T.list.filter fun e => e.src == src).map (fun e => (false, e)) else [])

theorem srcRemove_spec {T : SpkiTable} (iv : SInv T) (src : Nat) : SrcRemovedOK T src (T.srcRemove src) := by
  obtain ⟨a, b, c, d⟩ := srcRemoveLoop_spec src T.list T iv iv.nodup (fun _ h => h)
  exact ⟨rfl, a, fun x => (b x).trans (and_congr_right fun hx => not_congr (and_iff_left hx)), c, d⟩

/-! ### lookups -/

theorem count_map_data (l : List (HNode SpkiRec)) (hl : ∀ n, n ∈ l → n = spkiNode n.data) (x : SpkiRec) :
    (l.map (·.data)).count x = l.count (spkiNode x) := by
  induction l with
  | nil => rfl
  | cons a l ih =>
    rw [List.map_cons, List.count_cons, List.count_cons, ih (fun n hn => hl n (by simp [hn]))]
    have ha := hl a (by simp)
    congr 1
    by_cases hx : a.data = x
    · subst hx; rw [← ha]; simp
    · have : a ≠ spkiNode x := by
        intro e; rw [e] at hx; exact hx rfl
      simp [hx, this]

/-- `spki_table_get_all` returns exactly the stored keys with that AS number and SKI, each once -/
theorem getAll_count {T : SpkiTable} (iv : SInv T) (asn ski : Nat) (x : SpkiRec) :
    (T.getAll asn ski).count x = if x.asn = asn ∧ x.ski = ski then T.list.count x else 0 := by
  have w := iv.ht.toWf
  have hmap : T.getAll asn ski =
      ((T.ht.bucketOf (inthash asn)).map (·.data)).filter (fun e => e.asn == asn && e.ski == ski) := by
    rw [List.filter_map]
    rfl
  rw [hmap, count_filter_ite, count_map_data (T.ht.bucketOf (inthash asn)) fun n hn => (node_eq_iff n n.data).mpr
    ⟨((mem_node iv n).mp ⟨_, Hashlin.bucketPos_lt_valid w _, hn⟩).1, rfl⟩]
  by_cases hp : x.asn = asn ∧ x.ski = ski
  · obtain ⟨rfl, rfl⟩ := hp
    rw [if_pos (And.intro rfl rfl), if_pos (by simp)]
    exact ((Hashlin.mult_eq_count_bucket w (spkiNode x)).symm.trans (iv.same _)).trans (if_pos rfl)
  · rw [if_neg hp, if_neg (by simpa using hp)]

/-- `spki_table_search_by_ski` returns exactly the stored keys with that SKI, each once -/
theorem searchBySki_count (T : SpkiTable) (ski : Nat) (x : SpkiRec) :
    (T.searchBySki ski).count x = if x.ski = ski then T.list.count x else 0 := by
  unfold searchBySki
  rw [count_filter_ite]
  simp only [beq_iff_eq]

/-! ### copy, swap -/

/-- the copy loop ran to the end -/
structure CopiedAll (src : Nat) (L : List SpkiRec) (D : SpkiTable) (res : SpkiTable × SpkiRc) : Prop where
  rc : res.2 = .success
  fresh : ∀ x, x ∈ L → x.src ≠ src → x ∉ D.list
  list : res.1.list = D.list ++ L.filter (fun e => e.src != src)

/-- the copy loop stopped at a record the target already held (`clash`) -/
structure CopiedPart (src : Nat) (L : List SpkiRec) (D : SpkiTable) (res : SpkiTable × SpkiRc) : Prop where
  rc : res.2 = .error
  clash : ∃ x, x ∈ L ∧ x.src ≠ src ∧ x ∈ D.list
  keeps : ∀ x, x ∈ D.list → x ∈ res.1.list
  gained : ∀ x, x ∈ res.1.list → x ∈ D.list ∨ (x ∈ L ∧ x.src ≠ src)

/-- what the loop of `spki_table_copy_except_socket` over the source list `L` leaves of the target `D` -/
structure CopiedOK (src : Nat) (L : List SpkiRec) (D : SpkiTable) (res : SpkiTable × SpkiRc) : Prop where
  sinv : SInv res.1
  cb : res.1.hasCb = D.hasCb
  out : CopiedAll src L D res ∨ CopiedPart src L D res

/-- `L` is repetition-free: the list of a table.  Induction along `L` with the target general.  A head
    of the excluded source changes nothing.  A head the target holds stops the loop with nothing
    appended: the second alternative.  A new head is appended, and what the induction says of the
    rest, about the target with the head appended, is said again about the target itself: the head
    is not among the rest (`he`), so it is no clash of the rest and is accounted for in the result. -/
theorem copyLoop_spec (src : Nat) (L : List SpkiRec) (D : SpkiTable) (iv : SInv D) (hL : L.Nodup) :
    CopiedOK src L D (copyLoop src L D) := by
  induction L generalizing D with
  | nil => exact ⟨iv, rfl, Or.inl ⟨rfl, fun _ h => absurd h List.not_mem_nil, (List.append_nil _).symm⟩⟩
  | cons e rest ih =>
    obtain ⟨he, hrest⟩ := List.nodup_cons.mp hL
    by_cases hs : e.src = src
    · have hf : (e :: rest).filter (fun e => e.src != src) = rest.filter (fun e => e.src != src) :=
        List.filter_cons_of_neg (by simp [hs])
      rw [copyLoop, if_neg (by simp [hs])]
      obtain ⟨a, b, g⟩ := ih D iv hrest
      refine ⟨a, b, g.imp (fun g => ⟨g.rc, fun x hx hxs => ?_, g.list.trans (by rw [hf])⟩) fun g =>
        ⟨g.rc, g.clash.imp fun x h => ⟨List.mem_cons_of_mem _ h.1, h.2⟩, g.keeps, fun y hy =>
          (g.gained y hy).imp_right fun h => ⟨List.mem_cons_of_mem _ h.1, h.2⟩⟩⟩
      rcases List.mem_cons.mp hx with h | h
      · exact absurd (h ▸ hs) hxs
      · exact g.fresh x h hxs
    · have hsb : (e.src != src) = true := by simpa using hs
      by_cases hin : e ∈ D.list
      · have e1 : copyLoop src (e :: rest) D = (D, .error) := by
          simp only [copyLoop, hsb, if_true, add_dup iv e hin]
        rw [e1]
        exact ⟨iv, rfl, Or.inr ⟨rfl, ⟨e, List.mem_cons_self, hs, hin⟩, fun _ h => h, fun _ h => Or.inl h⟩⟩
      · have ad := add_new_spec iv e hin
        have e1 : copyLoop src (e :: rest) D = copyLoop src rest (D.add e).1 := by
          simp only [copyLoop, hsb, if_true]
          rw [show D.add e = (_, .success) from Prod.ext rfl ad.rc]
        have hf : (e :: rest).filter (fun e => e.src != src) = e :: rest.filter (fun e => e.src != src) :=
          List.filter_cons_of_pos hsb
        rw [e1]
        obtain ⟨a, b, g⟩ := ih (D.add e).1 ad.sinv hrest
        refine ⟨a, b.trans ad.cb, g.imp (fun g => ⟨g.rc, fun x hx hxs => ?_, ?_⟩) fun g =>
          ⟨g.rc, ?_, fun y hy => g.keeps y (ad.list ▸ List.mem_append_left _ hy), fun y hy => ?_⟩⟩
        · rcases List.mem_cons.mp hx with h | h
          · exact h ▸ hin
          · exact fun hxd => g.fresh x h hxs (ad.list ▸ List.mem_append_left _ hxd)
        · rw [g.list, ad.list, hf, List.append_assoc]
          rfl
        · obtain ⟨x, hx, hxs, hxd⟩ := g.clash
          refine ⟨x, List.mem_cons_of_mem _ hx, hxs, ?_⟩
          rw [ad.list] at hxd
          rcases List.mem_append.mp hxd with h | h
          · exact h
          · exact absurd (List.mem_singleton.mp h ▸ hx) he
        · rcases g.gained y hy with h | h
          · rw [ad.list] at h
            rcases List.mem_append.mp h with h | h
            · exact Or.inl h
            · exact Or.inr ⟨List.mem_singleton.mp h ▸ List.mem_cons_self, List.mem_singleton.mp h ▸ hs⟩
          · exact Or.inr ⟨List.mem_cons_of_mem _ h.1, h.2⟩

theorem sinv_swap {A B : SpkiTable} (ia : SInv A) (ib : SInv B) :
    SInv (swap A B).1 ∧ SInv (swap A B).2 :=
  ⟨ib.of_parts rfl rfl, ia.of_parts rfl rfl⟩

/-! ### notify_diff -/

theorem foldl_notify (N : SpkiTable) (l : List SpkiRec) (a : Bool) :
    l.foldl (fun N e => N.notify a e) N = logged N (l.map fun e => (a, e)) := by
  induction l generalizing N with
  | nil => exact (logged_nil N).symm
  | cons e l ih =>
    rw [List.foldl_cons, ih, notify_eq, logged_logged]
    rfl

/-- one iteration of the first loop of `spki_table_notify_diff` -/
def diffStep (src : Nat) (st : SpkiTable × SpkiTable) (e : SpkiRec) : SpkiTable × SpkiTable :=
  if e.src == src then
    if (st.2.remove e).2 == .notFound then (st.1.notify true e, (st.2.remove e).1) else (st.1, (st.2.remove e).1)
  else st

theorem diffLoop_eq (src : Nat) : ∀ (L : List SpkiRec) (st : SpkiTable × SpkiTable),
    diffLoop src L st = L.foldl (diffStep src) st
  | [], _ => by rw [diffLoop]; rfl
  | e :: rest, (N, O) => by
    rw [List.foldl_cons, ← diffLoop_eq src rest, diffLoop, diffStep]
    split
    · simp only
      split <;> rfl
    · rfl

/-- `res` = (`new`, `old`) after the first loop of `spki_table_notify_diff` over `L`, the list of `new` -/
structure DiffLoopOK (src : Nat) (L : List SpkiRec) (N O : SpkiTable) (res : SpkiTable × SpkiTable) : Prop where
  sinv : SInv res.2
  cb : res.2.hasCb = false
  log : res.2.log = O.log
  mem : ∀ x, x ∈ res.2.list ↔ x ∈ O.list ∧ ¬ (x ∈ L ∧ x.src = src)
  new : res.1 = logged N ((L.filter fun e => e.src == src && !decide (e ∈ O.list)).map (fun e => (true, e)))

theorem diffLoop_spec (src : Nat) (L : List SpkiRec) (N O : SpkiTable) (io : SInv O) (hL : L.Nodup)
    (hcb : O.hasCb = false) : DiffLoopOK src L N O (diffLoop src L (N, O)) := by
  rw [diffLoop_eq]
  obtain ⟨⟨a1, a2, a3⟩, b, k⟩ := diffPass_spec (fun e : SpkiRec => e.src == src) SpkiTable.list
    (fun o => SInv o ∧ o.hasCb = false ∧ o.log = O.log) (fun n e => n.notify true e) (diffStep src)
    (fun n o e hp => by simp [diffStep, hp])
    (fun n o e ho hp hm => by
      have rm := remove_present_spec ho.1 e hm
      refine ⟨(o.remove e).1, by simp [diffStep, hp, rm.rc], ⟨rm.sinv, rm.cb.trans ho.2.1, ?_⟩, fun x => ?_⟩
      · rw [rm.log, ho.2.1]
        exact (List.append_nil _).trans ho.2.2
      · rw [rm.list, ho.1.nodup.mem_erase_iff])
    (fun n o e ho hp hm => by simp [diffStep, hp, remove_absent ho.1 e hm])
    L N O hL ⟨io, hcb, rfl⟩
  exact ⟨a1, a2, a3, fun x => by rw [b x, beq_iff_eq, @and_comm (x.src = src)], k.trans (foldl_notify N _ true)⟩

/-- `res = (new, old)` after `spki_table_notify_diff(new, old, socket)`.  `RL`: what is reported as removed -/
structure DiffedOK (N O : SpkiTable) (src : Nat) (res : SpkiTable × SpkiTable) : Prop where
  sinvN : SInv res.1
  sinvO : SInv res.2
  list : res.1.list = N.list
  ht : res.1.ht = N.ht
  cbN : res.1.hasCb = N.hasCb
  cbO : res.2.hasCb = O.hasCb
  memO : ∀ x, x ∈ res.2.list ↔ x ∈ O.list ∧ ¬ (x ∈ N.list ∧ x.src = src)
  log : ∃ RL : List SpkiRec, RL.Nodup ∧ (∀ x, x ∈ RL ↔ x ∈ O.list ∧ x.src = src ∧ x ∉ N.list) ∧
    res.1.log = N.log ++
      (if N.hasCb then
        (N.list.filter fun e => e.src == src && !decide (e ∈ O.list)).map (fun e => (true, e)) ++
        RL.map (fun e => (false, e)) else [])

theorem notifyDiff_spec (N O : SpkiTable) (inn : SInv N) (io : SInv O) (src : Nat) :
    DiffedOK N O src (notifyDiff N O src) := by
  have dl := diffLoop_spec src N.list N { O with hasCb := false } (io.of_parts rfl rfl) inn.nodup rfl
  rcases hdl : diffLoop src N.list (N, { O with hasCb := false }) with ⟨N1, O1⟩
  rw [hdl] at dl
  have a : SInv O1 := dl.sinv
  have d : ∀ x, x ∈ O1.list ↔ x ∈ O.list ∧ ¬ (x ∈ N.list ∧ x.src = src) := dl.mem
  have k : N1 = logged N ((N.list.filter fun e => e.src == src && !decide (e ∈ O.list)).map fun e => (true, e)) :=
    dl.new
  have e : notifyDiff N O src =
      (logged N ((N.list.filter fun e => e.src == src && !decide (e ∈ O.list)).map (fun e => (true, e)) ++
        (O1.list.filter fun e => e.src == src).map fun e => (false, e)), { O1 with hasCb := O.hasCb }) := by
    simp only [notifyDiff]
    rw [hdl, foldl_notify, k, logged_logged]
  rw [e]
  refine ⟨inn.of_parts rfl rfl, a.of_parts rfl rfl, rfl, rfl, rfl, rfl, d, _,
    a.nodup.sublist List.filter_sublist, fun x => ?_, rfl⟩
  rw [List.mem_filter, d x, beq_iff_eq]
  exact ⟨fun ⟨⟨hx, hn⟩, hs⟩ => ⟨hx, hs, fun hxn => hn ⟨hxn, hs⟩⟩, fun ⟨hx, hs, hn⟩ => ⟨⟨hx, fun h => hn h.1⟩, hs⟩⟩

end SpkiTable
end Rtr
