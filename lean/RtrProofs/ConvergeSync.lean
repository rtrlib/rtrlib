/-
  ConvergeSync: completeness of `rtr_receive_pdu`, of the table part and of `rtr_sync` — the converse of the
  outcome theorems of RecvOutcome.lean and of `syncG_spec`: what the tape must hold, in any segmentation into
  chunks, for the call to succeed, with the resulting state computed explicitly.
-/
import RtrProofs.RecvOutcome
import RtrProofs.SyncAtomic
import RtrProofs.ConvergeWire

namespace Rtr.P

/-! ## `rtr_receive_pdu` -/

/-- the tape holds exactly `bytes` (in any segmentation into non-empty chunks) and nothing else: no
    transport fault, no clock advance -/
structure CvTape (n : Net) (bytes : List Nat) : Prop where
  ff : FaultFree n.tape
  eq : tapeBytes n.tape = bytes

/-- what successful recv calls on a fault-free tape leave alone: send script, open script, kind of
    run, clock; the trace only gains lines of recv calls (nothing is sent, no state callback) -/
structure CvRecvd (n n' : Net) : Prop where
  sendQ : n'.sendQ = n.sendQ
  openQ : n'.openQ = n.openQ
  threaded : n'.threaded = n.threaded
  now : n'.now = n.now
  trace : dropRecv n'.trace = dropRecv n.trace

theorem CvRecvd.refl (n : Net) : CvRecvd n n := ⟨rfl, rfl, rfl, rfl, rfl⟩

theorem CvRecvd.trans {a b c : Net} (h1 : CvRecvd a b) (h2 : CvRecvd b c) : CvRecvd a c :=
  ⟨h2.sendQ.trans h1.sendQ, h2.openQ.trans h1.openQ, h2.threaded.trans h1.threaded, h2.now.trans h1.now,
   h2.trace.trans h1.trace⟩

theorem cv_recvAll (n : Net) (len : Nat) (timeout : Int) (a b : List Nat) (h : CvTape n (a ++ b))
    (hl : a.length = len) :
    ∃ n', recvAll n len timeout = ((len : Int), a, n', false) ∧ CvTape n' b ∧ CvRecvd n n' := by
  have hen : len ≤ (tapeBytes n.tape).length := by rw [h.eq, List.length_append]; omega
  obtain ⟨n', h1, _, h3, h4, h5⟩ := recvAll_chunking_quiet n len timeout h.ff.quiet hen
  obtain ⟨h6, h7⟩ := h5 h.ff
  refine ⟨n', ?_, ⟨h6, ?_⟩, ⟨h4.sendQ, h4.openQ, h4.threaded, h7, h4.trace⟩⟩
  · rw [h1, h.eq, List.take_left' hl]
  · rw [h3, h.eq, List.drop_left' hl]

theorem cv_downgraded_congr (c : Conn) (a b : List Nat) (hv : verOf a = verOf b) (ht : typeOf a = typeOf b) :
    downgraded c a = downgraded c b := by
  unfold downgraded
  rw [hv, ht]

/-- **completeness of `rtr_receive_pdu`**: a complete PDU at the head of a fault-free tape is handed up, and exactly
    its bytes are consumed.  Type 10, an Error Report, is exempt from the version check. -/
theorem cv_receivePdu_complete (c : Conn) (n : Net) (own : Nat) (timeout : Int) (raw rest : List Nat)
    (hs : c.state ≠ .shutdown) (ht : CvTape n (raw ++ rest))
    (hlen : raw.length = lenOf raw) (hcs : checkSize raw = true) (hmax : lenOf raw ≤ Gen.RTR_MAX_PDU_LEN)
    (hv : verOf raw = (downgraded c raw).version ∨ typeOf raw = 10) :
    ∃ n', receivePdu c n own timeout = (.ok raw, downgraded c raw, n') ∧ CvTape n' rest ∧ CvRecvd n n' := by
  have h8 := (checkSize_len raw hcs).1
  -- header and body, and the two `tr_recv_all` calls that deliver them
  have hsplit : raw = raw.take 8 ++ raw.drop 8 := (List.take_append_drop 8 raw).symm
  have hhl : (raw.take 8).length = 8 := by rw [List.length_take]; omega
  obtain ⟨f1, f2, f3⟩ := hdr_fields (raw.take 8) (raw.drop 8) hhl
  rw [← hsplit] at f1 f2 f3
  have hbl : (raw.drop 8).length = lenOf (raw.take 8) - 8 := by rw [List.length_drop, ← f1]; omega
  have ht1 : CvTape n (raw.take 8 ++ (raw.drop 8 ++ rest)) := by
    rw [← List.append_assoc, ← hsplit]; exact ht
  obtain ⟨n1, r1, t1, s1⟩ := cv_recvAll n 8 timeout (raw.take 8) (raw.drop 8 ++ rest) ht1 hhl
  obtain ⟨n2, r2, t2, s2⟩ := cv_recvAll n1 (lenOf (raw.take 8) - 8) Gen.RTR_RECV_TIMEOUT (raw.drop 8) rest t1 hbl
  have hdg : downgraded c (raw.take 8) = downgraded c raw := cv_downgraded_congr c _ _ f2.symm f3.symm
  have hh : HdrPassed c (raw.take 8) := ⟨by omega, by omega, fun h => hv.elim (f2 ▸ hdg ▸ h.1) (f3 ▸ h.2)⟩
  rw [receivePdu_of_header hs r1, recvStage2_of_passed n1 own hh, hdg]
  rw [recvStage3_of_payload (by rw [downgraded_state]; exact hs) r2, ← hsplit, if_pos hcs]
  exact ⟨n2, rfl, t2, s1.trans s2⟩

theorem cv_receivePdu_wire (c : Conn) (n : Net) (own : Nat) (timeout : Int) (ver : Nat) (raw rest : List Nat)
    (hs : c.state ≠ .shutdown) (ht : CvTape n (raw ++ rest)) (w : CvWire ver raw) (hd : (downgraded c raw).version = ver) :
    ∃ n', receivePdu c n own timeout = (.ok raw, downgraded c raw, n') ∧ CvTape n' rest ∧ CvRecvd n n' :=
  cv_receivePdu_complete c n own timeout raw rest hs ht w.len w.size w.max (Or.inl (w.ver.trans hd.symm))

theorem cvm_recvAll_block (n : Net) (len : Nat) (t : Int) (rest : List TapeEv) (hl : 0 < len) (h : n.tape = .block :: rest) :
    ∃ n', recvAll n len t = (-2, [], n', false) ∧ n'.tape = rest ∧ n'.now = (if t > 0 then n.now + t else n.now) ∧
      n'.sendQ = n.sendQ ∧ n'.openQ = n.openQ := by
  -- the arguments as `recvAllLoop` hands them to `trRecv` in its first round (nothing read yet, `endTime = n.now + t`),
  -- so that `rw [htr]` matches; -2 is TR_WOULDBLOCK
  have htr : trRecv n (len - ([] : List Nat).length) (n.now + t - n.now) =
      (-2, [], ({ n with tape := rest, now := if n.now + t - n.now > 0 then n.now + (n.now + t - n.now) else n.now }).emit
        s!"R {len - ([] : List Nat).length} {n.now + t - n.now} -> -2", false) := by
    unfold trRecv
    rw [h]
    rfl
  refine ⟨({ n with tape := rest, now := if n.now + t - n.now > 0 then n.now + (n.now + t - n.now) else n.now }).emit
        s!"R {len - ([] : List Nat).length} {n.now + t - n.now} -> -2", ?_, rfl, ?_, rfl, rfl⟩
  · unfold recvAll
    rw [recvAllLoop]
    have h0 : ([] : List Nat).length < len := hl
    rw [if_pos h0, htr]
    simp only
    rw [if_pos (by decide)]
  · show (if n.now + t - n.now > 0 then n.now + (n.now + t - n.now) else n.now) = _
    have e : n.now + t - n.now = t := by omega
    rw [e]

theorem cvm_receivePdu_block (c : Conn) (n : Net) (own : Nat) (t : Int) (rest : List TapeEv) (hs : c.state ≠ .shutdown)
    (h : n.tape = .block :: rest) :
    ∃ n', receivePdu c n own t = (.rc (-2), c, n') ∧ n'.tape = rest ∧ n'.now = (if t > 0 then n.now + t else n.now) ∧
      n'.sendQ = n.sendQ ∧ n'.openQ = n.openQ := by
  obtain ⟨n', r, h1, h2, h3, h4⟩ := cvm_recvAll_block n 8 t rest (by decide) h
  refine ⟨n', ?_, h1, h2, h3, h4⟩
  rw [receivePdu_eq, if_neg hs, r]
  simp only
  rw [if_pos (by decide), recvTransportError_eq]
  rfl

/-- **completeness of the table part**; the order is IPv4, IPv6, router keys -/
theorem cv_applyTables_complete (c : Conn) (n : Net) (t : Tbl) (resetting : Bool) (v4 v6 keys : List (List Nat))
    (pt' : List Rec) (kt' : List KeyRec) (hs : t.shadow = none)
    (hk4 : ∀ p ∈ v4, pfxOK p) (hk6 : ∀ p ∈ v6, pfxOK p) (hkk : ∀ p ∈ keys, keyOK p)
    (hp : lsApplyAll (baseOf t resetting).pt ((v4 ++ v6).map pfxOp) = some pt')
    (hkt : lsApplyAll (baseOf t resetting).kt (keys.map keyOp) = some kt') :
    applyTables c n t resetting v4 v6 keys = { ok := true, purged := false, c := c, n := n, t := ⟨pt', kt', none⟩ } := by
  rw [applyTables_eq, startTbl_upd t resetting hs, tablesOut_complete _ v4 v6 keys pt' kt' hk4 hk6 hkk hp hkt]
  simp only [TablesOut.res]
  rw [startTbl_swapIn t resetting hs]

/-! ## the payload of an answer -/

structure CvData (ver : Nat) (p : List Nat) : Prop where
  wire : CvWire ver p
  type : typeOf p = 4 ∨ typeOf p = 6 ∨ typeOf p = 9

/-- the three arrays `rtr_sync_receive_and_store_pdus` buffers the payload PDUs in -/
def cvV4 (pdus : List (List Nat)) : List (List Nat) := pdus.filter fun p => typeOf p == 4
def cvV6 (pdus : List (List Nat)) : List (List Nat) := pdus.filter fun p => typeOf p == 6
def cvKeys (pdus : List (List Nat)) : List (List Nat) := pdus.filter fun p => typeOf p == 9

/-! ## one iteration of the receive loop -/

theorem cv_byType_cons (ty : Nat) (p : List Nat) (pdus : List (List Nat)) :
    (p :: pdus).filter (fun q => typeOf q == ty) = [p].filter (fun q => typeOf q == ty) ++ pdus.filter (fun q => typeOf q == ty) :=
  List.filter_append (l₁ := [p]) (l₂ := pdus) (p := fun q => typeOf q == ty)

theorem cv_recvAndStore_data (fuel : Nat) (st : St) (v4 v6 keys : List (List Nat)) (raw : List Nat) (c : Conn) (n : Net)
    (h : receivePdu st.c st.n st.t.own Gen.RTR_RECV_TIMEOUT = (.ok raw, c, n))
    (ht : typeOf raw = 4 ∨ typeOf raw = 6 ∨ typeOf raw = 9) :
    recvAndStore (fuel + 1) st v4 v6 keys =
      recvAndStore fuel { st with c := c, n := n } (v4 ++ cvV4 [raw]) (v6 ++ cvV6 [raw]) (keys ++ cvKeys [raw]) := by
  rw [recvAndStore, h]
  rcases ht with ht | ht | ht
  all_goals simp [cvV4, cvV6, cvKeys, ht]

theorem cv_recvAndStore_eod (fuel : Nat) (st : St) (v4 v6 keys : List (List Nat)) (raw : List Nat) (c : Conn) (n : Net)
    (h : receivePdu st.c st.n st.t.own Gen.RTR_RECV_TIMEOUT = (.ok raw, c, n)) (ht : typeOf raw = 7)
    (hs : be16 raw 2 = st.ss.session) :
    recvAndStore (fuel + 1) st v4 v6 keys =
      ((cleanup (applyBuffered { st with c := c, n := n } raw v4 v6 keys)).1,
       (cleanup (applyBuffered { st with c := c, n := n } raw v4 v6 keys)).2, some ⟨raw, v4, v6, keys⟩) := by
  rw [recvAndStore, h]
  simp only [ht]
  rw [if_neg (by simpa using hs)]

/-- **the receive loop is complete**: payload PDUs, then an End of Data of the socket's session -/
theorem cv_recvAndStore_complete : ∀ (pdus : List (List Nat)) (fuel : Nat) (st : St) (v4 v6 keys : List (List Nat))
    (eod rest : List Nat), pdus.length < fuel → st.c.state ≠ .shutdown → st.c.hasReceived = true →
    (∀ p ∈ pdus, CvData st.c.version p) → CvWire st.c.version eod → typeOf eod = 7 → be16 eod 2 = st.ss.session →
    CvTape st.n (pdus.flatten ++ (eod ++ rest)) →
    ∃ n', CvTape n' rest ∧ CvRecvd st.n n' ∧
      recvAndStore fuel st v4 v6 keys =
        ((cleanup (applyBuffered { st with n := n' } eod (v4 ++ cvV4 pdus) (v6 ++ cvV6 pdus) (keys ++ cvKeys pdus))).1,
         (cleanup (applyBuffered { st with n := n' } eod (v4 ++ cvV4 pdus) (v6 ++ cvV6 pdus) (keys ++ cvKeys pdus))).2,
         some ⟨eod, v4 ++ cvV4 pdus, v6 ++ cvV6 pdus, keys ++ cvKeys pdus⟩) := by
  intro pdus
  induction pdus with
  | nil =>
    intro fuel st v4 v6 keys eod rest hf hs hr _ he ht hsess htape
    obtain ⟨f, rfl⟩ : ∃ f, fuel = f + 1 := ⟨fuel - 1, by omega⟩
    rw [List.flatten_nil, List.nil_append] at htape
    obtain ⟨n', r, t', s'⟩ := cv_receivePdu_wire st.c st.n st.t.own Gen.RTR_RECV_TIMEOUT _ eod rest hs htape he
      (by rw [downgraded_seen _ _ hr])
    rw [downgraded_seen _ _ hr] at r
    refine ⟨n', t', s', ?_⟩
    rw [cv_recvAndStore_eod f st v4 v6 keys eod st.c n' r ht hsess]
    simp only [cvV4, cvV6, cvKeys, List.filter_nil, List.append_nil]
  | cons p pdus ih =>
    intro fuel st v4 v6 keys eod rest hf hs hr hd he ht hsess htape
    obtain ⟨f, rfl⟩ : ∃ f, fuel = f + 1 := ⟨fuel - 1, by omega⟩
    have hp := hd p List.mem_cons_self
    rw [List.flatten_cons, List.append_assoc] at htape
    obtain ⟨n1, r, t1, s1⟩ := cv_receivePdu_wire st.c st.n st.t.own Gen.RTR_RECV_TIMEOUT _ p _ hs htape hp.wire
      (by rw [downgraded_seen _ _ hr])
    rw [downgraded_seen _ _ hr] at r
    have hf' : pdus.length < f := by simp only [List.length_cons] at hf; omega
    have hd' : ∀ q ∈ pdus, CvData st.c.version q := fun q hq => hd q (List.mem_cons_of_mem _ hq)
    obtain ⟨n', t', s', e⟩ := ih f { st with n := n1 } (v4 ++ cvV4 [p]) (v6 ++ cvV6 [p]) (keys ++ cvKeys [p]) eod rest
      hf' hs hr hd' he ht hsess t1
    refine ⟨n', t', s1.trans s', ?_⟩
    rw [cv_recvAndStore_data f st v4 v6 keys p st.c n1 r hp.type, e]
    simp only [cvV4, cvV6, cvKeys, cv_byType_cons _ p pdus, List.append_assoc]

theorem cv_handleCacheResponse (c : Conn) (ss : Sess) (n : Net) (own : Nat) (raw : List Nat)
    (hq : ss.reqSession = true ∨ ss.session = be16 raw 2) :
    handleCacheResponse c ss n own raw = (true, c, cvSessAfterCR ss (be16 raw 2), n) := by
  rw [handleCacheResponse_eq, if_neg]
  exact fun h => hq.elim (fun ht => nomatch h.1.symm.trans ht) h.2

theorem cvm_syncFirst (fuel : Nat) (st : St) (raw rest : List Nat) (hf : 0 < fuel) (hs : st.c.state ≠ .shutdown)
    (ht : CvTape st.n (raw ++ rest)) (hlen : raw.length = lenOf raw) (hcs : checkSize raw = true)
    (hmax : lenOf raw ≤ Gen.RTR_MAX_PDU_LEN) (hv : verOf raw = (downgraded st.c raw).version ∨ typeOf raw = 10)
    (h0 : typeOf raw ≠ 0) :
    ∃ n1, syncFirst fuel st = (some raw, { st with c := downgraded st.c raw, n := n1 }) ∧ CvTape n1 rest ∧ CvRecvd st.n n1 := by
  obtain ⟨f, rfl⟩ : ∃ f, fuel = f + 1 := ⟨fuel - 1, by omega⟩
  obtain ⟨n1, r1, t1, s1⟩ := cv_receivePdu_complete st.c st.n st.t.own Gen.RTR_RECV_TIMEOUT raw rest hs ht hlen hcs hmax hv
  refine ⟨n1, ?_, t1, s1⟩
  rw [syncFirst, r1]
  simp only
  rw [if_neg h0]

theorem cv_syncFirst_own (fuel : Nat) (st : St) (raw rest : List Nat) (hf : 0 < fuel) (hs : st.c.state ≠ .shutdown)
    (ht : CvTape st.n (raw ++ rest)) (hlen : raw.length = lenOf raw) (hcs : checkSize raw = true)
    (hmax : lenOf raw ≤ Gen.RTR_MAX_PDU_LEN) (hv : verOf raw = st.c.version ∨ typeOf raw = 10) (h0 : typeOf raw ≠ 0) :
    ∃ n1, syncFirst fuel st = (some raw, { st with c := { st.c with hasReceived := true }, n := n1 }) ∧ CvTape n1 rest ∧
      CvRecvd st.n n1 := by
  have hd : downgraded st.c raw = { st.c with hasReceived := true } :=
    hv.elim (downgraded_same st.c raw) (downgraded_err st.c raw)
  have := cvm_syncFirst fuel st raw rest hf hs ht hlen hcs hmax (by rw [hd]; exact hv) h0
  rw [hd] at this
  exact this

/-! ## `rtr_sync` -/

theorem cv_syncG_of_parts (fuel : Nat) (st st1 st2 : St) (raw : List Nat) (c : Conn) (ss : Sess) (n : Net)
    (g : Option Buffered)
    (h1 : syncFirst fuel st = (some raw, st1)) (ht : typeOf raw = 3)
    (h2 : handleCacheResponse st1.c st1.ss st1.n st1.t.own raw = (true, c, ss, n))
    (h3 : recvAndStore fuel { st1 with c := c, ss := ss, n := n } [] [] [] = (true, st2, g)) :
    syncG fuel st =
      (true, { st2 with ss := { st2.ss with reqSession := false, lastUpdate := st2.n.now } }, g.map fun b => (raw, b)) := by
  unfold syncG
  rw [h1]
  simp only [ht]
  rw [h2]
  simp only [Bool.not_true, Bool.false_eq_true, if_false]
  rw [h3]
  simp only [Bool.not_true, Bool.false_eq_true, if_false]

def cvSynced (st : St) (ver sess : Nat) (eod : List Nat) (pt' : List Rec) (kt' : List KeyRec) (n' : Net) : St :=
  { c := { st.c with version := ver, hasReceived := true },
    ss := { session := sess, serial := be32 eod 8, reqSession := false, lastUpdate := st.n.now, isResetting := false },
    tm := applyEodIntervals st.tm eod,
    n := n',
    t := ⟨pt', kt', none⟩ }

/-- **completeness of `rtr_sync`**: the tape holds exactly Cache Response, payload, End of Data (then `rest`).
    `lsApplyAll` runs on the tables the update writes to: the live ones, or for a reload the copy without this
    socket's records. -/
theorem cv_syncG_complete (fuel : Nat) (st : St) (ver sess : Nat) (pdus : List (List Nat)) (eod rest : List Nat)
    (pt' : List Rec) (kt' : List KeyRec)
    (hfuel : pdus.length < fuel) (hs : st.c.state ≠ .shutdown)
    (hver : ver = st.c.version ∨ (st.c.hasReceived = false ∧ st.c.version = 1 ∧ ver = 0))
    (hsh : st.t.shadow = none) (hsess : sess < 65536)
    (hq : st.ss.reqSession = true ∨ st.ss.session = sess)
    (hdata : ∀ p ∈ pdus, CvData ver p) (heod : CvWire ver eod) (hte : typeOf eod = 7) (hes : be16 eod 2 = sess)
    (hkp : ∀ p ∈ cvV4 pdus ++ cvV6 pdus, pfxOK p) (hkk : ∀ p ∈ cvKeys pdus, keyOK p)
    (hp : lsApplyAll (baseOf st.t (resettingAfter st.ss)).pt ((cvV4 pdus ++ cvV6 pdus).map pfxOp) = some pt')
    (hkt : lsApplyAll (baseOf st.t (resettingAfter st.ss)).kt ((cvKeys pdus).map keyOp) = some kt')
    (htape : CvTape st.n (cvCacheResponse ver sess ++ (pdus.flatten ++ (eod ++ rest)))) :
    ∃ n', CvTape n' rest ∧ CvRecvd st.n n' ∧
      syncG fuel st = (true, cvSynced st ver sess eod pt' kt' n',
        some (cvCacheResponse ver sess, ⟨eod, cvV4 pdus, cvV6 pdus, cvKeys pdus⟩)) := by
  obtain ⟨f, rfl⟩ : ∃ f, fuel = f + 1 := ⟨fuel - 1, by omega⟩
  obtain ⟨hcw, hct⟩ := cv_cacheResponse_wire ver sess
  have hcs := cv_cacheResponse_session ver sess hsess
  have hc1 : downgraded st.c (cvCacheResponse ver sess) = { st.c with version := ver, hasReceived := true } := by
    rcases hver with h | ⟨h1, h2, h3⟩
    · rw [downgraded_same st.c _ (by rw [hcw.ver]; exact h), ← h]
    · rw [downgraded_down st.c _ h1 h2 (by rw [hcw.ver]; exact h3) (by rw [hct]; decide), h3]
  obtain ⟨n1, hsf, t1, s1⟩ := cvm_syncFirst (f + 1) st (cvCacheResponse ver sess) _ (by omega) hs htape hcw.len hcw.size hcw.max
    (Or.inl (by rw [hc1]; exact hcw.ver)) (by rw [hct]; decide)
  rw [hc1] at hsf
  have hcr := cv_handleCacheResponse { st.c with version := ver, hasReceived := true } st.ss n1 st.t.own (cvCacheResponse ver sess)
    (by rw [hcs]; exact hq)
  rw [hcs] at hcr
  obtain ⟨n', t', s', e⟩ := cv_recvAndStore_complete pdus (f + 1)
    { st with c := { st.c with version := ver, hasReceived := true }, ss := cvSessAfterCR st.ss sess, n := n1 } [] [] [] eod rest
    hfuel hs rfl hdata heod hte (by rw [hes]; exact (cvSessAfterCR_session st.ss sess hq).symm) t1
  simp only [List.nil_append] at e
  have hat := cv_applyTables_complete { st.c with version := ver, hasReceived := true } n' st.t (cvSessAfterCR st.ss sess).isResetting
    (cvV4 pdus) (cvV6 pdus) (cvKeys pdus) pt' kt' hsh
    (fun p hp => hkp p (List.mem_append_left _ hp)) (fun p hp => hkp p (List.mem_append_right _ hp)) hkk
    (by rw [cvSessAfterCR_isResetting]; exact hp) (by rw [cvSessAfterCR_isResetting]; exact hkt)
  refine ⟨n', t', s1.trans s', ?_⟩
  have hab : applyBuffered ({ st with c := { st.c with version := ver, hasReceived := true }, ss := cvSessAfterCR st.ss sess, n := n' } : St)
      eod (cvV4 pdus) (cvV6 pdus) (cvKeys pdus) =
      (true, { c := { st.c with version := ver, hasReceived := true },
               ss := { cvSessAfterCR st.ss sess with serial := be32 eod 8 },
               tm := applyEodIntervals st.tm eod, n := n', t := ⟨pt', kt', none⟩ }) := by
    unfold applyBuffered
    simp only
    rw [hat]
    simp only [if_true]
  rw [hab] at e
  have hsyn := cv_syncG_of_parts (f + 1) st _ _ (cvCacheResponse ver sess) _ _ _ _ hsf hct hcr e
  rw [hsyn]
  have hnow : n'.now = st.n.now := (s1.trans s').now
  have hsession := cvSessAfterCR_session st.ss sess hq
  simp only [cleanup, cvSynced, Option.map_some, hnow]
  rw [hsession]

end Rtr.P
