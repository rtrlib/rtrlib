/-
  Ordering of the manager's group list: `Sorted` = strictly ascending preference; insertion sort,
  ordered insertion, removal, and the check loop of rtr_mgr_init.
-/
import RtrModel.Mgr

namespace Rtr.Mgr

def Sorted (gs : List Group) : Prop := gs.Pairwise fun a b => a.pref < b.pref

def SortedLe (gs : List Group) : Prop := gs.Pairwise fun a b => a.pref ≤ b.pref

def prefs (gs : List Group) : List Nat := gs.map (·.pref)

theorem sorted_iff_prefs (gs : List Group) : Sorted gs ↔ (prefs gs).Pairwise (· < ·) := by
  unfold Sorted prefs
  rw [List.pairwise_map]

theorem sorted_of_prefs_eq {gs gs' : List Group} (h : prefs gs' = prefs gs) (hs : Sorted gs) : Sorted gs' := by
  rw [sorted_iff_prefs] at *
  rw [h]; exact hs

theorem Sorted.nodup {gs : List Group} (h : Sorted gs) : (prefs gs).Nodup := by
  rw [sorted_iff_prefs] at h
  exact h.imp (fun hab => Nat.ne_of_lt hab)

theorem Sorted.unique {gs : List Group} (h : Sorted gs) {a b : Group} (ha : a ∈ gs) (hb : b ∈ gs)
    (hp : a.pref = b.pref) : a = b :=
  List.Pairwise.forall_of_forall_of_flip (R := fun a b => a.pref = b.pref → a = b) (fun _ _ _ => rfl)
    (h.imp fun hab e => by omega) (h.imp fun hab e => by omega) ha hb hp

theorem findG_some {gs : List Group} {p : Nat} {g : Group} (h : findG gs p = some g) : g ∈ gs ∧ g.pref = p := by
  unfold findG at h
  refine ⟨List.mem_of_find?_eq_some h, ?_⟩
  have := List.find?_some h
  simpa using this

theorem findG_none {gs : List Group} {p : Nat} (h : findG gs p = none) : ∀ g ∈ gs, g.pref ≠ p := by
  unfold findG at h
  intro g hg
  have := List.find?_eq_none.mp h g hg
  simpa using this

theorem findG_of_mem {gs : List Group} (hs : Sorted gs) {g : Group} (hg : g ∈ gs) : findG gs g.pref = some g := by
  cases h : findG gs g.pref with
  | none => exact absurd rfl (findG_none h g hg)
  | some g' =>
    have := findG_some h
    rw [hs.unique this.1 hg this.2]

/-! ### insertion sort -/

theorem insertG_perm (g : Group) (l : List Group) : (insertG g l).Perm (g :: l) := by
  induction l with
  | nil => exact List.Perm.refl _
  | cons h t ih =>
    unfold insertG
    split
    · exact List.Perm.refl _
    · exact (List.Perm.cons h ih).trans (List.Perm.swap g h t)

theorem sortG_perm (l : List Group) : (sortG l).Perm l := by
  induction l with
  | nil => exact List.Perm.refl _
  | cons h t ih =>
    unfold sortG
    exact (insertG_perm h (sortG t)).trans (List.Perm.cons h ih)

theorem insertG_sortedLe (g : Group) {l : List Group} (hl : SortedLe l) : SortedLe (insertG g l) := by
  induction l with
  | nil => exact List.pairwise_cons.mpr ⟨(fun a h => nomatch h), List.Pairwise.nil⟩
  | cons h t ih =>
    have hh := List.pairwise_cons.mp hl
    unfold insertG
    split
    · rename_i hle
      refine List.pairwise_cons.mpr ⟨?_, hl⟩
      intro a ha
      rcases List.mem_cons.mp ha with rfl | ha'
      · exact hle
      · have := hh.1 a ha'; omega
    · rename_i hnle
      refine List.pairwise_cons.mpr ⟨?_, ih hh.2⟩
      intro a ha
      have := (insertG_perm g t).mem_iff.mp ha
      rcases List.mem_cons.mp this with rfl | ha'
      · omega
      · exact hh.1 a ha'

theorem sortG_sortedLe (l : List Group) : SortedLe (sortG l) := by
  induction l with
  | nil => exact List.Pairwise.nil
  | cons h t ih => unfold sortG; exact insertG_sortedLe h ih

theorem sorted_of_le_nodup {l : List Group} (h : SortedLe l) (hn : (prefs l).Nodup) : Sorted l := by
  unfold prefs at hn
  have hn' : l.Pairwise (fun a b => a.pref ≠ b.pref) := List.pairwise_map.mp hn
  exact (h.and hn').imp (fun hab => by omega)

theorem sortG_sorted {l : List Group} (hn : (prefs l).Nodup) : Sorted (sortG l) :=
  sorted_of_le_nodup (sortG_sortedLe l) (((sortG_perm l).map _).nodup_iff.mpr hn)

theorem insertG_of_lt {g : Group} {l : List Group} (h : ∀ a ∈ l, g.pref < a.pref) : insertG g l = g :: l := by
  cases l with
  | nil => rfl
  | cons x t =>
    unfold insertG
    have := h x (List.mem_cons_self)
    rw [if_pos (by omega)]

theorem sortG_of_sorted {l : List Group} (h : Sorted l) : sortG l = l := by
  induction l with
  | nil => rfl
  | cons x t ih =>
    have hx := List.pairwise_cons.mp h
    unfold sortG
    rw [ih hx.2]
    exact insertG_of_lt hx.1

/-! ### removal -/

/-- removal is the library's `eraseP`, which brings its lemmas -/
theorem eraseG_eq_eraseP (p : Nat) (l : List Group) : eraseG p l = l.eraseP fun g => g.pref == p := by
  induction l with
  | nil => rfl
  | cons g t ih =>
    rw [List.eraseP_cons, ← ih, eraseG]
    by_cases h : g.pref = p
    · rw [if_pos h, beq_iff_eq.mpr h, cond_true]
    · rw [if_neg h, beq_false_of_ne h, cond_false]

theorem eraseG_sublist (p : Nat) (l : List Group) : (eraseG p l).Sublist l := by
  rw [eraseG_eq_eraseP]
  exact List.eraseP_sublist

theorem eraseG_sorted {p : Nat} {l : List Group} (h : Sorted l) : Sorted (eraseG p l) :=
  List.Pairwise.sublist (eraseG_sublist p l) h

theorem eraseG_length {p : Nat} {l : List Group} (h : ∃ g ∈ l, g.pref = p) : (eraseG p l).length + 1 = l.length := by
  obtain ⟨g, hg, hp⟩ := h
  rw [eraseG_eq_eraseP, List.length_eraseP_of_mem (p := fun g : Group => g.pref == p) hg (beq_iff_eq.mpr hp)]
  have := List.length_pos_of_mem hg
  omega

theorem mem_eraseG {p : Nat} {l : List Group} (h : Sorted l) {g : Group} :
    g ∈ eraseG p l ↔ g ∈ l ∧ g.pref ≠ p := by
  rw [eraseG_eq_eraseP]
  by_cases hp : g.pref = p
  · refine ⟨fun hg => ?_, fun hg => absurd hp hg.2⟩
    -- the erased group `a` is the first of preference `p`; the groups after it have larger preferences
    obtain ⟨a, l₁, l₂, hn, ha, rfl, e⟩ :=
      List.exists_of_eraseP (p := fun g : Group => g.pref == p) (List.eraseP_sublist.subset hg) (beq_iff_eq.mpr hp)
    rw [e] at hg
    rcases List.mem_append.mp hg with hg | hg
    · exact absurd (beq_iff_eq.mpr hp) (hn g hg)
    · have hlt := (List.pairwise_cons.mp (List.pairwise_append.mp h).2.1).1 g hg
      have hap := beq_iff_eq.mp ha
      omega
  · rw [List.mem_eraseP_of_neg (p := fun g : Group => g.pref == p) (fun e => hp (beq_iff_eq.mp e))]
    exact ⟨fun hg => ⟨hg, hp⟩, fun hg => hg.1⟩

/-! ### the check loop of rtr_mgr_init -/

/-- comparing neighbours suffices because in an ascending list equal preferences are adjacent -/
theorem initCheck_iff {last : Option Nat} {l : List Group} (hle : SortedLe l)
    (hlast : ∀ x, last = some x → ∀ g ∈ l, x ≤ g.pref) :
    initCheck last l = true ↔
      Sorted l ∧ (∀ g ∈ l, g.socks.length ≠ 0) ∧ ∀ x, last = some x → ∀ g ∈ l, x < g.pref := by
  induction l generalizing last with
  | nil => exact ⟨fun _ => ⟨List.Pairwise.nil, nofun, fun _ _ => nofun⟩, fun _ => rfl⟩
  | cons y t ih =>
    have hy := List.pairwise_cons.mp hle
    have iht := ih (last := some y.pref) hy.2 (fun x hx g hg => by cases hx; exact hy.1 g hg)
    unfold initCheck
    by_cases hne : last = some y.pref
    · rw [if_pos hne]
      refine ⟨nofun, fun h => ?_⟩
      exact absurd (h.2.2 _ hne y List.mem_cons_self) (Nat.lt_irrefl _)
    · rw [if_neg hne]
      by_cases hsock : y.socks.length = 0
      · rw [if_pos hsock]
        exact ⟨nofun, fun h => absurd hsock (h.2.1 y List.mem_cons_self)⟩
      · rw [if_neg hsock, iht]
        constructor
        · rintro ⟨hs, hso, hlt⟩
          refine ⟨List.pairwise_cons.mpr ⟨hlt _ rfl, hs⟩, ?_, ?_⟩
          · intro g hg
            rcases List.mem_cons.mp hg with rfl | hg
            · exact hsock
            · exact hso g hg
          · intro x hx g hg
            have hxy : x < y.pref :=
              Nat.lt_of_le_of_ne (hlast x hx y List.mem_cons_self) (fun e => hne (by rw [hx, e]))
            rcases List.mem_cons.mp hg with rfl | hg
            · exact hxy
            · exact Nat.lt_trans hxy (hlt _ rfl g hg)
        · rintro ⟨hs, hso, _⟩
          have hs' := List.pairwise_cons.mp hs
          exact ⟨hs'.2, fun g hg => hso g (List.mem_cons_of_mem _ hg), fun x hx g hg => by cases hx; exact hs'.1 g hg⟩

theorem initCheck_none_iff {l : List Group} (hle : SortedLe l) :
    initCheck none l = true ↔ Sorted l ∧ ∀ g ∈ l, g.socks.length ≠ 0 := by
  have hnone : ∀ (P : Nat → Prop) x, (none : Option Nat) = some x → P x := fun _ _ hx => nomatch hx
  rw [initCheck_iff hle (hnone _)]
  exact ⟨fun h => ⟨h.1, h.2.1⟩, fun h => ⟨h.1, h.2, hnone _⟩⟩

end Rtr.Mgr
