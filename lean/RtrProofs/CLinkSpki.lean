/-
  CLinkSpki: the comparison and copy helpers of the router-key table (ht-spkitable.c), as translated from the current
  source, are what the model assumes: `key_entry_cmp` is 0 exactly for entries equal in AS number, SKI, SPKI and source.
-/
import RtrProofs.CLink
import RtrModel.Spki
namespace Rtr.CLink
open Rtr Rtr.Gen

/-- big-endian number of a byte string -/
def beNat : List (BitVec 8) → Nat
  | [] => 0
  | l => l.foldl (fun acc b => acc * 256 + b.toNat) 0

theorem foldl_be_inj : ∀ (a b : List (BitVec 8)) (x y : Nat), a.length = b.length →
    a.foldl (fun acc c => acc * 256 + c.toNat) x = b.foldl (fun acc c => acc * 256 + c.toNat) y → x = y ∧ a = b := by
  intro a
  induction a with
  | nil => intro b x y hl h; cases b with
    | nil => exact ⟨by simpa using h, rfl⟩
    | cons _ _ => simp at hl
  | cons c a ih => intro b x y hl h; cases b with
    | nil => simp at hl
    | cons d b =>
      simp only [List.foldl_cons] at h
      have hl' : a.length = b.length := by simpa using hl
      have ⟨h1, h2⟩ := ih b _ _ hl' h
      have hc := c.isLt
      have hd := d.isLt
      have e1 : x = y := by omega
      have e2 : c.toNat = d.toNat := by omega
      exact ⟨e1, by rw [h2, BitVec.eq_of_toNat_eq e2]⟩

theorem beNat_inj (a b : List (BitVec 8)) (hl : a.length = b.length) : beNat a = beNat b ↔ a = b := by
  constructor
  · intro h
    have : a.foldl (fun acc c => acc * 256 + c.toNat) 0 = b.foldl (fun acc c => acc * 256 + c.toNat) 0 := by
      cases a <;> cases b <;> simp_all [beNat]
    exact (foldl_be_inj a b 0 0 hl this).2
  · intro h; rw [h]

/-- the model's record of a `struct key_entry` -/
def recOf (e : C.S_key_entry) : SpkiRec := { asn := e.asn.toNat, ski := beNat e.ski, spki := beNat e.spki, src := e.socket }

theorem key_entry_cmp_eq (a b : C.S_key_entry) :
    C.key_entry_cmp a b =
      some (if a.asn = b.asn ∧ a.ski = b.ski ∧ a.spki = b.spki ∧ a.socket = b.socket then 0#32 else 1#32) := by
  unfold C.key_entry_cmp
  by_cases h1 : a.asn = b.asn
  · by_cases h2 : a.ski = b.ski
    · by_cases h3 : a.spki = b.spki
      · by_cases h4 : a.socket = b.socket
        · simp [h1, h2, h3, h4]
        · simp [h1, h2, h3, h4]
      · simp [h1, h2, h3]
    · simp [h1, h2]
  · simp [h1]

theorem key_entry_cmp_model (a b : C.S_key_entry) (hs : a.ski.length = b.ski.length) (hp : a.spki.length = b.spki.length) :
    C.key_entry_cmp a b = some (if SpkiTable.cmp (recOf a) (recOf b) then 0#32 else 1#32) := by
  rw [key_entry_cmp_eq]
  have : (a.asn = b.asn ∧ a.ski = b.ski ∧ a.spki = b.spki ∧ a.socket = b.socket) ↔ SpkiTable.cmp (recOf a) (recOf b) = true := by
    unfold SpkiTable.cmp recOf
    simp only [beq_iff_eq, SpkiRec.mk.injEq]
    rw [beNat_inj _ _ hs.symm, beNat_inj _ _ hp.symm, BitVec.toNat_inj]
    constructor
    · rintro ⟨h1, h2, h3, h4⟩; exact ⟨h1.symm, h2.symm, h3.symm, h4.symm⟩
    · rintro ⟨h1, h2, h3, h4⟩; exact ⟨h1.symm, h2.symm, h3.symm, h4.symm⟩
  simp only [this]

theorem key_entry_to_spki_record_eq (k : C.S_key_entry) (r : C.S_spki_record) :
    C.key_entry_to_spki_record k r = some (k, { r with asn := k.asn, socket := k.socket, ski := k.ski, spki := k.spki }) := by
  simp [C.key_entry_to_spki_record]

theorem spki_record_to_key_entry_eq (r : C.S_spki_record) (k : C.S_key_entry) :
    C.spki_record_to_key_entry r k = some (r, { k with asn := r.asn, socket := r.socket, ski := r.ski, spki := r.spki }) := by
  simp [C.spki_record_to_key_entry]

end Rtr.CLink
