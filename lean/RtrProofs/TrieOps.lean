/-
  TrieOps: what the operations of trie.c do to a well-formed trie, each proved once, for the
  parametric invariant `WFp N`.  `lookupExact_insert` is why `pfx_table_add` may insert at the node
  `trie_lookup_exact` returned: that is inserting from the root.
-/
import RtrProofs.TrieWF

namespace Rtr

theorem isLeft_true (w : Nat) (a : Addr) (l : Nat) : isLeft w a l = true ↔ bitAt w a l = false := by
  unfold isLeft; cases bitAt w a l <;> simp

theorem isLeft_false (w : Nat) (a : Addr) (l : Nat) : isLeft w a l = false ↔ bitAt w a l = true := by
  unfold isLeft; cases bitAt w a l <;> simp

theorem keys_eq_map (t : Trie) : t.keys = t.nodes.map (fun c => (c.addr, c.len)) := by
  induction t with
  | nil => rfl
  | node c l r ihl ihr => simp [Trie.keys, Trie.nodes, ihl, ihr]

/-! ## insert (trie_insert) -/

theorem insert_nodes_perm (w : Nat) : ∀ (t : Trie) (n : NodeC) (lvl : Nat),
    (insert w t n lvl).nodes.Perm (n :: t.nodes) := by
  intro t
  induction t with
  | nil => intro n lvl; simp [insert, Trie.nodes]
  | node c l r ihl ihr =>
    intro n lvl
    unfold insert
    by_cases hlt : n.len < c.len <;> simp only [hlt, if_true, if_false] <;> split
    · simp only [Trie.nodes]
      exact ((ihl c (lvl+1)).append_right _).trans (List.perm_middle.trans (List.perm_middle.symm.cons n))
    · simp only [Trie.nodes]
      exact (((ihr c (lvl+1)).cons n).append_left _).trans List.perm_middle
    · simp only [Trie.nodes]
      exact (ihl n (lvl+1)).append_right _
    · simp only [Trie.nodes]
      refine (((ihr n (lvl+1)).cons c).append_left _).trans ?_
      exact (List.Perm.append_left _ (List.Perm.swap n c _)).trans List.perm_middle

theorem insert_All (w : Nat) (P : NodeC → Prop) (t : Trie) (n : NodeC) (lvl : Nat) (ht : t.All P) (hn : P n) :
    (insert w t n lvl).All P := by
  rw [All_iff] at ht ⊢
  intro x hx
  rcases List.mem_cons.1 ((insert_nodes_perm w t n lvl).mem_iff.1 hx) with rfl | h
  · exact hn
  · exact ht x h

theorem All_keys {P : NodeC → Prop} (t : Trie) : t.All P → ∀ c : NodeC, (c.addr, c.len) ∈ t.keys →
    ∃ c' : NodeC, c'.addr = c.addr ∧ c'.len = c.len ∧ P c' := by
  induction t with
  | nil => intro _ c h; simp [Trie.keys] at h
  | node c0 l r ihl ihr =>
    intro ⟨h0, hl, hr⟩ c h
    simp only [Trie.keys, List.mem_append, List.mem_cons] at h
    rcases h with h | h | h
    · exact ihl hl c h
    · have : c.addr = c0.addr ∧ c.len = c0.len := by simpa using h
      exact ⟨c0, this.1.symm, this.2.symm, h0⟩
    · exact ihr hr c h

theorem insert_WFp {N : NodeC → Prop} (w : Nat) : ∀ (t : Trie) (n : NodeC) (lvl : Nat),
    WFp N w t lvl → N n → (n.addr, n.len) ∉ t.keys → WFp N w (insert w t n lvl) lvl := by
  intro t
  induction t with
  | nil => intro n lvl _ hn _; exact .node hn trivial trivial trivial trivial
  | node c l r ihl ihr =>
    intro n lvl h hn hnot
    simp only [Trie.keys, List.mem_append, List.mem_cons, not_or] at hnot
    obtain ⟨hnl, hnc, hnr⟩ := hnot
    have hne : ¬ (n.addr = c.addr ∧ n.len = c.len) := by
      intro ⟨h1, h2⟩; apply hnc; rw [h1, h2]
    have cNot : ∀ (s : Trie) (b : Bool), s.All (Below w c lvl b) → (c.addr, c.len) ∉ s.keys := by
      intro s b hs h
      obtain ⟨c', h1, h2, h3⟩ := All_keys s hs c h
      exact h3.2.2 ⟨h1, h2⟩
    -- the payload `k` that stays at this node is no longer than the payload `m` that travels on
    have core : ∀ k m : NodeC, N k → N m → k.len ≤ m.len → ¬ (m.addr = k.addr ∧ m.len = k.len) →
        l.All (Below w k lvl false) → r.All (Below w k lvl true) →
        (m.addr, m.len) ∉ l.keys → (m.addr, m.len) ∉ r.keys →
        WFp N w (if isLeft w m.addr lvl then .node k (insert w l m (lvl+1)) r
                 else .node k l (insert w r m (lvl+1))) lvl := by
      intro k m hk hm hle hkm kl kr ml mr
      by_cases hb : isLeft w m.addr lvl = true
      · rw [if_pos hb]
        exact .node hk (insert_All w _ l m _ kl ⟨(isLeft_true _ _ _).1 hb, hle, hkm⟩) kr (ihl _ _ h.left hm ml) h.right
      · rw [if_neg hb]
        have hb' : bitAt w m.addr lvl = true := (isLeft_false _ _ _).1 (by simpa using hb)
        exact .node hk kl (insert_All w _ r m _ kr ⟨hb', hle, hkm⟩) h.left (ihr _ _ h.right hm mr)
    unfold insert
    by_cases hlt : n.len < c.len
    · simp only [hlt, if_true]
      have relax : ∀ s (t' : Trie), t'.All (Below w c lvl s) → t'.All (Below w n lvl s) :=
        fun s t' => All_mono t' (fun x hx => ⟨hx.1, by have := hx.2.1; omega, fun e => by have := hx.2.1; omega⟩)
      exact core n c hn h.root (by omega) (fun e => hne ⟨e.1.symm, e.2.symm⟩) (relax _ l h.belowL) (relax _ r h.belowR)
        (cNot l _ h.belowL) (cNot r _ h.belowR)
    · simp only [hlt, if_false]
      exact core c n h.root hn (by omega) hne h.belowL h.belowR hnl hnr

/-! ## removeRoot (trie_remove at the node found) -/

theorem min_of_Below (w : Nat) (c : NodeC) (l r : Trie) (d : Nat) (hl : l.All (Below w c d false))
    (hr : r.All (Below w c d true)) : (Trie.node c l r).All (fun x => c.len ≤ x.len) :=
  ⟨Nat.le_refl _, All_mono l (fun _ hx => hx.2.1) hl, All_mono r (fun _ hx => hx.2.1) hr⟩

theorem root_min (w : Nat) (c : NodeC) (l r : Trie) (d : Nat) (h : WF w (.node c l r) d) :
    (Trie.node c l r).All (fun x => c.len ≤ x.len) :=
  min_of_Below w c l r d h.2.1 h.2.2.1

/- `removeRoot` recurses on a child as a whole, so the lemmas about it are proved by induction on
   the tree `t` it is applied to and speak of its parts through `t = .node c l r`; they are used
   with `rfl`. -/
theorem removeRoot_nodes_perm : ∀ (t : Trie) (c : NodeC) (l r : Trie), t = .node c l r →
    (removeRoot t).nodes.Perm (l.nodes ++ r.nodes) := by
  intro t
  induction t with
  | nil => intro c l r h; cases h
  | node c0 l0 r0 ihl ihr =>
    intro c l r h
    cases h
    cases l0 with
    | nil =>
      cases r0 with
      | nil => simp [removeRoot, Trie.nodes]
      | node cr rl rr =>
        have := ihr cr rl rr rfl
        simp only [removeRoot, Trie.nodes, List.nil_append]
        exact (List.Perm.cons cr this).trans (List.perm_middle).symm
    | node cl ll lr =>
      cases r0 with
      | nil =>
        have := ihl cl ll lr rfl
        simp only [removeRoot, Trie.nodes, List.append_nil]
        exact (List.perm_append_singleton cl _).trans ((List.Perm.cons cl this).trans List.perm_middle.symm)
      | node cr rl rr =>
        simp only [removeRoot]
        split
        · have := ihl cl ll lr rfl
          simp only [Trie.nodes]
          have h1 : ((removeRoot (.node cl ll lr)).nodes ++ cl :: (rl.nodes ++ cr :: rr.nodes)).Perm
              (cl :: ((removeRoot (.node cl ll lr)).nodes ++ (rl.nodes ++ cr :: rr.nodes))) := List.perm_middle
          refine h1.trans ?_
          have h2 : ((ll.nodes ++ cl :: lr.nodes) ++ (rl.nodes ++ cr :: rr.nodes)).Perm
              (cl :: ((ll.nodes ++ lr.nodes) ++ (rl.nodes ++ cr :: rr.nodes))) := by
            rw [List.append_assoc, List.append_assoc]
            exact List.perm_middle
          refine (List.Perm.cons cl ?_).trans h2.symm
          exact List.Perm.append_right _ this
        · have := ihr cr rl rr rfl
          simp only [Trie.nodes]
          have h2 : ((ll.nodes ++ cl :: lr.nodes) ++ (rl.nodes ++ cr :: rr.nodes)).Perm
              ((ll.nodes ++ cl :: lr.nodes) ++ cr :: (rl.nodes ++ rr.nodes)) :=
            List.Perm.append_left _ List.perm_middle
          refine List.Perm.trans ?_ h2.symm
          exact List.Perm.append_left _ (List.Perm.cons cr this)

theorem removeRoot_All (P : NodeC → Prop) : ∀ (t : Trie), (∀ c l r, t = .node c l r → l.All P ∧ r.All P) →
    (removeRoot t).All P := by
  intro t h
  cases t with
  | nil => trivial
  | node c l r =>
    obtain ⟨hl, hr⟩ := h c l r rfl
    rw [All_iff] at hl hr ⊢
    intro x hx
    rcases List.mem_append.1 ((removeRoot_nodes_perm _ c l r rfl).mem_iff.1 hx) with h | h
    · exact hl x h
    · exact hr x h

/-- well-formedness of everything but the root payload (which `pfx_table_remove` /
    `pfx_table_remove_id` have just emptied) -/
def WFk (w : Nat) (c : NodeC) (l r : Trie) (d : Nat) : Prop :=
  l.All (Below w c d false) ∧ r.All (Below w c d true) ∧ WF w l (d+1) ∧ WF w r (d+1)

theorem removeRoot_WFp' {N : NodeC → Prop} (w : Nat) : ∀ (t : Trie) (d : Nat),
    (∀ c l r, t = .node c l r →
      l.All (Below w c d false) ∧ r.All (Below w c d true) ∧ WFp N w l (d+1) ∧ WFp N w r (d+1)) →
    WFp N w (removeRoot t) d := by
  intro t
  induction t with
  | nil => intro d _; trivial
  | node c l r ihl ihr =>
    intro d h
    obtain ⟨hl, hr, wl, wr⟩ := h c l r rfl
    have sub : ∀ (s : Trie) (e : Nat), WFp N w s e → (∀ c' l' r', s = .node c' l' r' →
        l'.All (Below w c' e false) ∧ r'.All (Below w c' e true) ∧ WFp N w l' (e+1) ∧ WFp N w r' (e+1)) := by
      intro s e ws c' l' r' hs; subst hs; exact ⟨ws.belowL, ws.belowR, ws.left, ws.right⟩
    -- the subtree whose root payload `p` was pulled up lies below `p` on the side it lay below `c`
    have pulled : ∀ (p : NodeC) (sl sr : Trie) (b : Bool), WFp N w (.node p sl sr) (d+1) →
        (Trie.node p sl sr).All (Below w c d b) →
        (removeRoot (.node p sl sr)).All (Below w p d b) := by
      intro p sl sr b ws hs
      apply removeRoot_All
      intro c' l' r' e; cases e
      obtain ⟨_, hsl, hsr⟩ := hs
      have bl := ws.belowL
      have br := ws.belowR
      constructor
      · rw [All_iff] at *; intro x hx; exact ⟨(hsl x hx).1, (bl x hx).2.1, (bl x hx).2.2⟩
      · rw [All_iff] at *; intro x hx; exact ⟨(hsr x hx).1, (br x hx).2.1, (br x hx).2.2⟩
    -- the other subtree differs from `p` in bit `d` and is no shorter
    have sibling : ∀ (p : NodeC) (s : Trie) (b b' : Bool), b ≠ b' → bitAt w p.addr d = b →
        s.All (Below w c d b') → s.All (fun x => p.len ≤ x.len) → s.All (Below w p d b') := by
      intro p s b b' hbb hp hs hmin
      rw [All_iff] at *
      intro x hx
      refine ⟨(hs x hx).1, hmin x hx, ?_⟩
      intro ⟨e, _⟩
      have := (hs x hx).1
      rw [e, hp] at this; exact hbb this
    cases l with
    | nil =>
      cases r with
      | nil => trivial
      | node cr rl rr =>
        simp only [removeRoot]
        exact .node wr.root trivial (pulled cr rl rr true wr hr) trivial (ihr (d+1) (sub _ _ wr))
    | node cl ll lr =>
      cases r with
      | nil =>
        simp only [removeRoot]
        exact .node wl.root (pulled cl ll lr false wl hl) trivial (ihl (d+1) (sub _ _ wl)) trivial
      | node cr rl rr =>
        simp only [removeRoot]
        split
        · rename_i hlt
          refine .node wl.root (pulled cl ll lr false wl hl) ?_ (ihl (d+1) (sub _ _ wl)) wr
          apply sibling cl _ false true (by decide) hl.1.1 hr
          exact All_mono _ (fun x hx => by omega) (min_of_Below w cr rl rr (d+1) wr.belowL wr.belowR)
        · rename_i hge
          refine .node wr.root ?_ (pulled cr rl rr true wr hr) wl (ihr (d+1) (sub _ _ wr))
          apply sibling cr _ true false (by decide) hr.1.1 hl
          exact All_mono _ (fun x hx => by omega) (min_of_Below w cl ll lr (d+1) wl.belowL wl.belowR)

theorem removeRoot_WFp {N : NodeC → Prop} (w : Nat) (c : NodeC) (l r : Trie) (d : Nat)
    (hl : l.All (Below w c d false)) (hr : r.All (Below w c d true))
    (wl : WFp N w l (d+1)) (wr : WFp N w r (d+1)) : WFp N w (removeRoot (.node c l r)) d :=
  removeRoot_WFp' w _ d (fun _ _ _ e => by cases e; exact ⟨hl, hr, wl, wr⟩)

theorem removeRoot_WF (w : Nat) (c : NodeC) (l r : Trie) (d : Nat) (h : WFk w c l r d) :
    WF w (removeRoot (.node c l r)) d :=
  (WF_iff_WFp w _ d).2 (removeRoot_WFp w c l r d
    h.1 h.2.1 ((WF_iff_WFp w l _).1 h.2.2.1) ((WF_iff_WFp w r _).1 h.2.2.2))

/-! ## lookupExact (trie_lookup_exact) -/

theorem mem_keys_iff (t : Trie) (a : Addr) (n : Nat) : (a, n) ∈ t.keys ↔ ∃ x ∈ t.nodes, x.addr = a ∧ x.len = n := by
  rw [keys_eq_map, List.mem_map]
  constructor
  · rintro ⟨x, hx, e⟩; exact ⟨x, hx, by simpa using e⟩
  · rintro ⟨x, hx, e1, e2⟩; exact ⟨x, hx, by simp [e1, e2]⟩

theorem not_mem_keys_of_len (t : Trie) (a : Addr) (n m : Nat) (h : t.All (fun x => m ≤ x.len)) (hm : n < m) :
    (a, n) ∉ t.keys := by
  rw [mem_keys_iff]
  rintro ⟨x, hx, _, e2⟩
  have := (All_iff t).1 h x hx
  omega

theorem not_mem_keys_of_bit (w : Nat) (t : Trie) (c : NodeC) (d : Nat) (b : Bool) (a : Addr) (n : Nat)
    (h : t.All (Below w c d b)) (hb : bitAt w a d ≠ b) : (a, n) ∉ t.keys := by
  rw [mem_keys_iff]
  rintro ⟨x, hx, e1, _⟩
  have := ((All_iff t).1 h x hx).1
  rw [e1] at this
  exact hb this

theorem not_mem_keys_node (c : NodeC) (l r : Trie) (k : Addr × Nat) (h1 : k ∉ l.keys) (h2 : k ≠ (c.addr, c.len))
    (h3 : k ∉ r.keys) : k ∉ (Trie.node c l r).keys := by
  simp only [Trie.keys, List.mem_append, List.mem_cons, not_or]; exact ⟨h1, h2, h3⟩

/-- what `trie_lookup_exact` returns on a well-formed (sub)trie -/
def LxSpec (q : Addr) (n : Nat) (t : Trie) : LxRes → Prop
  | .up => (q, n) ∉ t.keys
  | .at p true => ∃ c l r, t.subAt p = .node c l r ∧ c.addr = q ∧ c.len = n
  | .at p false => (q, n) ∉ t.keys ∧ (t ≠ .nil → ∃ c l r, t.subAt p = .node c l r)

/-- `trie_lookup_exact` at a node, with the two directions written as one: the search goes on in
    the child on the side of bit `d` of `q` -/
theorem lookupExact_node (w : Nat) (q : Addr) (n : Nat) (c : NodeC) (l r : Trie) (d : Nat) :
    lookupExact w q n (.node c l r) d =
      if d > 0 ∧ c.len > n then .up
      else if c.len = n ∧ c.addr = q then .at [] true
      else match (if bitAt w q d then r else l) with
        | .nil => .at [] false
        | .node cs sl sr =>
          match lookupExact w q n (.node cs sl sr) (d+1) with
          | .up => .at [] false
          | .at p f => .at (bitAt w q d :: p) f := by
  conv => lhs; unfold lookupExact
  unfold isLeft
  cases bitAt w q d <;> rfl

theorem lookupExact_spec_p {N : NodeC → Prop} (w : Nat) (q : Addr) (n : Nat) : ∀ (t : Trie) (d : Nat), WFp N w t d →
    LxSpec q n t (lookupExact w q n t d) := by
  intro t
  induction t with
  | nil => intro d _; simp [lookupExact, LxSpec, Trie.keys]
  | node c l r ihl ihr =>
    intro d k
    rw [lookupExact_node]
    -- `s`: the child on the side of bit `d` of `q`; `o`: the other child
    have hs : (if bitAt w q d then r else l).All (Below w c d (bitAt w q d)) := by
      cases bitAt w q d
      · exact k.belowL
      · exact k.belowR
    have ho : (if bitAt w q d then l else r).All (Below w c d (!bitAt w q d)) := by
      cases bitAt w q d
      · exact k.belowR
      · exact k.belowL
    have ih : LxSpec q n (if bitAt w q d then r else l) (lookupExact w q n (if bitAt w q d then r else l) (d+1)) := by
      cases bitAt w q d
      · exact ihl _ k.left
      · exact ihr _ k.right
    have keys : (q, n) ∉ (if bitAt w q d then r else l).keys → (q, n) ≠ (c.addr, c.len) →
        (q, n) ∉ (if bitAt w q d then l else r).keys → (q, n) ∉ (Trie.node c l r).keys := by
      cases bitAt w q d
      · exact fun h1 h2 h3 => not_mem_keys_node c l r _ h1 h2 h3
      · exact fun h1 h2 h3 => not_mem_keys_node c l r _ h3 h2 h1
    have sub : ∀ p, (Trie.node c l r).subAt (bitAt w q d :: p) = (if bitAt w q d then r else l).subAt p := by
      intro p
      cases bitAt w q d <;> rfl
    generalize (if bitAt w q d then r else l) = s at hs ih keys sub ⊢
    generalize (if bitAt w q d then l else r) = o at ho keys
    have no : (q, n) ∉ o.keys := not_mem_keys_of_bit w o c d _ q n ho (by cases bitAt w q d <;> simp)
    have smin : s.All (fun x => c.len ≤ x.len) := All_mono s (fun _ hx => hx.2.1) hs
    have omin : o.All (fun x => c.len ≤ x.len) := All_mono o (fun _ hx => hx.2.1) ho
    split
    · rename_i h
      refine keys (not_mem_keys_of_len s q n _ smin h.2) ?_ (not_mem_keys_of_len o q n _ omin h.2)
      intro e
      have : c.len = n := by simpa using (congrArg Prod.snd e).symm
      omega
    · split
      · rename_i _ h
        exact ⟨c, l, r, rfl, h.2, h.1⟩
      · rename_i hup hsame
        have rootne : (q, n) ≠ (c.addr, c.len) := by
          intro e
          apply hsame
          exact ⟨by simpa using (congrArg Prod.snd e).symm, by simpa using (congrArg Prod.fst e).symm⟩
        split
        · exact ⟨keys (by simp [Trie.keys]) rootne no, fun _ => ⟨c, l, r, rfl⟩⟩
        · rename_i cs sl sr
          split
          · rename_i hres
            rw [hres] at ih
            exact ⟨keys ih rootne no, fun _ => ⟨c, l, r, rfl⟩⟩
          · rename_i p f hres
            rw [hres] at ih
            cases f with
            | true =>
              simp only [LxSpec] at ih ⊢
              rw [sub p]
              exact ih
            | false =>
              simp only [LxSpec] at ih ⊢
              rw [sub p]
              exact ⟨keys ih.1 rootne no, fun _ => ih.2 (by simp)⟩

theorem lookupExact_spec (w : Nat) (q : Addr) (n : Nat) (t : Trie) (d : Nat) (h : WF w t d) :
    LxSpec q n t (lookupExact w q n t d) :=
  lookupExact_spec_p w q n t d ((WF_iff_WFp w t d).1 h)

/-- `pfx_table_add`, no node with that key: inserting at the node returned by
    `trie_lookup_exact`, at the level it reports, is inserting from where the search started -/
theorem lookupExact_insert {N : NodeC → Prop} (w : Nat) (new : NodeC) : ∀ (t : Trie) (d : Nat), WFp N w t d → ∀ (p : List Bool),
    lookupExact w new.addr new.len t d = .at p false →
    t.modifyAt p (fun s => insert w s new (d + p.length)) = insert w t new d := by
  intro t
  induction t with
  | nil => intro d _ p h; simp [lookupExact] at h; subst h; simp [Trie.modifyAt]
  | node c l r ihl ihr =>
    intro d k p h
    rw [lookupExact_node] at h
    have hs : (if bitAt w new.addr d then r else l).All (fun x => c.len ≤ x.len) := by
      cases bitAt w new.addr d
      · exact All_mono l (fun _ hx => hx.2.1) k.belowL
      · exact All_mono r (fun _ hx => hx.2.1) k.belowR
    have ih : ∀ p', lookupExact w new.addr new.len (if bitAt w new.addr d then r else l) (d+1) = .at p' false →
        (if bitAt w new.addr d then r else l).modifyAt p' (fun s => insert w s new (d + 1 + p'.length)) =
          insert w (if bitAt w new.addr d then r else l) new (d+1) := by
      cases bitAt w new.addr d
      · exact ihl _ k.left
      · exact ihr _ k.right
    -- one level down in `modifyAt` is one level down in an `insert` that does not swap
    have step : ∀ (b : Bool), bitAt w new.addr d = b → ¬ new.len < c.len → ∀ p',
        (if b then r else l).modifyAt p' (fun s => insert w s new (d + 1 + p'.length)) = insert w (if b then r else l) new (d+1) →
        (Trie.node c l r).modifyAt (b :: p') (fun s => insert w s new (d + (b :: p').length)) = insert w (.node c l r) new d := by
      intro b hb ns p' e
      have e' : d + (b :: p').length = d + 1 + p'.length := by simp; omega
      rw [e']
      conv => rhs; unfold insert
      cases b
      · simp only [Bool.false_eq_true, if_false] at e
        simp [Trie.modifyAt, e, ns, isLeft, hb]
      · simp only [if_true] at e
        simp [Trie.modifyAt, e, ns, isLeft, hb]
    have step' := step _ rfl
    generalize (if bitAt w new.addr d then r else l) = s at hs ih step' h
    split at h
    · cases h
    · split at h
      · cases h
      · split at h
        · simp at h; subst h; simp [Trie.modifyAt]
        · rename_i cs sl sr
          split at h
          · simp at h; subst h; simp [Trie.modifyAt]
          · rename_i p' f hres
            simp at h
            obtain ⟨hp, hf⟩ := h
            subst hp; subst hf
            -- the child did not send the search back up, so it is no shorter than the new prefix
            have ns : ¬ new.len < c.len := by
              intro hlt
              have : c.len ≤ cs.len := hs.1
              rw [lookupExact_node, if_pos ⟨by omega, by omega⟩] at hres
              cases hres
            exact step' ns p' (ih p' hres)

/-! ## modifyAt -/

theorem node_keys_subset (c c' : NodeC) {l l' r r' : Trie} (hl : l'.keys ⊆ l.keys) (hr : r'.keys ⊆ r.keys)
    (hc : (c'.addr, c'.len) = (c.addr, c.len)) : (Trie.node c' l' r').keys ⊆ (Trie.node c l r).keys := by
  simp only [Trie.keys, hc]
  exact List.append_subset.2 ⟨List.subset_append_of_subset_left _ hl,
    List.subset_append_of_subset_right _ (List.cons_subset_cons _ hr)⟩

/-- `Below` speaks of the key of a node only -/
theorem All_Below_of_keys (w : Nat) (p : NodeC) (d : Nat) (b : Bool) (t' t : Trie) (hk : t'.keys ⊆ t.keys)
    (h : t.All (Below w p d b)) : t'.All (Below w p d b) := by
  rw [All_iff] at *
  intro x hx
  obtain ⟨y, hy, e1, e2⟩ := (mem_keys_iff t x.addr x.len).1 (hk ((mem_keys_iff t' _ _).2 ⟨x, hx, rfl, rfl⟩))
  have := h y hy
  unfold Below at *
  rw [← e1, ← e2]
  exact this

theorem perm_pull {α} (A X rest : List α) (c : α) : (A ++ c :: (X ++ rest)).Perm (X ++ (A ++ c :: rest)) := by
  have e1 : A ++ c :: (X ++ rest) = ((A ++ [c]) ++ X) ++ rest := by simp
  have e2 : X ++ (A ++ c :: rest) = (X ++ (A ++ [c])) ++ rest := by simp
  rw [e1, e2]
  exact List.Perm.append_right _ List.perm_append_comm

theorem modifyAt_nodes : ∀ (t : Trie) (p : List Bool), (∃ c l r, t.subAt p = .node c l r) →
    ∃ rest, t.nodes.Perm ((t.subAt p).nodes ++ rest) ∧
      ∀ f, (t.modifyAt p f).nodes.Perm ((f (t.subAt p)).nodes ++ rest) := by
  intro t
  induction t with
  | nil =>
    intro p h
    cases p with
    | nil => exact ⟨[], by simp [Trie.subAt], fun f => by simp [Trie.modifyAt, Trie.subAt]⟩
    | cons b p => obtain ⟨c, l, r, e⟩ := h; simp [Trie.subAt] at e
  | node c l r ihl ihr =>
    intro p h
    cases p with
    | nil => exact ⟨[], by simp [Trie.subAt], fun f => by simp [Trie.modifyAt, Trie.subAt]⟩
    | cons b p =>
      cases b with
      | true =>
        obtain ⟨rest, h1, h2⟩ := ihr p h
        refine ⟨l.nodes ++ c :: rest, ?_, fun f => ?_⟩
        · exact ((h1.cons c).append_left l.nodes).trans (perm_pull _ _ _ c)
        · exact (((h2 f).cons c).append_left l.nodes).trans (perm_pull _ _ _ c)
      | false =>
        obtain ⟨rest, h1, h2⟩ := ihl p h
        refine ⟨rest ++ c :: r.nodes, ?_, fun f => ?_⟩
        · rw [← List.append_assoc]
          exact h1.append_right _
        · rw [← List.append_assoc]
          exact (h2 f).append_right _

theorem modifyAt_keys (t : Trie) (p : List Bool) (f : Trie → Trie) (hn : ∃ c l r, t.subAt p = .node c l r)
    (h : (f (t.subAt p)).keys ⊆ (t.subAt p).keys) : (t.modifyAt p f).keys ⊆ t.keys := by
  obtain ⟨rest, h1, h2⟩ := modifyAt_nodes t p hn
  simp only [keys_eq_map] at h ⊢
  intro k hk
  rw [((h2 f).map _).mem_iff, List.map_append, List.mem_append] at hk
  rw [(h1.map _).mem_iff, List.map_append, List.mem_append]
  exact hk.imp (fun hk => h hk) id

theorem modifyAt_WFp {N : NodeC → Prop} (w : Nat) : ∀ (t : Trie) (d : Nat) (p : List Bool) (f : Trie → Trie), WFp N w t d →
    (∃ c l r, t.subAt p = .node c l r) → WFp N w (f (t.subAt p)) (d + p.length) →
    (f (t.subAt p)).keys ⊆ (t.subAt p).keys → WFp N w (t.modifyAt p f) d := by
  intro t
  induction t with
  | nil =>
    intro d p f _ _ h _
    cases p with
    | nil => simpa [Trie.modifyAt, Trie.subAt] using h
    | cons b p => simp [Trie.modifyAt, WFp]
  | node c l r ihl ihr =>
    intro d p f k hn h hk
    cases p with
    | nil => simpa [Trie.modifyAt, Trie.subAt] using h
    | cons b p =>
      have e : d + (b :: p).length = d + 1 + p.length := by simp; omega
      rw [e] at h
      cases b with
      | true =>
        simp only [Trie.subAt, if_true] at h hk hn
        simp only [Trie.modifyAt, if_true]
        exact .node k.root k.belowL (All_Below_of_keys w c d true _ r (modifyAt_keys r p f hn hk) k.belowR) k.left
          (ihr (d+1) p f k.right hn h hk)
      | false =>
        simp only [Trie.subAt] at h hk hn
        simp only [Trie.modifyAt]
        exact .node k.root (All_Below_of_keys w c d false _ l (modifyAt_keys l p f hn hk) k.belowL) k.belowR
          (ihl (d+1) p f k.left hn h hk) k.right

theorem subAt_WFp {N : NodeC → Prop} (w : Nat) : ∀ (t : Trie) (d : Nat) (p : List Bool), WFp N w t d → WFp N w (t.subAt p) (d + p.length) := by
  intro t
  induction t with
  | nil => intro d p _; cases p <;> simp [Trie.subAt, WFp]
  | node c l r ihl ihr =>
    intro d p h
    cases p with
    | nil => simpa [Trie.subAt] using h
    | cons b p =>
      have e : d + (b :: p).length = d + 1 + p.length := by simp; omega
      rw [e]
      cases b with
      | true => simpa [Trie.subAt] using ihr (d+1) p h.right
      | false => simpa [Trie.subAt] using ihl (d+1) p h.left

theorem WFp_keys_nodup {N : NodeC → Prop} (w : Nat) : ∀ (t : Trie) (d : Nat), WFp N w t d → t.keys.Nodup := by
  intro t
  induction t with
  | nil => intro _ _; simp [Trie.keys]
  | node c l r ihl ihr =>
    intro d k
    simp only [Trie.keys]
    rw [List.nodup_append]
    refine ⟨ihl _ k.left, ?_, ?_⟩
    · rw [List.nodup_cons]
      refine ⟨?_, ihr _ k.right⟩
      intro h
      obtain ⟨x, hx, e1, e2⟩ := (mem_keys_iff r c.addr c.len).1 h
      exact ((All_iff r).1 k.belowR x hx).2.2 ⟨e1, e2⟩
    · intro a ha b hb
      rcases List.mem_cons.1 hb with rfl | hb
      · intro e; subst e
        obtain ⟨x, hx, e1, e2⟩ := (mem_keys_iff l c.addr c.len).1 ha
        exact ((All_iff l).1 k.belowL x hx).2.2 ⟨e1, e2⟩
      · intro e; subst e
        obtain ⟨x, hx, e1, e2⟩ := (mem_keys_iff l a.1 a.2).1 ha
        obtain ⟨y, hy, e3, e4⟩ := (mem_keys_iff r a.1 a.2).1 hb
        have b1 := ((All_iff l).1 k.belowL x hx).1
        have b2 := ((All_iff r).1 k.belowR y hy).1
        rw [e1] at b1; rw [e3] at b2
        rw [b1] at b2; cases b2

/-! ## removeId (pfx_table_remove_id) -/

/-- payload elements of a trie with their node keys, in enumeration order -/
def Trie.elems (t : Trie) : List (Addr × Nat × Elem) :=
  t.nodes.flatMap fun c => c.data.map fun e => (c.addr, c.len, e)

theorem elems_node (c : NodeC) (l r : Trie) :
    (Trie.node c l r).elems = l.elems ++ (c.data.map fun e => (c.addr, c.len, e)) ++ r.elems := by
  simp [Trie.elems, Trie.nodes, List.flatMap_append]

theorem elems_nil : Trie.nil.elems = [] := rfl

theorem elems_perm {t t' : Trie} (h : t.nodes.Perm t'.nodes) : t.elems.Perm t'.elems :=
  List.Perm.flatMap_right _ h

theorem removeRoot_elems_perm (c : NodeC) (l r : Trie) :
    (removeRoot (.node c l r)).elems.Perm (l.elems ++ r.elems) := by
  have := List.Perm.flatMap_right (fun (c : NodeC) => c.data.map fun e => (c.addr, c.len, e))
    (removeRoot_nodes_perm _ c l r rfl)
  simpa [Trie.elems, List.flatMap_append] using this

theorem removeRoot_keys (c c' : NodeC) (l r : Trie) : (removeRoot (.node c l r)).keys ⊆ (Trie.node c' l r).keys := by
  have := ((removeRoot_nodes_perm _ c l r rfl).map fun c => (c.addr, c.len)).subset
  rw [List.map_append, ← keys_eq_map, ← keys_eq_map, ← keys_eq_map] at this
  exact this.trans (List.append_subset.2 ⟨List.subset_append_left _ _,
    List.subset_append_of_subset_right _ (List.subset_cons_of_subset _ (List.Subset.refl _))⟩)

/-- `res = removeId src t` on a trie well-formed at depth `d`.  `sub`: no new key, so what an ancestor
    asks of this subtree still holds -/
structure RemoveIdOK (N : NodeC → Prop) (w : Nat) (src : Nat) (t : Trie) (d : Nat) (res : Trie × List (Addr × Nat × Elem)) : Prop where
  wf : WFp N w res.1 d
  sub : res.1.keys ⊆ t.keys
  kept : res.1.elems.Perm (t.elems.filter fun x => x.2.2.src != src)
  gone : res.2.Perm (t.elems.filter fun x => x.2.2.src == src)

theorem filter_map_key (c : NodeC) (p : Elem → Bool) :
    (c.data.map fun e => (c.addr, c.len, e)).filter (fun x => p x.2.2) = (c.data.filter p).map fun e => (c.addr, c.len, e) := by
  rw [List.filter_map]; rfl

theorem removeId_spec {N : NodeC → Prop} (hN : NodeInv N) (w : Nat) (src : Nat) : ∀ (t : Trie) (d : Nat),
    WFp N w t d → RemoveIdOK N w src t d (removeId src t)
  | .nil, d, _ => by
    rw [removeId]
    exact ⟨trivial, List.Subset.refl _, by simp [Trie.elems, Trie.nodes], by simp [Trie.elems, Trie.nodes]⟩
  | .node c l r, d, k => by
    rw [removeId]
    simp only
    split
    · rename_i hkept
      have hk : c.data.filter (fun e => e.src != src) = [] := by simpa using hkept
      have hall : c.data.filter (fun e => e.src == src) = c.data := by
        rw [List.filter_eq_self]
        rw [List.filter_eq_nil_iff] at hk
        intro a ha; have := hk a ha; simpa using this
      split
      · rename_i hleaf
        rw [Bool.and_eq_true] at hleaf
        have hl0 : l = .nil := by
          cases l with
          | nil => rfl
          | node _ _ _ => exact absurd hleaf.1 (by simp [Trie.isNil])
        have hr0 : r = .nil := by
          cases r with
          | nil => rfl
          | node _ _ _ => exact absurd hleaf.2 (by simp [Trie.isNil])
        subst hl0; subst hr0
        refine ⟨trivial, List.nil_subset _, ?_, ?_⟩
        · simp only [elems_node, elems_nil, List.nil_append, List.append_nil]
          rw [filter_map_key c (fun e => e.src != src), hk]; simp
        · simp only [elems_node, elems_nil, List.nil_append, List.append_nil]
          rw [filter_map_key c (fun e => e.src == src), hall]
      · -- payload pulled up; the same position is checked again
        have ih := removeId_spec hN w src (removeRoot (.node { c with data := [] } l r)) d
          (removeRoot_WFp w _ l r d k.belowL k.belowR k.left k.right)
        have ep := removeRoot_elems_perm { c with data := [] } l r
        refine ⟨ih.wf, ih.sub.trans (removeRoot_keys _ c l r), ?_, ?_⟩
        · refine ih.kept.trans ?_
          refine (List.Perm.filter _ ep).trans ?_
          simp only [elems_node, List.filter_append]
          rw [filter_map_key c (fun e => e.src != src), hk]; simp
        · simp only
          refine (List.Perm.append_left _ ih.gone).trans ?_
          refine (List.Perm.append_left _ (List.Perm.filter _ ep)).trans ?_
          simp only [elems_node, List.filter_append]
          rw [filter_map_key c (fun e => e.src == src), hall]
          rw [← List.append_assoc]
          exact List.Perm.append_right _ List.perm_append_comm
    · rename_i hkept
      have hk : c.data.filter (fun e => e.src != src) ≠ [] := by simpa using hkept
      have ihl := removeId_spec hN w src l (d+1) k.left
      have ihr := removeId_spec hN w src r (d+1) k.right
      refine ⟨.node (hN.set c _ k.root hk ((hN.data c k.root).2.sublist List.filter_sublist))
          (All_Below_of_keys w c d false _ l ihl.sub k.belowL) (All_Below_of_keys w c d true _ r ihr.sub k.belowR) ihl.wf ihr.wf,
        node_keys_subset c _ ihl.sub ihr.sub rfl, ?_, ?_⟩
      · simp only [elems_node, List.filter_append]
        rw [filter_map_key c (fun e => e.src != src)]
        exact (ihl.kept.append_right _).append ihr.kept |>.trans (by simp)
      · simp only [elems_node, List.filter_append]
        rw [filter_map_key c (fun e => e.src == src)]
        have h1 : ((List.filter (fun e => e.src == src) c.data).map (fun e => (c.addr, c.len, e)) ++ (removeId src l).2 ++ (removeId src r).2).Perm
            ((removeId src l).2 ++ (List.filter (fun e => e.src == src) c.data).map (fun e => (c.addr, c.len, e)) ++ (removeId src r).2) :=
          List.Perm.append_right _ List.perm_append_comm
        refine h1.trans ?_
        exact (ihl.gone.append_right _).append ihr.gone
termination_by t => t.size
decreasing_by
  all_goals first
    | exact removeRoot_size_lt { c with data := [] } l r
    | (simp [Trie.size]; omega)

end Rtr
