/-
  `rtr_update_pfx_table`, `rtr_update_spki_table` and their undo functions are the verdicts `pfxV`, `keyV`,
  `pfxUndoV`, `keyUndoV` on one of the two update tables (spelled with `lsVerdict`, where the PDU check and
  the operation a PDU stands for are variables, and lifted to `Tbl` by `onTbl`).  The table part of the End
  of Data branch is `tablesOut`, a function of the update tables alone, of which connection part and
  environment see at most the refusal of one PDU (`applyTables_eq`).
-/
import RtrProofs.TableOps

namespace Rtr.P

/-! ## announce / withdraw on a list -/

section ListSet
variable {α : Type} [DecidableEq α]

/-- announce (`true`) / withdraw (`false`) on a duplicate-free list -/
def lsApply (t : List α) (f : Bool) (r : α) : List α × PfxRc :=
  if f then (if r ∈ t then (t, .duplicate) else (r :: t, .success))
  else (if r ∈ t then (t.erase r, .success) else (t, .notFound))

/-- `if flags = 1 then add else remove`, as the model writes it -/
theorem lsApply_ite (t : List α) (p : Prop) [Decidable p] (r : α) :
    (if p then lsApply t true r else lsApply t false r) = lsApply t (decide p) r := by
  by_cases h : p
  · rw [if_pos h, decide_eq_true h]
  · rw [if_neg h, decide_eq_false h]

theorem lsApply_ite_not (t : List α) (p : Prop) [Decidable p] (r : α) :
    (if p then lsApply t false r else lsApply t true r) = lsApply t (!decide p) r := by
  by_cases h : p
  · rw [if_pos h, decide_eq_true h]
    rfl
  · rw [if_neg h, decide_eq_false h]
    rfl

end ListSet

/-! ## verdicts on one table -/

section OneTable
variable {α : Type} [DecidableEq α]

/-- the verdict that the return code of `pfx_table_add/remove`, `spki_table_add/remove_entry` stands for -/
def rcVerdict : List α × PfxRc → Verdict (List α)
  | (_, .duplicate) => .refuse (.report 7 [] true)
  | (_, .notFound) => .refuse (.report 6 [] true)
  | (_, .error) => .refuse .silent
  | (l, .success) => .accept l

/-- the verdict of an update function on its table: `bad` = the text of the Error Report for a PDU that
    is unacceptable whatever the table holds (`fatal = false`: `rtr_update_pfx_table` reports it and returns
    RTR_ERROR without a state change), `op` = the operation a PDU stands for -/
def lsVerdict (bad : List Nat → Option (List Nat)) (op : List Nat → Bool × α) (l : List α) (raw : List Nat) :
    Verdict (List α) :=
  match bad raw with
  | some text => .refuse (.report 0 text false)
  | none => rcVerdict (lsApply l (op raw).1 (op raw).2)

def inv (op : List Nat → Bool × α) (raw : List Nat) : Bool × α := (!(op raw).1, (op raw).2)

theorem lsVerdict_accept (bad : List Nat → Option (List Nat)) (op : List Nat → Bool × α) (l l' : List α) (p : List Nat) :
    lsVerdict bad op l p = .accept l' ↔ bad p = none ∧ lsApply l (op p).1 (op p).2 = (l', .success) := by
  unfold lsVerdict
  cases bad p with
  | some text => exact ⟨(fun h => nomatch h), fun h => nomatch h.1⟩
  | none =>
    dsimp only
    generalize lsApply l (op p).1 (op p).2 = x
    obtain ⟨l1, rc⟩ := x
    cases rc
    · exact ⟨fun h => ⟨rfl, by injection h with h; rw [h]⟩, fun h => by injection h.2 with h; rw [h]; rfl⟩
    all_goals exact ⟨(fun h => nomatch h), fun h => nomatch h.2⟩

theorem lsApply_ne_error (t : List α) (f : Bool) (r : α) : (lsApply t f r).2 ≠ .error := by
  unfold lsApply
  cases f <;> simp only [Bool.false_eq_true, if_false, if_true] <;> split <;> exact fun h => nomatch h

theorem lsVerdict_refuse (bad : List Nat → Option (List Nat)) (op : List Nat → Bool × α) (l : List α) (p : List Nat)
    (r : Rej) (h : lsVerdict bad op l p = .refuse r) :
    (∃ text, bad p = some text ∧ r = .report 0 text false) ∨ r = .report 7 [] true ∨ r = .report 6 [] true := by
  unfold lsVerdict at h
  cases hb : bad p with
  | some text =>
    rw [hb] at h
    injection h with h
    exact Or.inl ⟨text, rfl, h.symm⟩
  | none =>
    rw [hb] at h
    dsimp only at h
    have hne := lsApply_ne_error l (op p).1 (op p).2
    generalize lsApply l (op p).1 (op p).2 = x at h hne
    obtain ⟨l', rc⟩ := x
    cases rc with
    | success => cases h
    | error => exact absurd rfl hne
    | duplicate =>
      injection h with h
      exact Or.inr (Or.inl h.symm)
    | notFound =>
      injection h with h
      exact Or.inr (Or.inr h.symm)

end OneTable

/-! ## the update tables inside `Tbl`; what a PDU stands for -/

@[simp] theorem upd_setUpd (t : Tbl) (u : Upd) : (t.setUpd u).upd = u := by
  unfold Tbl.setUpd Tbl.upd; cases t.shadow <;> simp

theorem setUpd_shadow (t : Tbl) (u : Upd) : (t.setUpd u).shadow.isSome = t.shadow.isSome := by
  unfold Tbl.setUpd; cases t.shadow <;> simp

theorem setUpd_live_some (t : Tbl) (u : Upd) (h : t.shadow.isSome) : (t.setUpd u).pt = t.pt ∧ (t.setUpd u).kt = t.kt := by
  unfold Tbl.setUpd; cases hs : t.shadow <;> simp_all

theorem setUpd_live_none (t : Tbl) (u : Upd) (h : t.shadow = none) : (t.setUpd u).pt = u.pt ∧ (t.setUpd u).kt = u.kt := by
  unfold Tbl.setUpd; simp [h]

theorem setUpd_upd (t : Tbl) : t.setUpd t.upd = t := by
  obtain ⟨pt, kt, sh⟩ := t
  cases sh <;> simp [Tbl.setUpd, Tbl.upd]

theorem setUpd_setUpd (t : Tbl) (u u' : Upd) : (t.setUpd u).setUpd u' = t.setUpd u' := by
  obtain ⟨pt, kt, sh⟩ := t
  cases sh <;> simp [Tbl.setUpd]

theorem startTbl_swapIn (t : Tbl) (resetting : Bool) (hs : t.shadow = none) (u : Upd) :
    ((startTbl t resetting).setUpd u).swapIn = ⟨u.pt, u.kt, none⟩ := by
  obtain ⟨pt, kt, sh⟩ := t
  simp only at hs
  subst hs
  cases resetting <;> rfl

/-- the announce/withdraw operation a Prefix PDU stands for -/
def pfxOp (raw : List Nat) : Bool × Rec := (flagsOf raw = 1, pfxRecOf raw)
def keyOp (raw : List Nat) : Bool × KeyRec := (flagsOf raw = 1, keyRecOf raw)

/-- a Prefix PDU the client accepts for application: lengths within the address size, flags 0/1 -/
def pfxOK (raw : List Nat) : Prop :=
  ¬ ((pfxRecOf raw).len > (if (pfxRecOf raw).v6 then 128 else 32) ∨ (pfxRecOf raw).maxLen > (if (pfxRecOf raw).v6 then 128 else 32)) ∧
  ¬ (flagsOf raw ≠ 0 ∧ flagsOf raw ≠ 1)
def keyOK (raw : List Nat) : Prop := ¬ (flagsOf raw ≠ 0 ∧ flagsOf raw ≠ 1)

instance (raw : List Nat) : Decidable (pfxOK raw) := by unfold pfxOK; exact inferInstance
instance (raw : List Nat) : Decidable (keyOK raw) := by unfold keyOK; exact inferInstance

section field
variable {α : Type} (get : Upd → List α) (set : Upd → List α → Upd)

/-- a verdict on one of the two update tables (`get`, `set`) as a verdict on the tables -/
def onTbl (v : List α → List Nat → Verdict (List α)) (t : Tbl) (raw : List Nat) : Verdict Tbl :=
  (v (get t.upd) raw).map fun l => t.setUpd (set t.upd l)

theorem run_onTbl (hgs : ∀ u l, get (set u l) = l) (hss : ∀ u l l', set (set u l) l' = set u l')
    (hsg : ∀ u, set u (get u) = u) (v : List α → List Nat → Verdict (List α)) (t : Tbl) (u : Upd)
    (ps done : List (List Nat)) :
    Verdict.run (onTbl get set v) (t.setUpd u) ps done =
      (t.setUpd (set u (Verdict.run v (get u) ps done).1), (Verdict.run v (get u) ps done).2) := by
  have h := Verdict.run_map (fun l => t.setUpd (set u l)) v (onTbl get set v)
    (fun l p => by simp only [onTbl, upd_setUpd, setUpd_setUpd, hgs, hss]) ps (get u) done
  rw [hsg] at h
  exact h

end field

/-! ## the update and undo functions of the model, and their loops -/

/-- the text of the Error Report for a Prefix PDU that `rtr_update_pfx_table` refuses unseen -/
def pfxBad (raw : List Nat) : Option (List Nat) :=
  if (pfxRecOf raw).len > (if (pfxRecOf raw).v6 then 128 else 32) ∨
      (pfxRecOf raw).maxLen > (if (pfxRecOf raw).v6 then 128 else 32) then some txtBadLenPfx
  else if flagsOf raw ≠ 0 ∧ flagsOf raw ≠ 1 then some txtBadFlagsPfx
  else none

def keyBad (raw : List Nat) : Option (List Nat) :=
  if flagsOf raw ≠ 0 ∧ flagsOf raw ≠ 1 then some txtBadFlagsKey else none

theorem pfxBad_none (raw : List Nat) : pfxBad raw = none ↔ pfxOK raw := by
  unfold pfxBad pfxOK
  by_cases h1 : (pfxRecOf raw).len > (if (pfxRecOf raw).v6 then 128 else 32) ∨
      (pfxRecOf raw).maxLen > (if (pfxRecOf raw).v6 then 128 else 32)
  · rw [if_pos h1]
    exact ⟨(fun h => nomatch h), fun h => absurd h1 h.1⟩
  · rw [if_neg h1]
    by_cases h2 : flagsOf raw ≠ 0 ∧ flagsOf raw ≠ 1
    · rw [if_pos h2]
      exact ⟨(fun h => nomatch h), fun h => absurd h2 h.2⟩
    · rw [if_neg h2]
      exact ⟨fun _ => ⟨h1, h2⟩, fun _ => rfl⟩

theorem keyBad_none (raw : List Nat) : keyBad raw = none ↔ keyOK raw := by
  unfold keyBad keyOK
  by_cases h2 : flagsOf raw ≠ 0 ∧ flagsOf raw ≠ 1
  · rw [if_pos h2]
    exact ⟨(fun h => nomatch h), fun h => absurd h2 h⟩
  · rw [if_neg h2]
    exact ⟨fun _ => h2, fun _ => rfl⟩

theorem pfxBad_some {raw text : List Nat} (h : pfxBad raw = some text) :
    text = txtBadLenPfx ∨ text = txtBadFlagsPfx := by
  unfold pfxBad at h
  generalize (if (pfxRecOf raw).v6 = true then 128 else 32) = w at h
  by_cases h1 : (pfxRecOf raw).len > w ∨ (pfxRecOf raw).maxLen > w
  · rw [if_pos h1] at h
    exact Or.inl (Option.some.inj h).symm
  · rw [if_neg h1] at h
    by_cases h2 : flagsOf raw ≠ 0 ∧ flagsOf raw ≠ 1
    · rw [if_pos h2] at h
      exact Or.inr (Option.some.inj h).symm
    · rw [if_neg h2] at h
      cases h

theorem keyBad_some {raw text : List Nat} (h : keyBad raw = some text) : text = txtBadFlagsKey := by
  unfold keyBad at h
  by_cases h2 : flagsOf raw ≠ 0 ∧ flagsOf raw ≠ 1
  · rw [if_pos h2] at h
    exact (Option.some.inj h).symm
  · rw [if_neg h2] at h
    cases h

/- The four verdicts of the model.  They are abbreviations: a lemma stated for `lsVerdict bad op` (`run_ls`,
   `lsVerdict_accept`, `lsVerdict_refuse`) applies to them as it stands, and `generalize Verdict.run pfxV … = X at *`
   also catches the hypotheses that spell the verdict out. -/
abbrev pfxV := lsVerdict pfxBad pfxOp
abbrev keyV := lsVerdict keyBad keyOp
abbrev pfxUndoV := lsVerdict (fun _ => none) (inv pfxOp)
abbrev keyUndoV := lsVerdict (fun _ => none) (inv keyOp)

def setPt (u : Upd) (l : List Rec) : Upd := { u with pt := l }
def setKt (u : Upd) (l : List KeyRec) : Upd := { u with kt := l }

abbrev onPt := onTbl Upd.pt setPt
abbrev onKt := onTbl Upd.kt setKt

theorem updatePfx_eq (c : Conn) (n : Net) (t : Tbl) (raw : List Nat) :
    updatePfx c n t raw = applyVerdict c n t raw (onPt pfxV t raw) := by
  unfold updatePfx onPt onTbl pfxV lsVerdict pfxBad pfxOp setPt
  simp only
  by_cases h1 : (pfxRecOf raw).len > (if (pfxRecOf raw).v6 = true then 128 else 32) ∨
      (pfxRecOf raw).maxLen > (if (pfxRecOf raw).v6 = true then 128 else 32)
  · rw [if_pos h1, if_pos h1]
    rfl
  · rw [if_neg h1, if_neg h1]
    by_cases h2 : flagsOf raw ≠ 0 ∧ flagsOf raw ≠ 1
    · rw [if_pos h2, if_pos h2]
      rfl
    · have key : (if flagsOf raw = 1 then ptAdd t.upd.pt (pfxRecOf raw) else ptRemove t.upd.pt (pfxRecOf raw)) =
          lsApply t.upd.pt (decide (flagsOf raw = 1)) (pfxRecOf raw) := lsApply_ite _ _ _
      rw [if_neg h2, if_neg h2, key]
      generalize lsApply t.upd.pt (decide (flagsOf raw = 1)) (pfxRecOf raw) = x
      obtain ⟨pt', rc⟩ := x
      cases rc <;> rfl

theorem updateKey_eq (c : Conn) (n : Net) (t : Tbl) (raw : List Nat) :
    updateKey c n t raw = applyVerdict c n t raw (onKt keyV t raw) := by
  unfold updateKey onKt onTbl keyV lsVerdict keyBad keyOp setKt
  simp only
  by_cases h2 : flagsOf raw ≠ 0 ∧ flagsOf raw ≠ 1
  · rw [if_pos h2, if_pos h2]
    rfl
  · have key : (if flagsOf raw = 1 then ktAdd t.upd.kt (keyRecOf raw) else ktRemove t.upd.kt (keyRecOf raw)) =
        lsApply t.upd.kt (decide (flagsOf raw = 1)) (keyRecOf raw) := lsApply_ite _ _ _
    rw [if_neg h2, if_neg h2, key]
    generalize lsApply t.upd.kt (decide (flagsOf raw = 1)) (keyRecOf raw) = x
    obtain ⟨kt', rc⟩ := x
    cases rc <;> rfl

theorem undoPfx_eq (t : Tbl) (raw : List Nat) : undoPfx t raw = undoVerdict t (onPt pfxUndoV t raw) := by
  unfold undoPfx onPt onTbl pfxUndoV lsVerdict inv pfxOp setPt
  simp only
  have key : (if flagsOf raw = 1 then ptRemove t.upd.pt (pfxRecOf raw) else ptAdd t.upd.pt (pfxRecOf raw)) =
      lsApply t.upd.pt (!decide (flagsOf raw = 1)) (pfxRecOf raw) := lsApply_ite_not _ _ _
  rw [key]
  generalize lsApply t.upd.pt (!decide (flagsOf raw = 1)) (pfxRecOf raw) = x
  obtain ⟨pt', rc⟩ := x
  cases rc <;> rfl

theorem undoKey_eq (t : Tbl) (raw : List Nat) : undoKey t raw = undoVerdict t (onKt keyUndoV t raw) := by
  unfold undoKey onKt onTbl keyUndoV lsVerdict inv keyOp setKt
  simp only
  have key : (if flagsOf raw = 1 then ktRemove t.upd.kt (keyRecOf raw) else ktAdd t.upd.kt (keyRecOf raw)) =
      lsApply t.upd.kt (!decide (flagsOf raw = 1)) (keyRecOf raw) := lsApply_ite_not _ _ _
  rw [key]
  generalize lsApply t.upd.kt (!decide (flagsOf raw = 1)) (keyRecOf raw) = x
  obtain ⟨kt', rc⟩ := x
  cases rc <;> rfl

theorem applyPfx_run : ∀ (ps : List (List Nat)) (c : Conn) (n : Net) (t : Tbl) (done : List (List Nat)),
    applyPfx c n t ps done = applyRes c n (Verdict.run (onPt pfxV) t ps done) :=
  applyLoop_run updatePfx (onPt pfxV) applyPfx updatePfx_eq (fun _ _ _ _ => rfl) (fun _ _ _ _ _ _ => rfl)

theorem applyKey_run : ∀ (ps : List (List Nat)) (c : Conn) (n : Net) (t : Tbl) (done : List (List Nat)),
    applyKey c n t ps done = applyRes c n (Verdict.run (onKt keyV) t ps done) :=
  applyLoop_run updateKey (onKt keyV) applyKey updateKey_eq (fun _ _ _ _ => rfl) (fun _ _ _ _ _ _ => rfl)

theorem applyPfx_upd (c : Conn) (n : Net) (t : Tbl) (u : Upd) (ps : List (List Nat)) :
    applyPfx c n (t.setUpd u) ps [] =
      applyRes c n (t.setUpd ⟨(Verdict.run pfxV u.pt ps []).1, u.kt⟩, (Verdict.run pfxV u.pt ps []).2) := by
  rw [applyPfx_run, run_onTbl Upd.pt setPt (fun _ _ => rfl) (fun _ _ _ => rfl) (fun _ => rfl)]
  rfl

theorem applyKey_upd (c : Conn) (n : Net) (t : Tbl) (u : Upd) (ps : List (List Nat)) :
    applyKey c n (t.setUpd u) ps [] =
      applyRes c n (t.setUpd ⟨u.pt, (Verdict.run keyV u.kt ps []).1⟩, (Verdict.run keyV u.kt ps []).2) := by
  rw [applyKey_run, run_onTbl Upd.kt setKt (fun _ _ => rfl) (fun _ _ _ => rfl) (fun _ => rfl)]
  rfl

theorem undoAllPfx_upd (t : Tbl) (u : Upd) (ps : List (List Nat)) :
    undoAllPfx (t.setUpd u) ps =
      ((Verdict.run pfxUndoV u.pt ps []).2.2.isNone, t.setUpd ⟨(Verdict.run pfxUndoV u.pt ps []).1, u.kt⟩) := by
  rw [undoLoop_run undoPfx (onPt pfxUndoV) undoAllPfx undoPfx_eq (fun _ => rfl) (fun _ _ _ => rfl) ps _ [],
    run_onTbl Upd.pt setPt (fun _ _ => rfl) (fun _ _ _ => rfl) (fun _ => rfl)]
  rfl

theorem undoAllKey_upd (t : Tbl) (u : Upd) (ps : List (List Nat)) :
    undoAllKey (t.setUpd u) ps =
      ((Verdict.run keyUndoV u.kt ps []).2.2.isNone, t.setUpd ⟨u.pt, (Verdict.run keyUndoV u.kt ps []).1⟩) := by
  rw [undoLoop_run undoKey (onKt keyUndoV) undoAllKey undoKey_eq (fun _ => rfl) (fun _ _ _ => rfl) ps _ [],
    run_onTbl Upd.kt setKt (fun _ _ => rfl) (fun _ _ _ => rfl) (fun _ => rfl)]
  rfl

/-! ## the whole table part as a function of the update tables -/

/-- outcome of the table part on the update tables: every PDU applied, or PDU `p` refused for reason `r`
    at update tables `uf` (which only feed the record count the state callback prints), then whether the undo
    went through and the update tables after it.  `TablesOut.res` is what `applyTables` returns;
    `TablesOut.ures` (SyncTables.lean) keeps flags and tables only, and atomicity is stated on it. -/
inductive TablesOut where
  | applied (u : Upd)
  | refused (p : List Nat) (r : Rej) (uf : Upd) (undone : Bool) (u : Upd)

/-- the table part of the End of Data branch as a function of the update tables: the Prefix PDUs (IPv4,
    then IPv6) on the prefix table, then the Router Key PDUs on the key table; after a refusal the
    forward undo of what was applied, prefix table first, up to the first undo step that fails -/
def tablesOut (u0 : Upd) (v4 v6 keys : List (List Nat)) : TablesOut :=
  match Verdict.run pfxV u0.pt (v4 ++ v6) [] with
  | (pt, donep, some (p, r)) =>
    match Verdict.run pfxUndoV pt donep [] with
    | (pt', _, x) => .refused p r ⟨pt, u0.kt⟩ x.isNone ⟨pt', u0.kt⟩
  | (pt, _, none) =>
    match Verdict.run keyV u0.kt keys [] with
    | (kt, donek, some (p, r)) =>
      match Verdict.run pfxUndoV pt (v4 ++ v6) [] with
      | (pt', _, some _) => .refused p r ⟨pt, kt⟩ false ⟨pt', kt⟩
      | (pt', _, none) =>
        match Verdict.run keyUndoV kt donek [] with
        | (kt', _, x) => .refused p r ⟨pt, kt⟩ x.isNone ⟨pt', kt'⟩
    | (kt, _, none) => .applied ⟨pt, kt⟩

/-! ## `applyTables` (the model of the C code) is `tablesOut` -/

def TablesOut.res (c : Conn) (n : Net) (t0 : Tbl) : TablesOut → ApplyRes
  | .applied u => { ok := true, purged := false, c := c, n := n, t := (t0.setUpd u).swapIn }
  | .refused p r uf undone u =>
    applyFail undone (refuse c n (t0.setUpd uf).own p r).1 (refuse c n (t0.setUpd uf).own p r).2 (t0.setUpd u)

theorem TablesOut.res_applied (c : Conn) (n : Net) (t0 : Tbl) (u : Upd) :
    (TablesOut.applied u).res c n t0 = { ok := true, purged := false, c := c, n := n, t := (t0.setUpd u).swapIn } := rfl

theorem TablesOut.res_refused (c : Conn) (n : Net) (t0 : Tbl) (p : List Nat) (r : Rej) (uf : Upd) (undone : Bool) (u : Upd) :
    (TablesOut.refused p r uf undone u).res c n t0 =
      applyFail undone (refuse c n (t0.setUpd uf).own p r).1 (refuse c n (t0.setUpd uf).own p r).2 (t0.setUpd u) := rfl

theorem applyPfx_start (c : Conn) (n : Net) (t : Tbl) (ps : List (List Nat)) :
    applyPfx c n t ps [] =
      applyRes c n (t.setUpd ⟨(Verdict.run pfxV t.upd.pt ps []).1, t.upd.kt⟩, (Verdict.run pfxV t.upd.pt ps []).2) := by
  have h := applyPfx_upd c n t t.upd ps
  rw [setUpd_upd] at h
  exact h

theorem undoAllPfx_append (a b : List (List Nat)) (t : Tbl) :
    undoThen (undoAllPfx t a) (undoAllPfx · b) = undoAllPfx t (a ++ b) := by
  induction a generalizing t with
  | nil => simp only [undoAllPfx, undoThen, if_true, Bool.true_and, List.nil_append]
  | cons p a ih =>
    simp only [List.cons_append, undoAllPfx]
    obtain ⟨ok, t'⟩ := undoPfx t p
    cases ok with
    | true => exact ih t'
    | false => rfl

/-- **the table part is `tablesOut`.**  To read a property of `applyTables` off it: `rw [applyTables_eq]`, then
    `generalize tablesOut … = O at h ⊢` with every hypothesis `h` that mentions the outcome (a plain `cases` fails
    as soon as one does), `cases O`, and `TablesOut.res_applied` / `res_refused` in the two cases. -/
theorem applyTables_eq (c : Conn) (n : Net) (t : Tbl) (resetting : Bool) (v4 v6 keys : List (List Nat)) :
    applyTables c n t resetting v4 v6 keys =
      (tablesOut (startTbl t resetting).upd v4 v6 keys).res c n (startTbl t resetting) := by
  rw [applyTables_stages]
  generalize startTbl t resetting = t0
  unfold tablesOut
  rw [applyPfx_start, Verdict.run_append]
  -- a stage that went through has done all its PDUs (`run_none`: `e4`, `e6`), so the lists the stages hand to
  -- a later undo are `v4` and `v4 ++ v6`, over which `tablesOut` undoes
  have e4 := Verdict.run_none pfxV v4 t0.upd.pt []
  generalize Verdict.run pfxV t0.upd.pt v4 [] = X at e4 ⊢
  obtain ⟨l4, d4, r4⟩ := X
  rw [stage_applyRes]
  cases r4 with
  | some x =>
    obtain ⟨p, r⟩ := x
    dsimp only
    rw [undoAllPfx_upd]
    rfl
  | none =>
    have e4' : d4 = v4 := e4 rfl
    subst e4'
    dsimp only
    rw [applyPfx_upd, Verdict.run_done pfxV v6 l4 d4]
    have e6 := Verdict.run_none pfxV v6 l4 []
    generalize Verdict.run pfxV l4 v6 [] = X at e6 ⊢
    obtain ⟨l6, d6, r6⟩ := X
    rw [stage_applyRes]
    cases r6 with
    | some x =>
      obtain ⟨p, r⟩ := x
      dsimp only
      rw [undoAllPfx_append, undoAllPfx_upd]
      rfl
    | none =>
      have e6' : d6 = v6 := e6 rfl
      subst e6'
      dsimp only
      rw [applyKey_upd]
      generalize Verdict.run keyV t0.upd.kt keys [] = X
      obtain ⟨lk, dk, rk⟩ := X
      rw [stage_applyRes]
      cases rk with
      | some x =>
        obtain ⟨p, r⟩ := x
        dsimp only
        rw [undoAllPfx_append, undoAllPfx_upd]
        generalize Verdict.run pfxUndoV l6 (d4 ++ d6) [] = Y
        obtain ⟨l7, d7, r7⟩ := Y
        cases r7 with
        | some y => rfl
        | none =>
          dsimp only [undoThen, Option.isNone]
          rw [if_pos rfl, undoAllKey_upd]
          rfl
      | none => rfl

theorem tablesOut_refused (u0 : Upd) (v4 v6 keys : List (List Nat)) (p : List Nat) (r : Rej) (uf : Upd) (undone : Bool)
    (u : Upd) (h : tablesOut u0 v4 v6 keys = .refused p r uf undone u) :
    p ∈ v4 ++ v6 ++ keys ∧ ((∃ l, pfxV l p = .refuse r) ∨ ∃ l, keyV l p = .refuse r) := by
  unfold tablesOut at h
  obtain ⟨_, _, _, _, _, s4⟩ := Verdict.run_split pfxV (v4 ++ v6) u0.pt []
  generalize Verdict.run pfxV u0.pt (v4 ++ v6) [] = X at h s4
  obtain ⟨pt, donep, rp⟩ := X
  cases rp with
  | some x =>
    obtain ⟨q, rq⟩ := x
    injection h with h1 h2
    subst h1 h2
    exact ⟨List.mem_append_left _ (s4 q rq rfl).1, Or.inl ⟨pt, (s4 q rq rfl).2⟩⟩
  | none =>
    dsimp only at h
    obtain ⟨_, _, _, _, _, k4⟩ := Verdict.run_split keyV keys u0.kt []
    generalize Verdict.run keyV u0.kt keys [] = X at h k4
    obtain ⟨kt, donek, rk⟩ := X
    cases rk with
    | none => cases h
    | some x =>
      obtain ⟨q, rq⟩ := x
      have hq : q = p ∧ rq = r := by
        dsimp only at h
        generalize Verdict.run pfxUndoV pt (v4 ++ v6) [] = Y at h
        obtain ⟨pt', d', r'⟩ := Y
        cases r' with
        | some y | none =>
          injection h with h1 h2
          exact ⟨h1, h2⟩
      obtain ⟨rfl, rfl⟩ := hq
      exact ⟨List.mem_append_right _ (k4 q rq rfl).1, Or.inr ⟨kt, (k4 q rq rfl).2⟩⟩

end Rtr.P
