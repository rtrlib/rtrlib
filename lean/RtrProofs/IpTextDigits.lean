/-
  IpTextDigits: digit-level lemmas for the address-text model (C19):
  `%x` / `%hhu` renderings read back by the hex scanner of the IPv6 parser and by the
  `sscanf("%3hhu")` model.
-/
import RtrModel.IpText
import RtrProofs.Digits

namespace Rtr.IpText

/-! ## characters -/

theorem hexVal_hexChar : ∀ d, d < 16 → hexVal? (hexChar d) = some d := by decide
theorem toNat_decChar : ∀ d, d < 10 → (decChar d).toNat - 48 = d := by decide
theorem hexChar_ne : ∀ d, d < 16 → hexChar d ≠ ':' ∧ hexChar d ≠ '.' := by decide
theorem hexVal_colon : hexVal? ':' = none := by decide
theorem hexVal_dot : hexVal? '.' = none := by decide
theorem isDigit_dot : isDigit '.' = false := by decide
theorem isDigit_colon : isDigit ':' = false := by decide

/-- `%x` prints hex digits whatever the number: the last alternative of `hexChar` is a digit too -/
theorem hexChar_isHex (d : Nat) : (hexVal? (hexChar d)).isSome = true := by
  unfold hexChar
  split <;> decide

/-- what the readers ask of a character that `%hhu` printed: to `sscanf` a digit, no white space and no sign; to the
    IPv6 scanner a hex digit -/
structure DecDigit (c : Char) : Prop where
  digit : isDigit c = true
  noSpace : isSpace c = false
  noMinus : c ≠ '-'
  noPlus : c ≠ '+'
  hex : (hexVal? c).isSome = true

/-- `%hhu` prints such characters whatever the number: the last alternative of `decChar` is a digit too -/
theorem decChar_kind (d : Nat) : DecDigit (decChar d) := by
  unfold decChar
  split <;> constructor <;> decide

theorem hexVal_lt {c : Char} {k : Nat} (h : hexVal? c = some k) : k < 16 := by
  unfold hexVal? at h
  split at h
  · injection h with h; omega
  · split at h
    · injection h with h; omega
    · split at h
      · injection h with h; omega
      · cases h

/-! ## where a scan stops -/

def NoHexHead (s : Str) : Prop := ∀ c cs, s = c :: cs → hexVal? c = none
def NoDigitHead (s : Str) : Prop := ∀ c cs, s = c :: cs → isDigit c = false

theorem noHexHead_nil : NoHexHead [] := by intro c cs h; cases h
theorem noHexHead_cons {c : Char} (hc : hexVal? c = none) (s : Str) : NoHexHead (c :: s) := by
  intro c' cs h; injection h with h1 _; subst h1; exact hc
theorem noDigitHead_nil : NoDigitHead [] := by intro c cs h; cases h
theorem noDigitHead_cons {c : Char} (hc : isDigit c = false) (s : Str) : NoDigitHead (c :: s) := by
  intro c' cs h; injection h with h1 _; subst h1; exact hc
theorem noDigitHead_colon (s : Str) : NoDigitHead (':' :: s) := noDigitHead_cons isDigit_colon s

/-! ## hex groups -/

theorem scanHex_stop {rest : Str} (h : NoHexHead rest) (j l : Nat) : scanHex rest j l = some (j, rest) := by
  cases rest with
  | nil => rfl
  | cons c cs => simp [scanHex, h c cs rfl]

def AllHex (g : Str) : Prop := ∀ c ∈ g, (hexVal? c).isSome = true

def groupFold (g : Str) (j : Nat) : Nat := g.foldl (fun acc c => acc * 16 + (hexVal? c).getD 0) j

theorem groupVal_eq (g : Str) : groupVal g = groupFold g 0 := rfl

theorem pow16 (l : Nat) (h : l ≤ 4) : 16 ^ l ≤ 65536 := Nat.pow_le_pow_right (by decide) h

theorem scanHex_group (g : Str) : ∀ (j l : Nat) (rest : Str), AllHex g → l + g.length ≤ 4 → j < 16 ^ l →
    NoHexHead rest → scanHex (g ++ rest) j l = some (groupFold g j, rest) := by
  induction g with
  | nil => intro j l rest _ _ _ hr; simpa [groupFold] using scanHex_stop hr j l
  | cons c cs ih =>
    intro j l rest hg hl hj hr
    have hc : (hexVal? c).isSome = true := hg c (by simp)
    obtain ⟨k, hk⟩ := Option.isSome_iff_exists.mp hc
    have hk16 := hexVal_lt hk
    simp only [List.length_cons] at hl
    have hp : 16 ^ (l + 1) ≤ 65536 := pow16 (l + 1) (by omega)
    have hj' : j * 16 + k < 16 ^ (l + 1) := by
      rw [Nat.pow_succ]; omega
    have hno : ¬ (j * 16 + k ≥ 65536 ∨ l + 1 > 4) := by omega
    have := ih (j * 16 + k) (l + 1) rest (fun c' hc' => hg c' (by simp [hc'])) (by omega) hj' hr
    simp only [List.cons_append, scanHex, hk, hno, if_false, this]
    simp [groupFold, hk]

theorem groupFold_lt (g : Str) : ∀ (j l : Nat), AllHex g → j < 16 ^ l → groupFold g j < 16 ^ (l + g.length) := by
  induction g with
  | nil => intro j l _ hj; simpa [groupFold] using hj
  | cons c cs ih =>
    intro j l hg hj
    have hc : (hexVal? c).isSome = true := hg c (by simp)
    obtain ⟨k, hk⟩ := Option.isSome_iff_exists.mp hc
    have hk16 := hexVal_lt hk
    have hj' : j * 16 + k < 16 ^ (l + 1) := by rw [Nat.pow_succ]; omega
    have := ih (j * 16 + k) (l + 1) (fun c' hc' => hg c' (by simp [hc'])) hj'
    simp only [groupFold, List.foldl_cons, hk, Option.getD_some, List.length_cons] at this ⊢
    rw [show l + (cs.length + 1) = l + 1 + cs.length by omega]
    exact this

theorem groupOk_iff (g : Str) : groupOk g = true ↔ (1 ≤ g.length ∧ g.length ≤ 4 ∧ AllHex g) := by
  simp [groupOk, AllHex, and_assoc]

theorem groupVal_lt {g : Str} (h : groupOk g = true) : groupVal g < 65536 := by
  obtain ⟨_, h4, hh⟩ := (groupOk_iff g).mp h
  have := groupFold_lt g 0 0 hh (by decide)
  rw [groupVal_eq]
  have hp := pow16 g.length h4
  simp only [Nat.zero_add] at this
  omega

theorem scanHex_groupOk {g : Str} (h : groupOk g = true) {rest : Str} (hr : NoHexHead rest) :
    scanHex (g ++ rest) 0 0 = some (groupVal g, rest) := by
  obtain ⟨_, h4, hh⟩ := (groupOk_iff g).mp h
  exact scanHex_group g 0 0 rest hh (by omega) (by decide) hr

theorem groupFold_hexChar {d : Nat} (hd : d < 16) (g : Str) (j : Nat) :
    groupFold (hexChar d :: g) j = groupFold g (j * 16 + d) := by
  rw [groupFold, List.foldl_cons, hexVal_hexChar d hd]
  rfl

theorem groupOk_hex16 (w : Nat) : groupOk (hex16 w) = true := by
  unfold hex16
  split
  · simp [groupOk, hexChar_isHex]
  · split
    · simp [groupOk, hexChar_isHex]
    · split
      · simp [groupOk, hexChar_isHex]
      · simp [groupOk, hexChar_isHex]

/-- every printed digit is read as itself, and the digits are those of `w` -/
theorem groupVal_hex16 {w : Nat} (hw : w < 65536) : groupVal (hex16 w) = w := by
  have m16 := fun x => Nat.mod_lt x (show 0 < 16 by decide)
  rw [groupVal_eq]
  unfold hex16
  split
  · next h => exact (groupFold_hexChar h [] 0).trans (Nat.zero_add w)
  · split
    · next h =>
      rw [groupFold_hexChar (Nat.div_lt_of_lt_mul h), groupFold_hexChar (m16 w), Nat.zero_mul, Nat.zero_add]
      exact Nat.div_add_mod' w 16
    · split
      · next h =>
        rw [groupFold_hexChar (Nat.div_lt_of_lt_mul h), groupFold_hexChar (m16 _), groupFold_hexChar (m16 w), Nat.zero_mul,
          Nat.zero_add]
        exact digits3 16 w
      · rw [groupFold_hexChar (m16 _), groupFold_hexChar (m16 _), groupFold_hexChar (m16 _), groupFold_hexChar (m16 w),
          Nat.zero_mul, Nat.zero_add]
        exact (digits4_mod 16 w).trans (Nat.mod_eq_of_lt hw)

theorem hex16_length (w : Nat) : 1 ≤ (hex16 w).length ∧ (hex16 w).length ≤ 4 :=
  have ⟨h1, h4, _⟩ := (groupOk_iff _).mp (groupOk_hex16 w)
  ⟨h1, h4⟩

theorem hex16_ne_nil (n : Nat) : hex16 n ≠ [] := by
  have := (hex16_length n).1
  intro h; rw [h] at this; simp at this

/-! ## decimal octets -/

theorem dec8_length (n : Nat) : 1 ≤ (dec8 n).length ∧ (dec8 n).length ≤ 3 := by
  unfold dec8; split
  · simp
  · split <;> simp

theorem takeDigits_stop {rest : Str} (hr : NoDigitHead rest) (w acc k : Nat) : takeDigits w rest acc k = (acc, k, rest) := by
  cases w with
  | zero => rfl
  | succ w =>
    cases rest with
    | nil => rfl
    | cons c cs => rw [takeDigits, if_neg (by rw [hr c cs rfl]; decide)]

theorem takeDigits_decChar {d : Nat} (hd : d < 10) (w : Nat) (s : Str) (acc k : Nat) :
    takeDigits (w + 1) (decChar d :: s) acc k = takeDigits w s (acc * 10 + d) (k + 1) := by
  rw [takeDigits, if_pos (decChar_kind d).digit, toNat_decChar d hd]

/-- a text that starts with a printed digit has no white space to skip and no sign.
    `k + 1` is the number of digits read: `scanU3` fails on a field without a digit (`r.2.1 = 0`), and the count is
    written as a successor so that this test is decided by the shape of `h` -/
theorem scanU3_decChar (d : Nat) (s : Str) {v k : Nat} {rest : Str}
    (h : takeDigits 3 (decChar d :: s) 0 0 = (v, k + 1, rest)) : scanU3 (decChar d :: s) = some (v % 256, rest) := by
  have hc := decChar_kind d
  simp only [scanU3, skipWs, hc.noSpace, hc.noMinus, hc.noPlus, or_self, if_false, h, Nat.add_one_ne_zero, Bool.false_eq_true]

/-- every printed digit is read as itself, and the digits are those of `n` -/
theorem scanU3_dec8 {n : Nat} (hn : n < 256) {rest : Str} (hr : NoDigitHead rest) :
    scanU3 (dec8 n ++ rest) = some (n, rest) := by
  have hv : ∀ v, v = n → some (v % 256, rest) = some (n, rest) := fun v e => by rw [e, Nat.mod_eq_of_lt hn]
  have m10 := fun x => Nat.mod_lt x (show 0 < 10 by decide)
  unfold dec8
  split
  · next h =>
    refine (scanU3_decChar n rest (k := 0) ?_).trans (hv _ (Nat.zero_add n))
    rw [takeDigits_decChar h, takeDigits_stop hr]
  · split
    · next h =>
      simp only [List.cons_append, List.nil_append]
      refine (scanU3_decChar _ _ (k := 1) ?_).trans (hv _ (Nat.div_add_mod' n 10))
      rw [takeDigits_decChar (Nat.div_lt_of_lt_mul h), takeDigits_decChar (m10 n), takeDigits_stop hr, Nat.zero_mul, Nat.zero_add]
    · simp only [List.cons_append, List.nil_append]
      refine (scanU3_decChar _ _ (k := 2) ?_).trans
        (hv _ ((digits3_mod 10 n).trans (Nat.mod_eq_of_lt (Nat.lt_trans hn (by decide)))))
      rw [takeDigits_decChar (m10 _), takeDigits_decChar (m10 _), takeDigits_decChar (m10 n), takeDigits_stop hr,
        Nat.zero_mul, Nat.zero_add]

/-- the first octet of a dotted quad is also a hex group for the IPv6 scanner -/
theorem groupOk_dec8 (n : Nat) : groupOk (dec8 n) = true := by
  have h := fun d => (decChar_kind d).hex
  unfold dec8
  split
  · simp [groupOk, h]
  · split <;> simp [groupOk, h]

theorem parse4_quadStr {q : Nat × Nat × Nat × Nat} (hq : quadOk q = true) {rest : Str} (hr : NoDigitHead rest) :
    parse4 (quadStr q ++ rest) = some (q.1 * 16777216 + q.2.1 * 65536 + q.2.2.1 * 256 + q.2.2.2) := by
  obtain ⟨a, b, c, d⟩ := q
  simp only [quadOk, Bool.and_eq_true, decide_eq_true_eq] at hq
  obtain ⟨⟨⟨ha, hb⟩, hc⟩, hd⟩ := hq
  simp only [quadStr, List.append_assoc, List.cons_append]
  unfold parse4
  have ed : ∀ cs : Str, expectDot ('.' :: cs) = some cs := fun _ => rfl
  rw [scanU3_dec8 ha (noDigitHead_cons isDigit_dot _)]
  dsimp only
  rw [ed]; dsimp only
  rw [scanU3_dec8 hb (noDigitHead_cons isDigit_dot _)]; dsimp only
  rw [ed]; dsimp only
  rw [scanU3_dec8 hc (noDigitHead_cons isDigit_dot _)]; dsimp only
  rw [ed]; dsimp only
  rw [scanU3_dec8 hd hr]

end Rtr.IpText
