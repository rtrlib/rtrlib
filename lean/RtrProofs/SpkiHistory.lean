/-
  SpkiHistory: operation histories over two router-key tables (the table of a socket and the
  shadow table of rtr_sync), their set semantics, and the refinement step by step.
-/
import RtrProofs.SpkiRefine

namespace Rtr

/-- the public operations of ht-spkitable.c on a pair of tables; the Boolean selects the table
    (`false` = first, `true` = second); binary operations act on the selected table and the other -/
inductive SpkiOp where
  | add (t : Bool) (r : SpkiRec)
  | remove (t : Bool) (r : SpkiRec)
  | srcRemove (t : Bool) (src : Nat)
  /-- `spki_table_copy_except_socket(table t, the other table, src)` -/
  | copyExcept (t : Bool) (src : Nat)
  | swap
  /-- `spki_table_notify_diff(new = table t, old = the other table, src)` -/
  | notifyDiff (t : Bool) (src : Nat)
  /-- `spki_table_free` followed by `spki_table_init` -/
  | free (t : Bool)

def setT (S : Bool → SpkiTable) (t : Bool) (T : SpkiTable) : Bool → SpkiTable :=
  fun u => if u = t then T else S u

/-- one operation on the concrete pair: new pair and return code (`success` for `void` functions) -/
def stepOp (S : Bool → SpkiTable) : SpkiOp → (Bool → SpkiTable) × SpkiRc
  | .add t r => (setT S t ((S t).add r).1, ((S t).add r).2)
  | .remove t r => (setT S t ((S t).remove r).1, ((S t).remove r).2)
  | .srcRemove t s => (setT S t ((S t).srcRemove s).1, ((S t).srcRemove s).2)
  | .copyExcept t s =>
    (setT S (!t) (SpkiTable.copyExcept (S t) (S (!t)) s).1, (SpkiTable.copyExcept (S t) (S (!t)) s).2)
  | .swap =>
    (fun u => if u then (SpkiTable.swap (S false) (S true)).2 else (SpkiTable.swap (S false) (S true)).1, .success)
  | .notifyDiff t s =>
    (setT (setT S t (SpkiTable.notifyDiff (S t) (S (!t)) s).1) (!t) (SpkiTable.notifyDiff (S t) (S (!t)) s).2,
     .success)
  | .free t => (setT S t (S t).free, .success)

/-- a whole history: final pair and the list of return codes -/
def runOps : (Bool → SpkiTable) → List SpkiOp → (Bool → SpkiTable) × List SpkiRc
  | S, [] => (S, [])
  | S, op :: ops => ((runOps (stepOp S op).1 ops).1, (stepOp S op).2 :: (runOps (stepOp S op).1 ops).2)

/-- the abstract state: two mathematical sets of records -/
abbrev ASets := Bool → SpkiRec → Prop

/-- abstraction function: the records of each table -/
def absT (S : Bool → SpkiTable) : ASets := fun t x => x ∈ (S t).list

/-- set semantics of one operation: `specStep A op rc A'`.  Everything is deterministic except a
    failing copy (the target then holds its old records and some of the copied ones). -/
def specStep (A : ASets) (op : SpkiOp) (rc : SpkiRc) (A' : ASets) : Prop :=
  match op with
  | .add t r =>
    (A t r ∧ rc = .duplicate ∧ ∀ u x, A' u x ↔ A u x) ∨
    (¬ A t r ∧ rc = .success ∧ ∀ u x, A' u x ↔ (A u x ∨ (u = t ∧ x = r)))
  | .remove t r =>
    (¬ A t r ∧ rc = .notFound ∧ ∀ u x, A' u x ↔ A u x) ∨
    (A t r ∧ rc = .success ∧ ∀ u x, A' u x ↔ (A u x ∧ ¬ (u = t ∧ x = r)))
  | .srcRemove t s => rc = .success ∧ ∀ u x, A' u x ↔ (A u x ∧ ¬ (u = t ∧ x.src = s))
  | .copyExcept t s =>
    ((∀ x, A t x → x.src ≠ s → ¬ A (!t) x) ∧ rc = .success ∧
      ∀ u x, A' u x ↔ (A u x ∨ (u = !t ∧ A t x ∧ x.src ≠ s))) ∨
    ((∃ x, A t x ∧ x.src ≠ s ∧ A (!t) x) ∧ rc = .error ∧ (∀ u x, A u x → A' u x) ∧
      ∀ u x, A' u x → (A u x ∨ (u = !t ∧ A t x ∧ x.src ≠ s)))
  | .swap => rc = .success ∧ ∀ u x, A' u x ↔ A (!u) x
  | .notifyDiff t s => rc = .success ∧ ∀ u x, A' u x ↔ (A u x ∧ ¬ (u = !t ∧ x.src = s ∧ A t x))
  | .free t => rc = .success ∧ ∀ u x, A' u x ↔ (A u x ∧ u ≠ t)

/-- set semantics of a history -/
inductive SpecRun : ASets → List SpkiOp → List SpkiRc → ASets → Prop
  | nil (A A' : ASets) : (∀ u x, A' u x ↔ A u x) → SpecRun A [] [] A'
  | cons (A A1 A2 : ASets) (op : SpkiOp) (rc : SpkiRc) (ops : List SpkiOp) (rcs : List SpkiRc) :
      specStep A op rc A1 → SpecRun A1 ops rcs A2 → SpecRun A (op :: ops) (rc :: rcs) A2

theorem setT_same (S : Bool → SpkiTable) (t : Bool) (T : SpkiTable) : setT S t T t = T :=
  if_pos rfl

theorem setT_other (S : Bool → SpkiTable) {t u : Bool} (T : SpkiTable) (h : u ≠ t) : setT S t T u = S u :=
  if_neg h

theorem setT_self (S : Bool → SpkiTable) (t : Bool) : setT S t (S t) = S := by
  funext u
  by_cases hu : u = t
  · rw [hu, setT_same]
  · rw [setT_other _ _ hu]

theorem bool_eq_not_of_ne {u t : Bool} (h : u ≠ t) : u = !t := Bool.eq_not_of_ne h

theorem absT_setT_same (S : Bool → SpkiTable) (t : Bool) (T : SpkiTable) (x : SpkiRec) :
    absT (setT S t T) t x ↔ x ∈ T.list := by
  rw [absT, setT_same]

theorem absT_setT_other (S : Bool → SpkiTable) {t u : Bool} (T : SpkiTable) (h : u ≠ t) (x : SpkiRec) :
    absT (setT S t T) u x ↔ absT S u x := by
  rw [absT, setT_other _ _ h]
  rfl

/-- replacing table `t` changes the abstract contents at `t` only: they follow `P` if the new
    table does at `t` and the old ones do elsewhere -/
theorem absT_setT (S : Bool → SpkiTable) (t : Bool) (T : SpkiTable) (P : ASets)
    (hsame : ∀ x, x ∈ T.list ↔ P t x) (hother : ∀ u x, u ≠ t → (absT S u x ↔ P u x)) :
    ∀ u x, absT (setT S t T) u x ↔ P u x := by
  intro u x
  by_cases hu : u = t
  · rw [hu, absT_setT_same]
    exact hsame x
  · rw [absT_setT_other _ _ hu]
    exact hother u x hu

theorem sinv_setT {S : Bool → SpkiTable} (iv : ∀ t, SpkiTable.SInv (S t)) (t : Bool) {T : SpkiTable}
    (hT : SpkiTable.SInv T) : ∀ u, SpkiTable.SInv (setT S t T u) := by
  intro u
  by_cases hu : u = t
  · rw [hu, setT_same]
    exact hT
  · rw [setT_other _ _ hu]
    exact iv u

theorem step_refines (S : Bool → SpkiTable) (iv : ∀ t, SpkiTable.SInv (S t)) (op : SpkiOp) :
    specStep (absT S) op (stepOp S op).2 (absT (stepOp S op).1) ∧ ∀ t, SpkiTable.SInv ((stepOp S op).1 t) := by
  cases op with
  | add t r =>
    by_cases hr : r ∈ (S t).list
    · have e : stepOp S (.add t r) = (S, .duplicate) := by
        simp only [stepOp, SpkiTable.add_dup (iv t) r hr, setT_self]
      rw [e]
      exact ⟨Or.inl ⟨hr, rfl, fun _ _ => Iff.rfl⟩, iv⟩
    · have a := SpkiTable.add_new_spec (iv t) r hr
      refine ⟨Or.inr ⟨hr, a.rc, absT_setT S t _ _ (fun x => ?_) (fun u x hu => ?_)⟩, sinv_setT iv t a.sinv⟩
      · rw [a.list]
        simp [absT]
      · simp [hu]
  | remove t r =>
    by_cases hr : r ∈ (S t).list
    · have a := SpkiTable.remove_present_spec (iv t) r hr
      refine ⟨Or.inr ⟨hr, a.rc, absT_setT S t _ _ (fun x => ?_) (fun u x hu => ?_)⟩, sinv_setT iv t a.sinv⟩
      · rw [a.list, (iv t).nodup.mem_erase_iff]
        simp [absT, and_comm]
      · simp [hu]
    · have e : stepOp S (.remove t r) = (S, .notFound) := by
        simp only [stepOp, SpkiTable.remove_absent (iv t) r hr, setT_self]
      rw [e]
      exact ⟨Or.inl ⟨hr, rfl, fun _ _ => Iff.rfl⟩, iv⟩
  | srcRemove t s =>
    have a := SpkiTable.srcRemove_spec (iv t) s
    refine ⟨⟨a.rc, absT_setT S t _ _ (fun x => ?_) (fun u x hu => ?_)⟩, sinv_setT iv t a.sinv⟩
    · rw [a.mem x]
      simp [absT]
    · simp [hu]
  | copyExcept t s =>
    have c := SpkiTable.copyLoop_spec s (S t).list (S (!t)) (iv (!t)) (iv t).nodup
    refine ⟨?_, sinv_setT iv (!t) c.sinv⟩
    rcases c.out with g | g
    · refine Or.inl ⟨g.fresh, g.rc, absT_setT S (!t) _ _ (fun x => ?_) (fun u x hu => ?_)⟩
      · show x ∈ (SpkiTable.copyLoop s (S t).list (S (!t))).1.list ↔ _
        rw [g.list]
        simp [absT]
      · simp [hu]
    · refine Or.inr ⟨g.clash, g.rc, fun u y hy => ?_, fun u y hy => ?_⟩
      · by_cases hu : u = !t
        · subst hu
          exact (absT_setT_same S (!t) _ y).mpr (g.keeps y hy)
        · exact (absT_setT_other S _ hu y).mpr hy
      · by_cases hu : u = !t
        · subst hu
          exact (g.gained y ((absT_setT_same S (!t) _ y).mp hy)).imp_right fun h => ⟨rfl, h⟩
        · exact Or.inl ((absT_setT_other S _ hu y).mp hy)
  | swap =>
    obtain ⟨h1, h2⟩ := SpkiTable.sinv_swap (iv false) (iv true)
    refine ⟨⟨rfl, fun u x => ?_⟩, fun u => ?_⟩
    · cases u <;> rfl
    · cases u
      · exact h1
      · exact h2
  | notifyDiff t s =>
    have d := SpkiTable.notifyDiff_spec (S t) (S (!t)) (iv t) (iv (!t)) s
    refine ⟨⟨rfl, absT_setT _ (!t) _ _ (fun x => ?_) (fun u x hu => ?_)⟩,
      sinv_setT (sinv_setT iv t d.sinvN) (!t) d.sinvO⟩
    · rw [d.memO x]
      simp [absT, and_comm]
    · rw [absT_setT S t _ (absT S) (fun x => by rw [d.list]; rfl) (fun _ _ _ => Iff.rfl) u x]
      simp [hu]
  | free t =>
    refine ⟨⟨rfl, absT_setT S t _ _ (fun x => ?_) (fun u x hu => ?_)⟩, sinv_setT iv t (SpkiTable.sinv_free _)⟩
    · simp [SpkiTable.free]
    · simp [hu]

theorem runOps_refines (S : Bool → SpkiTable) (iv : ∀ t, SpkiTable.SInv (S t)) (ops : List SpkiOp) :
    SpecRun (absT S) ops (runOps S ops).2 (absT (runOps S ops).1) ∧ ∀ t, SpkiTable.SInv ((runOps S ops).1 t) := by
  induction ops generalizing S with
  | nil => exact ⟨SpecRun.nil _ _ (fun _ _ => Iff.rfl), iv⟩
  | cons op ops ih =>
    obtain ⟨h1, h2⟩ := step_refines S iv op
    obtain ⟨h3, h4⟩ := ih (stepOp S op).1 h2
    exact ⟨SpecRun.cons _ _ _ _ _ _ _ h1 h3, h4⟩

end Rtr
