/-
  HashlinOps: the resize steps and the three operations of tommyhashlin.c keep the invariant and change
  the stored nodes by exactly the node linked or unlinked; the search finds exactly the stored nodes
  with that key.
-/
import RtrProofs.HashlinInv

namespace Rtr
namespace Hashlin
variable {α : Type}

def mult [DecidableEq α] (h : Hashlin α) (x : HNode α) : Nat := sumB (List.count x) h.bucket h.valid

def Mem (h : Hashlin α) (x : HNode α) : Prop := ∃ i, i < h.valid ∧ x ∈ h.bucket i

theorem mem_iff_mult_pos [DecidableEq α] (h : Hashlin α) (x : HNode α) : h.Mem x ↔ 0 < h.mult x :=
  (sumB_count_pos x h.bucket h.valid).symm

theorem bucketPos_lt_valid {h : Hashlin α} (w : Wf h) (key : Nat) : h.bucketPos key < h.valid := by
  rw [bucketPos_eq_index w.num]
  exact index_lt_valid w.num key

theorem mem_iff_in_bucket {h : Hashlin α} (w : Wf h) (x : HNode α) : h.Mem x ↔ x ∈ h.bucketOf x.key := by
  constructor
  · rintro ⟨i, hi, hx⟩
    unfold bucketOf
    rw [bucketPos_eq_index w.num, w.filed i hi x hx]
    exact hx
  · exact fun hx => ⟨_, bucketPos_lt_valid w x.key, hx⟩

theorem mult_eq_count_bucket [DecidableEq α] {h : Hashlin α} (w : Wf h) (x : HNode α) :
    h.mult x = (h.bucketOf x.key).count x := by
  unfold mult bucketOf
  rw [bucketPos_eq_index w.num]
  apply sumB_single _ _ _ _ (index_lt_valid w.num x.key)
  intro i hi hne
  rw [List.count_eq_zero]
  intro hx
  exact hne (w.filed i hi x hx).symm

theorem Keeps.mult [DecidableEq α] {h h' : Hashlin α} (k : Keeps h h') (x : HNode α) : h'.mult x = h.mult x :=
  k.sum _ (additive_count x)

theorem Keeps.inv {h h' : Hashlin α} (k : Keeps h h') (iv : Inv h) (w : Wf h') : Inv h' :=
  ⟨w, k.count.trans (iv.count_eq.trans (k.sum _ additive_length).symm)⟩

/-! ### the resize steps -/

/-- what the first `if` of a resize step does, `tgt` being the state it enters: nothing; or it
    turns the running resize around ("continue with the already set up one in backward
    direction": only the state changes); or, from stable, it enters a resize `h'` with the same
    nodes, at the start of which `F` holds -/
theorem setup_spec {h h' : Hashlin α} (w : Wf h) {tgt : HlState} (htgt : tgt ≠ .stable) {F : Prop}
    (hcase : h' = h ∨ (h.state ≠ .stable ∧ h' = { h with state := tgt }) ∨
      (h'.state = tgt ∧ Resizing h' ∧ Keeps h h' ∧ F)) :
    Keeps h h' ∧ (h'.state ≠ tgt → Wf h') ∧
    (h'.state = tgt → Resizing h' ∧ ((0 < h'.split ∧ h'.split < h'.lowMax) ∨ F)) := by
  rcases hcase with e | ⟨hst, e⟩ | ⟨hs, r, k, hf⟩
  · rw [e]
    refine ⟨Keeps.refl h, fun _ => w, fun hst => ?_⟩
    obtain ⟨r, h0, h1⟩ := resizing_of_wf w (hst ▸ htgt)
    exact ⟨r, Or.inl ⟨h0, h1⟩⟩
  · rw [e]
    obtain ⟨r, h0, h1⟩ := resizing_of_wf w hst
    exact ⟨Keeps.of_eq rfl rfl rfl, fun x => absurd rfl x, fun _ =>
      ⟨⟨r.bit_gt, r.max_eq, r.mask_eq, r.lowmask_eq, r.max_low, r.split_le, r.filed⟩, Or.inl ⟨h0, h1⟩⟩⟩
  · exact ⟨k, fun x => absurd hs x, fun _ => ⟨r, Or.inr hf⟩⟩

/-- first `if` of `hashlin_grow_step`; a grow entered from stable starts at `split = 0`, where the
    loop condition holds -/
theorem growSetup_cases {h : Hashlin α} (w : Wf h) :
    growSetup h = h ∨ (h.state ≠ .stable ∧ growSetup h = { h with state := .grow }) ∨
    ((growSetup h).state = .grow ∧ Resizing (growSetup h) ∧ Keeps h (growSetup h) ∧
      (growSetup h).split = 0 ∧ 0 < (growSetup h).lowMax ∧ (growSetup h).lowMax < 2 * (growSetup h).count) := by
  by_cases hgo : h.state ≠ .grow ∧ h.count > h.bucketMax / 2
  · by_cases hst : h.state = .stable
    · -- a new segment: the table of size `bucket_max` seen as a split of `2 * bucket_max` at 0
      have e : growSetup h =
          { h with lowMax := h.bucketMax, lowMask := h.bucketMask, bucketBit := h.bucketBit + 1,
                   bucketMax := 1 <<< (h.bucketBit + 1), bucketMask := (1 <<< (h.bucketBit + 1)) - 1,
                   split := 0, state := .grow } := by
        simp [growSetup, hst, hgo.2]
      rw [e]
      obtain ⟨_, hl, hs⟩ := w.shape.resolve_right (fun x => x.1 hst)
      have hv : h.bucketMax + 0 = h.lowMax + h.split := by rw [hl, hs]
      have hpos : 0 < h.bucketMax := by
        rw [w.max_eq]
        exact Nat.two_pow_pos _
      have hdbl : 1 <<< (h.bucketBit + 1) = 2 * h.bucketMax := by
        rw [Nat.one_shiftLeft, Nat.pow_succ, w.max_eq, Nat.mul_comm]
      refine Or.inr (Or.inr ⟨rfl, ?_, Keeps.of_eq rfl rfl hv, rfl, hpos, ?_⟩)
      · exact ⟨Nat.lt_succ_of_le w.bit_ge, Nat.one_shiftLeft _, rfl, w.mask_eq, hdbl, Nat.zero_le _,
          w.filed.congr rfl hv (index_congr hl.symm hs.symm)⟩
      · show h.bucketMax < 2 * h.count
        omega
    · exact Or.inr (Or.inl ⟨hst, by simp [growSetup, hst, hgo]⟩)
  · exact Or.inl (by simp [growSetup, hgo])

theorem growStep_keeps (h : Hashlin α) (w : Wf h) : Wf (growStep h) ∧ Keeps h (growStep h) := by
  obtain ⟨k, hw, hr⟩ := setup_spec w (tgt := .grow) (by decide) (growSetup_cases w)
  simp only [growStep]
  by_cases hst : (growSetup h).state = .grow
  · obtain ⟨r, hgo⟩ := hr hst
    rw [if_pos (beq_iff_eq.mpr hst)]
    obtain ⟨w', k'⟩ := growLoop_spec (2 * (growSetup h).count) (2 * (growSetup h).count) _ r hst (by omega)
      (by omega)
    exact ⟨w', k.trans k'⟩
  · rw [if_neg (fun e => hst (beq_iff_eq.mp e))]
    exact ⟨hw hst, k⟩

theorem shrinkStep_noop (h : Hashlin α) (hc : ¬ (h.count < h.bucketMax / 8 ∧ h.bucketBit > hashlinBit))
    (hst : h.state ≠ .shrink) : shrinkStep h = h := by
  have e : shrinkSetup h = h := by
    unfold shrinkSetup
    by_cases h1 : h.count < h.bucketMax / 8
    · have h2 : ¬ h.bucketBit > hashlinBit := fun h2 => hc ⟨h1, h2⟩
      simp [h1, h2]
    · simp [h1]
  simp [shrinkStep, e, hst]

/-- first `if` of `hashlin_shrink_step`; a shrink entered from stable starts at `split = low_max`,
    where the loop condition holds -/
theorem shrinkSetup_cases {h : Hashlin α} (w : Wf h) :
    shrinkSetup h = h ∨ (h.state ≠ .stable ∧ shrinkSetup h = { h with state := .shrink }) ∨
    ((shrinkSetup h).state = .shrink ∧ Resizing (shrinkSetup h) ∧ Keeps h (shrinkSetup h) ∧
      (shrinkSetup h).split = (shrinkSetup h).lowMax ∧ 0 < (shrinkSetup h).lowMax ∧
      2 * (shrinkSetup h).lowMax > 8 * (shrinkSetup h).count) := by
  by_cases hgo : (h.state ≠ .shrink ∧ h.count < h.bucketMax / 8) ∧ h.bucketBit > hashlinBit
  · by_cases hst : h.state = .stable
    · -- the table of size `bucket_max = 2 * m` seen as a full split of `m`
      have e : shrinkSetup h =
          { h with lowMax := h.bucketMax / 2, lowMask := h.bucketMask / 2, split := h.bucketMax / 2,
                   state := .shrink } := by
        simp [shrinkSetup, hst, hgo.1.2, hgo.2]
      obtain ⟨m, hm, hpos⟩ : ∃ m, h.bucketMax = 2 * m ∧ 0 < m :=
        ⟨2 ^ (h.bucketBit - 1), by rw [w.max_eq, Nat.mul_comm, Nat.two_pow_pred_mul_two (Nat.zero_lt_of_lt hgo.2)],
          Nat.two_pow_pos _⟩
      rw [e, w.mask_eq, hm, half_pred, Nat.mul_div_cancel_left m Nat.two_pos]
      obtain ⟨_, hl, hs⟩ := w.shape.resolve_right (fun x => x.1 hst)
      have hv : m + m = h.lowMax + h.split := by omega
      refine Or.inr (Or.inr ⟨rfl, ?_, Keeps.of_eq rfl rfl hv, rfl, hpos, ?_⟩)
      · exact ⟨hgo.2, hm.symm.trans w.max_eq, rfl, rfl, rfl, Nat.le_refl _,
          w.filed.congr rfl hv fun k => (index_full (h' := h) (hl.trans hm) hs rfl hpos k).symm⟩
      · show 2 * m > 8 * h.count
        omega
    · exact Or.inr (Or.inl ⟨hst, by simp [shrinkSetup, hst, hgo]⟩)
  · refine Or.inl ?_
    by_cases hbit : h.bucketBit > hashlinBit
    · have hc : ¬ (h.state ≠ .shrink ∧ h.count < h.bucketMax / 8) := fun c => hgo ⟨c, hbit⟩
      simp [shrinkSetup, hc]
    · simp [shrinkSetup, hbit]

theorem shrinkStep_keeps (h : Hashlin α) (w : Wf h) : Wf (shrinkStep h) ∧ Keeps h (shrinkStep h) := by
  obtain ⟨k, hw, hr⟩ := setup_spec w (tgt := .shrink) (by decide) (shrinkSetup_cases w)
  simp only [shrinkStep]
  by_cases hst : (shrinkSetup h).state = .shrink
  · obtain ⟨r, hgo⟩ := hr hst
    rw [if_pos (beq_iff_eq.mpr hst)]
    obtain ⟨w', k'⟩ := shrinkLoop_spec (shrinkSetup h).split (8 * (shrinkSetup h).count) _ r hst (by omega)
      (by omega)
    exact ⟨w', k.trans k'⟩
  · rw [if_neg (fun e => hst (beq_iff_eq.mp e))]
    exact ⟨hw hst, k⟩

/-! ### a bucket is rewritten, then a resize step runs -/

/-- the table with the bucket of `key` replaced by `v` and the node count set to `c`: where
    `tommy_hashlin_insert`, `_remove` and `_remove_existing` stand between linking or unlinking
    the node and the resize step -/
def withBucket (h : Hashlin α) (key : Nat) (v : List (HNode α)) (c : Nat) : Hashlin α :=
  { h with bucket := upd h.bucket (h.bucketPos key) v, count := c }

theorem insert_eq (h : Hashlin α) (d : α) (key : Nat) :
    h.insert d key = growStep (h.withBucket key (h.bucketOf key ++ [⟨key, d⟩]) (h.count + 1)) := rfl

theorem removeExisting_eq [DecidableEq α] (h : Hashlin α) (n : HNode α) :
    h.removeExisting n = shrinkStep (h.withBucket n.key ((h.bucketOf n.key).erase n) (h.count - 1)) := rfl

theorem remove_eq {h : Hashlin α} {cmp : α → Bool} {key : Nat} {n : HNode α}
    (hf : (h.bucket (h.bucketPos key)).find? (fun n => n.key == key && cmp n.data) = some n) :
    h.remove cmp key = (shrinkStep (h.withBucket key
      ((h.bucketOf key).eraseP fun n => n.key == key && cmp n.data) (h.count - 1)), some n.data) := by
  simp only [remove]
  rw [hf]
  rfl

theorem withBucket_spec {h : Hashlin α} (w : Wf h) (key : Nat) (v : List (HNode α)) (c : Nat)
    (hv : ∀ n, n ∈ v → n ∈ h.bucketOf key ∨ n.key = key) :
    Wf (h.withBucket key v c) ∧ (h.withBucket key v c).count = c ∧ ∀ f : List (HNode α) → Nat,
      sumB f (h.withBucket key v c).bucket (h.withBucket key v c).valid + f (h.bucketOf key) =
        sumB f h.bucket h.valid + f v := by
  have hp := bucketPos_lt_valid w key
  refine ⟨⟨w.bit_ge, w.max_eq, w.mask_eq, w.lowmask_eq, w.shape, ?_⟩, rfl, fun f =>
    sumB_upd_lt f h.bucket _ _ v hp⟩
  intro i hi n hn
  change n ∈ upd h.bucket (h.bucketPos key) v i at hn
  show h.index n.key = i
  by_cases hip : i = h.bucketPos key
  · rw [hip, upd_same] at hn
    rw [hip]
    rcases hv n hn with hn | hn
    · exact w.filed _ hp n hn
    · rw [hn, bucketPos_eq_index w.num]
  · rw [upd_other _ _ hip] at hn
    exact w.filed i hi n hn

/-- `tommy_hashlin_insert` before its grow step -/
theorem appended_spec [DecidableEq α] {h : Hashlin α} (iv : Inv h) (d : α) (key : Nat) :
    Inv (h.withBucket key (h.bucketOf key ++ [⟨key, d⟩]) (h.count + 1)) ∧
    ∀ x, (h.withBucket key (h.bucketOf key ++ [⟨key, d⟩]) (h.count + 1)).mult x =
      h.mult x + if x = ⟨key, d⟩ then 1 else 0 := by
  obtain ⟨w1, c1, s1⟩ := withBucket_spec iv.toWf key (h.bucketOf key ++ [⟨key, d⟩]) (h.count + 1)
    fun n hn => (List.mem_append.mp hn).imp_right fun hn => by rw [List.mem_singleton.mp hn]
  have hlen := s1 List.length
  have hcount := iv.count_eq
  rw [List.length_append, List.length_singleton] at hlen
  refine ⟨⟨w1, by omega⟩, fun x => ?_⟩
  have hx := s1 (List.count x)
  rw [List.count_append, count_single] at hx
  unfold mult
  omega

/-- the removals before their shrink step; the last conjunct: `--hashlin->count` does not wrap -/
theorem erased_spec [DecidableEq α] {h : Hashlin α} (iv : Inv h) (key : Nat) (v : List (HNode α)) (n : HNode α)
    (hsub : ∀ m, m ∈ v → m ∈ h.bucketOf key) (hv : ∀ f, Additive f → f v + f [n] = f (h.bucketOf key)) :
    Inv (h.withBucket key v (h.count - 1)) ∧
    (∀ x, (h.withBucket key v (h.count - 1)).mult x = h.mult x - if x = n then 1 else 0) ∧
    (h.withBucket key v (h.count - 1)).count + 1 = h.count := by
  obtain ⟨w1, c1, s1⟩ := withBucket_spec iv.toWf key v (h.count - 1) fun m hm => Or.inl (hsub m hm)
  have hlen := s1 List.length
  have hl := hv _ additive_length
  have hcount := iv.count_eq
  rw [List.length_singleton] at hl
  refine ⟨⟨w1, by omega⟩, fun x => ?_, by omega⟩
  have hx := s1 (List.count x)
  have hc := hv _ (additive_count x)
  rw [count_single] at hc
  unfold mult
  omega

/-- appending a node, then any step that keeps the nodes (`hashlin_grow_step` in
    `tommy_hashlin_insert`) -/
theorem added_spec [DecidableEq α] {h h' : Hashlin α} (iv : Inv h) (d : α) (key : Nat)
    (step : Wf (h.withBucket key (h.bucketOf key ++ [⟨key, d⟩]) (h.count + 1)) →
      Wf h' ∧ Keeps (h.withBucket key (h.bucketOf key ++ [⟨key, d⟩]) (h.count + 1)) h') :
    Inv h' ∧ ∀ x, h'.mult x = h.mult x + if x = ⟨key, d⟩ then 1 else 0 := by
  obtain ⟨i0, m0⟩ := appended_spec iv d key
  obtain ⟨w1, k⟩ := step i0.toWf
  exact ⟨k.inv i0 w1, fun x => (k.mult x).trans (m0 x)⟩

/-- unlinking a node, then any step that keeps the nodes (`hashlin_shrink_step` in the removals) -/
theorem removed_spec [DecidableEq α] {h h' : Hashlin α} (iv : Inv h) (key : Nat) (v : List (HNode α)) (n : HNode α)
    (hsub : ∀ m, m ∈ v → m ∈ h.bucketOf key) (hv : ∀ f, Additive f → f v + f [n] = f (h.bucketOf key))
    (step : Wf (h.withBucket key v (h.count - 1)) → Wf h' ∧ Keeps (h.withBucket key v (h.count - 1)) h') :
    Inv h' ∧ (∀ x, h'.mult x = h.mult x - if x = n then 1 else 0) ∧ h'.count + 1 = h.count := by
  obtain ⟨i0, m0, c0⟩ := erased_spec iv key v n hsub hv
  obtain ⟨w1, k⟩ := step i0.toWf
  exact ⟨k.inv i0 w1, fun x => (k.mult x).trans (m0 x), k.count.symm ▸ c0⟩

theorem insert_spec [DecidableEq α] (h : Hashlin α) (iv : Inv h) (d : α) (key : Nat) :
    Inv (h.insert d key) ∧ ∀ x, (h.insert d key).mult x = h.mult x + if x = ⟨key, d⟩ then 1 else 0 := by
  rw [insert_eq]
  exact added_spec iv d key (growStep_keeps _)

theorem search_isSome_iff {h : Hashlin α} (w : Wf h) (cmp : α → Bool) (key : Nat) :
    (h.search cmp key).isSome ↔ ∃ x, h.Mem x ∧ x.key = key ∧ cmp x.data = true := by
  unfold search
  rw [Option.isSome_map, List.find?_isSome]
  constructor
  · rintro ⟨x, hx, hp⟩
    simp only [Bool.and_eq_true, beq_iff_eq] at hp
    refine ⟨x, ?_, hp.1, hp.2⟩
    rw [mem_iff_in_bucket w, hp.1]
    exact hx
  · rintro ⟨x, hm, hk, hc⟩
    refine ⟨x, ?_, by simp [hk, hc]⟩
    rw [mem_iff_in_bucket w, hk] at hm
    exact hm

/-- the node `tommy_hashlin_search` / `tommy_hashlin_remove` stops at: stored, with that key,
    accepted by `cmp` -/
theorem find_spec {h : Hashlin α} (w : Wf h) {cmp : α → Bool} {key : Nat} {n : HNode α}
    (hf : (h.bucket (h.bucketPos key)).find? (fun n => n.key == key && cmp n.data) = some n) :
    n = ⟨key, n.data⟩ ∧ h.Mem ⟨key, n.data⟩ ∧ cmp n.data = true := by
  have hp := List.find?_some hf
  simp only [Bool.and_eq_true, beq_iff_eq] at hp
  have hn : n = ⟨key, n.data⟩ := by rw [← hp.1]
  exact ⟨hn, hn ▸ ⟨_, bucketPos_lt_valid w key, List.mem_of_find?_eq_some hf⟩, hp.2⟩

theorem search_some {h : Hashlin α} (w : Wf h) (cmp : α → Bool) (key : Nat) (d : α)
    (hs : h.search cmp key = some d) : h.Mem ⟨key, d⟩ ∧ cmp d = true := by
  unfold search bucketOf at hs
  obtain ⟨x, hx, rfl⟩ := Option.map_eq_some_iff.mp hs
  exact (find_spec w hx).2

theorem remove_none {h : Hashlin α} (cmp : α → Bool) (key : Nat)
    (hs : (h.search cmp key).isSome = false) : h.remove cmp key = (h, none) := by
  unfold search bucketOf at hs
  rw [Option.isSome_map, Option.isSome_eq_false_iff, Option.isNone_iff_eq_none] at hs
  simp only [remove]
  rw [hs]

theorem remove_some [DecidableEq α] {h : Hashlin α} (iv : Inv h) (cmp : α → Bool) (key : Nat)
    (hs : (h.search cmp key).isSome = true) :
    ∃ d, (h.remove cmp key).2 = some d ∧ cmp d = true ∧ h.Mem ⟨key, d⟩ ∧ Inv (h.remove cmp key).1 ∧
      ∀ x, (h.remove cmp key).1.mult x = h.mult x - if x = ⟨key, d⟩ then 1 else 0 := by
  unfold search bucketOf at hs
  rw [Option.isSome_map] at hs
  obtain ⟨n, hf⟩ := Option.isSome_iff_exists.mp hs
  obtain ⟨hn, hm, hc⟩ := find_spec iv.toWf hf
  obtain ⟨i1, m1, _⟩ := removed_spec iv key ((h.bucketOf key).eraseP fun n => n.key == key && cmp n.data) n
    (fun _ => List.mem_of_mem_eraseP) (fun f hf' => hf'.eraseP _ _ n hf) (shrinkStep_keeps _)
  rw [remove_eq hf]
  rw [hn] at m1
  exact ⟨n.data, rfl, hc, hm, i1, m1⟩

/-- the last conjunct: `--hashlin->count` does not wrap -/
theorem removeExisting_spec [DecidableEq α] {h : Hashlin α} (iv : Inv h) (n : HNode α) (hm : h.Mem n) :
    Inv (h.removeExisting n) ∧ (∀ x, (h.removeExisting n).mult x = h.mult x - if x = n then 1 else 0) ∧
    (h.removeExisting n).count + 1 = h.count := by
  have hin := (mem_iff_in_bucket iv.toWf n).mp hm
  rw [removeExisting_eq]
  exact removed_spec iv n.key ((h.bucketOf n.key).erase n) n (fun _ => List.mem_of_mem_erase)
    (fun f hf => hf.erase hin) (shrinkStep_keeps _)

theorem init_inv : Inv (init : Hashlin α) := by
  refine ⟨⟨Nat.le_refl _, Nat.one_shiftLeft _, rfl, rfl, Or.inl ⟨rfl, rfl, rfl⟩, ?_⟩, ?_⟩
  · intro i _ n hn
    cases hn
  · exact (sumB_zero _ _ _ fun _ _ => rfl).symm

theorem init_not_mem (x : HNode α) : ¬ (init : Hashlin α).Mem x := by
  rintro ⟨i, _, hx⟩
  cases hx

end Hashlin
end Rtr
