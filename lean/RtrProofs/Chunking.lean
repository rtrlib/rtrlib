/-
  The outcome of reception does not depend on how the byte stream is split into reads.  `Sim` relates two
  environments that hold the same stream chunked differently.  `tr_recv_all` respects it because it is a
  function of the byte-level view (`recvAll_spec`, Tape.lean); every other operation touches the environment
  only through `tr_recv_all`, `tr_send`, the clock and the trace: one congruence `<op>_sim` per operation,
  each following the definition line by line.  The table part meets the environment only in `refuse`
  (`applyTables_eq`), so `refuse_sim` carries it.
-/
import RtrProofs.RecvOutcome

namespace Rtr.P

/-! ## two environments that differ only in the chunking of the input -/

/-- the same stream, chunked differently: equal tapes after merging adjacent chunks; same send
    script, open script, clock and threading flag -/
structure SameStream (n n' : Net) : Prop where
  tape : mergeRx n.tape = mergeRx n'.tape
  ok : TapeOk n.tape
  ok' : TapeOk n'.tape
  sendQ : n.sendQ = n'.sendQ
  openQ : n.openQ = n'.openQ
  now : n.now = n'.now
  threaded : n.threaded = n'.threaded

/-- the same trace once the lines of the individual recv calls are deleted -/
def SameTrace (n n' : Net) : Prop := dropRecv n.trace = dropRecv n'.trace

instance (n n' : Net) : Decidable (SameTrace n n') := by unfold SameTrace; infer_instance

/-- `SameStream ∧ SameTrace` (`sim_iff`) in the form the congruences below are proved for: the tapes are
    compared symbol by symbol (`flat`) instead of after merging, because that is the view in which
    `tr_recv_all` is specified (`specGo`, Tape.lean) -/
structure Sim (n n' : Net) : Prop where
  flat : flat n.tape = flat n'.tape
  ok : TapeOk n.tape
  ok' : TapeOk n'.tape
  sendQ : n.sendQ = n'.sendQ
  openQ : n.openQ = n'.openQ
  now : n.now = n'.now
  threaded : n.threaded = n'.threaded
  trace : dropRecv n.trace = dropRecv n'.trace

theorem sim_iff (n n' : Net) : Sim n n' ↔ SameStream n n' ∧ SameTrace n n' := by
  constructor
  · intro h
    exact ⟨⟨(mergeRx_eq_iff _ _).2 h.flat, h.ok, h.ok', h.sendQ, h.openQ, h.now, h.threaded⟩, h.trace⟩
  · intro ⟨h, ht⟩
    exact ⟨(mergeRx_eq_iff _ _).1 h.tape, h.ok, h.ok', h.sendQ, h.openQ, h.now, h.threaded, ht⟩

theorem Sim.refl (n : Net) (hok : TapeOk n.tape) : Sim n n := ⟨rfl, hok, hok, rfl, rfl, rfl, rfl, rfl⟩

theorem Sim.symm {n n' : Net} (h : Sim n n') : Sim n' n :=
  ⟨h.flat.symm, h.ok', h.ok, h.sendQ.symm, h.openQ.symm, h.now.symm, h.threaded.symm, h.trace.symm⟩

theorem Sim.trans {a b c : Net} (h1 : Sim a b) (h2 : Sim b c) : Sim a c :=
  ⟨h1.flat.trans h2.flat, h1.ok, h2.ok', h1.sendQ.trans h2.sendQ, h1.openQ.trans h2.openQ,
   h1.now.trans h2.now, h1.threaded.trans h2.threaded, h1.trace.trans h2.trace⟩

theorem Sim.emit {n n' : Net} (h : Sim n n') (l : String) : Sim (n.emit l) (n'.emit l) :=
  ⟨h.flat, h.ok, h.ok', h.sendQ, h.openQ, h.now, h.threaded, dropRecv_cons_congr l h.trace⟩

theorem Sim.setSendQ {n n' : Net} (h : Sim n n') (q : List SendEv) :
    Sim { n with sendQ := q } { n' with sendQ := q } :=
  ⟨h.flat, h.ok, h.ok', rfl, h.openQ, h.now, h.threaded, h.trace⟩

/-! ## results that differ only in the chunking

  Every operation returns a tuple with one environment in it.  `RelSnd`/`RelFst` lift a relation on
  one component of a pair to the pair, the other component being equal; nested, they say "equal
  everywhere, `Sim` in the environment".  `ex` (name the components, then rewrite) and `rel_ite` are how such a
  fact passes through a `match` on the result of a sub-operation and through an `if` on a condition
  that both sides share, so that the proof for an operation follows its definition line by line. -/

def RelSnd {α β : Type} (S : β → β → Prop) (r r' : α × β) : Prop := r.1 = r'.1 ∧ S r.2 r'.2

def RelFst {α β : Type} (S : α → α → Prop) (r r' : α × β) : Prop := S r.1 r'.1 ∧ r.2 = r'.2

theorem RelSnd.ex {α β : Type} {S : β → β → Prop} {x x' : α × β} (h : RelSnd S x x') :
    ∃ a b b', x = (a, b) ∧ x' = (a, b') ∧ S b b' :=
  ⟨x.1, x.2, x'.2, rfl, Prod.ext h.1.symm rfl, h.2⟩

theorem RelFst.ex {α β : Type} {S : α → α → Prop} {x x' : α × β} (h : RelFst S x x') :
    ∃ a a' b, x = (a, b) ∧ x' = (a', b) ∧ S a a' :=
  ⟨x.1, x'.1, x.2, rfl, Prod.ext rfl h.2.symm, h.1⟩

theorem RelSnd.ex₂ {α β γ : Type} {S : γ → γ → Prop} {x x' : α × β × γ} (h : RelSnd (RelSnd S) x x') :
    ∃ a b c c', x = (a, b, c) ∧ x' = (a, b, c') ∧ S c c' := by
  obtain ⟨a, r, r', e, e', h1⟩ := h.ex
  obtain ⟨b, c, c', rfl, rfl, hc⟩ := h1.ex
  exact ⟨a, b, c, c', e, e', hc⟩

theorem rel_ite {ρ : Type} {R : ρ → ρ → Prop} {p : Prop} [Decidable p] {a b a' b' : ρ}
    (ht : p → R a a') (hf : ¬ p → R b b') : R (if p then a else b) (if p then a' else b') := by
  by_cases hp : p
  · rw [if_pos hp, if_pos hp]
    exact ht hp
  · rw [if_neg hp, if_neg hp]
    exact hf hp

theorem recvAll_sim {n n' : Net} (h : Sim n n') (len : Nat) (timeout : Int) :
    RelSnd (RelSnd (RelFst Sim)) (recvAll n len timeout) (recvAll n' len timeout) := by
  rcases hr : recvAll n len timeout with ⟨rc, got, m, stop⟩
  rcases hr' : recvAll n' len timeout with ⟨rc', got', m', stop'⟩
  obtain ⟨hok1, hs1, hsp1⟩ := recvAll_spec n len timeout h.ok rc got m stop hr
  obtain ⟨hok2, hs2, hsp2⟩ := recvAll_spec n' len timeout h.ok' rc' got' m' stop' hr'
  rw [h.flat, h.now, h.threaded, hsp2] at hsp1
  injection hsp1 with e1 e2 e3 e4 e5
  refine ⟨e1.symm, e2.symm, ⟨e3.symm, hok1, hok2, ?_, ?_, e4.symm, ?_, ?_⟩, e5.symm⟩
  · rw [hs1.sendQ, hs2.sendQ, h.sendQ]
  · rw [hs1.openQ, hs2.openQ, h.openQ]
  · rw [hs1.threaded, hs2.threaded, h.threaded]
  · rw [hs1.trace, hs2.trace, h.trace]

/-! ## the functions that do not read the tape -/

theorem changeState_sim {n n' : Net} (h : Sim n n') (c : Conn) (own : Nat) (new : SState) :
    RelSnd Sim (changeState c n own new) (changeState c n' own new) := by
  unfold changeState
  rw [h.now]
  exact rel_ite (fun _ => ⟨rfl, h⟩) fun _ => rel_ite (fun _ => ⟨rfl, h⟩) fun _ => ⟨rfl, h.emit _⟩

theorem trSend_sim {n n' : Net} (h : Sim n n') (bytes : List Nat) :
    RelSnd Sim (trSend n bytes) (trSend n' bytes) := by
  rw [trSend_call, trSend_call, ← h.sendQ]
  exact ⟨rfl, (h.setSendQ n.sendQ.tail).emit (sendCall n.sendQ bytes).line⟩

theorem sendAllLoop_sim : ∀ (fuel : Nat) {n n' : Net}, Sim n n' → ∀ (rest : List Nat) (total : Nat),
    RelSnd Sim (sendAllLoop fuel n rest total) (sendAllLoop fuel n' rest total) := by
  intro fuel
  induction fuel with
  | zero =>
    intro n n' h rest total
    exact ⟨rfl, h⟩
  | succ fuel ih =>
    intro n n' h rest total
    unfold sendAllLoop
    refine rel_ite (fun _ => ⟨rfl, h⟩) fun _ => ?_
    obtain ⟨rc, m, m', e, e', hm⟩ := (trSend_sim h rest).ex
    rw [e, e']
    exact rel_ite (fun _ => ⟨rfl, hm⟩) fun _ => ih hm _ _

theorem sendPdu_sim {n n' : Net} (h : Sim n n') (c : Conn) (bytes : List Nat) :
    RelSnd Sim (sendPdu c n bytes) (sendPdu c n' bytes) := by
  unfold sendPdu sendAll
  refine rel_ite (fun _ => ⟨rfl, h⟩) fun _ => ?_
  obtain ⟨rc, m, m', e, e', hm⟩ := (sendAllLoop_sim _ h bytes 0).ex
  rw [e, e']
  exact ⟨rfl, hm⟩

theorem sendErrorPdu_sim {n n' : Net} (h : Sim n n') (c : Conn) (enc : List Nat) (code : Nat) (text : List Nat) :
    RelSnd Sim (sendErrorPdu c n enc code text) (sendErrorPdu c n' enc code text) := by
  unfold sendErrorPdu
  exact rel_ite (fun _ => ⟨rfl, h⟩) fun _ => sendPdu_sim h c _

theorem sendErrorFromHost_sim {n n' : Net} (h : Sim n n') (c : Conn) (raw : List Nat) (k code : Nat)
    (text : List Nat) :
    RelSnd Sim (sendErrorFromHost c n raw k code text) (sendErrorFromHost c n' raw k code text) := by
  unfold sendErrorFromHost
  exact rel_ite (fun _ => sendErrorPdu_sim h c _ _ _) fun _ =>
    rel_ite (fun _ => ⟨rfl, h⟩) fun _ => sendErrorPdu_sim h c _ _ _

/-- a state change and nothing else: the pattern of the `error:` labels -/
theorem changeState_only_sim {n n' : Net} (h : Sim n n') (c : Conn) (own : Nat) (new : SState) (res : RecvRes) :
    RelSnd (RelSnd Sim) (match changeState c n own new with | (c, n) => (res, c, n))
      (match changeState c n' own new with | (c, n) => (res, c, n)) := by
  obtain ⟨c1, m, m', e, e', hm⟩ := (changeState_sim h c own new).ex
  rw [e, e']
  exact ⟨rfl, rfl, hm⟩

theorem recvTransportError_sim {n n' : Net} (h : Sim n n') (c : Conn) (own : Nat) (code : Int) :
    RelSnd (RelSnd Sim) (recvTransportError c n own code) (recvTransportError c n' own code) := by
  unfold recvTransportError
  exact rel_ite (fun _ => changeState_only_sim h c own _ _) fun _ => rel_ite (fun _ => ⟨rfl, rfl, h⟩) fun _ =>
    rel_ite (fun _ => ⟨rfl, rfl, h⟩) fun _ => rel_ite (fun _ => changeState_only_sim h c own _ _) fun _ =>
      changeState_only_sim h c own _ _

/-! ## `rtr_receive_pdu` in stages

  The stages are `receivePdu_eq`, `recvStage2`, `recvStage3` of Receive.lean; `failFatal` (there too) names the
  `error:` label they spell out. -/

theorem failFatal_sim {n n' : Net} (h : Sim n n') (c : Conn) (own : Nat) (hdr txt : List Nat) :
    RelSnd (RelSnd Sim) (failFatal c n own hdr txt) (failFatal c n' own hdr txt) := by
  unfold failFatal
  obtain ⟨ok, m, m', e, e', hm⟩ := (sendErrorPdu_sim h c hdr 0 txt).ex
  rw [e, e']
  exact changeState_only_sim hm c own _ _

theorem recvStage3_sim {n n' : Net} (h : Sim n n') (c : Conn) (own : Nat) (hdr : List Nat) :
    RelSnd (RelSnd Sim) (recvStage3 c n own hdr) (recvStage3 c n' own hdr) := by
  unfold recvStage3
  refine rel_ite (fun _ => ⟨rfl, rfl, h⟩) fun _ => ?_
  have h0 : RelSnd (RelSnd (RelFst Sim))
      (if lenOf hdr - 8 > 0 then recvAll n (lenOf hdr - 8) Gen.RTR_RECV_TIMEOUT else ((0 : Int), ([] : List Nat), n, false))
      (if lenOf hdr - 8 > 0 then recvAll n' (lenOf hdr - 8) Gen.RTR_RECV_TIMEOUT else ((0 : Int), ([] : List Nat), n', false)) :=
    rel_ite (fun _ => recvAll_sim h _ _) fun _ => ⟨rfl, rfl, h, rfl⟩
  obtain ⟨rc2, body, r, r', e, e', h1⟩ := h0.ex₂
  obtain ⟨m, m', stop2, rfl, rfl, hm⟩ := h1.ex
  rw [e, e']
  exact rel_ite (fun _ => recvTransportError_sim hm _ own rc2) fun _ =>
    rel_ite (fun _ => failFatal_sim hm _ own hdr _) fun _ => ⟨rfl, rfl, hm⟩

theorem recvStage2_sim {n n' : Net} (h : Sim n n') (c : Conn) (own : Nat) (hdr : List Nat) :
    RelSnd (RelSnd Sim) (recvStage2 c n own hdr) (recvStage2 c n' own hdr) := by
  unfold recvStage2
  refine rel_ite (fun _ => failFatal_sim h c own hdr _) fun _ =>
    rel_ite (fun _ => failFatal_sim h c own hdr _) fun _ =>
    rel_ite (fun _ => ?_) fun _ => recvStage3_sim h _ own hdr
  obtain ⟨ok, m, m', e, e', hm⟩ := (sendErrorPdu_sim h (downgraded c hdr) hdr 8 []).ex
  rw [e, e']
  exact ⟨rfl, rfl, hm⟩

theorem receivePdu_sim {n n' : Net} (h : Sim n n') (c : Conn) (own : Nat) (timeout : Int) :
    RelSnd (RelSnd Sim) (receivePdu c n own timeout) (receivePdu c n' own timeout) := by
  rw [receivePdu_eq, receivePdu_eq]
  refine rel_ite (fun _ => ⟨rfl, rfl, h⟩) fun _ => ?_
  obtain ⟨rc, hdr, r, r', e, e', h1⟩ := (recvAll_sim h 8 timeout).ex₂
  obtain ⟨m, m', stop, rfl, rfl, hm⟩ := h1.ex
  rw [e, e']
  exact rel_ite (fun _ => recvTransportError_sim hm _ own rc) fun _ => recvStage2_sim hm _ own hdr

/-! ## the synchronisation on the same stream chunked differently -/

theorem handleErrorPdu_sim {n n' : Net} (h : Sim n n') (c : Conn) (own : Nat) (raw : List Nat) :
    RelSnd Sim (handleErrorPdu c n own raw) (handleErrorPdu c n' own raw) := by
  rw [handleErrorPdu_eq, handleErrorPdu_eq]
  exact changeState_sim h _ _ _

theorem refuse_sim {n n' : Net} (h : Sim n n') (c : Conn) (own : Nat) (raw : List Nat) (r : Rej) :
    RelSnd Sim (refuse c n own raw r) (refuse c n' own raw r) := by
  cases r with
  | silent => exact ⟨rfl, h⟩
  | report code text fatal =>
    simp only [refuse]
    obtain ⟨ok, m, m', e, e', hm⟩ := (sendErrorFromHost_sim h c raw raw.length code text).ex
    rw [e, e']
    exact rel_ite (fun _ => changeState_sim hm c own .errFatal) fun _ => ⟨rfl, hm⟩

theorem handleCacheResponse_sim {n n' : Net} (h : Sim n n') (c : Conn) (ss : Sess) (own : Nat) (raw : List Nat) :
    RelSnd (RelSnd (RelSnd Sim)) (handleCacheResponse c ss n own raw) (handleCacheResponse c ss n' own raw) := by
  rw [handleCacheResponse_eq, handleCacheResponse_eq]
  obtain ⟨c2, m, m', e, e', hm⟩ := (refuse_sim h c own [] (.report 0 txtWrongSession true)).ex
  rw [e, e']
  exact rel_ite (fun _ => ⟨rfl, rfl, rfl, hm⟩) fun _ => ⟨rfl, rfl, rfl, h⟩

/-- two results of the table part that differ only in the chunking of the environment -/
structure SimRes (r r' : ApplyRes) : Prop where
  ok : r.ok = r'.ok
  purged : r.purged = r'.purged
  c : r.c = r'.c
  t : r.t = r'.t
  n : Sim r.n r'.n

theorem applyFail_sim {n n' : Net} (h : Sim n n') (undone : Bool) (c : Conn) (t : Tbl) :
    SimRes (applyFail undone c n t) (applyFail undone c n' t) := by
  unfold applyFail
  obtain ⟨c1, m, m', e, e', hm⟩ := (changeState_sim h c (if undone = true then t else t.purge).own .errFatal).ex
  simp only [e, e']
  exact ⟨rfl, rfl, rfl, rfl, hm⟩

theorem applyTables_sim {n n' : Net} (h : Sim n n') (c : Conn) (t : Tbl) (resetting : Bool)
    (v4 v6 keys : List (List Nat)) :
    SimRes (applyTables c n t resetting v4 v6 keys) (applyTables c n' t resetting v4 v6 keys) := by
  rw [applyTables_eq, applyTables_eq]
  cases tablesOut (startTbl t resetting).upd v4 v6 keys with
  | applied u => exact ⟨rfl, rfl, rfl, rfl, h⟩
  | refused p r uf undone u =>
    have hr := refuse_sim h c ((startTbl t resetting).setUpd uf).own p r
    rw [TablesOut.res_refused, TablesOut.res_refused, hr.1]
    exact applyFail_sim hr.2 undone _ _

/-- two socket states that differ only in the chunking of the input still to be read (and in the
    lines of the individual recv calls in the trace) -/
structure SimSt (st st' : St) : Prop where
  c : st.c = st'.c
  ss : st.ss = st'.ss
  tm : st.tm = st'.tm
  t : st.t = st'.t
  n : Sim st.n st'.n

theorem SimSt.eq_with {st st' : St} (h : SimSt st st') : st' = { st with n := st'.n } := by
  cases st; cases st'
  obtain ⟨h1, h2, h3, h4, _⟩ := h
  simp only at h1 h2 h3 h4
  subst h1 h2 h3 h4
  rfl

theorem applyBuffered_sim (st : St) (n' : Net) (h : Sim st.n n') (eod : List Nat) (v4 v6 keys : List (List Nat)) :
    RelSnd SimSt (applyBuffered st eod v4 v6 keys) (applyBuffered { st with n := n' } eod v4 v6 keys) := by
  unfold applyBuffered
  simp only
  obtain ⟨r1, r2, r3, r4, r5⟩ := applyTables_sim h st.c st.t st.ss.isResetting v4 v6 keys
  rw [← r1, ← r2, ← r3, ← r4]
  exact ⟨rfl, ⟨rfl, rfl, rfl, rfl, r5⟩⟩

/-- the `cleanup:` label, with the ghost output `g` attached -/
theorem cleanup_sim {γ : Type} {r r' : Bool × St} (h : RelSnd SimSt r r') (g : γ) :
    RelSnd (RelFst SimSt) (match cleanup r with | (ok, st) => (ok, st, g))
      (match cleanup r' with | (ok, st) => (ok, st, g)) := by
  obtain ⟨hok, h1, h2, h3, h4, h5⟩ := h
  unfold cleanup
  simp only
  rw [h1, h2, h3, h4, hok]
  exact ⟨rfl, ⟨rfl, rfl, rfl, rfl, h5⟩, rfl⟩

theorem cleanup_net_sim {γ : Type} (b : Bool) (c : Conn) (ss : Sess) (tm : Timers) (t : Tbl) {m m' : Net}
    (hm : Sim m m') (g : γ) :
    RelSnd (RelFst SimSt)
      (match cleanup (b, { c := c, ss := ss, tm := tm, n := m, t := t }) with | (ok, st) => (ok, st, g))
      (match cleanup (b, { c := c, ss := ss, tm := tm, n := m', t := t }) with | (ok, st) => (ok, st, g)) :=
  cleanup_sim (r := (b, ⟨c, ss, tm, m, t⟩)) (r' := (b, ⟨c, ss, tm, m', t⟩)) ⟨rfl, rfl, rfl, rfl, rfl, hm⟩ g

theorem recvAndStore_sim : ∀ (fuel : Nat) (st : St) (n' : Net), Sim st.n n' → ∀ (v4 v6 keys : List (List Nat)),
    RelSnd (RelFst SimSt) (recvAndStore fuel st v4 v6 keys) (recvAndStore fuel { st with n := n' } v4 v6 keys) := by
  intro fuel
  induction fuel with
  | zero =>
    intro st n' h v4 v6 keys
    exact ⟨rfl, ⟨rfl, rfl, rfl, rfl, h⟩, rfl⟩
  | succ fuel ih =>
    intro st n' h v4 v6 keys
    unfold recvAndStore
    obtain ⟨res, c1, m, m', e, e', hm⟩ := (receivePdu_sim h st.c st.t.own Gen.RTR_RECV_TIMEOUT).ex₂
    rw [e, e']
    cases res with
    | rc code =>
      refine rel_ite (fun _ => ?_) fun _ => cleanup_net_sim _ _ _ _ _ hm _
      obtain ⟨c2, m2, m2', f, f', hm2⟩ := (changeState_sim hm c1 st.t.own .errTransport).ex
      rw [f, f']
      exact cleanup_net_sim _ _ _ _ _ hm2 _
    | ok raw =>
      dsimp only
      split
      · exact ih _ _ hm _ _ _
      · exact ih _ _ hm _ _ _
      · exact ih _ _ hm _ _ _
      · refine rel_ite (fun _ => ?_) fun _ => ?_
        · -- the End of Data of another session is refused like a PDU of the table stage
          obtain ⟨c2, m2, m2', f, f', hm2⟩ :=
            (refuse_sim hm c1 st.t.own raw (.report 0 (txtEodSession st.ss.session (be16 raw 2)) true)).ex
          rw [refuse_fatal] at f f'
          simp only [f, f']
          exact cleanup_net_sim _ _ _ _ _ hm2 _
        · exact cleanup_sim (applyBuffered_sim { st with c := c1, n := m } m' hm raw v4 v6 keys) _
      · obtain ⟨c2, m2, m2', f, f', hm2⟩ := (handleErrorPdu_sim hm c1 st.t.own raw).ex
        rw [f, f']
        exact cleanup_net_sim _ _ _ _ _ hm2 _
      · exact ih _ _ hm _ _ _
      · obtain ⟨ok, m2, m2', f, f', hm2⟩ := (sendErrorFromHost_sim hm c1 raw 8 0 txtUnexpectedSync).ex
        rw [f, f']
        exact cleanup_net_sim _ _ _ _ _ hm2 _

theorem syncFirst_sim : ∀ (fuel : Nat) (st : St) (n' : Net), Sim st.n n' →
    RelSnd SimSt (syncFirst fuel st) (syncFirst fuel { st with n := n' }) := by
  intro fuel
  induction fuel with
  | zero =>
    intro st n' h
    exact ⟨rfl, ⟨rfl, rfl, rfl, rfl, h⟩⟩
  | succ fuel ih =>
    intro st n' h
    unfold syncFirst
    obtain ⟨res, c1, m, m', e, e', hm⟩ := (receivePdu_sim h st.c st.t.own Gen.RTR_RECV_TIMEOUT).ex₂
    rw [e, e']
    cases res with
    | rc code =>
      refine rel_ite (fun _ => ?_) fun _ => rel_ite (fun _ => ?_) fun _ => ⟨rfl, rfl, rfl, rfl, rfl, hm⟩
      · obtain ⟨c2, m2, m2', f, f', hm2⟩ :=
          (changeState_sim hm { c1 with version := c1.version - 1 } st.t.own .fastReconnect).ex
        rw [f, f']
        exact ⟨rfl, rfl, rfl, rfl, rfl, hm2⟩
      · obtain ⟨c2, m2, m2', f, f', hm2⟩ := (changeState_sim hm c1 st.t.own .errTransport).ex
        rw [f, f']
        exact ⟨rfl, rfl, rfl, rfl, rfl, hm2⟩
    | ok raw => exact rel_ite (fun _ => ih _ _ hm) fun _ => ⟨rfl, rfl, rfl, rfl, rfl, hm⟩

theorem syncG_sim (fuel : Nat) (st : St) (n' : Net) (h : Sim st.n n') :
    RelSnd (RelFst SimSt) (syncG fuel st) (syncG fuel { st with n := n' }) := by
  unfold syncG
  obtain ⟨r, st1, st1', e, e', hst⟩ := (syncFirst_sim fuel st n' h).ex
  -- the second state is the first with another environment: the form the congruences are stated for
  rw [e, e', hst.eq_with]
  have hn := hst.n
  generalize st1'.n = k' at hn
  cases r with
  | none => exact ⟨rfl, ⟨rfl, rfl, rfl, rfl, hn⟩, rfl⟩
  | some raw =>
    dsimp only
    split
    · obtain ⟨c2, m2, m2', f, f', hm2⟩ := (handleErrorPdu_sim hn st1.c st1.t.own raw).ex
      rw [f, f']
      exact ⟨rfl, ⟨rfl, rfl, rfl, rfl, hm2⟩, rfl⟩
    · obtain ⟨c2, m2, m2', f, f', hm2⟩ := (changeState_sim hn st1.c st1.t.own .errNoIncr).ex
      rw [f, f']
      exact ⟨rfl, ⟨rfl, rfl, rfl, rfl, hm2⟩, rfl⟩
    · obtain ⟨ok, r, r', f, f', h1⟩ := (handleCacheResponse_sim hn st1.c st1.ss st1.t.own raw).ex
      obtain ⟨c2, ss2, m2, m2', rfl, rfl, hm2⟩ := h1.ex₂
      rw [f, f']
      refine rel_ite (fun _ => ⟨rfl, ⟨rfl, rfl, rfl, rfl, hm2⟩, rfl⟩) fun _ => ?_
      obtain ⟨ok3, r, r', g, g', h3⟩ :=
        (recvAndStore_sim fuel { st1 with c := c2, ss := ss2, n := m2 } m2' hm2 [] [] []).ex
      obtain ⟨st3, st3', b3, rfl, rfl, hst3⟩ := h3.ex
      rw [g, g']
      refine rel_ite (fun _ => ⟨rfl, hst3, rfl⟩) fun _ => ⟨rfl, ⟨hst3.c, ?_, hst3.tm, hst3.t, hst3.n⟩, rfl⟩
      rw [hst3.ss, hst3.n.now]
    · obtain ⟨ok, m2, m2', f, f', hm2⟩ := (sendErrorFromHost_sim hn st1.c raw 8 0 txtUnexpectedSync2).ex
      rw [f, f']
      exact ⟨rfl, ⟨rfl, rfl, rfl, rfl, hm2⟩, rfl⟩

theorem waitForSync_sim (st : St) (n' : Net) (h : Sim st.n n') :
    RelSnd SimSt (waitForSync st) (waitForSync { st with n := n' }) := by
  have ht : waitTimeout { st with n := n' } = waitTimeout st := by
    unfold waitTimeout
    rw [← h.now]
  rw [waitForSync_eq, waitForSync_eq, ht]
  obtain ⟨res, c1, m, m', e, e', hm⟩ := (receivePdu_sim h st.c st.t.own (waitTimeout st)).ex₂
  rw [e, e']
  cases res <;> exact ⟨rfl, ⟨rfl, rfl, rfl, rfl, hm⟩⟩

end Rtr.P
