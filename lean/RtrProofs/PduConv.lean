/-
  PduConv: the byte-order conversions of packets.c (model RtrModel/PduConv.lean) undo each other on every buffer, Error
  Reports included, and the fields the protocol model `Rtr.P` reads big-endian from the bytes as received are what the C
  code reads (little-endian host) from its converted structs.  Hence keeping `raw` in the model, and echoing `raw.take k` in
  Error Reports, is what the code does.
-/
import RtrModel.PduConv
import RtrProofs.PduConvRevAt
import RtrProofs.CheckSize

namespace Rtr.Conv
open Rtr.P

/-! ## a converted field under the readers of the two byte orders -/

theorem le32_revAt_same (b : List Nat) (o : Nat) (h : o + 4 ≤ b.length) : le32 (revAt b o 4) o = be32 b o := by
  have h0 : (revAt b o 4).getD o 0 = b.getD (o + 3) 0 := getD_revAt_in b o 4 0 h (by decide)
  have h1 : (revAt b o 4).getD (o + 1) 0 = b.getD (o + 2) 0 := getD_revAt_in b o 4 1 h (by decide)
  have h2 : (revAt b o 4).getD (o + 2) 0 = b.getD (o + 1) 0 := getD_revAt_in b o 4 2 h (by decide)
  have h3 : (revAt b o 4).getD (o + 3) 0 = b.getD o 0 := getD_revAt_in b o 4 3 h (by decide)
  unfold le32 be32
  rw [h0, h1, h2, h3]
  omega

theorem le16_revAt_same (b : List Nat) (o : Nat) (h : o + 2 ≤ b.length) : le16 (revAt b o 2) o = be16 b o := by
  have h0 : (revAt b o 2).getD o 0 = b.getD (o + 1) 0 := getD_revAt_in b o 2 0 h (by decide)
  have h1 : (revAt b o 2).getD (o + 1) 0 = b.getD o 0 := getD_revAt_in b o 2 1 h (by decide)
  unfold le16 be16
  rw [h0, h1]
  omega

theorem le32_revAt_out (b : List Nat) (o k p : Nat) (h : p + 4 ≤ o ∨ o + k ≤ p) : le32 (revAt b o k) p = le32 b p := by
  unfold le32
  rw [getD_revAt_out b o k p (by omega), getD_revAt_out b o k (p+1) (by omega),
    getD_revAt_out b o k (p+2) (by omega), getD_revAt_out b o k (p+3) (by omega)]

theorem le16_revAt_out (b : List Nat) (o k p : Nat) (h : p + 2 ≤ o ∨ o + k ≤ p) : le16 (revAt b o k) p = le16 b p := by
  unfold le16
  rw [getD_revAt_out b o k p (by omega), getD_revAt_out b o k (p+1) (by omega)]

/-! ## a list of fields converted one after the other -/

def revFields (fs : List (Nat × Nat)) (b : List Nat) : List Nat := fs.foldl (fun b f => revAt b f.1 f.2) b

theorem revFields_nil (b : List Nat) : revFields [] b = b := rfl
theorem revFields_cons (f : Nat × Nat) (fs : List (Nat × Nat)) (b : List Nat) :
    revFields (f :: fs) b = revFields fs (revAt b f.1 f.2) := rfl
theorem revFields_append (fs gs : List (Nat × Nat)) (b : List Nat) :
    revFields (fs ++ gs) b = revFields gs (revFields fs b) := by
  unfold revFields
  rw [List.foldl_append]

theorem length_revFields (fs : List (Nat × Nat)) (b : List Nat) : (revFields fs b).length = b.length := by
  induction fs generalizing b with
  | nil => rfl
  | cons f fs ih => rw [revFields_cons, ih, length_revAt]

theorem revFields_invol (fs : List (Nat × Nat)) (hp : fs.Pairwise Disj) (b : List Nat) :
    revFields fs (revFields fs b) = b := by
  unfold revFields
  exact foldl_invol _ Disj (fun b f => revAt_revAt b f.1 f.2) (fun b f g h => revAt_comm b f.1 f.2 g.1 g.2 h) fs hp b

theorem getD_revFields_out (fs : List (Nat × Nat)) (b : List Nat) (i : Nat)
    (h : ∀ f ∈ fs, i < f.1 ∨ f.1 + f.2 ≤ i) : (revFields fs b).getD i 0 = b.getD i 0 := by
  induction fs generalizing b with
  | nil => rfl
  | cons f fs ih =>
    rw [revFields_cons, ih _ (fun g hg => h g (List.mem_cons_of_mem _ hg)),
      getD_revAt_out _ _ _ _ (h f List.mem_cons_self)]

theorem be32_revFields_out (fs : List (Nat × Nat)) (b : List Nat) (p : Nat)
    (h : ∀ f ∈ fs, p + 4 ≤ f.1 ∨ f.1 + f.2 ≤ p) : be32 (revFields fs b) p = be32 b p := by
  unfold be32
  rw [getD_revFields_out fs b p (fun f hf => by have := h f hf; omega),
    getD_revFields_out fs b (p+1) (fun f hf => by have := h f hf; omega),
    getD_revFields_out fs b (p+2) (fun f hf => by have := h f hf; omega),
    getD_revFields_out fs b (p+3) (fun f hf => by have := h f hf; omega)]

theorem getD_revFields_mem (fs : List (Nat × Nat)) (hp : fs.Pairwise Disj) (b : List Nat) (f : Nat × Nat)
    (hm : f ∈ fs) (i : Nat) (hi : f.1 ≤ i ∧ i < f.1 + f.2) :
    (revFields fs b).getD i 0 = (revAt b f.1 f.2).getD i 0 := by
  induction fs generalizing b with
  | nil => cases hm
  | cons g fs ih =>
    rw [List.pairwise_cons] at hp
    rw [revFields_cons]
    rcases List.mem_cons.1 hm with hf | hm'
    · subst hf
      exact getD_revFields_out fs _ i (fun g hg => by have := hp.1 g hg; unfold Disj at this; omega)
    · have hd := hp.1 f hm'
      unfold Disj at hd
      rw [ih hp.2 _ hm', revAt_comm b g.1 g.2 f.1 f.2 hd, getD_revAt_out _ g.1 g.2 i (by omega)]

theorem le32_revFields_mem (fs : List (Nat × Nat)) (hp : fs.Pairwise Disj) (b : List Nat) (o : Nat)
    (hm : (o, 4) ∈ fs) (hb : o + 4 ≤ b.length) : le32 (revFields fs b) o = be32 b o := by
  have hg (j : Nat) (hj : j < 4) := getD_revFields_mem fs hp b (o, 4) hm (o + j) ⟨Nat.le_add_right o j, by omega⟩
  have h0 : (revFields fs b).getD o 0 = (revAt b o 4).getD o 0 := hg 0 (by decide)
  rw [← le32_revAt_same b o hb]
  unfold le32
  rw [h0, hg 1 (by decide), hg 2 (by decide), hg 3 (by decide)]

theorem le16_revFields_mem (fs : List (Nat × Nat)) (hp : fs.Pairwise Disj) (b : List Nat) (o : Nat)
    (hm : (o, 2) ∈ fs) (hb : o + 2 ≤ b.length) : le16 (revFields fs b) o = be16 b o := by
  have hg (j : Nat) (hj : j < 2) := getD_revFields_mem fs hp b (o, 2) hm (o + j) ⟨Nat.le_add_right o j, by omega⟩
  have h0 : (revFields fs b).getD o 0 = (revAt b o 2).getD o 0 := hg 0 (by decide)
  rw [← le16_revAt_same b o hb]
  unfold le16
  rw [h0, hg 1 (by decide)]

/-! ## prefixes of a converted buffer -/

theorem take_revAt (b : List Nat) (o k n : Nat) (h : o + k ≤ n) : (revAt b o k).take n = revAt (b.take n) o k := by
  by_cases hb : o + k ≤ b.length
  · have hb' : o + k ≤ (b.take n).length := by
      rw [List.length_take]
      exact Nat.le_min.2 ⟨h, hb⟩
    apply ext_getD (by simp only [List.length_take, length_revAt])
    intro i hi
    have hn : i < n := (Nat.lt_min.1 (List.length_take ▸ hi)).1
    rw [getD_take _ n i hn, getD_revAt b o k i hb, getD_revAt _ o k i hb', getD_take _ n _ (mirror_lt o k n i h hn)]
  · rw [revAt_oob b o k hb, revAt_oob _ o k (fun hc => hb (Nat.le_trans hc (List.length_take_le' n b)))]

theorem take_revFields (fs : List (Nat × Nat)) (b : List Nat) (n : Nat) (h : ∀ f ∈ fs, f.1 + f.2 ≤ n) :
    (revFields fs b).take n = revFields fs (b.take n) := by
  induction fs generalizing b with
  | nil => rfl
  | cons f fs ih =>
    rw [revFields_cons, revFields_cons, ih _ (fun g hg => h g (List.mem_cons_of_mem _ hg)),
      take_revAt b f.1 f.2 n (h f List.mem_cons_self)]

theorem take_revFields_above (fs : List (Nat × Nat)) (b : List Nat) (n : Nat) (h : ∀ f ∈ fs, n ≤ f.1) :
    (revFields fs b).take n = b.take n := by
  apply ext_getD (by simp only [List.length_take, length_revFields])
  intro i hi
  have hn : i < n := (Nat.lt_min.1 (List.length_take ▸ hi)).1
  rw [getD_take _ n i hn, getD_take _ n i hn]
  exact getD_revFields_out fs b i (fun f hf => Or.inl (Nat.lt_of_lt_of_le hn (h f hf)))

/-! ## the conversions as field lists -/

/-- the header fields `rtr_pdu_convert_header_byte_order` converts: (offset, size) -/
def hdrFields (b : List Nat) : List (Nat × Nat) := if typeOf b ≠ 9 then [(2, 2), (4, 4)] else [(4, 4)]

/-- the footer fields `rtr_pdu_convert_footer_byte_order` converts, in the order of the C statements
    (to-host order for an Error Report; `be32 b 8` is the encapsulated length as received) -/
def footerFields (b : List Nat) : List (Nat × Nat) :=
  match typeOf b with
  | 1 => [(8, 4)]
  | 10 => [(8, 4), (12 + be32 b 8, 4)]
  | 0 => [(8, 4)]
  | 7 => if verOf b = 1 then [(20, 4), (12, 4), (16, 4), (8, 4)] else [(8, 4)]
  | 4 => [(12, 4), (16, 4)]
  | 6 => [(12, 4), (16, 4), (20, 4), (24, 4), (28, 4)]
  | 9 => [(28, 4)]
  | _ => []

/-- all fields converted between the byte orders for this PDU -/
def convFields (b : List Nat) : List (Nat × Nat) := hdrFields b ++ footerFields b

theorem convHeader_eq (b : List Nat) : convHeader b = revFields (hdrFields b) b := by
  unfold convHeader hdrFields
  split
  · rfl
  · rfl

/-- for an Error Report only in the to-host direction: to network the two fields go in the other order
    (`convFooter_toNetwork_error`) -/
theorem convFooter_eq (dir : Dir) (b : List Nat) (h : dir = .toHost ∨ typeOf b ≠ 10) :
    convFooter dir b = revFields (footerFields b) b := by
  unfold convFooter footerFields
  generalize typeOf b = t at h
  -- fixed layouts: `rfl` on the unfolded fold (the offsets of the generated layout against the numerals of
  -- `footerFields`); Error Report: the text-length field is found behind the converted encapsulated length
  split
  · rfl
  · simp only [revFields_cons, revFields_nil]
    rcases h with rfl | h
    · show revAt (revAt b 8 4) (12 + le32 (revAt b 8 4) 8) 4 = revAt (revAt b 8 4) (12 + be32 b 8) 4
      by_cases h12 : 8 + 4 ≤ b.length
      · rw [le32_revAt_same b 8 h12]
      · rw [revAt_oob b 8 4 h12, revAt_oob b _ 4 (by omega), revAt_oob b _ 4 (by omega)]
    · exact absurd rfl h
  · rfl
  · split
    · simp only [revFields_cons, revFields_nil]
      rfl
    · rfl
  · simp only [revFields_cons, revFields_nil]
    rfl
  · simp only [revFields_cons, revFields_nil]
    rfl
  · rfl
  · split
    any_goals contradiction
    rfl

theorem convFooter_toNetwork_error (b : List Nat) (h : typeOf b = 10) :
    convFooter .toNetwork b = revFields [(12 + le32 b 8, 4), (8, 4)] b := by
  unfold convFooter
  rw [h]
  rfl

theorem convFooter_fields (dir : Dir) (b : List Nat) : ∃ fs, convFooter dir b = revFields fs b := by
  by_cases h : dir = .toHost ∨ typeOf b ≠ 10
  · exact ⟨_, convFooter_eq dir b h⟩
  · have hd : dir = .toNetwork := by
      cases dir
      · exact absurd (Or.inl rfl) h
      · rfl
    rw [hd]
    exact ⟨_, convFooter_toNetwork_error b (Decidable.of_not_not (fun h10 => h (Or.inr h10)))⟩

theorem hdrFields_ge (b : List Nat) : ∀ f ∈ hdrFields b, 2 ≤ f.1 := by
  unfold hdrFields
  split <;> decide

theorem hdrFields_lt (b : List Nat) : ∀ f ∈ hdrFields b, f.1 + f.2 ≤ 8 := by
  unfold hdrFields
  split <;> decide

theorem hdrFields_pairwise (b : List Nat) : (hdrFields b).Pairwise Disj := by
  unfold hdrFields
  split <;> decide

theorem footerFields_ge (b : List Nat) : ∀ f ∈ footerFields b, 8 ≤ f.1 := by
  unfold footerFields
  split
  · decide
  · intro f hf
    rcases List.mem_cons.1 hf with rfl | hf
    · exact Nat.le_refl 8
    · rw [List.mem_singleton.1 hf]
      exact Nat.le_trans (by decide) (Nat.le_add_right 12 _)
  · decide
  · split <;> decide
  · decide
  · decide
  · decide
  · decide

theorem footerFields_pairwise (b : List Nat) : (footerFields b).Pairwise Disj := by
  unfold footerFields
  split
  · decide
  · rw [List.pairwise_pair]
    exact Or.inl (Nat.le_add_right 12 _)
  · decide
  · split <;> decide
  · decide
  · decide
  · decide
  · decide

theorem convFields_pairwise (b : List Nat) : (convFields b).Pairwise Disj := by
  unfold convFields
  rw [List.pairwise_append]
  refine ⟨hdrFields_pairwise b, footerFields_pairwise b, ?_⟩
  intro f hf g hg
  exact Or.inl (Nat.le_trans (hdrFields_lt b f hf) (footerFields_ge b g hg))

theorem typeOf_revFields (fs : List (Nat × Nat)) (b : List Nat) (h : ∀ f ∈ fs, 2 ≤ f.1) :
    typeOf (revFields fs b) = typeOf b ∧ verOf (revFields fs b) = verOf b := by
  unfold typeOf verOf
  exact ⟨getD_revFields_out fs b 1 (fun f hf => Or.inl (h f hf)),
    getD_revFields_out fs b 0 (fun f hf => Or.inl (Nat.lt_of_lt_of_le (by decide) (h f hf)))⟩

theorem typeOf_revFooter (x b : List Nat) :
    typeOf (revFields (footerFields x) b) = typeOf b ∧ verOf (revFields (footerFields x) b) = verOf b :=
  typeOf_revFields _ b (fun f hf => Nat.le_trans (by decide) (footerFields_ge x f hf))

theorem hdrFields_congr (x y : List Nat) (h : typeOf x = typeOf y) : hdrFields x = hdrFields y := by
  unfold hdrFields
  rw [h]

theorem footerFields_congr (x y : List Nat) (ht : typeOf x = typeOf y) (hv : verOf x = verOf y)
    (he : typeOf y = 10 → be32 x 8 = be32 y 8) : footerFields x = footerFields y := by
  unfold footerFields
  rw [ht, hv]
  split
  · rfl
  · rename_i h10
    rw [he h10]
  · rfl
  · rfl
  · rfl
  · rfl
  · rfl
  · rfl

theorem footerFields_convHeader (b : List Nat) : footerFields (convHeader b) = footerFields b := by
  rw [convHeader_eq]
  have ht := typeOf_revFields (hdrFields b) b (hdrFields_ge b)
  exact footerFields_congr _ b ht.1 ht.2 (fun _ =>
    be32_revFields_out _ b 8 (fun f hf => Or.inr (hdrFields_lt b f hf)))

theorem toHost_eq (b : List Nat) : toHost b = revFields (convFields b) b := by
  unfold toHost convFields
  rw [revFields_append, convFooter_eq .toHost _ (Or.inl rfl), footerFields_convHeader, convHeader_eq]

/-! ## the round trips -/

theorem convHeader_convHeader (b : List Nat) : convHeader (convHeader b) = b := by
  rw [convHeader_eq, convHeader_eq]
  rw [hdrFields_congr _ b (typeOf_revFields _ b (hdrFields_ge b)).1]
  exact revFields_invol _ (hdrFields_pairwise b) b

/-- the second conversion finds the same type and version, hence the same fields -/
theorem convFooter_convFooter (d1 d2 : Dir) (b : List Nat) (hne : typeOf b ≠ 10) :
    convFooter d2 (convFooter d1 b) = b := by
  rw [convFooter_eq d1 b (Or.inr hne)]
  have ht := typeOf_revFooter b b
  rw [convFooter_eq d2 _ (Or.inr (by rw [ht.1]; exact hne)),
    footerFields_congr _ b ht.1 ht.2 (fun h10 => absurd h10 hne)]
  exact revFields_invol _ (footerFields_pairwise b) b

/-- Error Report: to host converts the encapsulated length first and finds the text length with the converted
    value; to network finds the text length with that same, still host-order, value and converts the
    encapsulated length last -/
theorem convFooter_error_round (b : List Nat) (h10 : typeOf b = 10) :
    convFooter .toNetwork (convFooter .toHost b) = b := by
  have hF : footerFields b = [(8, 4), (12 + be32 b 8, 4)] := by
    unfold footerFields
    rw [h10]
    rfl
  have ht := typeOf_revFooter b b
  rw [convFooter_eq .toHost b (Or.inl rfl), convFooter_toNetwork_error _ (ht.1.trans h10), hF]
  simp only [revFields_cons, revFields_nil]
  by_cases h12 : 8 + 4 ≤ b.length
  · rw [le32_revAt_out _ _ 4 8 (Or.inl (Nat.le_add_right 12 _)), le32_revAt_same b 8 h12, revAt_revAt, revAt_revAt]
  · rw [revAt_oob b 8 4 h12, revAt_oob b _ 4 (by omega), revAt_oob b _ 4 (by omega), revAt_oob b 8 4 h12]

/-- `rtr_pdu_to_network_byte_order` undoes what `rtr_receive_pdu` did to the buffer — for every
    PDU type, Error Reports with their nested lengths included.  This is also the echo of a whole PDU:
    `rtr_send_error_pdu_from_host` copies the converted buffer and converts the copy back (`echo_header` below is the
    case of the first 8 bytes). -/
theorem echo_whole (raw : List Nat) : toNetwork (toHost raw) = raw := by
  unfold toNetwork toHost
  have ht := typeOf_revFields (hdrFields raw) raw (hdrFields_ge raw)
  rw [← convHeader_eq] at ht
  have back : convFooter .toNetwork (convFooter .toHost (convHeader raw)) = convHeader raw := by
    by_cases h10 : typeOf raw = 10
    · exact convFooter_error_round _ (ht.1.trans h10)
    · exact convFooter_convFooter _ _ _ (by rw [ht.1]; exact h10)
  rw [back, convHeader_convHeader]

/-- Error Report, to network and back: the text length is found with the host-order encapsulated length both times - before
    that length is converted, and after it has been converted back -/
theorem convFooter_error_back (b : List Nat) (h10 : typeOf b = 10) :
    convFooter .toHost (convFooter .toNetwork b) = b := by
  have ht : typeOf (convFooter .toNetwork b) = 10 := by
    rw [convFooter_toNetwork_error b h10]
    refine (typeOf_revFields _ b ?_).1.trans h10
    intro f hf
    rcases List.mem_cons.1 hf with rfl | hf
    · exact Nat.le_trans (by decide) (Nat.le_add_right 12 _)
    · rw [List.mem_singleton.1 hf]
      decide
  have e : convFooter .toHost (convFooter .toNetwork b) =
      revAt (revAt (convFooter .toNetwork b) 8 4) (12 + le32 (revAt (convFooter .toNetwork b) 8 4) 8) 4 := by
    generalize convFooter .toNetwork b = c at ht
    unfold convFooter
    rw [ht]
    rfl
  rw [e, convFooter_toNetwork_error b h10]
  simp only [revFields_cons, revFields_nil]
  rw [revAt_revAt, le32_revAt_out b _ 4 8 (Or.inl (Nat.le_add_right 12 _)), revAt_revAt]

/-- the other direction (a struct built in host order, sent, is what the peer converts back), for every buffer -/
theorem toHost_toNetwork_all (b : List Nat) : toHost (toNetwork b) = b := by
  unfold toNetwork toHost
  rw [convHeader_convHeader]
  by_cases h10 : typeOf b = 10
  · exact convFooter_error_back b h10
  · exact convFooter_convFooter _ _ b h10

/-- the proof does not use `hne` -/
theorem toHost_toNetwork (b : List Nat) (hne : typeOf b ≠ 10) : toHost (toNetwork b) = b :=
  toHost_toNetwork_all b

/-! ## what the C code reads from its structs is what the model reads from `raw` -/

theorem toHost_fields (raw : List Nat) (hb : ∀ f ∈ convFields raw, f.1 + f.2 ≤ raw.length) :
    (∀ o, (o, 4) ∈ convFields raw → le32 (toHost raw) o = be32 raw o) ∧
    (∀ o, (o, 2) ∈ convFields raw → le16 (toHost raw) o = be16 raw o) ∧
    (∀ i, (∀ f ∈ convFields raw, i < f.1 ∨ f.1 + f.2 ≤ i) → (toHost raw).getD i 0 = raw.getD i 0) ∧
    (toHost raw).length = raw.length := by
  rw [toHost_eq]
  refine ⟨?_, ?_, ?_, length_revFields _ _⟩
  · intro o hm
    exact le32_revFields_mem _ (convFields_pairwise raw) raw o hm (hb _ hm)
  · intro o hm
    exact le16_revFields_mem _ (convFields_pairwise raw) raw o hm (hb _ hm)
  · intro i h
    exact getD_revFields_out _ raw i h

theorem forall_convFields (raw : List Nat) (P : Nat × Nat → Prop) (hh : ∀ f ∈ hdrFields raw, P f)
    (hf : ∀ f ∈ footerFields raw, P f) : ∀ f ∈ convFields raw, P f := by
  intro f hm
  rcases List.mem_append.1 hm with hm | hm
  · exact hh f hm
  · exact hf f hm

/-- a complete PDU that passed `rtr_pdu_check_size` contains every field the conversions touch:
    the C code stays inside the PDU, and the model (`revAt` is the identity out of bounds) is
    faithful -/
theorem convFields_inBounds (raw : List Nat) (hc : checkSize raw = true) (hl : raw.length = lenOf raw) :
    ∀ f ∈ convFields raw, f.1 + f.2 ≤ raw.length := by
  have hk := (checkSize_spec raw).1 hc
  unfold KnownSize at hk
  have key : 8 ≤ lenOf raw ∧ ∀ f ∈ footerFields raw, f.1 + f.2 ≤ lenOf raw := by
    unfold footerFields
    rcases hk with h | h | h | h | h | h | h | h | h | h | h
    -- the Error Report, the last row of `KnownSize`, is the only one that depends on the data
    rotate_right
    · rw [h.1, h.2]
      refine ⟨by omega, ?_⟩
      show ∀ f ∈ [(8, 4), (12 + be32 raw 8, 4)], f.1 + f.2 ≤ 16 + be32 raw 8 + be32 raw (12 + be32 raw 8)
      rw [List.forall_mem_cons, List.forall_mem_singleton]
      show 8 + 4 ≤ _ ∧ 12 + be32 raw 8 + 4 ≤ _
      omega
    -- in the ten fixed rows the type, the version where the row has one, and the length are literals: a finite check
    all_goals
      simp only [h.1, h.2]
      decide
  rw [hl]
  exact forall_convFields raw _ (fun f hf => Nat.le_trans (hdrFields_lt raw f hf) key.1) key.2

/-- What `Rtr.P` reads: for a complete PDU that passed the size check, every field the protocol
    model reads big-endian from `raw` is the value the C code reads from the converted buffer
    (`toHost raw`, little-endian host), and the bytes the model reads directly (flags, prefix
    lengths, SKI, SPKI, the encapsulated PDU, the error text) are not moved by the conversion. -/
theorem toHost_reads (raw : List Nat) (hc : checkSize raw = true) (hl : raw.length = lenOf raw) :
    verOf (toHost raw) = verOf raw ∧ typeOf (toHost raw) = typeOf raw ∧
    le32 (toHost raw) 4 = lenOf raw ∧
    (typeOf raw ≠ 9 → le16 (toHost raw) 2 = be16 raw 2) ∧
    (typeOf raw = 9 → (toHost raw).getD 2 0 = raw.getD 2 0) ∧
    ((typeOf raw = 0 ∨ typeOf raw = 1 ∨ typeOf raw = 7 ∨ typeOf raw = 10) → le32 (toHost raw) 8 = be32 raw 8) ∧
    (typeOf raw = 7 → verOf raw = 1 → le32 (toHost raw) 12 = be32 raw 12 ∧ le32 (toHost raw) 16 = be32 raw 16 ∧
      le32 (toHost raw) 20 = be32 raw 20) ∧
    (typeOf raw = 4 → (∀ i, 8 ≤ i → i < 12 → (toHost raw).getD i 0 = raw.getD i 0) ∧
      le32 (toHost raw) 12 = be32 raw 12 ∧ le32 (toHost raw) 16 = be32 raw 16) ∧
    (typeOf raw = 6 → (∀ i, 8 ≤ i → i < 12 → (toHost raw).getD i 0 = raw.getD i 0) ∧
      le32 (toHost raw) 12 = be32 raw 12 ∧ le32 (toHost raw) 16 = be32 raw 16 ∧ le32 (toHost raw) 20 = be32 raw 20 ∧
      le32 (toHost raw) 24 = be32 raw 24 ∧ le32 (toHost raw) 28 = be32 raw 28) ∧
    (typeOf raw = 9 → (∀ i, (8 ≤ i ∧ i < 28) ∨ 32 ≤ i → (toHost raw).getD i 0 = raw.getD i 0) ∧
      le32 (toHost raw) 28 = be32 raw 28) ∧
    (typeOf raw = 10 → le32 (toHost raw) (12 + be32 raw 8) = be32 raw (12 + be32 raw 8) ∧
      (∀ i, (12 ≤ i ∧ i < 12 + be32 raw 8) ∨ 16 + be32 raw 8 ≤ i → (toHost raw).getD i 0 = raw.getD i 0)) := by
  obtain ⟨h32, h16, hout, _⟩ := toHost_fields raw (convFields_inBounds raw hc hl)
  have f32 (o : Nat) (hm : (o, 4) ∈ footerFields raw) : le32 (toHost raw) o = be32 raw o :=
    h32 o (List.mem_append_right _ hm)
  have hhdr (f : Nat × Nat) (hm : f ∈ hdrFields raw) : f ∈ convFields raw := List.mem_append_left _ hm
  have low (i : Nat) (hi : i < 2) : (toHost raw).getD i 0 = raw.getD i 0 :=
    hout i (forall_convFields raw _ (fun f hf => Or.inl (Nat.lt_of_lt_of_le hi (hdrFields_ge raw f hf)))
      (fun f hf => Or.inl (Nat.lt_of_lt_of_le (Nat.lt_trans hi (by decide)) (footerFields_ge raw f hf))))
  have body (i : Nat) (h8 : 8 ≤ i) (hf : ∀ f ∈ footerFields raw, i < f.1 ∨ f.1 + f.2 ≤ i) :
      (toHost raw).getD i 0 = raw.getD i 0 :=
    hout i (forall_convFields raw _ (fun f hm => Or.inr (Nat.le_trans (hdrFields_lt raw f hm) h8)) hf)
  refine ⟨low 0 (by decide), low 1 (by decide), ?_, ?_, ?_, ?_, ?_, ?_, ?_, ?_, ?_⟩
  · refine h32 4 (hhdr _ ?_)
    unfold hdrFields
    split <;> decide
  · intro h
    refine h16 2 (hhdr _ ?_)
    unfold hdrFields
    rw [if_pos h]
    decide
  · intro h
    refine hout 2 (forall_convFields raw _ ?_ (fun f hf => Or.inl (Nat.lt_of_lt_of_le (by decide) (footerFields_ge raw f hf))))
    unfold hdrFields
    rw [if_neg (fun hn => hn h)]
    decide
  · intro h
    apply f32 8
    unfold footerFields
    rcases h with h | h | h | h
    · simp only [h]
      decide
    · simp only [h]
      decide
    · simp only [h]
      split <;> decide
    · simp only [h]
      exact List.mem_cons_self
  · intro h hv
    have hF : footerFields raw = [(20, 4), (12, 4), (16, 4), (8, 4)] := by
      unfold footerFields
      simp only [h, hv, if_true]
    rw [hF] at f32
    exact ⟨f32 12 (by decide), f32 16 (by decide), f32 20 (by decide)⟩
  · intro h
    have hF : footerFields raw = [(12, 4), (16, 4)] := by
      unfold footerFields
      simp only [h]
    rw [hF] at f32 body
    refine ⟨fun i h8 h12 => body i h8 ?_, f32 12 (by decide), f32 16 (by decide)⟩
    have hge : ∀ f ∈ [(12, 4), (16, 4)], 12 ≤ f.1 := by decide
    exact fun f hf => Or.inl (Nat.lt_of_lt_of_le h12 (hge f hf))
  · intro h
    have hF : footerFields raw = [(12, 4), (16, 4), (20, 4), (24, 4), (28, 4)] := by
      unfold footerFields
      simp only [h]
    rw [hF] at f32 body
    refine ⟨fun i h8 h12 => body i h8 ?_, f32 12 (by decide), f32 16 (by decide), f32 20 (by decide),
      f32 24 (by decide), f32 28 (by decide)⟩
    have hge : ∀ f ∈ [(12, 4), (16, 4), (20, 4), (24, 4), (28, 4)], 12 ≤ f.1 := by decide
    exact fun f hf => Or.inl (Nat.lt_of_lt_of_le h12 (hge f hf))
  · intro h
    have hF : footerFields raw = [(28, 4)] := by
      unfold footerFields
      simp only [h]
    rw [hF] at f32 body
    refine ⟨fun i hi => body i (by omega) ?_, f32 28 (by decide)⟩
    rw [List.forall_mem_singleton]
    show i < 28 ∨ 28 + 4 ≤ i
    omega
  · intro h
    have hF : footerFields raw = [(8, 4), (12 + be32 raw 8, 4)] := by
      unfold footerFields
      simp only [h]
    rw [hF] at f32 body
    refine ⟨f32 _ (List.mem_cons_of_mem _ List.mem_cons_self), fun i hi => body i (by omega) ?_⟩
    rw [List.forall_mem_cons, List.forall_mem_singleton]
    show (i < 8 ∨ 8 + 4 ≤ i) ∧ (i < 12 + be32 raw 8 ∨ 12 + be32 raw 8 + 4 ≤ i)
    omega

/-! ## the echoed copy is byte-exact -/

/-- `rtr_send_error_pdu_from_host` copies the first `k` bytes of the converted buffer and converts the copy back; here
    `k = 8`, the header only (the model's call sites with `k > 8` pass the whole PDU: `echo_whole`).  The footer conversion
    leaves the first 8 bytes alone, the header conversion looks at and moves nothing else. -/
theorem echo_header (raw : List Nat) : hdrToNetwork ((toHost raw).take 8) = raw.take 8 := by
  have ht : hdrFields raw = hdrFields (raw.take 8) := hdrFields_congr _ _ (getD_take raw 8 1 (by decide)).symm
  unfold hdrToNetwork toHost
  rw [convFooter_eq .toHost _ (Or.inl rfl), take_revFields_above _ _ 8 (footerFields_ge _), convHeader_eq raw,
    take_revFields _ _ 8 (hdrFields_lt raw), ht, ← convHeader_eq, convHeader_convHeader]

/-! ## non-vacuity / concrete vectors (the same vectors are in the tie, tools/pduconvcheck.py) -/

section Examples

/-- an IPv4 Prefix PDU as received … -/
def exIpv4 : List Nat := [1, 4, 0, 0, 0, 0, 0, 20, 1, 24, 24, 0, 10, 0, 0, 0, 0, 0, 253, 232]
/-- … and an Error Report echoing a Serial Query header, text "ABC" -/
def exErr : List Nat := [1, 10, 0, 2, 0, 0, 0, 27, 0, 0, 0, 8, 1, 1, 0, 7, 0, 0, 0, 12, 0, 0, 0, 3, 65, 66, 67]

example : checkSize exIpv4 = true ∧ exIpv4.length = lenOf exIpv4 ∧ checkSize exErr = true ∧
    exErr.length = lenOf exErr := by decide +kernel

example : toHost exIpv4 = [1, 4, 0, 0, 20, 0, 0, 0, 1, 24, 24, 0, 0, 0, 0, 10, 232, 253, 0, 0] := by decide +kernel
example : toHost exErr =
    [1, 10, 2, 0, 27, 0, 0, 0, 8, 0, 0, 0, 1, 1, 0, 7, 0, 0, 0, 12, 3, 0, 0, 0, 65, 66, 67] := by decide +kernel
example : toNetwork (toHost exErr) = exErr ∧ toNetwork (toHost exIpv4) = exIpv4 := by decide +kernel
example : convFields exErr = [(2, 2), (4, 4), (8, 4), (20, 4)] := by decide +kernel
/-- the asymmetric order inside the Error Report case matters: converting a host-order Error Report
    "to host" again looks for the text-length field in the wrong place -/
example : toHost (toHost exErr) ≠ exErr := by decide +kernel

end Examples

end Rtr.Conv
