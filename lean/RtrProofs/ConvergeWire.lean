/-
  ConvergeWire: the PDUs a cache sends (RFC 6810 / RFC 8210), built with the byte layout the model parses,
  and what makes them acceptable to the receive path and the table updates.  The builders nest their
  appends to the right, down to a closing `++ []`: every field then stands as `pre ++ (toBE32 x ++ post)`,
  the form `be32_at` / `be16_at` read it from.

  Names, here and in the files that follow: `cv…` is the vocabulary of the single good exchange (C08b),
  `cvm…` / `Cvm…` that of the scenarios over several exchanges (C08c: refusals, the wait, a reactive cache).
-/
import RtrProofs.TableEqs
import RtrProofs.SentPdus

namespace Rtr.P

/-- a 128-bit address, big-endian: the words `a / 2^96`, `a / 2^64`, `a / 2^32`, `a`, each modulo 2^32 by `toBE32` -/
def cvBE128 (a : Nat) : List Nat :=
  toBE32 (a / 79228162514264337593543950336) ++ (toBE32 (a / 18446744073709551616) ++
    (toBE32 (a / 4294967296) ++ toBE32 a))

/-- IPv4 / IPv6 Prefix PDU (`flag` 1 = announce, 0 = withdraw) for record `r` -/
def cvPfxPdu (ver flag : Nat) (r : Rec) : List Nat :=
  if r.v6 then [ver, 6, 0, 0, 0, 0, 0, 32, flag, r.len, r.maxLen, 0] ++ (cvBE128 r.addr ++ toBE32 r.asn)
  else [ver, 4, 0, 0, 0, 0, 0, 20, flag, r.len, r.maxLen, 0] ++ (toBE32 r.addr ++ toBE32 r.asn)

/-- Router Key PDU (type 9, 123 bytes): flags in byte 2, then SKI (20 bytes), AS number, SPKI (91 bytes) -/
def cvKeyPdu (ver flag : Nat) (k : KeyRec) : List Nat :=
  [ver, 9, flag, 0, 0, 0, 0, 123] ++ (k.ski ++ (toBE32 k.asn ++ k.spki))

/-- Cache Response PDU (type 3): a header alone, the session id in bytes 2–3 -/
def cvCacheResponse (ver sess : Nat) : List Nat := [ver, 3] ++ toBE16 sess ++ [0, 0, 0, 8]

/-- the three intervals of an End of Data PDU (protocol version 1) -/
structure CvIvals where
  refresh : Nat
  retry : Nat
  expire : Nat
deriving DecidableEq, Repr

/-- End of Data PDU: 12 bytes in version 0, 24 bytes with the three intervals in version 1 -/
def cvEndOfData (ver sess serial : Nat) (iv : CvIvals) : List Nat :=
  if ver = 0 then [ver, 7] ++ toBE16 sess ++ ([0, 0, 0, 12] ++ (toBE32 serial ++ []))
  else [ver, 7] ++ toBE16 sess ++ ([0, 0, 0, 24] ++ (toBE32 serial ++ (toBE32 iv.refresh ++ (toBE32 iv.retry ++ toBE32 iv.expire))))

/-- a record a cache can announce: source 0 = "learned from this socket", 32-bit AS number, lengths
    and address within the address family's width (addresses below 2^128 resp. 2^32) -/
def cvRecOK (r : Rec) : Prop :=
  r.src = 0 ∧ r.asn < 4294967296 ∧
  (if r.v6 then r.len ≤ 128 ∧ r.maxLen ≤ 128 ∧ r.addr < 340282366920938463463374607431768211456
   else r.len ≤ 32 ∧ r.maxLen ≤ 32 ∧ r.addr < 4294967296)

/-- a router key a cache can announce: SKI of 20 bytes, SPKI of 91 bytes -/
def cvKeyOK (k : KeyRec) : Prop :=
  k.src = 0 ∧ k.asn < 4294967296 ∧ k.ski.length = 20 ∧ k.spki.length = 91

instance (r : Rec) : Decidable (cvRecOK r) := by unfold cvRecOK; exact inferInstance
instance (k : KeyRec) : Decidable (cvKeyOK k) := by unfold cvKeyOK; exact inferInstance

/-- what `rtr_receive_pdu` wants of a PDU in version `ver`.  It is `ValidPdu` of ErrReports.lean (what the receive
    path has checked of a PDU it delivered) together with the version; `WellFormedPdu` of SentPdus.lean, for the PDUs
    the client sends, does not speak of the size check. -/
structure CvWire (ver : Nat) (p : List Nat) : Prop where
  ver : verOf p = ver
  len : p.length = lenOf p
  size : checkSize p = true
  max : lenOf p ≤ Gen.RTR_MAX_PDU_LEN

theorem CvWire.of_header (ver ty a b l : Nat) (body : List Nat) (hlen : body.length + 8 = l) (hl : l < 256)
    (hcs : checkSize ([ver, ty, a, b, 0, 0, 0, l] ++ body) = true) :
    CvWire ver ([ver, ty, a, b, 0, 0, 0, l] ++ body) := by
  have e : lenOf ([ver, ty, a, b, 0, 0, 0, l] ++ body) = l := by
    simp only [lenOf, be32, List.cons_append, List.getD_cons_succ, List.getD_cons_zero, Nat.zero_mul, Nat.zero_add]
  refine ⟨rfl, ?_, hcs, ?_⟩
  · rw [e, List.length_append, ← hlen]
    exact Nat.add_comm _ _
  · rw [e]
    exact Nat.le_trans (Nat.le_of_lt hl) (by decide)

/-! ### Cache Response -/

theorem cv_cacheResponse_wire (ver sess : Nat) : CvWire ver (cvCacheResponse ver sess) ∧ typeOf (cvCacheResponse ver sess) = 3 := by
  have hcs : checkSize (cvCacheResponse ver sess) = true := by
    simp only [cvCacheResponse, toBE16, checkSize, typeOf, lenOf, be32, List.cons_append, List.nil_append, List.getD_cons_succ,
      List.getD_cons_zero]
    rfl
  exact ⟨CvWire.of_header ver 3 _ _ 8 [] rfl (by omega) hcs, rfl⟩

theorem cv_cacheResponse_session (ver sess : Nat) (h : sess < 65536) : be16 (cvCacheResponse ver sess) 2 = sess := by
  unfold cvCacheResponse
  rw [List.append_assoc]
  exact be16_at [ver, 3] sess _ 2 rfl h

/-! ### End of Data -/

theorem cv_endOfData_wire (ver sess serial : Nat) (iv : CvIvals) (hv : ver ≤ 1) :
    CvWire ver (cvEndOfData ver sess serial iv) ∧ typeOf (cvEndOfData ver sess serial iv) = 7 := by
  have : ver = 0 ∨ ver = 1 := by omega
  rcases this with rfl | rfl
  · have hcs : checkSize (cvEndOfData 0 sess serial iv) = true := by
      simp only [cvEndOfData, toBE16, checkSize, typeOf, lenOf, verOf, be32, if_true, List.cons_append, List.nil_append,
        List.getD_cons_succ, List.getD_cons_zero]
      rfl
    exact ⟨CvWire.of_header 0 7 _ _ 12 (toBE32 serial) rfl (by omega) hcs, rfl⟩
  · have hcs : checkSize (cvEndOfData 1 sess serial iv) = true := by
      simp only [cvEndOfData, toBE16, checkSize, typeOf, lenOf, verOf, be32, Nat.one_ne_zero, if_false, List.cons_append,
        List.nil_append, List.getD_cons_succ, List.getD_cons_zero]
      rfl
    exact ⟨CvWire.of_header 1 7 _ _ 24 (toBE32 serial ++ (toBE32 iv.refresh ++ (toBE32 iv.retry ++ toBE32 iv.expire))) rfl
      (by omega) hcs, rfl⟩

theorem cv_endOfData_session (ver sess serial : Nat) (iv : CvIvals) (h : sess < 65536) :
    be16 (cvEndOfData ver sess serial iv) 2 = sess := by
  unfold cvEndOfData
  split
  · rw [List.append_assoc]
    exact be16_at [ver, 7] sess _ 2 rfl h
  · rw [List.append_assoc]
    exact be16_at [ver, 7] sess _ 2 rfl h

theorem cv_endOfData_serial (ver sess serial : Nat) (iv : CvIvals) (h : serial < 4294967296) :
    be32 (cvEndOfData ver sess serial iv) 8 = serial := by
  unfold cvEndOfData
  split
  · rw [← List.append_assoc, be32_at _ serial _ 8 rfl h]
  · rw [← List.append_assoc, be32_at _ serial _ 8 rfl h]

theorem cv_endOfData_ivals (sess serial : Nat) (iv : CvIvals) (h1 : iv.refresh < 4294967296) (h2 : iv.retry < 4294967296)
    (h3 : iv.expire < 4294967296) :
    be32 (cvEndOfData 1 sess serial iv) 12 = iv.refresh ∧ be32 (cvEndOfData 1 sess serial iv) 16 = iv.retry ∧
    be32 (cvEndOfData 1 sess serial iv) 20 = iv.expire := by
  unfold cvEndOfData
  rw [if_neg (by decide)]
  refine ⟨?_, ?_, ?_⟩
  · have := be32_at ([1, 7] ++ toBE16 sess ++ ([0, 0, 0, 24] ++ toBE32 serial)) iv.refresh
      (toBE32 iv.retry ++ toBE32 iv.expire) 12 rfl h1
    simpa only [List.append_assoc] using this
  · have := be32_at ([1, 7] ++ toBE16 sess ++ ([0, 0, 0, 24] ++ (toBE32 serial ++ toBE32 iv.refresh))) iv.retry
      (toBE32 iv.expire) 16 rfl h2
    simpa only [List.append_assoc] using this
  · have := be32_at ([1, 7] ++ toBE16 sess ++ ([0, 0, 0, 24] ++ (toBE32 serial ++ (toBE32 iv.refresh ++ toBE32 iv.retry))))
      iv.expire [] 20 rfl h3
    simpa only [List.append_assoc, List.append_nil] using this

/-! ### Prefix PDUs -/

theorem cv_pfxPdu_wire (ver flag : Nat) (r : Rec) :
    CvWire ver (cvPfxPdu ver flag r) ∧ (typeOf (cvPfxPdu ver flag r) = if r.v6 then 6 else 4) ∧
    flagsOf (cvPfxPdu ver flag r) = flag := by
  unfold cvPfxPdu
  cases r.v6
  · have hcs : checkSize ([ver, 4, 0, 0, 0, 0, 0, 20, flag, r.len, r.maxLen, 0] ++ (toBE32 r.addr ++ toBE32 r.asn)) = true := by
      simp only [checkSize, typeOf, lenOf, be32, List.cons_append, List.getD_cons_succ, List.getD_cons_zero]
      rfl
    exact ⟨CvWire.of_header ver 4 0 0 20 ([flag, r.len, r.maxLen, 0] ++ (toBE32 r.addr ++ toBE32 r.asn)) rfl (by omega) hcs, rfl, rfl⟩
  · have hcs : checkSize ([ver, 6, 0, 0, 0, 0, 0, 32, flag, r.len, r.maxLen, 0] ++ (cvBE128 r.addr ++ toBE32 r.asn)) = true := by
      simp only [checkSize, typeOf, lenOf, be32, List.cons_append, List.getD_cons_succ, List.getD_cons_zero]
      rfl
    exact ⟨CvWire.of_header ver 6 0 0 32 ([flag, r.len, r.maxLen, 0] ++ (cvBE128 r.addr ++ toBE32 r.asn)) rfl (by omega) hcs, rfl, rfl⟩

/-- the bound on `a` is 2^128: the four words read back are the base-2^32 digits of `a` -/
theorem cv_be128_at (pre : List Nat) (a : Nat) (post : List Nat) (off : Nat) (h : pre.length = off)
    (ha : a < 340282366920938463463374607431768211456) : be128 (pre ++ (cvBE128 a ++ post)) off = a := by
  subst h
  unfold be128
  rw [be32_shift0, be32_shift, be32_shift, be32_shift]
  simp only [cvBE128, toBE32, be32, List.cons_append, List.nil_append, List.getD_cons_zero, List.getD_cons_succ]
  rw [be32_digits, be32_digits, be32_digits, be32_digits]
  exact (digits4_mod 4294967296 a).trans (Nat.mod_eq_of_lt ha)

theorem cv_pfxRecOf_pdu (ver flag : Nat) (r : Rec) (hr : cvRecOK r) : pfxRecOf (cvPfxPdu ver flag r) = r := by
  obtain ⟨v6, addr, len, maxLen, asn, src⟩ := r
  obtain ⟨h0, hs, hw⟩ := hr
  simp only at h0 hs hw
  subst h0
  unfold pfxRecOf cvPfxPdu
  cases v6
  · simp only [Bool.false_eq_true, if_false] at hw ⊢
    have e2 := be32_at ([ver, 4, 0, 0, 0, 0, 0, 20, flag, len, maxLen, 0] ++ toBE32 addr) asn [] 16 rfl hs
    rw [List.append_nil, List.append_assoc] at e2
    rw [be32_at [ver, 4, 0, 0, 0, 0, 0, 20, flag, len, maxLen, 0] addr (toBE32 asn) 12 rfl hw.2.2, e2]
    simp only [typeOf, List.cons_append, List.getD_cons_succ, List.getD_cons_zero, if_true]
  · simp only [if_true] at hw ⊢
    have e2 := be32_at ([ver, 6, 0, 0, 0, 0, 0, 32, flag, len, maxLen, 0] ++ cvBE128 addr) asn [] 28 rfl hs
    rw [List.append_nil, List.append_assoc] at e2
    rw [cv_be128_at [ver, 6, 0, 0, 0, 0, 0, 32, flag, len, maxLen, 0] addr (toBE32 asn) 12 rfl hw.2.2, e2]
    simp only [typeOf, List.cons_append, List.getD_cons_succ, List.getD_cons_zero, (by decide : ¬ (6 : Nat) = 4), if_false]

theorem cv_pfxPdu_ok (ver flag : Nat) (r : Rec) (hr : cvRecOK r) (hf : flag ≤ 1) : pfxOK (cvPfxPdu ver flag r) := by
  unfold pfxOK
  rw [cv_pfxRecOf_pdu ver flag r hr, (cv_pfxPdu_wire ver flag r).2.2]
  obtain ⟨_, _, hw⟩ := hr
  refine ⟨?_, by omega⟩
  cases h : r.v6
  · rw [h] at hw; simp only [Bool.false_eq_true, if_false] at hw ⊢; omega
  · rw [h] at hw; simp only [if_true] at hw ⊢; omega

theorem cv_pfxOp_pdu (ver flag : Nat) (r : Rec) (hr : cvRecOK r) :
    pfxOp (cvPfxPdu ver flag r) = (decide (flag = 1), r) := by
  unfold pfxOp
  rw [cv_pfxRecOf_pdu ver flag r hr, (cv_pfxPdu_wire ver flag r).2.2]

/-! ### Router Key PDUs -/

theorem cv_keyPdu_wire (ver flag : Nat) (k : KeyRec) (hk : cvKeyOK k) :
    CvWire ver (cvKeyPdu ver flag k) ∧ typeOf (cvKeyPdu ver flag k) = 9 ∧ flagsOf (cvKeyPdu ver flag k) = flag := by
  obtain ⟨_, _, h1, h2⟩ := hk
  have hlen : (k.ski ++ (toBE32 k.asn ++ k.spki)).length + 8 = 123 := by
    rw [List.length_append, List.length_append, h1, h2, toBE32_length]
  have hcs : checkSize (cvKeyPdu ver flag k) = true := by
    simp only [cvKeyPdu, checkSize, typeOf, lenOf, be32, List.cons_append, List.getD_cons_succ, List.getD_cons_zero]
    rfl
  exact ⟨CvWire.of_header ver 9 flag 0 123 _ hlen (by omega) hcs, rfl, rfl⟩

theorem cv_keyRecOf_pdu (ver flag : Nat) (k : KeyRec) (hk : cvKeyOK k) : keyRecOf (cvKeyPdu ver flag k) = k := by
  obtain ⟨asn, ski, spki, src⟩ := k
  obtain ⟨h0, hs, h1, h2⟩ := hk
  simp only at h0 hs h1 h2
  subst h0
  have e1 : be32 (cvKeyPdu ver flag ⟨asn, ski, spki, 0⟩) 28 = asn := by
    have := be32_at ([ver, 9, flag, 0, 0, 0, 0, 123] ++ ski) asn spki 28 (by simp [h1]) hs
    rw [List.append_assoc] at this
    exact this
  have e2 : ((cvKeyPdu ver flag ⟨asn, ski, spki, 0⟩).drop 8).take 20 = ski := by
    show (ski ++ (toBE32 asn ++ spki)).take 20 = ski
    rw [List.take_left' h1]
  have e3 : ((cvKeyPdu ver flag ⟨asn, ski, spki, 0⟩).drop 32).take 91 = spki := by
    have hd : (cvKeyPdu ver flag ⟨asn, ski, spki, 0⟩).drop 32 = spki := by
      show (([ver, 9, flag, 0, 0, 0, 0, 123] ++ (ski ++ (toBE32 asn ++ spki))).drop 32) = spki
      rw [← List.append_assoc, ← List.append_assoc]
      exact List.drop_left' (by simp [h1, toBE32])
    rw [hd, List.take_of_length_le (by omega)]
  unfold keyRecOf
  rw [e1, e2, e3]

theorem cv_keyPdu_ok (ver flag : Nat) (k : KeyRec) (hk : cvKeyOK k) (hf : flag ≤ 1) : keyOK (cvKeyPdu ver flag k) := by
  unfold keyOK
  rw [(cv_keyPdu_wire ver flag k hk).2.2]
  omega

theorem cv_keyOp_pdu (ver flag : Nat) (k : KeyRec) (hk : cvKeyOK k) :
    keyOp (cvKeyPdu ver flag k) = (decide (flag = 1), k) := by
  unfold keyOp
  rw [cv_keyRecOf_pdu ver flag k hk, (cv_keyPdu_wire ver flag k hk).2.2]

/-! ### Cache Reset, Serial Notify -/

/-- Cache Reset PDU (type 8): a header alone -/
def cvmCacheReset (ver : Nat) : List Nat := [ver, 8, 0, 0, 0, 0, 0, 8]

theorem cvm_cacheReset_wire (ver : Nat) : CvWire ver (cvmCacheReset ver) ∧ typeOf (cvmCacheReset ver) = 8 := by
  have hcs : checkSize (cvmCacheReset ver) = true := by
    simp only [cvmCacheReset, checkSize, typeOf, lenOf, be32, List.getD_cons_succ, List.getD_cons_zero]
    rfl
  exact ⟨CvWire.of_header ver 8 0 0 8 [] rfl (by omega) hcs, rfl⟩

/-- Serial Notify PDU (type 0, 12 bytes): session id in bytes 2–3, then the serial number -/
def cvmSerialNotify (ver sess sn : Nat) : List Nat := [ver, 0] ++ toBE16 sess ++ ([0, 0, 0, 12] ++ toBE32 sn)

theorem cvm_serialNotify_wire (ver sess sn : Nat) :
    CvWire ver (cvmSerialNotify ver sess sn) ∧ typeOf (cvmSerialNotify ver sess sn) = 0 := by
  have hcs : checkSize (cvmSerialNotify ver sess sn) = true := by
    simp only [cvmSerialNotify, toBE16, checkSize, typeOf, lenOf, be32, List.cons_append, List.nil_append, List.getD_cons_succ,
      List.getD_cons_zero]
    rfl
  exact ⟨CvWire.of_header ver 0 _ _ 12 (toBE32 sn) rfl (by omega) hcs, rfl⟩

end Rtr.P
