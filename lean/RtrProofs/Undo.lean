/-
  Undo: the C03 key lemma.  Forward-order undo of a successfully applied list of
  announcements/withdrawals: if every undo step succeeds, the table is restored.  Tables are
  abstract membership functions.
-/
namespace Undo

variable {R : Type} [DecidableEq R]

abbrev Tbl (R : Type) := R → Bool

/-- announce (`true`) / withdraw (`false`) of record `r`; fails on duplicate / unknown -/
def apply1 (t : Tbl R) (f : Bool) (r : R) : Option (Tbl R) :=
  if t r = f then none else some (fun x => if x = r then f else t x)

/-- the inverse operation, as rtr_undo_update_pfx_table performs it -/
def undo1 (t : Tbl R) (f : Bool) (r : R) : Option (Tbl R) := apply1 t (!f) r

def applyAll (t : Tbl R) : List (Bool × R) → Option (Tbl R)
  | [] => some t
  | (f, r) :: ops => (apply1 t f r).bind fun t' => applyAll t' ops

def undoAll (t : Tbl R) : List (Bool × R) → Option (Tbl R)
  | [] => some t
  | (f, r) :: ops => (undo1 t f r).bind fun t' => undoAll t' ops

/-! ### the one-bit version -/

def applyB (b : Bool) : List Bool → Option Bool
  | [] => some b
  | f :: fs => if b = f then none else applyB f fs

def undoB (b : Bool) : List Bool → Option Bool
  | [] => some b
  | f :: fs => if b = !f then none else undoB (!f) fs

theorem applyB_last : ∀ (fs : List Bool) (b b' : Bool), applyB b fs = some b' → fs.getLast?.getD b = b' := by
  intro fs
  induction fs with
  | nil => intro b b' h; simp [applyB] at h; simp [h]
  | cons f fs ih =>
    intro b b' h
    unfold applyB at h
    split at h
    · cases h
    · rw [List.getLast?_cons]; exact ih f b' h

theorem undoB_eq : ∀ (fs : List Bool) (c : Bool), undoB c fs = applyB c (fs.map (!·)) := by
  intro fs
  induction fs with
  | nil => intro c; rfl
  | cons f fs ih =>
    intro c
    simp only [undoB, applyB, List.map_cons, ih]

theorem undoB_last : ∀ (fs : List Bool) (c c' : Bool), undoB c fs = some c' → (fs.getLast?.map (!·)).getD c = c' := by
  intro fs c c' h
  rw [undoB_eq] at h
  have := applyB_last _ _ _ h
  rw [List.getLast?_map] at this
  exact this

theorem applyB_head (f : Bool) (fs : List Bool) (b b' : Bool) (h : applyB b (f :: fs) = some b') : f = !b := by
  unfold applyB at h; split at h
  · cases h
  · cases b <;> cases f <;> simp_all

theorem undoB_head (f : Bool) (fs : List Bool) (c c' : Bool) (h : undoB c (f :: fs) = some c') : c = f := by
  rw [undoB_eq] at h
  have := applyB_head _ _ _ _ h
  cases c <;> cases f <;> simp_all

/-- Operations on one record that all succeed alternate, so the first flag is `!b` and the run ends at
    the last flag, which is `b'`.  An undo in the same order is a run of the inverted flags: if its first
    step succeeds, `b'` is the first flag, and it ends at the inverse of the last.  So `b' = !b` and
    `c' = !b' = b`. -/
theorem forward_undoB (fs : List Bool) (b b' c' : Bool) (ha : applyB b fs = some b')
    (hu : undoB b' fs = some c') : c' = b := by
  cases fs with
  | nil => simp [applyB] at ha; simp [undoB] at hu; simp [← hu, ← ha]
  | cons f fs =>
    have h1 := applyB_head f fs b b' ha
    have h2 := undoB_head f fs b' c' hu
    have h3 := applyB_last _ _ _ ha
    have h4 := undoB_last _ _ _ hu
    rw [List.getLast?_cons] at h3 h4
    simp at h3 h4
    subst h1; subst h2
    cases hfs : fs.getLast? <;> simp_all

/-! ### lifting to tables by projecting the PDU list onto one record -/

def flagsOf (x : R) (ops : List (Bool × R)) : List Bool :=
  ops.filterMap fun p => if p.2 = x then some p.1 else none

theorem applyAll_proj (x : R) : ∀ (ops : List (Bool × R)) (t t' : Tbl R), applyAll t ops = some t' →
    applyB (t x) (flagsOf x ops) = some (t' x) := by
  intro ops
  induction ops with
  | nil => intro t t' h; simp [applyAll] at h; simp [flagsOf, applyB, h]
  | cons op ops ih =>
    intro t t' h
    obtain ⟨f, r⟩ := op
    simp only [applyAll, apply1] at h
    split at h
    · simp at h
    · rename_i hne
      simp only [Option.bind_some] at h
      have := ih _ _ h
      by_cases hr : r = x
      · subst hr
        simp only [flagsOf, List.filterMap_cons, if_true] at *
        unfold applyB
        simp only [hne, if_false]
        simpa using this
      · have hx : ¬ x = r := fun e => hr e.symm
        simp only [flagsOf, List.filterMap_cons, hr, if_false, hx] at *
        exact this

theorem undoAll_eq : ∀ (ops : List (Bool × R)) (t : Tbl R), undoAll t ops = applyAll t (ops.map fun o => (!o.1, o.2)) := by
  intro ops
  induction ops with
  | nil => intro t; rfl
  | cons o ops ih =>
    intro t
    simp only [undoAll, applyAll, undo1, List.map_cons, ih]

theorem flagsOf_inv (x : R) (ops : List (Bool × R)) :
    flagsOf x (ops.map fun o => (!o.1, o.2)) = (flagsOf x ops).map (!·) := by
  unfold flagsOf
  rw [List.filterMap_map, List.map_filterMap]
  congr 1
  funext o
  by_cases h : o.2 = x <;> simp [h]

theorem undoAll_proj (x : R) : ∀ (ops : List (Bool × R)) (t t' : Tbl R), undoAll t ops = some t' →
    undoB (t x) (flagsOf x ops) = some (t' x) := by
  intro ops t t' h
  rw [undoAll_eq] at h
  have := applyAll_proj x _ t t' h
  rw [flagsOf_inv, ← undoB_eq] at this
  exact this

/-- C03 key lemma: after a successfully applied list of announcements/withdrawals, if undoing
    them **in forward order** succeeds at every step, the table is exactly what it was. -/
theorem forward_undo (ops : List (Bool × R)) (t t' t'' : Tbl R)
    (ha : applyAll t ops = some t') (hu : undoAll t' ops = some t'') : t'' = t := by
  funext x
  exact forward_undoB _ _ _ _ (applyAll_proj x ops t t' ha) (undoAll_proj x ops t' t'' hu)

end Undo
