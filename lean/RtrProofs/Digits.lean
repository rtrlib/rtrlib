/-
  Digits: positional notation on `Nat`, for any base `b`.  The last digits of `n` make up `n` modulo that power of `b`
  (`digits_mod_mul`, `digits3_mod`, `digits4_mod`); with what stands before them they make up `n` (`digits3`).
-/
namespace Rtr

theorem digits_mod_mul (n b c : Nat) : n % (b * c) = n / b % c * b + n % b := by
  rw [Nat.mod_mul, Nat.mul_comm b, Nat.add_comm]

theorem digits3_mod (b n : Nat) : (n / (b * b) % b * b + n / b % b) * b + n % b = n % (b * (b * b)) := by
  rw [digits_mod_mul n, digits_mod_mul (n / b), Nat.div_div_eq_div_mul]

theorem digits4_mod (b n : Nat) :
    ((n / (b * (b * b)) % b * b + n / (b * b) % b) * b + n / b % b) * b + n % b = n % (b * (b * (b * b))) := by
  rw [digits_mod_mul n, ← digits3_mod b (n / b), Nat.div_div_eq_div_mul, Nat.div_div_eq_div_mul]

theorem digits3 (b n : Nat) : (n / (b * b) * b + n / b % b) * b + n % b = n := by
  rw [← Nat.div_div_eq_div_mul, Nat.div_add_mod' (n / b), Nat.div_add_mod']

end Rtr
