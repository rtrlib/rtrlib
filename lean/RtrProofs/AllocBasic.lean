/-
  AllocBasic: the allocator oracle.  A stretch of code is summed up twice, each summary closed under
  sequencing: by what the trace says (`Bal`) and by what the budget says (`Span`, `Reqs`); `Reqs.cons`
  and `Bal.cons` are the rules for the code shape "`q`; if it succeeded `r`, else a cleanup".
  A statement about an operation is a `Guarded` or a `Books`.
-/
import RtrModel.Alloc

namespace Rtr
namespace Alloc

def refusals (t : List Ev) : Nat := (t.filter Ev.refused).length

/-- no release through libc `free` -/
def NoLibc (t : List Ev) : Prop := ∀ e ∈ t, ∀ b n, e ≠ .libcFree b n

@[simp] theorem net_nil : net [] = 0 := rfl
@[simp] theorem reqs_nil : reqs [] = 0 := rfl
@[simp] theorem refusals_nil : refusals [] = 0 := rfl

theorem net_snoc (s : List Ev) (e : Ev) : net (s ++ [e]) = net s + e.delta := by
  induction s with
  | nil => simp [net]
  | cons x s ih => simp only [List.cons_append, net, ih, Int.add_assoc]

theorem reqs_snoc (s : List Ev) (e : Ev) : reqs (s ++ [e]) = reqs s + (if e.isReq then 1 else 0) := by
  simp only [reqs, ← List.countP_eq_length_filter, List.countP_append, List.countP_singleton]

theorem refusals_snoc (s : List Ev) (e : Ev) :
    refusals (s ++ [e]) = refusals s + (if e.refused then 1 else 0) := by
  simp only [refusals, ← List.countP_eq_length_filter, List.countP_append, List.countP_singleton]

theorem noLibc_snoc {s : List Ev} {e : Ev} (h : NoLibc s) (he : ∀ b n, e ≠ .libcFree b n) : NoLibc (s ++ [e]) := by
  intro x hx
  rcases List.mem_append.mp hx with hx | hx
  · exact h x hx
  · rw [List.mem_singleton.mp hx]
    exact he

/-! ### what the trace says -/

/-- from `a` to `a'` the number of live blocks changes by `d`, and no release goes through libc `free` -/
structure Bal (a a' : A) (d : Int) : Prop where
  net : net a'.trace = net a.trace + d
  nolibc : NoLibc a.trace → NoLibc a'.trace

theorem Bal.refl (a : A) : Bal a a 0 := ⟨(Int.add_zero _).symm, id⟩

theorem Bal.trans {a b c : A} {d e : Int} (h1 : Bal a b d) (h2 : Bal b c e) : Bal a c (d + e) :=
  ⟨by rw [h2.net, h1.net, Int.add_assoc], fun h => h2.nolibc (h1.nolibc h)⟩

theorem Bal.cast {a b : A} {d e : Int} (h : Bal a b d) (he : d = e) : Bal a b e := he ▸ h

theorem Bal.of_budget {a b : A} {k : Option Nat} {d : Int} (h : Bal { a with budget := k } b d) : Bal a b d :=
  ⟨h.net, h.nolibc⟩

theorem bal_event (a : A) (bud : Option Nat) (e : Ev) (he : ∀ b n, e ≠ .libcFree b n) :
    Bal a ⟨bud, a.trace ++ [e]⟩ e.delta :=
  ⟨net_snoc _ _, fun h => noLibc_snoc h he⟩

theorem malloc_bal (a : A) (b : Blk) (n : Nat) : Bal a (a.malloc b n).2 (if (a.malloc b n).1 then 1 else 0) := by
  refine (bal_event a _ (.malloc b n (a.take).1) (fun _ _ e => by cases e)).cast ?_
  show _ = if (a.take).1 = true then 1 else 0
  cases (a.take).1 <;> rfl

/-- only `realloc(NULL, …)` makes a new block -/
theorem realloc_bal (a : A) (b : Blk) (o n : Nat) :
    Bal a (a.realloc b o n).2 (if o = 0 ∧ (a.realloc b o n).1 = true then 1 else 0) := by
  refine (bal_event a _ (.realloc b o n (a.take).1) (fun _ _ e => by cases e)).cast ?_
  show _ = if o = 0 ∧ (a.take).1 = true then 1 else 0
  cases o <;> cases (a.take).1 <;> simp [Ev.delta]

@[simp] theorem free_budget (a : A) (b : Blk) (n : Nat) : (a.free b n).budget = a.budget := rfl
@[simp] theorem free_trace (a : A) (b : Blk) (n : Nat) : (a.free b n).trace = a.trace ++ [.free b n] := rfl

theorem free_bal (a : A) (b : Blk) (n : Nat) : Bal a (a.free b n) (-1) :=
  bal_event a _ (.free b n) (fun _ _ e => by cases e)

/-- 1 for a block that exists: an array of `n` elements is `NULL` exactly when `n = 0` -/
def live (n : Nat) : Nat := if n = 0 then 0 else 1

theorem freeIf_live (a : A) (b : Blk) (n : Nat) : Bal a (a.freeIf b n) (-(live n : Int)) := by
  unfold A.freeIf live
  split
  · exact Bal.refl a
  · exact free_bal a b n

theorem realloc_live (a : A) (b : Blk) (o n : Nat) (hn : n ≠ 0) :
    Bal a (a.realloc b o n).2 (if (a.realloc b o n).1 then (live n : Int) - live o else 0) := by
  refine (realloc_bal a b o n).cast ?_
  unfold live
  cases (a.realloc b o n).1 <;> by_cases ho : o = 0 <;> simp [ho, hn]

/-! ### what the budget says -/

/-- the budget after `n` granted requests -/
def A.after (a : A) (n : Nat) : Option Nat := a.budget.map (· - n)

/-- the refusal falls among the next `n` requests -/
def A.hits (a : A) (n : Nat) : Prop := ∃ k, a.budget = some k ∧ k < n

instance (a : A) (n : Nat) : Decidable (a.hits n) := by
  unfold A.hits
  cases h : a.budget with
  | none => exact isFalse (by simp)
  | some k =>
    by_cases hk : k < n
    · exact isTrue ⟨k, rfl, hk⟩
    · exact isFalse (by rintro ⟨k', e, h'⟩; cases e; exact hk h')

theorem hits_iff_of_budget {a : A} {k : Nat} (hb : a.budget = some k) (n : Nat) : a.hits n ↔ k < n :=
  ⟨fun ⟨k', e, h⟩ => by rw [hb] at e; cases e; exact h, fun h => ⟨k, hb, h⟩⟩

theorem after_of_budget {a : A} {k : Nat} (hb : a.budget = some k) (n : Nat) : a.after n = some (k - n) := by
  rw [A.after, hb]
  rfl

theorem hits_zero (a : A) : ¬ a.hits 0 := by rintro ⟨k, _, h⟩; omega

theorem not_hits_of_none {a : A} (h : a.budget = none) (n : Nat) : ¬ a.hits n := by
  rintro ⟨k, e, _⟩; rw [h] at e; cases e

theorem hits_some {k n : Nat} (h : k < n) : ({ budget := some k } : A).hits n := (hits_iff_of_budget rfl n).2 h

theorem hits_mono {a : A} {m n : Nat} (h : a.hits m) (hmn : m ≤ n) : a.hits n := by
  obtain ⟨k, e, hk⟩ := h; exact ⟨k, e, by omega⟩

theorem after_zero (a : A) : a.after 0 = a.budget := by
  unfold A.after; cases a.budget <;> rfl

theorem after_none {a : A} (h : a.budget = none) (n : Nat) : a.after n = none := by rw [A.after, h]; rfl

theorem after_after {a a' : A} {m : Nat} (h : a'.budget = a.after m) (n : Nat) : a'.after n = a.after (m + n) := by
  unfold A.after at *
  rw [h]
  cases a.budget with
  | none => rfl
  | some k => exact congrArg some (Nat.sub_sub k m n)

theorem hits_after {a a' : A} {m : Nat} (h : a'.budget = a.after m) (hm : ¬ a.hits m) (n : Nat) :
    a'.hits n ↔ a.hits (m + n) := by
  cases hb : a.budget with
  | none =>
    rw [after_none hb] at h
    exact ⟨fun x => absurd x (not_hits_of_none h n), fun x => absurd x (not_hits_of_none hb _)⟩
  | some k =>
    rw [after_of_budget hb] at h
    rw [hits_iff_of_budget hb] at hm
    rw [hits_iff_of_budget h, hits_iff_of_budget hb]
    omega

theorem take_eq (a : A) : a.take = if a.hits 1 then (false, none) else (true, a.after 1) := by
  unfold A.take
  cases hb : a.budget with
  | none => rw [if_neg (not_hits_of_none hb 1), after_none hb]
  | some k =>
    rw [after_of_budget hb]
    cases k with
    | zero => rw [if_pos ((hits_iff_of_budget hb 1).2 Nat.zero_lt_one)]
    | succ k =>
      rw [if_neg (fun x => by have := (hits_iff_of_budget hb 1).1 x; omega)]
      rfl

/-- budget, refusals and requests over a stretch of code that makes `n` requests when none of them is
    refused (after a refused one every further request is granted, so it may go on or stop) -/
structure Span (a a' : A) (n : Nat) : Prop where
  pass : ¬ a.hits n → a'.budget = a.after n ∧ refusals a'.trace = refusals a.trace ∧
          reqs a'.trace = reqs a.trace + n
  hit : a.hits n → a'.budget = none ∧ refusals a'.trace = refusals a.trace + 1

theorem span_quiet {a a' : A} (hb : a'.budget = a.budget) (hr : refusals a'.trace = refusals a.trace)
    (hq : reqs a'.trace = reqs a.trace) : Span a a' 0 :=
  ⟨fun _ => ⟨by rw [hb, after_zero], hr, hq⟩, fun h => absurd h (hits_zero a)⟩

theorem Span.refl (a : A) : Span a a 0 := span_quiet rfl rfl rfl

theorem Span.trans {a b c : A} {m n : Nat} (h1 : Span a b m) (h2 : Span b c n) : Span a c (m + n) := by
  by_cases hm : a.hits m
  · obtain ⟨b1, r1⟩ := h1.hit hm
    obtain ⟨b2, r2, _⟩ := h2.pass (not_hits_of_none b1 n)
    exact ⟨fun h => absurd (hits_mono hm (Nat.le_add_right m n)) h,
      fun _ => ⟨by rw [b2, after_none b1], by rw [r2, r1]⟩⟩
  · obtain ⟨b1, r1, q1⟩ := h1.pass hm
    have hh := hits_after b1 hm n
    refine ⟨fun h => ?_, fun h => ?_⟩
    · obtain ⟨b2, r2, q2⟩ := h2.pass (fun x => h (hh.1 x))
      exact ⟨by rw [b2, after_after b1], by rw [r2, r1], by rw [q2, q1, Nat.add_assoc]⟩
    · obtain ⟨b2, r2⟩ := h2.hit (hh.2 h)
      exact ⟨b2, by rw [r2, r1]⟩

/-- the code stops after the refusal: the requests it would have made do not matter -/
theorem Span.stop {a b : A} {m : Nat} (h : Span a b m) (hm : a.hits m) (n : Nat) : Span a b (m + n) :=
  ⟨fun nh => absurd (hits_mono hm (Nat.le_add_right m n)) nh, fun _ => h.hit hm⟩

theorem Span.none {a b : A} {n : Nat} (h : Span a b n) (hb : a.budget = none) : b.budget = none := by
  rw [(h.pass (not_hits_of_none hb n)).1]
  exact after_none hb n

theorem free_span (a : A) (b : Blk) (n : Nat) : Span a (a.free b n) 0 :=
  span_quiet rfl (refusals_snoc _ _) (reqs_snoc _ _)

theorem freeIf_span (a : A) (b : Blk) (n : Nat) : Span a (a.freeIf b n) 0 := by
  unfold A.freeIf
  split
  · exact Span.refl a
  · exact free_span a b n

@[simp] theorem freeIf_reqs (a : A) (b : Blk) (n : Nat) : reqs (a.freeIf b n).trace = reqs a.trace :=
  ((freeIf_span a b n).pass (hits_zero a)).2.2

/-- `q` is the outcome of a stretch of `n` required requests: success is reported exactly when none
    of them is refused -/
structure Reqs (a : A) (q : Bool × A) (n : Nat) : Prop where
  span : Span a q.2 n
  ok : q.1 = true ↔ ¬ a.hits n

theorem Reqs.nil (a : A) : Reqs a (true, a) 0 := ⟨Span.refl a, by simp [hits_zero]⟩

theorem Reqs.hits_of_false {a : A} {q : Bool × A} {n : Nat} (h : Reqs a q n) (hq : q.1 = false) : a.hits n :=
  Decidable.not_not.1 (fun nh => Bool.false_ne_true (hq.symm.trans (h.ok.2 nh)))

theorem req_reqs (a : A) (mk : Bool → Ev) (hq : ∀ ok, (mk ok).isReq = true) (hr : ∀ ok, (mk ok).refused = !ok) :
    Reqs a ((a.take).1, ⟨(a.take).2, a.trace ++ [mk (a.take).1]⟩) 1 := by
  rw [take_eq]
  by_cases h : a.hits 1
  · simp only [if_pos h]
    exact ⟨⟨fun nh => absurd h nh, fun _ => ⟨rfl, by rw [refusals_snoc, hr]; rfl⟩⟩, by simp [h]⟩
  · simp only [if_neg h]
    exact ⟨⟨fun _ => ⟨rfl, by rw [refusals_snoc, hr]; rfl, by rw [reqs_snoc, hq]; rfl⟩, fun hh => absurd hh h⟩,
      by simp [h]⟩

theorem malloc_reqs (a : A) (b : Blk) (n : Nat) : Reqs a (a.malloc b n) 1 :=
  req_reqs a (fun ok => .malloc b n ok) (fun _ => rfl) (fun _ => rfl)

theorem realloc_reqs (a : A) (b : Blk) (o n : Nat) : Reqs a (a.realloc b o n) 1 :=
  req_reqs a (fun ok => .realloc b o n ok) (fun _ => rfl) (fun _ => rfl)

/-- a required stretch `q`, then — if it succeeded — a required stretch `r`, else a cleanup `s` -/
theorem Reqs.cons {a s : A} {q r : Bool × A} {m n : Nat} (h1 : Reqs a q m) (hr : Reqs q.2 r n) (hs : Span q.2 s 0) :
    Reqs a (if q.1 then r else (false, s)) (m + n) := by
  by_cases hq : q.1 = true
  · rw [if_pos hq]
    have nh := h1.ok.1 hq
    exact ⟨h1.span.trans hr.span, by rw [hr.ok, hits_after (h1.span.pass nh).1 nh n]⟩
  · rw [if_neg hq]
    have yh := h1.hits_of_false ((Bool.not_eq_true _).mp hq)
    exact ⟨(h1.span.trans hs).stop yh n, ⟨fun h => absurd h Bool.false_ne_true, fun nh => absurd (hits_mono yh (Nat.le_add_right m n)) nh⟩⟩

/-- the same code shape, for the blocks: `q` brings `d` blocks or none; if it succeeded `r` brings
    `e` more or gives back `d` and the `u` held before; if not, the cleanup `s` gives back those `u` -/
theorem Bal.cons {a s : A} {q r : Bool × A} {d e u : Int} (h1 : Bal a q.2 (if q.1 then d else 0))
    (hr : Bal q.2 r.2 (if r.1 then e else -(u + d))) (hs : Bal q.2 s (-u)) :
    Bal a (if q.1 then r else (false, s)).2 (if (if q.1 then r else (false, s)).1 then d + e else -u) := by
  cases hq : q.1
  · rw [hq] at h1
    exact (h1.trans hs).cast (by simp)
  · rw [hq] at h1
    refine (h1.trans hr).cast ?_
    simp only [if_true]
    cases r.1 <;> simp <;> omega

/-! ### outcomes -/

/-- the outcome `q` of code that needs `n` requests: `yes` if all of them are granted, `no` if one is refused -/
structure Guarded {ρ : Type} (a : A) (n : Nat) (q : A × ρ) (yes no : ρ) : Prop where
  span : Span a q.1 n
  pass : ¬ a.hits n → q.2 = yes
  hit : a.hits n → q.2 = no

section
variable {ρ : Type} {a : A} {n : Nat} {q : A × ρ} {yes no : ρ}

theorem Guarded.quiet (a : A) (yes no : ρ) : Guarded a 0 (a, yes) yes no :=
  ⟨Span.refl a, fun _ => rfl, fun h => absurd h (hits_zero a)⟩

theorem Guarded.of_reqs {r : Bool × A} (hr : Reqs a r n) (yes no : ρ) :
    Guarded a n (if r.1 then (r.2, yes) else (r.2, no)) yes no := by
  cases h : r.1
  · exact ⟨hr.span, fun nh => absurd (hr.hits_of_false h) nh, fun _ => rfl⟩
  · exact ⟨hr.span, fun _ => rfl, fun yh => absurd yh (hr.ok.1 h)⟩

theorem Guarded.cases (h : Guarded a n q yes no) : q.2 = yes ∨ q.2 = no :=
  if hh : a.hits n then Or.inr (h.hit hh) else Or.inl (h.pass hh)

theorem Guarded.none (h : Guarded a n q yes no) (hb : a.budget = none) : q.2 = yes ∧ q.1.budget = none :=
  ⟨h.pass (not_hits_of_none hb n), h.span.none hb⟩

theorem Guarded.refused {k : Nat} {q : A × ρ} (h : Guarded { budget := some k } n q yes no) (hk : k < n) :
    q.2 = no ∧ refusals q.1.trace = 1 :=
  ⟨h.hit (hits_some hk), (h.span.hit (hits_some hk)).2⟩

end

/-- the blocks of such an outcome, measured by `blocks`: `yes` holds the `g` blocks the requests brought -/
theorem Bal.of_reqs {ρ : Type} {a : A} {r : Bool × A} {g : Int} (hb : Bal a r.2 (if r.1 then g else 0))
    (blocks : ρ → Int) {yes no : ρ} {c : Int} (hy : blocks yes = c + g) (hn : blocks no = c) :
    Bal a (if r.1 then (r.2, yes) else (r.2, no)).1 (blocks (if r.1 then (r.2, yes) else (r.2, no)).2 - c) := by
  cases h : r.1
  · rw [h] at hb
    exact hb.cast (by simp [hn])
  · rw [h] at hb
    exact hb.cast (by simp [hy]; omega)

/-- code that takes a table from `T` (at `a`) to `T'` (at `a'`) keeps the books: the invariant `I` holds again and the
    number of live blocks has followed the table -/
structure Books {τ : Type} (I : τ → Prop) (blocks : τ → Nat) (a : A) (T : τ) (a' : A) (T' : τ) : Prop where
  inv : I T'
  bal : Bal a a' (blocks T' - blocks T : Int)

theorem Books.refl {τ : Type} {I : τ → Prop} {blocks : τ → Nat} (a : A) {T : τ} (h : I T) : Books I blocks a T a T :=
  ⟨h, (Bal.refl a).cast (by omega)⟩

/-- a history may give every operation a budget of its own -/
theorem Books.of_budget {τ : Type} {I : τ → Prop} {blocks : τ → Nat} {a b : A} {k : Option Nat} {T U : τ}
    (h : Books I blocks { a with budget := k } T b U) : Books I blocks a T b U :=
  ⟨h.inv, h.bal.of_budget⟩

theorem Books.trans {τ : Type} {I : τ → Prop} {blocks : τ → Nat} {a b c : A} {T U V : τ} (h1 : Books I blocks a T b U)
    (h2 : Books I blocks b U c V) : Books I blocks a T c V :=
  ⟨h2.inv, (h1.bal.trans h2.bal).cast (by omega)⟩

/-! ### lists of releases and absorbed shrinking requests -/

def Act.isShrink : Act → Bool
  | .shrink .. => true
  | _ => false

/-- number of (absorbed) requests among the actions -/
def shrinks (l : List Act) : Nat := (l.filter Act.isShrink).length
def frees (l : List Act) : Nat := (l.filter fun x => !x.isShrink).length

@[simp] theorem shrinks_nil : shrinks [] = 0 := rfl
@[simp] theorem frees_nil : frees [] = 0 := rfl
theorem shrinks_append (s t : List Act) : shrinks (s ++ t) = shrinks s + shrinks t := by
  simp [shrinks, List.filter_append]
theorem frees_append (s t : List Act) : frees (s ++ t) = frees s + frees t := by
  simp [frees, List.filter_append]
theorem shrinks_cons (x : Act) (l : List Act) : shrinks (x :: l) = (if x.isShrink then 1 else 0) + shrinks l := by
  cases h : x.isShrink <;> simp [shrinks, h, Nat.add_comm]
theorem frees_cons (x : Act) (l : List Act) : frees (x :: l) = (if x.isShrink then 0 else 1) + frees l := by
  cases h : x.isShrink <;> simp [frees, h, Nat.add_comm]

theorem run_nil (a : A) : a.run [] = a := rfl
theorem run_cons (a : A) (x : Act) (l : List Act) : a.run (x :: l) = (a.act x).run l := rfl
theorem run_append (a : A) (s t : List Act) : a.run (s ++ t) = (a.run s).run t := by
  simp [A.run, List.foldl_append]

theorem act_span (a : A) (x : Act) : Span a (a.act x) (if x.isShrink then 1 else 0) := by
  cases x with
  | free b n => exact free_span a b n
  | shrink b n => exact (realloc_reqs a b (n + 1) n).span

theorem act_bal (a : A) (x : Act) : Bal a (a.act x) (if x.isShrink then 0 else -1) := by
  cases x with
  | free b n => exact free_bal a b n
  | shrink b n => exact (realloc_bal a b (n + 1) n).cast (by simp [Act.isShrink])

/-- a refused shrinking request is absorbed: the run goes on, every later request is granted -/
theorem run_span (l : List Act) : ∀ a : A, Span a (a.run l) (shrinks l) := by
  induction l with
  | nil => exact Span.refl
  | cons x l ih =>
    intro a
    rw [shrinks_cons]
    exact (act_span a x).trans (ih _)

theorem run_bal (l : List Act) : ∀ a : A, Bal a (a.run l) (-(frees l : Int)) := by
  induction l with
  | nil => exact Bal.refl
  | cons x l ih =>
    intro a
    refine ((act_bal a x).trans (ih _)).cast ?_
    rw [frees_cons]
    cases x.isShrink <;> simp <;> omega

/-- a run whose releases are exactly the blocks that leave a table holding `n` blocks before and `n'` after -/
theorem run_releases {l : List Act} {n n' : Nat} (h : frees l + n' = n) (a : A) : Bal a (a.run l) ((n' : Int) - n) :=
  (run_bal l a).cast (by omega)

end Alloc
end Rtr
