/-
  What C17 rests on, for all 32-bit values: the value a timer gets from `rtr_check_interval_option` in closed form
  (`optVal`), `tr_recv_all` / `rtr_receive_pdu` under a clock, the traces of the established phase.  `Mode`, `prescribed`
  and `pollsOk` are specification vocabulary of the C17 statements.
-/
import RtrModel.Intervals

namespace Rtr.Intervals

/-- the value a field gets from rtr_check_interval_option with bounds `lo hi` -/
def optVal (mode : Int) (x lo hi cur : UInt32) : UInt32 :=
  if (lo ≤ x ∧ x ≤ hi) ∨ mode = Gen.RTR_INTERVAL_MODE_ACCEPT_ANY then x
  else if mode = Gen.RTR_INTERVAL_MODE_DEFAULT_MIN_MAX then (if x < lo then lo else hi)
  else cur

theorem range_inside_iff (x lo hi : UInt32) : checkIntervalRange x lo hi = .inside ↔ (lo ≤ x ∧ x ≤ hi) := by
  unfold checkIntervalRange
  simp only [UInt32.lt_iff_toNat_lt, UInt32.le_iff_toNat_le, gt_iff_lt]
  split
  · simp; omega
  · split
    · simp; omega
    · simp; omega

theorem range_below_iff (x lo hi : UInt32) : checkIntervalRange x lo hi = .below ↔ x < lo := by
  unfold checkIntervalRange
  split
  · simp [*]
  · split <;> simp [*]

theorem success_ne_error : Gen.RTR_SUCCESS ≠ Gen.RTR_ERROR := by decide

/-- for a type with bounds `lo hi` the call always succeeds and writes `optVal` through `applyIntervalValue`;
    `cur` is the value the field holds already (writing it back changes nothing) -/
theorem cio_of_bounds (s : Sock) (mode : Int) (x : UInt32) (t : IvType) (lo hi cur : UInt32)
    (hb : bounds t = some (lo, hi)) (hcur : applyIntervalValue s cur t = s) :
    checkIntervalOption s mode x t = (applyIntervalValue s (optVal mode x lo hi cur) t, Gen.RTR_SUCCESS) := by
  unfold checkIntervalOption optVal
  rw [hb]
  simp only [range_inside_iff, range_below_iff]
  by_cases h1 : (lo ≤ x ∧ x ≤ hi) ∨ mode = Gen.RTR_INTERVAL_MODE_ACCEPT_ANY
  · simp only [if_pos h1]
  · by_cases h2 : mode = Gen.RTR_INTERVAL_MODE_DEFAULT_MIN_MAX
    · by_cases h3 : x < lo
      · simp only [if_neg h1, if_pos h2, if_pos h3]
      · simp only [if_neg h1, if_pos h2, if_neg h3]
    · simp only [if_neg h1, if_neg h2, hcur]

theorem cio_expiration (s : Sock) (mode : Int) (x : UInt32) :
    checkIntervalOption s mode x .expiration =
      ({ s with expire := optVal mode x (u16 Gen.RTR_EXPIRATION_MIN) (u32 Gen.RTR_EXPIRATION_MAX) s.expire },
       Gen.RTR_SUCCESS) :=
  cio_of_bounds s mode x .expiration _ _ s.expire rfl rfl

theorem cio_refresh (s : Sock) (mode : Int) (x : UInt32) :
    checkIntervalOption s mode x .refresh =
      ({ s with refresh := optVal mode x (u16 Gen.RTR_REFRESH_MIN) (u32 Gen.RTR_REFRESH_MAX) s.refresh },
       Gen.RTR_SUCCESS) :=
  cio_of_bounds s mode x .refresh _ _ s.refresh rfl rfl

theorem cio_retry (s : Sock) (mode : Int) (x : UInt32) :
    checkIntervalOption s mode x .retry =
      ({ s with retry := optVal mode x (u16 Gen.RTR_RETRY_MIN) (u32 Gen.RTR_RETRY_MAX) s.retry },
       Gen.RTR_SUCCESS) :=
  cio_of_bounds s mode x .retry _ _ s.retry rfl rfl

theorem eodIntervals_eq (s : Sock) (ver : Nat) (e r y : UInt32) :
    eodIntervals s ver e r y =
      if ver = Gen.RTR_PROTOCOL_VERSION_1 ∧ s.ivMode ≠ Gen.RTR_INTERVAL_MODE_IGNORE_ANY then
        ({ s with
            expire := optVal s.ivMode e (u16 Gen.RTR_EXPIRATION_MIN) (u32 Gen.RTR_EXPIRATION_MAX) s.expire
            refresh := optVal s.ivMode r (u16 Gen.RTR_REFRESH_MIN) (u32 Gen.RTR_REFRESH_MAX) s.refresh
            retry := optVal s.ivMode y (u16 Gen.RTR_RETRY_MIN) (u32 Gen.RTR_RETRY_MAX) s.retry }, true)
      else (s, true) := by
  unfold eodIntervals
  split
  · simp only [cio_expiration, cio_refresh, cio_retry, success_ne_error, if_false]
  · rfl

/-! ### the specification side: what each mode prescribes, over `Nat` -/

/-- the four interval modes of the public API -/
inductive Mode where
  | ignoreAny | acceptAny | defaultMinMax | ignoreOnFailure
deriving DecidableEq, Repr

/-- value of the enumerator in the current tree -/
def Mode.code : Mode → Int
  | .ignoreAny => Gen.RTR_INTERVAL_MODE_IGNORE_ANY
  | .acceptAny => Gen.RTR_INTERVAL_MODE_ACCEPT_ANY
  | .defaultMinMax => Gen.RTR_INTERVAL_MODE_DEFAULT_MIN_MAX
  | .ignoreOnFailure => Gen.RTR_INTERVAL_MODE_IGNORE_ON_FAILURE

/-- "unchanged, as sent, clamped to the range, or as sent only if inside the range" -/
def prescribed (m : Mode) (lo hi cur sent : Nat) : Nat :=
  match m with
  | .ignoreAny => cur
  | .acceptAny => sent
  | .defaultMinMax => if sent < lo then lo else if hi < sent then hi else sent
  | .ignoreOnFailure => if lo ≤ sent ∧ sent ≤ hi then sent else cur

theorem optVal_toNat (mode : Int) (x lo hi cur : UInt32) :
    (optVal mode x lo hi cur).toNat =
      if (lo.toNat ≤ x.toNat ∧ x.toNat ≤ hi.toNat) ∨ mode = Gen.RTR_INTERVAL_MODE_ACCEPT_ANY then x.toNat
      else if mode = Gen.RTR_INTERVAL_MODE_DEFAULT_MIN_MAX then (if x.toNat < lo.toNat then lo.toNat else hi.toNat)
      else cur.toNat := by
  unfold optVal
  simp only [apply_ite UInt32.toNat, UInt32.lt_iff_toNat_lt, UInt32.le_iff_toNat_le]

theorem optVal_prescribed (m : Mode) (x lo hi cur : UInt32) (hm : m ≠ .ignoreAny) :
    (optVal m.code x lo hi cur).toNat = prescribed m lo.toNat hi.toNat cur.toNat x.toNat := by
  rw [optVal_toNat]
  cases m
  · exact absurd rfl hm
  · simp only [Mode.code, prescribed, or_true, if_true]
  · have h1 : ¬ Gen.RTR_INTERVAL_MODE_DEFAULT_MIN_MAX = Gen.RTR_INTERVAL_MODE_ACCEPT_ANY := by decide
    simp only [Mode.code, prescribed, h1, or_false, if_true]
    -- "inside, else the nearer bound" is clamping
    by_cases h2 : x.toNat < lo.toNat
    · rw [if_neg (by omega), if_pos h2, if_pos h2]
    · by_cases h3 : hi.toNat < x.toNat
      · rw [if_neg (by omega), if_neg h2, if_neg h2, if_pos h3]
      · rw [if_pos (by omega), if_neg h2, if_neg h3]
  · have h1 : ¬ Gen.RTR_INTERVAL_MODE_IGNORE_ON_FAILURE = Gen.RTR_INTERVAL_MODE_ACCEPT_ANY := by decide
    have h2 : ¬ Gen.RTR_INTERVAL_MODE_IGNORE_ON_FAILURE = Gen.RTR_INTERVAL_MODE_DEFAULT_MIN_MAX := by decide
    simp only [Mode.code, prescribed, h1, h2, or_false, if_false]

/-- a field stays / becomes in range whenever the mode is not ACCEPT_ANY (`a b`: the bounds as numbers) -/
theorem optVal_in_range (mode : Int) (x lo hi cur : UInt32) (hm : mode ≠ Gen.RTR_INTERVAL_MODE_ACCEPT_ANY)
    {a b : Nat} (ha : lo.toNat = a) (hb : hi.toNat = b) (hab : a ≤ b) (hc : a ≤ cur.toNat ∧ cur.toNat ≤ b) :
    a ≤ (optVal mode x lo hi cur).toNat ∧ (optVal mode x lo hi cur).toNat ≤ b := by
  subst ha hb
  rw [optVal_toNat]
  simp only [hm, or_false]
  split
  · assumption
  · split
    · split <;> omega
    · exact hc

/-! ### PDUs that arrive in pieces -/

theorem mockRecv_clock (len : Nat) (t now : Int) (fr : List Frag) (ht : 0 ≤ t) :
    now ≤ (mockRecv len t now fr).2.1 ∧ (mockRecv len t now fr).2.1 ≤ now + t := by
  cases fr with
  | nil => simp only [mockRecv]; omega
  | cons f rest =>
    simp only [mockRecv]
    split <;> simp only <;> omega

theorem recvAll_spec (endTime : Int) (fuel : Nat) :
    ∀ (rem : Nat) (now : Int) (fr : List Frag), now ≤ endTime →
      (∀ c ∈ (recvAll endTime fuel rem now fr).calls,
          c.timeout = endTime - c.now ∧ now ≤ c.now ∧ c.now ≤ endTime) ∧
      now ≤ (recvAll endTime fuel rem now fr).now ∧ (recvAll endTime fuel rem now fr).now ≤ endTime := by
  induction fuel with
  | zero =>
    intro rem now fr h
    simp only [recvAll, List.not_mem_nil, false_imp_iff, implies_true, true_and]
    omega
  | succ fuel ih =>
    intro rem now fr h
    unfold recvAll
    split
    · simp only [List.not_mem_nil, false_imp_iff, implies_true, true_and]
      omega
    · have hc := mockRecv_clock rem (endTime - now) now fr (by omega)
      dsimp only
      generalize mockRecv rem (endTime - now) now fr = m at hc ⊢
      obtain ⟨o, now', fr'⟩ := m
      simp only at hc
      cases o with
      | none =>
        simp only [List.mem_singleton, forall_eq]
        refine ⟨⟨trivial, ?_, ?_⟩, ?_, ?_⟩ <;> omega
      | some k =>
        have ih' := ih (rem - k) now' fr' (by omega)
        simp only [List.mem_cons, forall_eq_or_imp]
        refine ⟨⟨⟨trivial, by omega, h⟩, ?_⟩, by omega, ih'.2.2⟩
        intro c hcm
        have := ih'.1 c hcm
        omega

theorem recvAll_first (endTime : Int) (fuel rem : Nat) (now : Int) (fr : List Frag) (hf : fuel ≠ 0) (hr : rem ≠ 0) :
    ∃ tl, (recvAll endTime fuel rem now fr).calls = ⟨rem, endTime - now, now⟩ :: tl := by
  obtain ⟨k, rfl⟩ := Nat.exists_eq_succ_of_ne_zero hf
  unfold recvAll
  rw [if_neg hr]
  dsimp only
  split
  · exact ⟨[], rfl⟩
  · exact ⟨_, rfl⟩

theorem receivePdu_spec (body : Nat) (t now : Int) (fr : List Frag) (ht : 0 ≤ t) :
    (∀ c ∈ (receivePdu body t now fr).hcalls, 0 ≤ c.timeout ∧ c.now + c.timeout = now + t ∧ now ≤ c.now) ∧
    (∀ c ∈ (receivePdu body t now fr).bcalls,
        0 ≤ c.timeout ∧ c.timeout ≤ (Gen.RTR_RECV_TIMEOUT : Int) ∧ now ≤ c.now) ∧
    now ≤ (receivePdu body t now fr).now ∧
    (receivePdu body t now fr).now ≤ now + t + (Gen.RTR_RECV_TIMEOUT : Int) ∧
    ((receivePdu body t now fr).bcalls = [] → (receivePdu body t now fr).now ≤ now + t) := by
  have hh := recvAll_spec (now + t) Gen.sizeof_pdu_header Gen.sizeof_pdu_header now fr (by omega)
  have hT : (0 : Int) ≤ (Gen.RTR_RECV_TIMEOUT : Int) := Int.natCast_nonneg _
  have hhc : ∀ c ∈ (recvAll (now + t) Gen.sizeof_pdu_header Gen.sizeof_pdu_header now fr).calls,
      0 ≤ c.timeout ∧ c.now + c.timeout = now + t ∧ now ≤ c.now := by
    intro c hc
    have := hh.1 c hc
    omega
  unfold receivePdu
  dsimp only
  generalize hg : recvAll (now + t) Gen.sizeof_pdu_header Gen.sizeof_pdu_header now fr = h at hh hhc ⊢
  split
  · dsimp only
    refine ⟨hhc, ?_, hh.2.1, by omega, fun _ => hh.2.2⟩
    simp only [List.not_mem_nil, false_imp_iff, implies_true]
  · rename_i hcond
    have hb0 : body ≠ 0 := fun c => hcond (Or.inr c)
    have hb := recvAll_spec (h.now + (Gen.RTR_RECV_TIMEOUT : Int)) body body h.now h.rest (by omega)
    dsimp only
    refine ⟨hhc, ?_, by omega, by omega, ?_⟩
    · intro c hc
      have := hb.1 c hc
      omega
    · intro hnil
      obtain ⟨tl, htl⟩ := recvAll_first (h.now + (Gen.RTR_RECV_TIMEOUT : Int)) body body h.now h.rest hb0 hb0
      rw [htl] at hnil
      exact absurd hnil (List.cons_ne_nil _ _)

theorem receivePdu_first (body : Nat) (t now : Int) (fr : List Frag) :
    ∃ tl, (receivePdu body t now fr).hcalls = ⟨Gen.sizeof_pdu_header, t, now⟩ :: tl := by
  obtain ⟨tl, htl⟩ :=
    recvAll_first (now + t) Gen.sizeof_pdu_header Gen.sizeof_pdu_header now fr (by decide) (by decide)
  have e : now + t - now = t := by omega
  rw [e] at htl
  unfold receivePdu
  dsimp only
  split
  · exact ⟨tl, htl⟩
  · exact ⟨tl, htl⟩

/-! ### traces of the established phase -/

/-- every wait is followed (if by anything) by a transport action that happens within the timeout
    the wait was given -/
def pollsOk : List TraceItem → Bool
  | .wait t now :: next :: rest => decide (now ≤ next.time ∧ next.time ≤ now + t) && pollsOk (next :: rest)
  | _ :: rest => pollsOk rest
  | [] => true

theorem waitTimeout_nonneg (s : Sock) (now : Int) : 0 ≤ waitTimeout s now := by
  unfold waitTimeout
  simp only
  split <;> omega

theorem arrival_bounds (ev : Ev) (now t : Int) (ht : 0 ≤ t) :
    now ≤ arrival ev now t ∧ arrival ev now t ≤ now + t := by
  unfold arrival
  split <;> omega

theorem pollsOk_recv (len : Nat) (t now : Int) (l : List TraceItem) : pollsOk (.recv len t now :: l) = pollsOk l := by
  simp only [pollsOk]

theorem pollsOk_send (ty : Nat) (now : Int) (l : List TraceItem) : pollsOk (.send ty now :: l) = pollsOk l := by
  simp only [pollsOk]

theorem pollsOk_callItems (cs : List RecvCall) (l : List TraceItem) : pollsOk (callItems cs ++ l) = pollsOk l := by
  induction cs with
  | nil => rfl
  | cons c cs ih =>
    show pollsOk (.recv c.len c.timeout c.now :: (callItems cs ++ l)) = pollsOk l
    rw [pollsOk_recv, ih]

theorem fsmEstablished_head (ver : Nat) (s : Sock) (now : Int) (evs : List Ev) :
    ∃ tl, fsmEstablished ver s now evs = .wait (waitTimeout s now) now :: tl := by
  cases evs with
  | nil => exact ⟨[], rfl⟩
  | cons ev rest =>
    unfold fsmEstablished
    simp only
    split
    · split
      · exact ⟨_, rfl⟩
      · exact ⟨_, rfl⟩
    · split
      · split
        · exact ⟨_, rfl⟩
        · exact ⟨_, rfl⟩
      · exact ⟨_, rfl⟩
      · exact ⟨_, rfl⟩

theorem fsmEstablished_pollsOk (ver : Nat) (evs : List Ev) :
    ∀ (s : Sock) (now : Int), pollsOk (fsmEstablished ver s now evs) = true := by
  induction evs with
  | nil => intro s now; rfl
  | cons ev rest ih =>
    intro s now
    have hb := arrival_bounds ev now (waitTimeout s now) (waitTimeout_nonneg s now)
    have ht := waitTimeout_nonneg s now
    unfold fsmEstablished
    simp only
    split
    · -- a Serial Notify in fragments: the first transport call happens at once
      obtain ⟨tl, htl⟩ := receivePdu_first notifyBody (waitTimeout s now) now ev.frags
      have hfirst : ∀ l, pollsOk (.wait (waitTimeout s now) now ::
          callItems ((waitPdu s now notifyBody ev.frags).hcalls ++ (waitPdu s now notifyBody ev.frags).bcalls) ++ l) =
          pollsOk l := by
        intro l
        unfold waitPdu
        rw [htl]
        show pollsOk (.wait (waitTimeout s now) now :: .recv Gen.sizeof_pdu_header (waitTimeout s now) now ::
          (callItems (tl ++ (receivePdu notifyBody (waitTimeout s now) now ev.frags).bcalls) ++ l)) = pollsOk l
        have hp : now ≤ now + waitTimeout s now := by omega
        simp only [pollsOk, TraceItem.time, pollsOk_callItems, Int.le_refl, hp, and_self, decide_true, Bool.true_and]
      split
      · rw [hfirst, pollsOk_send]
        exact ih _ _
      · rw [hfirst]
        rfl
    · -- `a` names the arrival time for the branches below
      generalize arrival ev now (waitTimeout s now) = a at hb
      split
      · split
        · obtain ⟨tl, htl⟩ := fsmEstablished_head ver (syncCrEod s ver ev.e ev.r ev.y a).1 a rest
          have ihh := ih (syncCrEod s ver ev.e ev.r ev.y a).1 a
          rw [htl] at ihh ⊢
          simp only [pollsOk, TraceItem.time, Bool.and_eq_true]
          exact ⟨decide_eq_true hb, ihh⟩
        · simp only [pollsOk, TraceItem.time, Bool.and_eq_true, and_true]
          exact decide_eq_true hb
      · obtain ⟨tl, htl⟩ := fsmEstablished_head ver s a rest
        have ihh := ih s a
        rw [htl] at ihh ⊢
        simp only [pollsOk, TraceItem.time, Bool.and_eq_true]
        exact ⟨decide_eq_true hb, ihh⟩
      · rfl

end Rtr.Intervals
