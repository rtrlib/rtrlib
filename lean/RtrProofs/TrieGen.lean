/-
  TrieGen: the weaker invariant `WFg` / `TableWFg`, which drops the three "canonical prefix"
  components of `NodeOK` (length within the width, address within the width, host bits zero).  The
  branching of the trie uses `bitAt`, which is total (false at and beyond the width), and `Below`
  speaks of `bitAt`, lengths and key inequality only, so nothing in the set refinement needs a
  canonical prefix; `pfx_table_add` does not check for one.  `WFg w` is `WFp NodeOKg w`
  (`WFg_iff_WFp`), which is how the theorems of TrieOps / TrieSet / TableSet apply to it.
-/
import RtrProofs.TableSet

namespace Rtr
open PfxTable

/-- a stored node, without the canonical-prefix conditions -/
def NodeOKg (c : NodeC) : Prop := c.data ≠ [] ∧ c.data.Nodup

def WFg (w : Nat) : Trie → Nat → Prop
  | .nil, _ => True
  | .node c l r, d => NodeOKg c ∧ l.All (Below w c d false) ∧ r.All (Below w c d true) ∧ WFg w l (d+1) ∧ WFg w r (d+1)

theorem nodeInv_NodeOKg : NodeInv NodeOKg := ⟨fun _ h => h, fun _ _ _ h1 h2 => ⟨h1, h2⟩⟩

theorem WFg_iff_WFp (w : Nat) : ∀ (t : Trie) (d : Nat), WFg w t d ↔ WFp NodeOKg w t d := by
  intro t
  induction t with
  | nil => intro d; exact Iff.rfl
  | node c l r ihl ihr => intro d; simp only [WFg, WFp, ihl, ihr]

structure TableWFg (T : PfxTable) : Prop where
  w4 : WFg 32 T.v4 0
  w6 : WFg 128 T.t6 0

theorem TableWFg_iff (T : PfxTable) : TableWFg T ↔ TableWFp (fun _ => NodeOKg) T :=
  ⟨fun h => ⟨(WFg_iff_WFp _ _ _).1 h.w4, (WFg_iff_WFp _ _ _).1 h.w6⟩,
   fun h => ⟨(WFg_iff_WFp _ _ _).2 h.w4, (WFg_iff_WFp _ _ _).2 h.w6⟩⟩

theorem TableWF_TableWFg (T : PfxTable) (h : TableWF T) : TableWFg T :=
  have g := fun w t => WFp_mono w (fun c (hc : NodeOK w c) => (⟨hc.2.2.2.1, hc.2.2.2.2⟩ : NodeOKg c)) t 0
  (TableWFg_iff T).2 ⟨g 32 _ ((TableWF_iff T).1 h).w4, g 128 _ ((TableWF_iff T).1 h).w6⟩

end Rtr
