/-
  Progress: one iteration of the state machine (`fsmStep`, model of the `while (1)` loop of
  rtr_fsm_start) lets the clock advance, or consumes something of the scripted environment (tape
  bytes / tape events, a scripted send outcome, a scripted open outcome), or moves strictly down a
  finite rank of socket states.
-/
import RtrProofs.TimeMono

namespace Rtr.P

/-! ## the script does not grow; rank of the socket states

  `envSize` (RtrProofs/TimeMono.lean) is what is left of the script. -/

/-- `threaded` is carried along because the progress theorems need `n.threaded = true` at every iteration of
    a segment (`zeroSeg_rank`) -/
def EnvLe (n n' : Net) : Prop := envSize n' ≤ envSize n ∧ n'.threaded = n.threaded

/-- rank of the socket states: an iteration that neither lets time pass nor consumes anything of the
    script moves strictly down -/
def rank : SState → Nat
  | .shutdown => 0
  | .closed => 0
  | .established => 1
  | .sync => 1
  | .reset => 2
  | .connecting => 3
  | .fastReconnect => 4
  | .errNoData => 4
  | .errNoIncr => 4
  | .errFatal => 4
  | .errTransport => 4

def maxRank : Nat := 4

theorem rank_le (s : SState) : rank s ≤ maxRank := by cases s <;> decide

/-! ## the transport calls -/

theorem trRecv_env (n : Net) (len : Nat) (timeout : Int) :
    EnvLe n (trRecv n len timeout).2.2.1 ∧
    (0 < len → n.tape ≠ [] → envSize (trRecv n len timeout).2.2.1 < envSize n) := by
  obtain ⟨h1, h2, h3, _, h4, h5⟩ := trRecvGo_spec n len timeout n.tape n.now
  unfold trRecv EnvLe envSize
  rw [h1, h2]
  exact ⟨⟨by omega, h3⟩, fun hl ht => by have := h5 hl ht; omega⟩

/-- `tr_recv` on the exhausted tape: an error, and — in a threaded run — the stop request -/
theorem trRecv_eof (n : Net) (len : Nat) (timeout : Int) (h : n.tape = []) :
    (trRecv n len timeout).1 = -1 ∧ (trRecv n len timeout).2.2.2 = n.threaded := by
  unfold trRecv
  rw [h]
  exact ⟨rfl, rfl⟩

theorem trSend_env (n : Net) (bytes : List Nat) :
    EnvLe n (trSend n bytes).2 ∧ (n.sendQ ≠ [] → envSize (trSend n bytes).2 < envSize n) := by
  unfold trSend EnvLe envSize
  simp only
  split <;> rename_i h <;> simp only [Net.emit, h, List.length_cons, ne_eq, not_false_eq_true,
    not_true_eq_false, and_true, forall_const, List.length_nil, false_implies, List.cons_ne_nil] <;> omega

/-- `tr_send` with no scripted outcome left sends everything -/
theorem trSend_nil (n : Net) (bytes : List Nat) (h : n.sendQ = []) : (trSend n bytes).1 = bytes.length := by
  unfold trSend
  rw [h]

theorem trOpen_env (st : St) :
    EnvLe st.n (trOpen st).2.n ∧ (st.n.openQ ≠ [] → envSize (trOpen st).2.n < envSize st.n) ∧
    (st.n.openQ = [] → (trOpen st).1 = 0) := by
  obtain ⟨tr, e⟩ := trOpen_eq st
  rw [e]
  unfold EnvLe envSize
  cases st.n.openQ with
  | nil => exact ⟨⟨Nat.le_refl _, rfl⟩, fun h => absurd rfl h, fun _ => rfl⟩
  | cons x q =>
    simp only [List.tail_cons, List.length_cons]
    exact ⟨⟨by omega, trivial⟩, fun _ => by omega, fun h => nomatch h⟩

theorem envLe_runRel : RunRel EnvLe :=
  { refl := fun _ => ⟨Nat.le_refl _, rfl⟩
    trans := fun h1 h2 => ⟨Nat.le_trans h2.1 h1.1, h2.2.trans h1.2⟩
    emit := fun _ _ => ⟨Nat.le_refl _, rfl⟩
    send := fun n b => (trSend_env n b).1
    recv := fun n len t => (trRecv_env n len t).1
    opn := fun st => (trOpen_env st).1
    sleep := fun _ _ => ⟨Nat.le_refl _, rfl⟩ }

theorem EnvLe.lt_of_lt {a b c : Net} (h1 : envSize b < envSize a) (h2 : EnvLe b c) : envSize c < envSize a :=
  Nat.lt_of_le_of_lt h2.1 h1

/-! ## receiving: the script shrinks, or it is exhausted -/

theorem recvAll_strict (n : Net) (len : Nat) (t : Int) (hl : 0 < len) (ht : n.tape ≠ []) :
    envSize (recvAll n len t).2.2.1 < envSize n := by
  unfold recvAll
  simp only [recvAllLoop, List.length_nil]
  rw [if_pos hl]
  have h := (trRecv_env n (len - 0) (n.now + t - n.now)).2 (by omega) ht
  generalize trRecv n (len - 0) (n.now + t - n.now) = r at h
  obtain ⟨rc, got, n', stop⟩ := r
  simp only at h ⊢
  split
  · exact h
  · exact EnvLe.lt_of_lt h (recvAllLoop_rel envLe_runRel.toRecvRel _ _ _ _ _)

theorem recvAll_eof (n : Net) (len : Nat) (t : Int) (hl : 0 < len) (ht : n.tape = []) :
    (recvAll n len t).1 = -1 ∧ (recvAll n len t).2.2.2 = n.threaded := by
  unfold recvAll
  simp only [recvAllLoop, List.length_nil]
  rw [if_pos hl]
  obtain ⟨h1, h2⟩ := trRecv_eof n (len - 0) (n.now + t - n.now) ht
  generalize trRecv n (len - 0) (n.now + t - n.now) = r at h1 h2
  obtain ⟨rc, got, n', stop⟩ := r
  simp only at h1 h2 ⊢
  subst h1
  simp only [Int.reduceNeg, Int.reduceLT, if_true]
  exact ⟨trivial, h2⟩

theorem receivePdu_strict (c : Conn) (n : Net) (own : Nat) (t : Int) (hs : c.state ≠ .shutdown) (ht : n.tape ≠ []) :
    envSize (receivePdu c n own t).2.2 < envSize n := by
  rw [receivePdu_eq, if_neg hs]
  have h := recvAll_strict n 8 t (by decide) ht
  generalize recvAll n 8 t = r at h
  obtain ⟨rc, hdr, n1, stop⟩ := r
  simp only at h ⊢
  split
  · exact EnvLe.lt_of_lt h (recvTransportError_rel envLe_runRel.toEmitRel _ _ _ _)
  · exact EnvLe.lt_of_lt h (recvStage2_rel envLe_runRel.toRecvRel _ _ _ _)

theorem receivePdu_eof (c : Conn) (n : Net) (own : Nat) (t : Int) (hs : c.state ≠ .shutdown) (ht : n.tape = [])
    (hth : n.threaded = true) :
    (receivePdu c n own t).1 = .rc (-1) ∧ (receivePdu c n own t).2.1.state = .shutdown := by
  rw [receivePdu_eq, if_neg hs]
  obtain ⟨h1, h2⟩ := recvAll_eof n 8 t (by decide) ht
  generalize recvAll n 8 t = r at h1 h2
  obtain ⟨rc, hdr, n1, stop⟩ := r
  simp only at h1 h2 ⊢
  subst h1
  rw [h2, hth, if_pos (by decide), recvTransportError_eq]
  -- the stop request has put the socket into SHUTDOWN, so the state change of the error label does nothing
  exact ⟨rfl, congrArg (·.1.state) (changeState_shutdown (applyStop c true) n1 own .errTransport rfl)⟩

/-! ## sending: a scripted outcome is consumed, or everything is sent -/

theorem sendAllLoop_nil (fuel : Nat) (n : Net) (total : Nat) : sendAllLoop fuel n [] total = ((total : Int), n) := by
  cases fuel <;> simp [sendAllLoop]

theorem sendPdu_progress (c : Conn) (n : Net) (bytes : List Nat) (hs : c.state ≠ .shutdown) (hb : bytes ≠ []) :
    envSize (sendPdu c n bytes).2 < envSize n ∨ (sendPdu c n bytes).1 = true := by
  unfold sendPdu
  rw [if_neg hs]
  unfold sendAll
  simp only [sendAllLoop]
  have he : bytes.isEmpty = false := by cases bytes with | nil => exact absurd rfl hb | cons _ _ => rfl
  simp only [he, Bool.false_eq_true, if_false]
  by_cases hq : n.sendQ = []
  · right
    have h := trSend_nil n bytes hq
    generalize trSend n bytes = r at h
    obtain ⟨rc, n'⟩ := r
    simp only at h ⊢
    subst h
    have hl : 0 < bytes.length := by cases bytes with | nil => exact absurd rfl hb | cons _ _ => simp
    have : ¬ ((bytes.length : Int) < 0) := by omega
    simp only [this, if_false, Int.toNat_natCast, List.drop_length, sendAllLoop_nil, Nat.zero_add]
    simp only [decide_eq_true_eq]
    omega
  · left
    have h := (trSend_env n bytes).2 hq
    generalize trSend n bytes = r at h
    obtain ⟨rc, n'⟩ := r
    simp only at h ⊢
    split
    · exact h
    · exact EnvLe.lt_of_lt h (sendAllLoop_rel envLe_runRel.toEmitRel _ _ _ _)

theorem serialQueryBytes_ne (v s sn : Nat) : serialQueryBytes v s sn ≠ [] := by simp [serialQueryBytes]
theorem resetQueryBytes_ne (v : Nat) : resetQueryBytes v ≠ [] := by simp [resetQueryBytes]

theorem sendQuery_progress (st : St) (bytes : List Nat) (hs : st.c.state ≠ .shutdown) (hb : bytes ≠ []) :
    envSize (sendQuery st bytes).2.n < envSize st.n ∨
    ((sendQuery st bytes).1 = true ∧ (sendQuery st bytes).2.c = st.c ∧ (sendQuery st bytes).2.tm = st.tm) := by
  unfold sendQuery
  have h := sendPdu_progress st.c st.n bytes hs hb
  generalize sendPdu st.c st.n bytes = r at h
  obtain ⟨ok, n⟩ := r
  cases ok with
  | true => exact Or.inr ⟨rfl, rfl, rfl⟩
  | false =>
    rcases h with h | h
    · exact Or.inl (EnvLe.lt_of_lt h (changeState_rel envLe_runRel.toEmitRel _ _ _ _))
    · exact absurd h (by simp)

/-! ## rtr_sync, rtr_wait_for_sync: the script shrinks, or the stop request ends the run -/

theorem syncFirst_progress (fuel : Nat) (st : St) (hs : st.c.state ≠ .shutdown) (hth : st.n.threaded = true) :
    envSize (syncFirst (fuel + 1) st).2.n < envSize st.n ∨
    ((syncFirst (fuel + 1) st).1 = none ∧ (syncFirst (fuel + 1) st).2.c.state = .shutdown ∧
      (syncFirst (fuel + 1) st).2.tm = st.tm) := by
  by_cases ht : st.n.tape = []
  · right
    obtain ⟨h1, h2⟩ := receivePdu_eof st.c st.n st.t.own Gen.RTR_RECV_TIMEOUT hs ht hth
    unfold syncFirst
    generalize receivePdu st.c st.n st.t.own Gen.RTR_RECV_TIMEOUT = res at h1 h2
    obtain ⟨rr, c, n⟩ := res
    simp only at h1 h2
    subst h1
    simp [h2]
  · left
    exact EnvLe.lt_of_lt (receivePdu_strict st.c st.n st.t.own _ hs ht) (syncFirst_succ_rel envLe_runRel.toRecvRel fuel st)

theorem syncG_progress (fuel : Nat) (st : St) (hs : st.c.state ≠ .shutdown) (hth : st.n.threaded = true) :
    envSize (syncG (fuel + 1) st).2.1.n < envSize st.n ∨
    ((syncG (fuel + 1) st).1 = false ∧ (syncG (fuel + 1) st).2.1.c.state = .shutdown ∧
      (syncG (fuel + 1) st).2.1.tm = st.tm) := by
  rcases syncFirst_progress fuel st hs hth with h | ⟨h1, h2, h3⟩
  · exact Or.inl (EnvLe.lt_of_lt h (syncG_after_first_rel envLe_runRel.toRecvRel (fuel + 1) st))
  · right
    unfold syncG
    generalize syncFirst (fuel + 1) st = sf at h1 h2 h3
    obtain ⟨r, st1⟩ := sf
    simp only at h1 h2 h3
    subst h1
    exact ⟨rfl, h2, h3⟩

theorem waitForSync_progress (st : St) (hs : st.c.state ≠ .shutdown) (hth : st.n.threaded = true) :
    envSize (waitForSync st).2.n < envSize st.n ∨
    ((waitForSync st).1 = false ∧ (waitForSync st).2.c.state = .shutdown ∧ (waitForSync st).2.tm = st.tm) := by
  rw [waitForSync_eq]
  by_cases ht : st.n.tape = []
  · right
    obtain ⟨h1, h2⟩ := receivePdu_eof st.c st.n st.t.own (waitTimeout st) hs ht hth
    generalize receivePdu st.c st.n st.t.own (waitTimeout st) = res at h1 h2
    obtain ⟨rr, c, n⟩ := res
    simp only at h1 h2
    subst h1
    simp [h2]
  · left
    have h := receivePdu_strict st.c st.n st.t.own (waitTimeout st) hs ht
    generalize receivePdu st.c st.n st.t.own (waitTimeout st) = res at h
    obtain ⟨rr, c, n⟩ := res
    cases rr <;> exact h

/-! ## one iteration -/

def Prog (st st' : St) : Prop :=
  st.n.now < st'.n.now ∨ envSize st'.n < envSize st.n ∨
  (rank st'.c.state < rank st.c.state ∧ st'.c.state ≠ .closed ∧ st'.tm = st.tm)

theorem change_tm (st : St) (s : SState) : (st.change s).tm = st.tm := (change_sameData st s).2.2

theorem atOpen_frame (st : St) :
    st.atOpen.n = st.n ∧ st.atOpen.c.state = st.c.state ∧ st.atOpen.tm = st.tm :=
  ⟨purgeOutdated_n _, congrArg (·.state) (purgeOutdated_c _), purgeOutdated_tm _⟩

theorem stepConnected_prog (rc : Int) (st : St) (hrc : rc ≠ -1) (hs : st.c.state = .connecting) :
    envSize (stepConnected rc st).n < envSize st.n ∨
    (rank (stepConnected rc st).c.state < rank st.c.state ∧ (stepConnected rc st).c.state ≠ .closed ∧
      (stepConnected rc st).tm = st.tm) := by
  have hs0 : st.c.state ≠ .shutdown := by rw [hs]; decide
  have el := envLe_runRel.toEmitRel
  unfold stepConnected
  rw [if_neg hrc]
  split
  · right
    rw [change_state_eq _ _ hs0, hs, change_tm]
    exact ⟨by decide, by decide, rfl⟩
  · rw [sendSerialQuery_eq]
    rcases sendQuery_progress st _ hs0 (serialQueryBytes_ne _ _ _) with h | ⟨h1, h2, h3⟩
    · left
      generalize sendQuery st _ = rs at h
      obtain ⟨ok, st3⟩ := rs
      simp only at h ⊢
      split <;> exact EnvLe.lt_of_lt h (change_rel el _ _)
    · right
      generalize sendQuery st _ = rs at h1 h2 h3
      obtain ⟨ok, st3⟩ := rs
      simp only at h1 h2 h3 ⊢
      subst h1
      have hs3 : st3.c.state ≠ .shutdown := by rw [h2]; exact hs0
      rw [if_pos rfl, change_state_eq _ _ hs3, hs, change_tm, h3]
      exact ⟨by decide, by decide, rfl⟩

theorem stepConnecting_prog (st : St) (hs : st.c.state = .connecting) : Prog st (stepConnecting st) := by
  rw [stepConnecting_eq]
  obtain ⟨e, ec, etm⟩ := atOpen_frame st
  generalize st.atOpen = st1 at e ec etm
  obtain ⟨o1, o2, o3⟩ := trOpen_env st1
  have f := trOpen_frame st1
  generalize trOpen st1 = ro at o1 o2 o3 f
  obtain ⟨rc, st2⟩ := ro
  simp only at o1 o2 o3 f ⊢
  rw [e] at o1 o2 o3
  by_cases hq : st.n.openQ = []
  · have hrc : rc ≠ -1 := by
      rw [o3 hq]
      decide
    rcases stepConnected_prog rc st2 hrc (by rw [f.2.2.2, ec, hs]) with h | ⟨h1, h2, h3⟩
    · exact Or.inr (Or.inl (Nat.lt_of_lt_of_le h o1.1))
    · exact Or.inr (Or.inr ⟨by rw [← ec, ← f.2.2.2]; exact h1, h2, by rw [h3, f.2.2.1, etm]⟩)
  · exact Or.inr (Or.inl (EnvLe.lt_of_lt (o2 hq) (stepConnected_steps envLe_runRel.toEmitRel.sendRel rc st2)))

theorem thenSync_prog (st0 st : St) (hs0 : st0.c.state ≠ .shutdown) (hr : rank .sync < rank st0.c.state)
    (hc : st.c = st0.c) (htm : st.tm = st0.tm) :
    rank (thenSync (true, st)).c.state < rank st0.c.state ∧ (thenSync (true, st)).c.state ≠ .closed ∧
    (thenSync (true, st)).tm = st0.tm := by
  have hs : st.c.state ≠ .shutdown := by rw [hc]; exact hs0
  unfold thenSync
  rw [if_pos rfl, change_state_eq _ _ hs, change_tm]
  exact ⟨hr, by decide, htm⟩

theorem stepReset_prog (st : St) (hs : st.c.state = .reset) : Prog st (stepReset st) := by
  rw [stepReset_eq, sendResetQuery_eq]
  have hs0 : st.c.state ≠ .shutdown := by rw [hs]; decide
  rcases sendQuery_progress st _ hs0 (resetQueryBytes_ne _) with h | ⟨h1, h2, h3⟩
  · exact Or.inr (Or.inl (EnvLe.lt_of_lt h (thenSync_steps envLe_runRel.toEmitRel.sendRel _)))
  · generalize sendQuery st _ = rs at h1 h2 h3
    obtain ⟨ok, st3⟩ := rs
    simp only at h1 h2 h3 ⊢
    subst h1
    exact Or.inr (Or.inr (thenSync_prog st st3 hs0 (by rw [hs]; decide) h2 h3))

theorem stepSync_prog (fuel : Nat) (st : St) (hs : st.c.state = .sync) (hth : st.n.threaded = true) :
    Prog st (stepSync (fuel + 1) st) := by
  unfold stepSync
  have hs0 : st.c.state ≠ .shutdown := by rw [hs]; decide
  rcases syncG_progress fuel st hs0 hth with h | ⟨h1, h2, h3⟩
  · refine Or.inr (Or.inl ?_)
    split
    · exact EnvLe.lt_of_lt h (change_rel envLe_runRel.toEmitRel _ _)
    · exact h
  · rw [h1]
    simp only [Bool.false_eq_true, if_false]
    exact Or.inr (Or.inr ⟨by rw [h2, hs]; decide, by rw [h2]; decide, h3⟩)

theorem stepEstablished_prog (st : St) (hs : st.c.state = .established) (hth : st.n.threaded = true) :
    Prog st (stepEstablished st) := by
  rw [stepEstablished_eq]
  have hs0 : st.c.state ≠ .shutdown := by rw [hs]; decide
  have el := envLe_runRel.toEmitRel
  rcases waitForSync_progress st hs0 hth with h | ⟨h1, h2, h3⟩
  · refine Or.inr (Or.inl ?_)
    split
    · exact EnvLe.lt_of_lt h (el.trans (sendSerialQuery_rel el _) (thenSync_steps el.sendRel _))
    · exact h
  · rw [h1, if_neg (by decide)]
    exact Or.inr (Or.inr ⟨by rw [h2, hs]; decide, by rw [h2]; decide, h3⟩)

theorem stepFastReconnect_prog (st : St) (hs : st.c.state = .fastReconnect) :
    Prog st ((trClose st).change .connecting) := by
  have hs0 : (trClose st).c.state ≠ .shutdown := by show st.c.state ≠ .shutdown; rw [hs]; decide
  refine Or.inr (Or.inr ⟨?_, ?_, ?_⟩)
  · rw [change_state_eq _ _ hs0, hs]; decide
  · rw [change_state_eq _ _ hs0]; decide
  · rw [change_tm]; rfl

theorem stepErrClose_now (st : St) : (stepErrClose st).n.now = st.n.now + st.tm.retry := by
  unfold stepErrClose
  rw [doSleep_now, change_now, change_tm]
  rfl

theorem stepErrNoData_now (st : St) : (stepErrNoData st).n.now = st.n.now + st.tm.retry := by
  unfold stepErrNoData
  rw [purgeOutdated_now, doSleep_now, change_now, change_tm]
  rfl

theorem stepErrNoIncr_prog (st : St) (hs : st.c.state = .errNoIncr) : Prog st (stepErrNoIncr st) := by
  unfold stepErrNoIncr
  have hs0 : (requestReset st).c.state ≠ .shutdown := by show st.c.state ≠ .shutdown; rw [hs]; decide
  refine Or.inr (Or.inr ⟨?_, ?_, ?_⟩)
  · rw [purgeOutdated_c, change_state_eq _ _ hs0, hs]; decide
  · rw [purgeOutdated_c, change_state_eq _ _ hs0]; decide
  · rw [purgeOutdated_tm, change_tm]; rfl

/-- **progress of one iteration of the state machine** (threaded run, retry interval ≥ 1, the
    receive loops may run at least once) -/
theorem fsmStep_progress (fuel : Nat) (st st' : St) (h : fsmStep fuel st = some st') (hf : 0 < fuel)
    (hr : 1 ≤ st.tm.retry) (hth : st.n.threaded = true) (hc : st.c.state ≠ .closed) : Prog st st' := by
  obtain ⟨f, rfl⟩ : ∃ f, fuel = f + 1 := ⟨fuel - 1, by omega⟩
  rw [fsmStep_eq] at h
  cases hs : st.c.state <;> rw [hs] at h <;> simp only [Option.some.injEq] at h
  · subst h; exact stepConnecting_prog st hs
  · subst h; exact stepEstablished_prog st hs hth
  · subst h; exact stepReset_prog st hs
  · subst h; exact stepSync_prog f st hs hth
  · subst h; exact stepFastReconnect_prog st hs
  · subst h; exact Or.inl (by rw [stepErrNoData_now]; omega)
  · subst h; exact stepErrNoIncr_prog st hs
  · subst h; exact Or.inl (by rw [stepErrClose_now]; omega)
  · subst h; exact Or.inl (by rw [stepErrClose_now]; omega)
  · cases h
  · exact absurd hs hc

theorem fsmStep_mono (fuel : Nat) (st st' : St) (h : fsmStep fuel st = some st') :
    st.n.now ≤ st'.n.now ∧ envSize st'.n ≤ envSize st.n ∧ st'.n.threaded = st.n.threaded :=
  ⟨fsmStep_now_le h, (fsmStep_rel envLe_runRel fuel st st' h).1, (fsmStep_rel envLe_runRel fuel st st' h).2⟩

/-! ## run segments without time and without consumption -/

inductive ZeroSeg (fuel : Nat) : Nat → St → St → Prop
  | nil (st : St) : ZeroSeg fuel 0 st st
  | cons {k : Nat} {st st1 st2 : St} : fsmStep fuel st = some st1 → st1.n.now = st.n.now →
      envSize st1.n = envSize st.n → ZeroSeg fuel k st1 st2 → ZeroSeg fuel (k + 1) st st2

theorem zeroSeg_rank {fuel k : Nat} {st st' : St} (seg : ZeroSeg fuel k st st') (hf : 0 < fuel) :
    1 ≤ st.tm.retry → st.n.threaded = true → st.c.state ≠ .closed → k + rank st'.c.state ≤ rank st.c.state := by
  induction seg with
  | nil st => intro _ _ _; omega
  | cons h hn he _ ih =>
    intro hr hth hc
    have m := fsmStep_mono fuel _ _ h
    rcases fsmStep_progress fuel _ _ h hf hr hth hc with p | p | ⟨p1, p2, p3⟩
    · omega
    · omega
    · have := ih (by rw [p3]; exact hr) (by rw [m.2.2]; exact hth) p2
      omega

/-! ## what the error states and a failing open do -/

theorem changeState_script (c : Conn) (n : Net) (own : Nat) (s : SState) :
    (changeState c n own s).2.tape = n.tape ∧ (changeState c n own s).2.sendQ = n.sendQ ∧
    (changeState c n own s).2.openQ = n.openQ := by
  by_cases h : c.state = .shutdown
  · rw [changeState_shutdown c n own s h]
    exact ⟨rfl, rfl, rfl⟩
  · rw [changeState_alive c n own s h]
    split <;> exact ⟨rfl, rfl, rfl⟩

theorem change_script (st : St) (s : SState) :
    (st.change s).n.tape = st.n.tape ∧ (st.change s).n.sendQ = st.n.sendQ ∧ (st.change s).n.openQ = st.n.openQ := by
  unfold St.change
  exact changeState_script _ _ _ _

/-- RTR_ERROR_TRANSPORT / RTR_ERROR_FATAL: close the transport, go to CONNECTING, sleep `retry` seconds -/
theorem stepErrClose_eq (st : St) (hs : st.c.state ≠ .shutdown) (hc : st.c.state ≠ .connecting) :
    stepErrClose st =
      { st with
        c := { st.c with state := .connecting }
        n := { st.n with
          now := st.n.now + st.tm.retry
          trace := s!"Z {st.tm.retry}" :: s!"S {SState.connecting.name} {st.n.now} {st.t.own}" :: "C" :: st.n.trace } } := by
  unfold stepErrClose doSleep St.change trClose
  rw [changeState_alive st.c (st.n.emit "C") st.t.own .connecting hs, if_neg hc]
  rfl

/-- RTR_FAST_RECONNECT: close the transport, go to CONNECTING — no sleep -/
theorem stepFastReconnect_eq (st : St) (hs : st.c.state ≠ .shutdown) (hc : st.c.state ≠ .connecting) :
    (trClose st).change .connecting =
      { st with
        c := { st.c with state := .connecting }
        n := { st.n with trace := s!"S {SState.connecting.name} {st.n.now} {st.t.own}" :: "C" :: st.n.trace } } := by
  unfold St.change trClose
  rw [changeState_alive st.c (st.n.emit "C") st.t.own .connecting hs, if_neg hc]
  rfl

/-- RTR_ERROR_NO_INCR_UPDATE_AVAIL and, below, RTR_ERROR_NO_DATA_AVAIL (which sleeps first): a new session
    is requested (the next query is a Reset Query), the state is RESET -/
theorem stepErrNoIncr_spec (st : St) (hs : st.c.state ≠ .shutdown) :
    (stepErrNoIncr st).c.state = .reset ∧ (stepErrNoIncr st).ss.reqSession = true ∧ (stepErrNoIncr st).ss.serial = 0 ∧
    (stepErrNoIncr st).tm = st.tm := by
  have p : Purged (requestReset st) (stepErrNoIncr st) :=
    (change_sameData (requestReset st) .reset).purged (purgeOutdated_purged _)
  exact ⟨by unfold stepErrNoIncr; rw [purgeOutdated_c]; exact change_state_eq (requestReset st) .reset hs, p.ofReset⟩

theorem stepErrNoData_spec (st : St) (hs : st.c.state ≠ .shutdown) :
    (stepErrNoData st).c.state = .reset ∧ (stepErrNoData st).ss.reqSession = true ∧ (stepErrNoData st).ss.serial = 0 ∧
    (stepErrNoData st).tm = st.tm := by
  have p : Purged (requestReset st) (stepErrNoData st) :=
    ((change_sameData (requestReset st) .reset).trans (doSleep_sameData _ _)).purged (purgeOutdated_purged _)
  exact ⟨by unfold stepErrNoData; rw [purgeOutdated_c]; exact change_state_eq (requestReset st) .reset hs, p.ofReset⟩

theorem stepConnecting_open_fails (st : St) (q : List Int) (hs : st.c.state = .connecting) (hq : st.n.openQ = -1 :: q) :
    (stepConnecting st).c.state = .errTransport ∧ (stepConnecting st).n.now = st.n.now ∧
    (stepConnecting st).tm = st.tm ∧ (stepConnecting st).n.openQ = q ∧ (stepConnecting st).n.tape = st.n.tape ∧
    (stepConnecting st).n.sendQ = st.n.sendQ := by
  rw [stepConnecting_eq]
  obtain ⟨e, ec, etm⟩ := atOpen_frame st
  generalize st.atOpen = st1 at e ec etm
  have hq1 : st1.n.openQ = -1 :: q := by rw [e]; exact hq
  have f := trOpen_frame st1
  have hn := trOpen_now st1
  have ho : (trOpen st1).1 = -1 ∧ (trOpen st1).2.n.openQ = q ∧ (trOpen st1).2.n.tape = st1.n.tape ∧
      (trOpen st1).2.n.sendQ = st1.n.sendQ := by
    obtain ⟨tr, e⟩ := trOpen_eq st1
    rw [e, hq1]
    exact ⟨rfl, rfl, rfl, rfl⟩
  generalize trOpen st1 = ro at f hn ho
  obtain ⟨rc, st2⟩ := ro
  simp only at f hn ho ⊢
  obtain ⟨h1, h2, h3, h4⟩ := ho
  subst h1
  unfold stepConnected
  rw [if_pos rfl]
  have hs2 : st2.c.state ≠ .shutdown := by rw [f.2.2.2, ec, hs]; decide
  have cs := change_script st2 .errTransport
  exact ⟨change_state_eq _ _ hs2, by rw [change_now, hn, e], by rw [change_tm, f.2.2.1, etm], by rw [cs.2.2, h2],
    by rw [cs.1, h3, e], by rw [cs.2.1, h4, e]⟩

end Rtr.P
