/-
  CLinkXfer: what `tr_send_all` and `tr_recv_all` (rtrlib/transport/transport.c) have in common as translated C text:
  `IsXfer`, the prologue and one round of the loop.  They differ in the byte counter (`unsigned int` against `size_t`:
  how it is widened for the loop test, how an `int` answer is added, how the count becomes the `int` result): `Counter`.
  Definitions only, because RtrSpec.CLinkIo imports this module; the proofs are in RtrProofs/CLinkIo.lean.
-/
import RtrModel.CSem

namespace Rtr.CLink
open Rtr.Gen

structure Counter (α : Type) where
  val : α → Nat
  /-- the counter as the `size_t` the loop test and the remaining length `len - total` are computed in -/
  cnt : α → BitVec 64
  /-- `total += rtval` -/
  add : α → BitVec 32 → α
  /-- `return total` (converted to `int`) -/
  ret : α → BitVec 32
  /-- `total = 0` -/
  zero : α
  /-- the counter's type holds the values below it -/
  bound : Nat

/-- `start` and `round` are the text of the prologue of `F` and of one round of its loop `L` (deadline, fuel, world,
    counter), conditions as propositions about numbers.  The worlds are written field by field: that is what unfolding
    `C.extTime` and `C.extIo` leaves of the generated text, so a translated function is an `IsXfer` by unfolding alone;
    `after_first` and `world_after_one` (CLinkIo) read these worlds as "`w` after these calls". -/
structure IsXfer {α : Type} (K : Counter α) (L : BitVec 64 → Nat → C.World → α → Option (BitVec 32 × C.World))
    (F : C.World → Option (BitVec 32 × C.World)) (msize pdu : Nat) (len timeout : BitVec 64) : Prop where
  start : ∀ w, F w =
    if (w.clock w.nclock).saddOverflow timeout = false then
      L (w.clock w.nclock + timeout) C.FUEL ⟨w.clock, w.io, w.nclock + 1, w.nio, w.calls⟩ K.zero
    else none
  out_of_fuel : ∀ e w t, L e 0 w t = none
  round : ∀ e f w t, L e (f + 1) w t =
    if K.val t < len.toNat then
      if pdu + K.val t ≤ msize ∧ e.ssubOverflow (w.clock w.nclock) = false then
        if (w.io w.nio).toInt < 0 then
          some (w.io w.nio,
            ⟨w.clock, w.io, w.nclock + 1, w.nio + 1, w.calls ++ [(pdu + K.val t, len - K.cnt t, e - w.clock w.nclock)]⟩)
        else
          L e f ⟨w.clock, w.io, w.nclock + 1, w.nio + 1, w.calls ++ [(pdu + K.val t, len - K.cnt t, e - w.clock w.nclock)]⟩
            (K.add t (w.io w.nio))
      else none
    else some (K.ret t, w)
  val_zero : K.val K.zero = 0
  val_cnt : ∀ t, (K.cnt t).toNat = K.val t
  val_lt : ∀ t, K.val t < K.bound
  val_add : ∀ t a, 0 ≤ a.toInt → K.val t + a.toInt.toNat < K.bound → K.val (K.add t a) = K.val t + a.toInt.toNat
  ret_val : ∀ t, K.ret t = BitVec.ofInt 32 (K.val t)

end Rtr.CLink
