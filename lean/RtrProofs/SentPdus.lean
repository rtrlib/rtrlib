/-
  SentPdus: the PDUs the client builds (Serial Query, Reset Query, Error Report) are well formed,
  and `tr_send_all` hands exactly the bytes of the PDU to the transport however the transport
  splits the writes.  `sendCalls` lists the calls the loop of `tr_send_all` makes for a script of outcomes; the
  loop of the protocol model (`sendAllLoop_calls`) and the one whose calls take time (`sendAllTLoop_calls`) both
  make exactly these, and `sendCalls_spec` says what they accept, with or without a failing call.
-/
import RtrModel.Rtr
import RtrProofs.Digits

namespace Rtr.P

/-! ## big-endian fields -/

theorem getD_append_right' (a b : List Nat) (i : Nat) : (a ++ b).getD (a.length + i) 0 = b.getD i 0 := by
  simp [List.getD_eq_getElem?_getD, List.getElem?_append_right]

theorem getD_append_left' (a b : List Nat) (i : Nat) (h : i < a.length) : (a ++ b).getD i 0 = a.getD i 0 := by
  simp [List.getD_eq_getElem?_getD, List.getElem?_append_left h]

theorem be32_digits (n : Nat) :
    ((n / 16777216 % 256 * 256 + n / 65536 % 256) * 256 + n / 256 % 256) * 256 + n % 256 = n % 4294967296 :=
  digits4_mod 256 n

theorem be32_toBE32 (n : Nat) (h : n < 4294967296) (c : List Nat) : be32 (toBE32 n ++ c) 0 = n := by
  simp only [be32, toBE32, List.cons_append, List.nil_append, List.getD_cons_zero, List.getD_cons_succ]
  exact (be32_digits n).trans (Nat.mod_eq_of_lt h)

theorem be16_toBE16 (n : Nat) (h : n < 65536) (c : List Nat) : be16 (toBE16 n ++ c) 0 = n := by
  simp only [be16, toBE16, List.cons_append, List.nil_append, List.getD_cons_zero, List.getD_cons_succ]
  exact (digits_mod_mul n 256 256).symm.trans (Nat.mod_eq_of_lt h)

theorem be32_shift (a b : List Nat) (off : Nat) : be32 (a ++ b) (a.length + off) = be32 b off := by
  unfold be32
  rw [getD_append_right', Nat.add_assoc, getD_append_right', Nat.add_assoc, getD_append_right', Nat.add_assoc,
    getD_append_right']

theorem be16_shift (a b : List Nat) (off : Nat) : be16 (a ++ b) (a.length + off) = be16 b off := by
  unfold be16
  rw [getD_append_right', Nat.add_assoc, getD_append_right']

theorem be32_shift0 (a b : List Nat) : be32 (a ++ b) a.length = be32 b 0 := be32_shift a b 0

theorem be32_at (pre : List Nat) (x : Nat) (post : List Nat) (off : Nat) (h : pre.length = off) (hx : x < 4294967296) :
    be32 (pre ++ (toBE32 x ++ post)) off = x := by
  rw [← h, be32_shift0]
  exact be32_toBE32 x hx post

theorem be16_at (pre : List Nat) (x : Nat) (post : List Nat) (off : Nat) (h : pre.length = off) (hx : x < 65536) :
    be16 (pre ++ (toBE16 x ++ post)) off = x := by
  rw [← h]
  exact (be16_shift pre _ 0).trans (be16_toBE16 x hx post)

theorem toBE32_length (n : Nat) : (toBE32 n).length = 4 := rfl
theorem toBE16_length (n : Nat) : (toBE16 n).length = 2 := rfl

/-! ## well-formed PDUs -/

/-- a complete PDU of protocol version `ver`: at least a header, the version byte, the length field
    equals the number of bytes, not larger than the client's own maximum.  Said of the PDUs the client builds;
    nothing about the type or the size the type requires (the builders' `_fields` theorems add `checkSize`).
    The received counterpart is `ValidPdu` (ErrReports): the same bounds and length field, the size check, no
    version byte. -/
def WellFormedPdu (ver : Nat) (b : List Nat) : Prop :=
  b.length ≥ 8 ∧ b.getD 0 0 = ver % 256 ∧ be32 b 4 = b.length ∧ b.length ≤ Gen.RTR_MAX_PDU_LEN

theorem serialQuery_lenOf (ver sess sn : Nat) : lenOf (serialQueryBytes ver sess sn) = 12 := by
  unfold lenOf serialQueryBytes
  rw [List.append_assoc]
  exact be32_at _ 12 _ 4 rfl (by decide)

theorem serialQuery_wf (ver sess sn : Nat) : WellFormedPdu ver (serialQueryBytes ver sess sn) := by
  have hl : (serialQueryBytes ver sess sn).length = 12 := rfl
  refine ⟨?_, rfl, ?_, ?_⟩
  · rw [hl]; decide
  · rw [hl]; exact serialQuery_lenOf ver sess sn
  · rw [hl]; decide

theorem serialQuery_fields (ver sess sn : Nat) (hs : sess < 65536) (hn : sn < 4294967296) :
    typeOf (serialQueryBytes ver sess sn) = 1 ∧ be16 (serialQueryBytes ver sess sn) 2 = sess ∧
    (serialQueryBytes ver sess sn).length = 12 ∧ be32 (serialQueryBytes ver sess sn) 8 = sn ∧
    (ver < 256 → verOf (serialQueryBytes ver sess sn) = ver) ∧
    checkSize (serialQueryBytes ver sess sn) = true := by
  refine ⟨rfl, ?_, rfl, ?_, fun hv => Nat.mod_eq_of_lt hv, ?_⟩
  · unfold serialQueryBytes
    rw [List.append_assoc, List.append_assoc]
    exact be16_at _ sess _ 2 rfl hs
  · unfold serialQueryBytes
    rw [← List.append_nil (toBE32 sn)]
    exact be32_at _ sn [] 8 rfl hn
  · unfold checkSize
    rw [serialQuery_lenOf]
    rfl

theorem resetQuery_lenOf (ver : Nat) : lenOf (resetQueryBytes ver) = 8 := by
  unfold lenOf resetQueryBytes
  rw [← List.append_nil (toBE32 8)]
  exact be32_at _ 8 [] 4 rfl (by decide)

theorem resetQuery_wf (ver : Nat) : WellFormedPdu ver (resetQueryBytes ver) := by
  have hl : (resetQueryBytes ver).length = 8 := rfl
  refine ⟨?_, rfl, ?_, ?_⟩
  · rw [hl]; decide
  · rw [hl]; exact resetQuery_lenOf ver
  · rw [hl]; decide

theorem resetQuery_fields (ver : Nat) :
    typeOf (resetQueryBytes ver) = 2 ∧ be16 (resetQueryBytes ver) 2 = 0 ∧ (resetQueryBytes ver).length = 8 ∧
    (ver < 256 → verOf (resetQueryBytes ver) = ver) ∧ checkSize (resetQueryBytes ver) = true := by
  refine ⟨rfl, by simp [resetQueryBytes, be16], rfl, fun hv => Nat.mod_eq_of_lt hv, ?_⟩
  unfold checkSize
  rw [resetQuery_lenOf]
  rfl

/-! ## Error Reports -/

theorem errorPdu_length (ver : Nat) (enc : List Nat) (code : Nat) (text : List Nat) :
    (errorPduBytes ver enc code text).length = 16 + enc.length + text.length := by
  simp only [errorPduBytes, List.length_append, List.length_cons, List.length_nil, toBE16_length, toBE32_length]
  omega

theorem errorPdu_lenOf (ver : Nat) (enc : List Nat) (code : Nat) (text : List Nat)
    (h : enc.length + text.length + 16 ≤ Gen.RTR_MAX_PDU_LEN) :
    lenOf (errorPduBytes ver enc code text) = 16 + enc.length + text.length := by
  have hm : Gen.RTR_MAX_PDU_LEN < 4294967296 := by decide
  have : errorPduBytes ver enc code text = ([ver % 256, 10] ++ toBE16 code) ++
      (toBE32 (16 + enc.length + text.length) ++ (toBE32 enc.length ++ (enc ++ (toBE32 text.length ++ text)))) := by
    simp only [errorPduBytes, List.append_assoc]
  rw [lenOf, this]
  exact be32_at _ _ _ 4 rfl (by omega)

theorem errorPdu_wf (ver : Nat) (enc : List Nat) (code : Nat) (text : List Nat)
    (h : enc.length + text.length + 16 ≤ Gen.RTR_MAX_PDU_LEN) :
    WellFormedPdu ver (errorPduBytes ver enc code text) := by
  have hl := errorPdu_length ver enc code text
  refine ⟨by omega, rfl, ?_, by omega⟩
  rw [hl]
  exact errorPdu_lenOf ver enc code text h

/-- **The fields of an Error Report**; in particular the text length is consistent with the PDU length. -/
theorem errorPdu_fields (ver : Nat) (enc : List Nat) (code : Nat) (text : List Nat)
    (h : enc.length + text.length + 16 ≤ Gen.RTR_MAX_PDU_LEN) :
    typeOf (errorPduBytes ver enc code text) = 10 ∧
    (code < 65536 → be16 (errorPduBytes ver enc code text) 2 = code) ∧
    be32 (errorPduBytes ver enc code text) 8 = enc.length ∧
    ((errorPduBytes ver enc code text).drop 12).take enc.length = enc ∧
    be32 (errorPduBytes ver enc code text) (12 + enc.length) = text.length ∧
    (errorPduBytes ver enc code text).drop (16 + enc.length) = text ∧
    (errorPduBytes ver enc code text).length = 16 + enc.length + text.length ∧
    checkSize (errorPduBytes ver enc code text) = true := by
  have hm : Gen.RTR_MAX_PDU_LEN < 4294967296 := by decide
  -- the same bytes, bracketed so that the field in question follows a prefix of known length
  have v2 : errorPduBytes ver enc code text = [ver % 256, 10] ++ (toBE16 code ++
      (toBE32 (16 + enc.length + text.length) ++ (toBE32 enc.length ++ (enc ++ (toBE32 text.length ++ text))))) := by
    simp only [errorPduBytes, List.append_assoc]
  have v8 : errorPduBytes ver enc code text = ([ver % 256, 10] ++ toBE16 code ++
      toBE32 (16 + enc.length + text.length)) ++ (toBE32 enc.length ++ (enc ++ (toBE32 text.length ++ text))) := by
    simp only [errorPduBytes, List.append_assoc]
  have v12 : errorPduBytes ver enc code text = ([ver % 256, 10] ++ toBE16 code ++
      toBE32 (16 + enc.length + text.length) ++ toBE32 enc.length) ++ (enc ++ (toBE32 text.length ++ text)) := by
    simp only [errorPduBytes, List.append_assoc]
  have vt : errorPduBytes ver enc code text = ([ver % 256, 10] ++ toBE16 code ++
      toBE32 (16 + enc.length + text.length) ++ toBE32 enc.length ++ enc) ++ (toBE32 text.length ++ text) := by
    simp only [errorPduBytes, List.append_assoc]
  have ht : typeOf (errorPduBytes ver enc code text) = 10 := rfl
  have hA : be32 (errorPduBytes ver enc code text) 8 = enc.length := by
    rw [v8]
    exact be32_at _ _ _ 8 rfl (by omega)
  have hB : be32 (errorPduBytes ver enc code text) (12 + enc.length) = text.length := by
    rw [vt]
    exact be32_at _ _ _ _ (by simp only [List.length_append, List.length_cons, List.length_nil, toBE16_length,
      toBE32_length]) (by omega)
  refine ⟨ht, ?_, hA, ?_, hB, ?_, errorPdu_length ver enc code text, ?_⟩
  · intro hc
    rw [v2]
    exact be16_at _ code _ 2 rfl hc
  · have h12 : ([ver % 256, 10] ++ toBE16 code ++ toBE32 (16 + enc.length + text.length) ++
        toBE32 enc.length).length = 12 := rfl
    rw [v12, List.drop_left' h12, List.take_left' rfl]
  · rw [vt, ← List.append_assoc]
    apply List.drop_left'
    simp only [List.length_append, List.length_cons, List.length_nil, toBE16_length, toBE32_length]
    omega
  · unfold checkSize
    simp only [ht, errorPdu_lenOf ver enc code text h, hA, hB, Gen.sizeof_pdu_error]
    -- `4 + 12`: `checkSize` writes the minimum as the text-length word plus `sizeof(struct pdu_error)`
    have a : ¬ (16 + enc.length + text.length < 4 + 12) := by omega
    have b : ¬ (16 + enc.length + text.length < 4 + 12 + enc.length) := by omega
    simp only [a, b, if_false]
    simp

/-- `rtr_send_error_pdu` never answers an Error Report: if the offending PDU (or the at least
    2-byte prefix of it that is echoed) has type 10, nothing is sent and the environment is
    unchanged -/
theorem no_reply_to_error (c : Conn) (n : Net) (enc : List Nat) (code : Nat) (text : List Nat)
    (h2 : 2 ≤ enc.length) (h10 : enc.getD 1 0 = 10) : sendErrorPdu c n enc code text = (true, n) := by
  unfold sendErrorPdu
  rw [if_pos ⟨h2, h10⟩]

/-! ## `tr_send_all`: partial writes -/

/-- one `tr_send` call as the transport saw it: the length offered and what was accepted, or a failure -/
inductive SendCall where
  | ok (len m : Nat) (chunk : List Nat)
  | fail (len : Nat) (block : Bool)

/-- the trace line of the call (the format of the harness) -/
def SendCall.line : SendCall → String
  | .ok len m chunk => s!"W {len} -> {m} {hex chunk}"
  | .fail len false => s!"W {len} -> -1"
  | .fail len true => s!"W {len} -> -2"

def SendCall.rc : SendCall → Int
  | .ok _ m _ => m
  | .fail _ false => -1
  | .fail _ true => -2

def SendCall.isOk : SendCall → Bool
  | .ok .. => true
  | .fail .. => false

def SendCall.bytes : SendCall → List Nat
  | .ok _ _ chunk => chunk
  | .fail .. => []

def accepted (cs : List SendCall) : List Nat := (cs.map SendCall.bytes).flatten

/-- the call `trSend` makes for send script `q` and buffer `bytes` -/
def sendCall (q : List SendEv) (bytes : List Nat) : SendCall :=
  match q with
  | .err :: _ => .fail bytes.length false
  | .block :: _ => .fail bytes.length true
  | .part k :: _ =>
    .ok bytes.length (if min k bytes.length = 0 then 1 else min k bytes.length)
      (bytes.take (if min k bytes.length = 0 then 1 else min k bytes.length))
  | .all :: _ => .ok bytes.length bytes.length bytes
  | [] => .ok bytes.length bytes.length bytes

theorem trSend_call (n : Net) (bytes : List Nat) :
    trSend n bytes = ((sendCall n.sendQ bytes).rc,
      { n with sendQ := n.sendQ.tail, trace := (sendCall n.sendQ bytes).line :: n.trace }) := by
  unfold trSend sendCall
  cases n with
  | mk tape sendQ openQ now trace threaded =>
    cases sendQ with
    | nil => rfl
    | cons e q => cases e <;> rfl

/-- the calls of the loop of `tr_send_all` (ghost) -/
def sendCalls : Nat → List SendEv → List Nat → List SendCall
  | 0, _, _ => []
  | fuel + 1, q, rest =>
    if rest.isEmpty then []
    else
      match sendCall q rest with
      | .fail len b => [.fail len b]
      | .ok len m chunk => .ok len m chunk :: sendCalls fuel q.tail (rest.drop m)

/-- the result code of the loop: the code of a failing call, else the running total -/
def callsRc : List SendCall → Nat → Int
  | [], total => total
  | .fail _ false :: _, _ => -1
  | .fail _ true :: _, _ => -2
  | .ok _ m _ :: cs, total => callsRc cs (total + m)

theorem sendAllLoop_calls : ∀ (fuel : Nat) (n : Net) (rest : List Nat) (total : Nat),
    sendAllLoop fuel n rest total =
      (callsRc (sendCalls fuel n.sendQ rest) total,
       { n with sendQ := n.sendQ.drop (sendCalls fuel n.sendQ rest).length,
                trace := ((sendCalls fuel n.sendQ rest).map SendCall.line).reverse ++ n.trace }) := by
  intro fuel
  induction fuel with
  | zero => intro n rest total; simp [sendAllLoop, sendCalls, callsRc]
  | succ fuel ih =>
    intro n rest total
    unfold sendAllLoop sendCalls
    by_cases he : rest.isEmpty = true
    · simp [he, callsRc]
    · rw [if_neg he, if_neg he, trSend_call]
      simp only
      cases hc : sendCall n.sendQ rest with
      | fail len b =>
        cases b <;> simp [SendCall.rc, callsRc]
      | ok len m chunk =>
        have hm : ¬ ((m : Int) < 0) := by omega
        simp only [SendCall.rc, hm, if_false, Int.toNat_natCast, ih, callsRc, List.length_cons, List.map_cons,
          List.reverse_cons, List.append_assoc, List.cons_append, List.nil_append]
        cases hq : n.sendQ with
        | nil => simp
        | cons e q => simp

def SendEv.isFail : SendEv → Bool
  | .err => true
  | .block => true
  | _ => false

def NoFail (q : List SendEv) : Prop := ∀ e ∈ q, e.isFail = false

instance (q : List SendEv) : Decidable (NoFail q) := by unfold NoFail; infer_instance

theorem sendCall_cases (q : List SendEv) (rest : List Nat) (hr : rest ≠ []) :
    ((∃ b, sendCall q rest = .fail rest.length b) ∧ ¬ NoFail q) ∨
    ∃ m, sendCall q rest = .ok rest.length m (rest.take m) ∧ 1 ≤ m ∧ m ≤ rest.length := by
  have hl : 0 < rest.length := List.length_pos_iff.2 hr
  have all : sendCall q rest = .ok rest.length rest.length rest →
      ∃ m, sendCall q rest = .ok rest.length m (rest.take m) ∧ 1 ≤ m ∧ m ≤ rest.length :=
    fun h => ⟨rest.length, by rw [h, List.take_length], hl, Nat.le_refl _⟩
  cases q with
  | nil => exact Or.inr (all rfl)
  | cons e q =>
    cases e with
    | err => exact Or.inl ⟨⟨false, rfl⟩, fun h => nomatch h _ List.mem_cons_self⟩
    | block => exact Or.inl ⟨⟨true, rfl⟩, fun h => nomatch h _ List.mem_cons_self⟩
    | all => exact Or.inr (all rfl)
    | part k =>
      refine Or.inr ⟨if min k rest.length = 0 then 1 else min k rest.length, rfl, ?_, ?_⟩
      · split <;> omega
      · split <;> omega

theorem sendCalls_spec : ∀ (fuel : Nat) (q : List SendEv) (rest : List Nat) (total : Nat), rest.length < fuel →
    (accepted (sendCalls fuel q rest) = rest ∧ callsRc (sendCalls fuel q rest) total = (total + rest.length : Nat) ∧
      ∀ c ∈ sendCalls fuel q rest, c.isOk = true) ∨
    (¬ NoFail q ∧ callsRc (sendCalls fuel q rest) total < 0 ∧
      ∃ k, k < rest.length ∧ accepted (sendCalls fuel q rest) = rest.take k) := by
  intro fuel
  induction fuel with
  | zero => intro q rest total h; omega
  | succ fuel ih =>
    intro q rest total hf
    unfold sendCalls
    by_cases he : rest.isEmpty = true
    · rw [if_pos he, List.isEmpty_iff.1 he]
      exact Or.inl ⟨rfl, rfl, nofun⟩
    · rw [if_neg he]
      have hr : rest ≠ [] := fun h => he (by rw [h]; rfl)
      rcases sendCall_cases q rest hr with ⟨⟨b, hc⟩, hn⟩ | ⟨m, hc, h1, h2⟩
      · rw [hc]
        exact Or.inr ⟨hn, by cases b <;> exact Int.negSucc_lt_zero _, 0, List.length_pos_iff.2 hr, rfl⟩
      · rw [hc]
        have step : accepted (.ok rest.length m (rest.take m) :: sendCalls fuel q.tail (rest.drop m)) =
            rest.take m ++ accepted (sendCalls fuel q.tail (rest.drop m)) := rfl
        simp only [callsRc]
        rw [step]
        rcases ih q.tail (rest.drop m) (total + m) (by rw [List.length_drop]; omega) with
          ⟨a1, a2, a3⟩ | ⟨a0, a1, k, hk, a2⟩
        · refine Or.inl ⟨by rw [a1, List.take_append_drop], ?_, fun c hcm => ?_⟩
          · rw [a2, List.length_drop]
            congr 1
            omega
          · rcases List.mem_cons.1 hcm with rfl | hcm
            · rfl
            · exact a3 c hcm
        · rw [List.length_drop] at hk
          exact Or.inr ⟨fun h => a0 fun e he => h e (List.mem_of_mem_tail he), a1, m + k, by omega,
            by rw [a2, List.take_add]⟩

theorem sendAll_calls (n : Net) (bytes : List Nat) :
    sendAll n bytes =
      (callsRc (sendCalls (bytes.length + 1) n.sendQ bytes) 0,
       { n with sendQ := n.sendQ.drop (sendCalls (bytes.length + 1) n.sendQ bytes).length,
                trace := ((sendCalls (bytes.length + 1) n.sendQ bytes).map SendCall.line).reverse ++ n.trace }) :=
  sendAllLoop_calls (bytes.length + 1) n bytes 0

theorem sendAllCalls_spec (q : List SendEv) (bytes : List Nat) :
    (accepted (sendCalls (bytes.length + 1) q bytes) = bytes ∧
      callsRc (sendCalls (bytes.length + 1) q bytes) 0 = (bytes.length : Int) ∧
      ∀ c ∈ sendCalls (bytes.length + 1) q bytes, c.isOk = true) ∨
    (¬ NoFail q ∧ callsRc (sendCalls (bytes.length + 1) q bytes) 0 < 0 ∧
      ∃ k, k < bytes.length ∧ accepted (sendCalls (bytes.length + 1) q bytes) = bytes.take k) := by
  have h := sendCalls_spec (bytes.length + 1) q bytes 0 (Nat.lt_succ_self _)
  rwa [Nat.zero_add] at h

theorem callsRc_neg_iff : ∀ (cs : List SendCall) (total : Nat),
    callsRc cs total < 0 ↔ ∃ c ∈ cs, c.isOk = false := by
  intro cs
  induction cs with
  | nil => intro total; simp [callsRc]
  | cons c cs ih =>
    intro total
    cases c with
    | fail len b => cases b <;> simp [callsRc, SendCall.isOk]
    | ok len m chunk => simp [callsRc, SendCall.isOk, ih]

/-! ## `tr_send_all` on a transport whose write calls take time (`sendAllT`) -/

/-- the send script of the plain model as a timed script in which no call takes time -/
def stepsOf (q : List SendEv) : List SendStep := q.map fun e => ⟨0, e⟩

theorem stepsOf_ev (q : List SendEv) : (stepsOf q).map (·.ev) = q := by
  unfold stepsOf
  rw [List.map_map]
  exact List.map_id _

theorem trSendT_call (q : List SendStep) (now : Int) (bytes : List Nat) (t : Int) :
    (trSendT q now bytes t).1 = (sendCall (q.map (·.ev)) bytes).rc ∧ (trSendT q now bytes t).2.1 = q.tail := by
  unfold trSendT sendCall
  cases q with
  | nil => exact ⟨rfl, rfl⟩
  | cons s q =>
    simp only [List.map_cons]
    cases s.ev <;> exact ⟨rfl, rfl⟩

theorem sendAllTLoop_calls (endT : Int) : ∀ (fuel : Nat) (q : List SendStep) (now : Int) (rest : List Nat) (total : Nat)
    (handed : List Nat) (lines : List String),
    (sendAllTLoop endT fuel q now rest total handed lines).rc = callsRc (sendCalls fuel (q.map (·.ev)) rest) total ∧
    (sendAllTLoop endT fuel q now rest total handed lines).handed =
      handed ++ accepted (sendCalls fuel (q.map (·.ev)) rest) := by
  intro fuel
  induction fuel with
  | zero => intro q now rest total handed lines; exact ⟨rfl, (List.append_nil _).symm⟩
  | succ fuel ih =>
    intro q now rest total handed lines
    unfold sendAllTLoop sendCalls
    by_cases he : rest.isEmpty = true
    · rw [if_pos he, if_pos he]
      exact ⟨rfl, (List.append_nil _).symm⟩
    · rw [if_neg he, if_neg he]
      obtain ⟨hrc, hq⟩ := trSendT_call q now rest (endT - now)
      generalize trSendT q now rest (endT - now) = r at hrc hq
      obtain ⟨rc, q', now', line⟩ := r
      simp only at hrc hq ⊢
      subst hrc hq
      rcases sendCall_cases (q.map (·.ev)) rest (fun h => he (by rw [h]; rfl)) with ⟨⟨b, hc⟩, _⟩ | ⟨m, hc, _, _⟩
      · rw [hc]
        cases b <;> exact ⟨rfl, (List.append_nil _).symm⟩
      · rw [hc]
        have hm : ¬ ((m : Int) < 0) := by omega
        simp only [SendCall.rc, hm, if_false, Int.toNat_natCast, callsRc]
        rw [← List.map_tail]
        obtain ⟨a, b⟩ := ih q.tail now' (rest.drop m) (total + m) (handed ++ rest.take m) (lines ++ [line])
        refine ⟨a, ?_⟩
        rw [b, List.append_assoc]
        rfl

theorem sendAllT_calls (q : List SendStep) (now : Int) (bytes : List Nat) (timeout : Int) :
    (sendAllT q now bytes timeout).rc = callsRc (sendCalls (bytes.length + 1) (q.map (·.ev)) bytes) 0 ∧
    (sendAllT q now bytes timeout).handed = accepted (sendCalls (bytes.length + 1) (q.map (·.ev)) bytes) :=
  sendAllTLoop_calls (now + timeout) (bytes.length + 1) q now bytes 0 [] []

end Rtr.P
