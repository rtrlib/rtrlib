/-
  ConvergeIter: the iterations of `rtr_fsm_start` in a good environment as a table.  `CvAbs` is the socket without
  its environment; `CvEv.ok` / `.next` / `.bytes` say when a kind of iteration is the one the socket performs, what
  it does to the socket and what it takes from the tape; `cv_ev_step`: the state machine follows the table;
  `cv_path`: a list of events is a run.  Since `next` gives the socket as an explicit record, the conditions of the
  later events of a list and what is read off its last socket hold by evaluation (`rfl`).

  The wait in ESTABLISHED (`cv_iter_notify`, `cv_iter_timeout`) is not an event: when the refresh timer
  ends it the tape starts with a `block`, which `CvRep` (through `CvTape`: data only) cannot describe.
  A scenario that starts in ESTABLISHED takes that iteration first and continues with a list.

  Progress.lean is imported for `change_script`, `serialQueryBytes_ne` and `resetQueryBytes_ne` only.
-/
import RtrProofs.ConvergeAnswer
import RtrProofs.Progress

namespace Rtr.P

/-! ## environments between two points where nothing was received -/

/-- `n'` is `n` after trace output, successful sends, an `open` and `d` seconds of sleep: same tape,
    same kind of run; the send script lost the entries of the send calls made -/
structure CvNet (d : Nat) (n n' : Net) : Prop where
  tape : n'.tape = n.tape
  now : n'.now = n.now + d
  threaded : n'.threaded = n.threaded
  sendQ : ∃ k, n'.sendQ = n.sendQ.drop k

theorem CvNet.of_eq {n n' : Net} (ht : n'.tape = n.tape) (hn : n'.now = n.now) (hth : n'.threaded = n.threaded)
    (hq : n'.sendQ = n.sendQ) : CvNet 0 n n' :=
  ⟨ht, hn.trans (Int.add_zero _).symm, hth, ⟨0, hq⟩⟩

theorem CvNet.refl (n : Net) : CvNet 0 n n := .of_eq rfl rfl rfl rfl

theorem CvNet.trans {d1 d2 : Nat} {a b c : Net} (h1 : CvNet d1 a b) (h2 : CvNet d2 b c) : CvNet (d1 + d2) a c := by
  obtain ⟨k1, e1⟩ := h1.sendQ
  obtain ⟨k2, e2⟩ := h2.sendQ
  refine ⟨h2.tape.trans h1.tape, ?_, h2.threaded.trans h1.threaded, ⟨k1 + k2, ?_⟩⟩
  · rw [h2.now, h1.now]; simp only [Int.natCast_add]; omega
  · rw [e2, e1, List.drop_drop]

theorem CvNet.noFail {d : Nat} {n n' : Net} (h : CvNet d n n') (hq : NoFail n.sendQ) : NoFail n'.sendQ := by
  obtain ⟨k, e⟩ := h.sendQ
  intro x hx
  rw [e] at hx
  exact hq x (List.mem_of_mem_drop hx)

theorem CvNet.cvTape {d : Nat} {n n' : Net} (h : CvNet d n n') {bytes : List Nat} (ht : CvTape n bytes) : CvTape n' bytes :=
  ⟨by rw [h.tape]; exact ht.ff, by rw [h.tape]; exact ht.eq⟩

/-- so that the lifting lemmas for `change`, `sendSerialQuery`, … apply -/
theorem cvNet0_emitRel : EmitRel (CvNet 0) :=
  { refl := CvNet.refl
    trans := fun h1 h2 => CvNet.trans h1 h2
    emit := fun n l => .of_eq rfl rfl rfl rfl
    send := fun n b => by
      rw [trSend_call]
      exact ⟨rfl, (Int.add_zero _).symm, rfl, ⟨1, List.drop_one.symm⟩⟩ }

theorem cvmOpenSame_emitRel : EmitRel (fun n n' : Net => n'.openQ = n.openQ) :=
  { refl := fun _ => rfl
    trans := fun h1 h2 => h2.trans h1
    emit := fun _ _ => rfl
    send := fun n b => by rw [trSend_call] }

theorem cv_sendPdu_ok (c : Conn) (n : Net) (bytes : List Nat) (hs : c.state ≠ .shutdown) (hq : NoFail n.sendQ)
    (hb : bytes ≠ []) : (sendPdu c n bytes).1 = true := by
  unfold sendPdu
  rw [if_neg hs, sendAll_calls]
  simp only
  obtain ⟨_, h2, _⟩ := (sendAllCalls_spec n.sendQ bytes).resolve_right fun h => h.1 hq
  rw [h2]
  have : 0 < bytes.length := List.length_pos_iff.2 hb
  simp only [decide_eq_true_eq]
  omega

theorem cv_sendQuery_ok (st : St) (bytes : List Nat) (hs : st.c.state ≠ .shutdown) (hq : NoFail st.n.sendQ) (hb : bytes ≠ []) :
    ∃ n', sendQuery st bytes = (true, { st with n := n' }) ∧ CvNet 0 st.n n' ∧ n'.openQ = st.n.openQ := by
  refine ⟨(sendQuery st bytes).2.n, ?_, sendQuery_steps cvNet0_emitRel.sendRel st bytes,
    sendQuery_steps cvmOpenSame_emitRel.sendRel st bytes⟩
  have h := cv_sendPdu_ok st.c st.n bytes hs hq hb
  unfold sendQuery
  generalize sendPdu st.c st.n bytes = r at h
  obtain ⟨ok, n⟩ := r
  simp only at h
  subst h
  rfl

theorem cv_change (st : St) (s : SState) (hs : st.c.state ≠ .shutdown) :
    st.change s = { st with c := { st.c with state := s }, n := (st.change s).n } ∧ CvNet 0 st.n (st.change s).n := by
  refine ⟨?_, change_rel cvNet0_emitRel st s⟩
  unfold St.change
  rw [changeState_alive st.c st.n st.t.own s hs]

/-! ## vocabulary of the statements: version, open script, expiry, the end of the wait, `CvMid` -/

/-- the socket may speak version `ver` with the cache: it does already, or it has not seen a PDU on
    this connection, speaks version 1 and `ver` = 0 (live downgrade) -/
def CvVer (c : Conn) (ver : Nat) : Prop :=
  ver = c.version ∨ (c.hasReceived = false ∧ c.version = 1 ∧ ver = 0)

/-- from `st` to `st'` in `d` seconds, with no assumption on the tape.  `tblok`, `others`, `inv` are the clauses of
    `CvKeeps` below, said of two states; `CvAtSync` (Converge.lean), with which `cvm_from_noIncr` /
    `cvm_from_noData` are stated, contains it. -/
structure CvMid (d : Nat) (st st' : St) : Prop where
  ver : st'.c.version = st.c.version
  rcv : st'.c.hasReceived = st.c.hasReceived ∨ st'.c.hasReceived = false
  tm : st'.tm = st.tm
  net : CvNet d st.n st'.n
  tblok : TblOK st.t → TblOK st'.t
  others : OthersSame st.t st'.t
  inv : (st.ss.lastUpdate = 0 → NoOwn st.t) → (st'.ss.lastUpdate = 0 → NoOwn st'.t)

theorem cv_purgeOutdated_state (st : St) : (purgeOutdated st).c = st.c := (purgeOutdated_spec st).1

/-- the next `tr_open` succeeds -/
def CvOpenOK (q : List Int) : Prop := ∀ x ∈ q.head?, x ≠ -1

instance (q : List Int) : Decidable (CvOpenOK q) := by unfold CvOpenOK; exact inferInstance

/-- data of this socket older than the expire interval at time `now` -/
def cvExpired (st : St) (now : Int) : Prop := st.ss.lastUpdate ≠ 0 ∧ st.ss.lastUpdate + st.tm.expire < now

/-- the moment the wait of `rtr_wait_for_sync` ends when nothing arrives: one refresh interval after
    the last synchronisation, at once if that moment has passed -/
def cvmDeadline (st : St) : Int := max st.n.now (st.ss.lastUpdate + st.tm.refresh)

/-! ## runs of the state machine -/

inductive CvRun (fuel : Nat) : Nat → St → St → Prop
  | nil (st : St) : CvRun fuel 0 st st
  | cons {k : Nat} {st st1 st2 : St} : fsmStep fuel st = some st1 → CvRun fuel k st1 st2 → CvRun fuel (k + 1) st st2

theorem CvRun.one {fuel : Nat} {st st1 : St} (h : fsmStep fuel st = some st1) : CvRun fuel 1 st st1 :=
  .cons h (.nil _)

/-- the run as a function (the machine is deterministic): the state after `k` iterations, `none` if
    the thread has exited before -/
def cvIter (fuel : Nat) : Nat → St → Option St
  | 0, st => some st
  | k + 1, st => match fsmStep fuel st with
    | some st1 => cvIter fuel k st1
    | none => none

theorem cvIter_iff (fuel : Nat) : ∀ (k : Nat) (st st' : St), cvIter fuel k st = some st' ↔ CvRun fuel k st st' := by
  intro k
  induction k with
  | zero =>
    intro st st'
    constructor
    · intro h
      simp only [cvIter, Option.some.injEq] at h
      subst h
      exact .nil _
    · intro h
      cases h
      rfl
  | succ k ih =>
    intro st st'
    constructor
    · intro h
      simp only [cvIter] at h
      split at h
      · rename_i st1 hs
        exact .cons hs ((ih st1 st').1 h)
      · cases h
    · intro h
      cases h with
      | cons hs r =>
        simp only [cvIter, hs]
        exact (ih _ st').2 r

/-- a run is a `Reach` (RtrProofs/Fsm.lean), so the invariants proved for `Reach` apply -/
theorem CvRun.reach {fuel k : Nat} {st st' : St} (r : CvRun fuel k st st') : Reach fuel st st' := by
  induction r with
  | nil st => exact Reach.refl st
  | cons h _ ih => exact ih.prepend h

theorem CvRun.append {fuel k1 : Nat} {a b : St} (r1 : CvRun fuel k1 a b) :
    ∀ {k2 : Nat} {c : St}, CvRun fuel k2 b c → CvRun fuel (k1 + k2) a c := by
  induction r1 with
  | nil st => intro k2 c r2; rw [Nat.zero_add]; exact r2
  | @cons k _ _ _ h _ ih =>
    intro k2 c r2
    have := CvRun.cons h (ih r2)
    rw [show k + 1 + k2 = k + k2 + 1 from by omega]
    exact this

theorem CvRun.snoc {fuel k : Nat} {st st1 st2 : St} (r : CvRun fuel k st st1) (h : fsmStep fuel st1 = some st2) :
    CvRun fuel (k + 1) st st2 :=
  r.append (.one h)

theorem cv_fsmStep_sync (fuel : Nat) (st st2 : St) (ok : Bool) (g : Option (List Nat × Buffered)) (hs : st.c.state = .sync)
    (e : syncG fuel st = (ok, st2, g)) : fsmStep fuel st = some (if ok then st2.change .established else st2) := by
  rw [fsmStep_eq, hs]
  simp only
  unfold stepSync
  rw [e]

/-! ## the socket without its environment -/

/-- connection part, session part, intervals, tables; `now` is the clock, `opn` says that the next
    `tr_open` is known to succeed -/
structure CvAbs where
  c : Conn
  ss : Sess
  tm : Timers
  t : Tbl
  now : Int
  opn : Bool

def St.abs (st : St) (o : Bool) : CvAbs := ⟨st.c, st.ss, st.tm, st.t, st.n.now, o⟩

/-- the data is older than the expire interval (`cvExpired` at the socket's own clock) -/
def CvAbs.expired (a : CvAbs) : Prop := a.ss.lastUpdate ≠ 0 ∧ a.ss.lastUpdate + a.tm.expire < a.now

instance (a : CvAbs) : Decidable a.expired := by unfold CvAbs.expired; exact inferInstance

theorem CvAbs.expired_iff (a : CvAbs) (st : St) (hss : a.ss = st.ss) (htm : a.tm = st.tm) : a.expired ↔ cvExpired st a.now := by
  unfold CvAbs.expired cvExpired
  rw [hss, htm]

/-- `rtr_purge_outdated_records`.  The two flags are written as disjunctions so that a request for a new
    session made before the purge check is seen without deciding the check. -/
def CvAbs.purge (a : CvAbs) : CvAbs :=
  { a with
    ss :=
      { session := a.ss.session
        serial := if a.expired then 0 else a.ss.serial
        reqSession := a.ss.reqSession || decide a.expired
        lastUpdate := if a.expired then 0 else a.ss.lastUpdate
        isResetting := a.ss.isResetting || decide a.expired }
    t := if a.expired then a.t.purge else a.t }

theorem purgeOutdated_abs (st : St) (o : Bool) :
    purgeOutdated st = { st with ss := (st.abs o).purge.ss, t := (st.abs o).purge.t } := by
  obtain ⟨c, ⟨se, sn, rq, lu, ir⟩, tm, n, t⟩ := st
  unfold purgeOutdated CvAbs.purge CvAbs.expired St.abs
  by_cases h0 : lu = 0
  · simp [h0]
  · by_cases h1 : lu + tm.expire < n.now
    · simp [h0, h1]
    · simp [h0, h1]

theorem CvAbs.purge_keep (a : CvAbs) (h : ¬ a.expired) : a.purge = a := by
  obtain ⟨c, ⟨se, sn, rq, lu, ir⟩, tm, t, now, o⟩ := a
  unfold CvAbs.purge
  simp [h]

theorem CvAbs.purge_req (a : CvAbs) (h : a.ss.reqSession = true ∨ a.expired) : a.purge.ss.reqSession = true := by
  show (a.ss.reqSession || decide a.expired) = true
  rcases h with h | h
  · rw [h, Bool.true_or]
  · rw [decide_eq_true h, Bool.or_true]

def CvAbs.at (a : CvAbs) (s : SState) : CvAbs := { a with c := { a.c with state := s } }

def CvAbs.requestReset (a : CvAbs) : CvAbs := { a with ss := { a.ss with reqSession := true, serial := 0 } }

/-! ## the table -/

/-- the kinds of iteration, each with what the cache sends for it.  `answer` is SYNC on the good
    answer (`pt'`, `kt'`: the tables it leaves); `cacheReset`, `noData`, `wrongSession` are SYNC on the
    three refusals. -/
inductive CvEv where
  | closeFast
  | closeErr
  | connectReset
  | connectSerial
  | sendReset
  | errNoData
  | errNoIncr
  | answer (ver sess serial : Nat) (iv : CvIvals) (items : List CvItem) (pt' : List Rec) (kt' : List KeyRec)
  | cacheReset
  | noData (ever : Nat) (enc text : List Nat)
  | wrongSession (sess' : Nat)

def CvEv.bytes : CvEv → CvAbs → List Nat
  | .answer ver sess serial iv items _ _, _ => cvAnswer ver sess serial iv items
  | .cacheReset, a => cvmCacheReset a.c.version
  | .noData ever enc text, _ => errorPduBytes ever enc 2 text
  | .wrongSession s, a => cvCacheResponse a.c.version s
  | _, _ => []

def CvEv.ok (fuel : Nat) : CvEv → CvAbs → Prop
  | .closeFast, a => a.c.state = .fastReconnect
  | .closeErr, a => a.c.state = .errTransport ∨ a.c.state = .errFatal
  | .connectReset, a => a.c.state = .connecting ∧ a.opn = true ∧ (a.ss.reqSession = true ∨ a.expired)
  | .connectSerial, a => a.c.state = .connecting ∧ a.opn = true ∧ a.ss.reqSession = false ∧ ¬ a.expired
  | .sendReset, a => a.c.state = .reset
  | .errNoData, a => a.c.state = .errNoData
  | .errNoIncr, a => a.c.state = .errNoIncr
  | .answer ver sess serial _ items pt' kt', a =>
    a.c.state = .sync ∧ CvVer a.c ver ∧ ver ≤ 1 ∧ a.t.shadow = none ∧ sess < 65536 ∧ serial < 4294967296 ∧
    (a.ss.reqSession = true ∨ a.ss.session = sess) ∧ (∀ i ∈ items, i.OK) ∧
    lsApplyAll (baseOf a.t (resettingAfter a.ss)).pt (cvPfxOps items) = some pt' ∧
    lsApplyAll (baseOf a.t (resettingAfter a.ss)).kt (cvKeyOps items) = some kt' ∧ items.length < fuel
  | .cacheReset, a => a.c.state = .sync ∧ 0 < fuel
  -- 16: the fixed part of an Error Report (header 8, the two length fields 4 + 4)
  | .noData _ enc text, a => a.c.state = .sync ∧ 0 < fuel ∧ enc.length + text.length + 16 ≤ Gen.RTR_MAX_PDU_LEN
  | .wrongSession s, a => a.c.state = .sync ∧ 0 < fuel ∧ a.ss.reqSession = false ∧ a.ss.session ≠ s ∧ s < 65536

def CvEv.next : CvEv → CvAbs → CvAbs
  | .closeFast, a => a.at .connecting
  | .closeErr, a => { a.at .connecting with now := a.now + a.tm.retry }
  | .connectReset, a => { a.purge with c := { a.c with hasReceived := false, state := .reset }, opn := false }
  | .connectSerial, a => { a with c := { a.c with hasReceived := false, state := .sync }, opn := false }
  | .sendReset, a => a.at .sync
  | .errNoData, a => ({ a.requestReset.at .reset with now := a.now + a.tm.retry } : CvAbs).purge
  | .errNoIncr, a => (a.requestReset.at .reset).purge
  | .answer ver sess serial iv _ pt' kt', a =>
    { a with
      c := { a.c with version := ver, hasReceived := true, state := .established }
      ss := { session := sess, serial := serial, reqSession := false, lastUpdate := a.now, isResetting := false }
      tm := applyEodIntervals a.tm (cvEndOfData ver sess serial iv)
      t := ⟨pt', kt', none⟩ }
  | .cacheReset, a => { a with c := { a.c with hasReceived := true, state := .errNoIncr } }
  | .noData _ _ _, a => { a with c := { a.c with hasReceived := true, state := .errNoData } }
  | .wrongSession _, a => { a with c := { a.c with hasReceived := true, state := .errFatal } }

/-- `st` is the socket `a` in a good environment; the next `tr_open` is known to succeed only if `a.opn` says so -/
structure CvRep (st : St) (a : CvAbs) (bytes : List Nat) : Prop where
  abs : st.abs a.opn = a
  tape : CvTape st.n bytes
  send : NoFail st.n.sendQ
  opn : a.opn = true → CvOpenOK st.n.openQ

theorem CvRep.of_st (st : St) (o : Bool) (bytes : List Nat) (ht : CvTape st.n bytes) (hq : NoFail st.n.sendQ)
    (ho : o = true → CvOpenOK st.n.openQ) : CvRep st (st.abs o) bytes :=
  ⟨rfl, ht, hq, ho⟩

section
variable {st : St} {a : CvAbs} {bytes : List Nat} (r : CvRep st a bytes)
include r

theorem CvRep.c : st.c = a.c := congrArg CvAbs.c r.abs
theorem CvRep.ss : st.ss = a.ss := congrArg CvAbs.ss r.abs
theorem CvRep.tm : st.tm = a.tm := congrArg CvAbs.tm r.abs
theorem CvRep.t : st.t = a.t := congrArg CvAbs.t r.abs
theorem CvRep.now : st.n.now = a.now := congrArg CvAbs.now r.abs

end

/-! ## the steps an iteration is made of

  `CvAt n0 st a`: `st` is the socket `a` in an environment that `n0` has become by trace output, successful
  sends, sleeps and — once `a.opn` is false — an `open`: same tape, same kind of run, the send script lost
  entries.  Each step of the model that does not receive has its counterpart on `CvAbs` (`CvAbs.at`,
  `.purge`, `.requestReset`, a later clock), and an iteration is a composition of them, as its row of
  `CvEv.next` is; an iteration that receives starts a new stretch behind what it received (`CvAt.start`). -/

structure CvAt (n0 : Net) (st : St) (a : CvAbs) : Prop where
  abs : st.abs a.opn = a
  net : ∃ d, CvNet d n0 st.n
  opn : a.opn = true → CvOpenOK st.n.openQ

/-- `st`, read at clock `w`, in its own environment -/
theorem CvAt.start (st : St) (o : Bool) (w : Int) (hw : st.n.now = w) (ho : o = true → CvOpenOK st.n.openQ) :
    CvAt st.n st { st.abs o with now := w } :=
  ⟨by rw [← hw]; rfl, ⟨0, CvNet.refl _⟩, ho⟩

section steps
variable {n0 : Net} {st : St} {a : CvAbs}

theorem CvAt.c (h : CvAt n0 st a) : st.c = a.c := congrArg CvAbs.c h.abs
theorem CvAt.ss (h : CvAt n0 st a) : st.ss = a.ss := congrArg CvAbs.ss h.abs
theorem CvAt.tm (h : CvAt n0 st a) : st.tm = a.tm := congrArg CvAbs.tm h.abs
theorem CvAt.t (h : CvAt n0 st a) : st.t = a.t := congrArg CvAbs.t h.abs
theorem CvAt.now (h : CvAt n0 st a) : st.n.now = a.now := congrArg CvAbs.now h.abs

theorem CvAt.net_eq (h : CvAt n0 st a) {d : Nat} (hnow : a.now = n0.now + d) : CvNet d n0 st.n := by
  obtain ⟨d', m⟩ := h.net
  have e := h.now
  have : d' = d := by
    have := m.now
    omega
  rw [← this]
  exact m

theorem CvAt.cvTape (h : CvAt n0 st a) {bytes : List Nat} (ht : CvTape n0 bytes) : CvTape st.n bytes :=
  h.net.elim fun _ m => m.cvTape ht

theorem CvAt.noFail (h : CvAt n0 st a) (hq : NoFail n0.sendQ) : NoFail st.n.sendQ :=
  h.net.elim fun _ m => m.noFail hq

theorem CvAt.rep (h : CvAt n0 st a) {bytes : List Nat} (ht : CvTape n0 bytes) (hq : NoFail n0.sendQ) : CvRep st a bytes :=
  ⟨h.abs, h.cvTape ht, h.noFail hq, h.opn⟩

/-- a step that leaves the socket `a'` in an environment `d` seconds later; the open script may only change
    when `a'` does not rely on it -/
theorem CvAt.step {st' : St} {a' : CvAbs} (h : CvAt n0 st a) {d : Nat} (m : CvNet d st.n st'.n) (habs : st'.abs a'.opn = a')
    (ho : a'.opn = true → a.opn = true ∧ st'.n.openQ = st.n.openQ) : CvAt n0 st' a' := by
  obtain ⟨d0, m0⟩ := h.net
  refine ⟨habs, ⟨d0 + d, m0.trans m⟩, fun o => ?_⟩
  rw [(ho o).2]
  exact h.opn (ho o).1

theorem CvAt.env (h : CvAt n0 st a) {n' : Net} (m : CvNet 0 st.n n') (ho : n'.openQ = st.n.openQ) :
    CvAt n0 { st with n := n' } a := by
  refine h.step m ?_ (fun o => ⟨o, ho⟩)
  rw [← h.abs]
  -- unfolds `St.abs`, so that `n'.now` stands in the goal for the rewrite
  show (⟨_, _, _, _, n'.now, _⟩ : CvAbs) = ⟨_, _, _, _, st.n.now, _⟩
  rw [m.now, Int.natCast_zero, Int.add_zero]
  rfl

theorem alive_of {s x : SState} (h : s = x) (hx : x ≠ .shutdown) : s ≠ .shutdown := h ▸ hx

theorem CvAt.change (h : CvAt n0 st a) (s : SState) (hs : a.c.state ≠ .shutdown) : CvAt n0 (st.change s) (a.at s) := by
  have hs' : st.c.state ≠ .shutdown := by rw [h.c]; exact hs
  obtain ⟨e, m⟩ := cv_change st s hs'
  have h1 := h.env m (change_script st s).2.2
  rw [e]
  exact h1.step (CvNet.refl _) (by rw [← h1.abs]; rfl) (fun o => ⟨o, rfl⟩)

theorem CvAt.sleep (h : CvAt n0 st a) (k : Nat) : CvAt n0 (doSleep st k) { a with now := a.now + k } :=
  h.step (d := k) ⟨rfl, rfl, rfl, ⟨0, rfl⟩⟩ (by rw [← h.abs]; rfl) (fun o => ⟨o, rfl⟩)

theorem CvAt.sleepRetry (h : CvAt n0 st a) : CvAt n0 (doSleep st st.tm.retry) { a with now := a.now + a.tm.retry } := by
  rw [h.tm]
  exact h.sleep _

theorem CvAt.close (h : CvAt n0 st a) : CvAt n0 (trClose st) a :=
  h.env (.of_eq rfl rfl rfl rfl) rfl

theorem CvAt.purge (h : CvAt n0 st a) : CvAt n0 (purgeOutdated st) a.purge :=
  h.step (by rw [purgeOutdated_n]; exact CvNet.refl _) (by rw [purgeOutdated_abs st a.opn, ← h.abs]; rfl)
    (fun o => ⟨o, by rw [purgeOutdated_n]⟩)

theorem CvAt.requestReset (h : CvAt n0 st a) : CvAt n0 (requestReset st) a.requestReset :=
  h.step (CvNet.refl _) (by rw [← h.abs]; rfl) (fun o => ⟨o, rfl⟩)

theorem CvAt.clearReceived (h : CvAt n0 st a) : CvAt n0 (clearReceived st) { a with c := { a.c with hasReceived := false } } :=
  h.step (CvNet.refl _) (by rw [← h.abs]; rfl) (fun o => ⟨o, rfl⟩)

theorem cv_openOK_head {q : List Int} (h : CvOpenOK q) : q.headD 0 ≠ -1 := by
  cases q with
  | nil => decide
  | cons x q => exact h x rfl

theorem CvAt.open (h : CvAt n0 st a) (ho : a.opn = true) : (trOpen st).1 ≠ -1 ∧ CvAt n0 (trOpen st).2 { a with opn := false } := by
  obtain ⟨tr, e⟩ := trOpen_eq st
  rw [e]
  exact ⟨cv_openOK_head (h.opn ho),
    h.step (.of_eq rfl rfl rfl rfl) (by rw [← h.abs]; rfl) (fun o => nomatch o)⟩

theorem CvAt.query (h : CvAt n0 st a) (bytes : List Nat) (hs : a.c.state ≠ .shutdown) (hq : NoFail n0.sendQ) (hb : bytes ≠ []) :
    ∃ n', sendQuery st bytes = (true, { st with n := n' }) ∧ CvAt n0 { st with n := n' } a := by
  obtain ⟨n', e, m, o⟩ := cv_sendQuery_ok st bytes (by rw [h.c]; exact hs) (h.noFail hq) hb
  exact ⟨n', e, h.env m o⟩

/-- an Error Report, whatever becomes of it -/
theorem CvAt.report (h : CvAt n0 st a) (raw : List Nat) (k code : Nat) (text : List Nat) :
    CvAt n0 { st with n := (sendErrorFromHost st.c st.n raw k code text).2 } a :=
  h.env (sendErrorFromHost_rel cvNet0_emitRel st.c st.n raw k code text)
    (sendErrorFromHost_rel cvmOpenSame_emitRel st.c st.n raw k code text)

end steps


/-! ## the iterations that do not receive -/

/-- the iterations in SYNC: the ones that take something from the tape -/
def CvEv.receives : CvEv → Bool
  | .answer .. | .cacheReset | .noData .. | .wrongSession _ => true
  | _ => false

/-- the rows that do not receive, whatever the tape holds -/
theorem cv_ev_quiet (fuel : Nat) (e : CvEv) {n0 : Net} {st : St} {a : CvAbs} (h : CvAt n0 st a) (hq : NoFail n0.sendQ)
    (he : e.receives = false) (ok : e.ok fuel a) : ∃ st', fsmStep fuel st = some st' ∧ CvAt n0 st' (e.next a) := by
  have hc := h.c
  cases e with
  | closeFast =>
    have hs : st.c.state = .fastReconnect := by rw [hc]; exact ok
    exact ⟨_, by rw [fsmStep_eq, hs], h.close.change .connecting (alive_of ok (by decide))⟩
  | closeErr =>
    have hstep : fsmStep fuel st = some (stepErrClose st) := by
      rcases ok with ok | ok <;> rw [fsmStep_eq, hc, ok]
    exact ⟨_, hstep, (h.close.change .connecting (by rcases ok with ok | ok <;> rw [ok] <;> decide)).sleepRetry⟩
  | connectReset =>
    have hs : st.c.state = .connecting := by rw [hc]; exact ok.1
    obtain ⟨ho, h1⟩ := h.clearReceived.purge.open ok.2.1
    have hr : (trOpen st.atOpen).2.ss.reqSession = true := by
      rw [h1.ss]
      exact a.purge_req ok.2.2
    refine ⟨_, by rw [fsmStep_eq, hs], ?_⟩
    show CvAt n0 (stepConnecting st) _
    rw [stepConnecting_eq, stepConnected_reset _ _ hr, if_neg ho]
    exact h1.change .reset (alive_of ok.1 (by decide))
  | connectSerial =>
    have hs : st.c.state = .connecting := by rw [hc]; exact ok.1
    have h0 := h.clearReceived.purge
    rw [CvAbs.purge_keep { a with c := { a.c with hasReceived := false } } ok.2.2.2] at h0
    obtain ⟨ho, h1⟩ := h0.open ok.2.1
    obtain ⟨n2, e2, h2⟩ := h1.query (serialQueryBytes (trOpen st.atOpen).2.c.version (trOpen st.atOpen).2.ss.session
      (trOpen st.atOpen).2.ss.serial) (alive_of ok.1 (by decide)) hq (serialQueryBytes_ne _ _ _)
    have hr : ¬ (trOpen st.atOpen).2.ss.reqSession = true := by
      rw [h1.ss, show a.ss.reqSession = false from ok.2.2.1]
      decide
    refine ⟨_, by rw [fsmStep_eq, hs], ?_⟩
    show CvAt n0 (stepConnecting st) _
    rw [stepConnecting_eq]
    unfold stepConnected
    rw [if_neg ho, if_neg hr, sendSerialQuery_eq, e2]
    exact h2.change .sync (alive_of ok.1 (by decide))
  | sendReset =>
    have hs : st.c.state = .reset := by rw [hc]; exact ok
    obtain ⟨n2, e2, h2⟩ := h.query (resetQueryBytes st.c.version) (alive_of ok (by decide)) hq (resetQueryBytes_ne _)
    refine ⟨_, by rw [fsmStep_eq, hs], ?_⟩
    show CvAt n0 (stepReset st) _
    rw [stepReset_eq, sendResetQuery_eq, e2]
    exact h2.change .sync (alive_of ok (by decide))
  | errNoData =>
    have hs : st.c.state = .errNoData := by rw [hc]; exact ok
    exact ⟨_, by rw [fsmStep_eq, hs]; rfl, (h.requestReset.change .reset (alive_of ok (by decide))).sleepRetry.purge⟩
  | errNoIncr =>
    have hs : st.c.state = .errNoIncr := by rw [hc]; exact ok
    exact ⟨_, by rw [fsmStep_eq, hs]; rfl, (h.requestReset.change .reset (alive_of ok (by decide))).purge⟩
  | _ => cases he

/-! ## the iterations that receive -/

theorem CvRecvd.openOK {n n1 : Net} (s1 : CvRecvd n n1) {o : Bool} (ho : o = true → CvOpenOK n.openQ) :
    o = true → CvOpenOK n1.openQ :=
  fun h => by rw [s1.openQ]; exact ho h

/-- the rows in SYNC.  Nothing is asked of the send script (an Error Report may fail) -/
theorem cv_ev_recv (fuel : Nat) (e : CvEv) (st : St) (o : Bool) (rest : List Nat) (ht : CvTape st.n (e.bytes (st.abs o) ++ rest))
    (ho : o = true → CvOpenOK st.n.openQ) (he : e.receives = true) (ok : e.ok fuel (st.abs o)) :
    ∃ n1 st', fsmStep fuel st = some st' ∧ CvTape n1 rest ∧ CvRecvd st.n n1 ∧ CvAt n1 st' (e.next (st.abs o)) := by
  cases e with
  | answer ver sess serial iv items pt' kt' =>
    obtain ⟨hs, hver, hv, htb, hsess, hserial, hq, hok, hp, hk, hfuel⟩ := ok
    have hs0 : st.c.state ≠ .shutdown := alive_of hs (by decide)
    obtain ⟨n1, g, t1, s1, e⟩ := cv_sync_items_exact fuel st ver sess serial iv items rest pt' kt' hfuel hs0 hver hv htb hsess hq hok
      hp hk ht
    have h1 := (CvAt.start (cvSynced st ver sess (cvEndOfData ver sess serial iv) pt' kt' n1) o st.n.now s1.now
      (s1.openOK ho)).change .established hs0
    unfold cvSynced at e h1
    rw [cv_endOfData_serial ver sess serial iv hserial] at e h1
    exact ⟨n1, _, cv_fsmStep_sync fuel st _ true (some g) hs e, t1, s1, h1⟩
  | cacheReset =>
    have hs0 : st.c.state ≠ .shutdown := alive_of ok.1 (by decide)
    obtain ⟨w, ty⟩ := cvm_cacheReset_wire st.c.version
    obtain ⟨n1, e1, t1, s1⟩ := cv_syncFirst_own fuel st (cvmCacheReset st.c.version) rest ok.2 hs0 ht w.len w.size w.max
      (Or.inl w.ver) (by rw [ty]; decide)
    refine ⟨n1, _, cv_fsmStep_sync fuel st _ false none ok.1 ?_, t1, s1,
      (CvAt.start { st with c := { st.c with hasReceived := true }, n := n1 } o st.n.now s1.now
        (s1.openOK ho)).change .errNoIncr hs0⟩
    unfold syncG
    rw [e1]
    simp only [ty]
    rfl
  | noData ever enc text =>
    have hs0 : st.c.state ≠ .shutdown := alive_of ok.1 (by decide)
    have hsz : enc.length + text.length + 16 ≤ Gen.RTR_MAX_PDU_LEN := ok.2.2
    obtain ⟨ty, hcode, _, _, _, _, hlen, hsize⟩ := errorPdu_fields ever enc 2 text hsz
    have hl : lenOf (errorPduBytes ever enc 2 text) = (errorPduBytes ever enc 2 text).length :=
      (errorPdu_wf ever enc 2 text hsz).2.2.1
    obtain ⟨n1, e1, t1, s1⟩ := cv_syncFirst_own fuel st (errorPduBytes ever enc 2 text) rest ok.2.1 hs0 ht hl.symm hsize
      (by rw [hl, hlen]; omega) (Or.inr ty) (by rw [ty]; decide)
    refine ⟨n1, _, cv_fsmStep_sync fuel st _ false none ok.1 ?_, t1, s1,
      (CvAt.start { st with c := { st.c with hasReceived := true }, n := n1 } o st.n.now s1.now
        (s1.openOK ho)).change .errNoData hs0⟩
    unfold syncG
    rw [e1]
    simp only [ty]
    rw [handleErrorPdu_eq]
    unfold errPduExit
    rw [if_pos (hcode (by decide))]
    rfl
  | wrongSession s =>
    have hs0 : st.c.state ≠ .shutdown := alive_of ok.1 (by decide)
    obtain ⟨w, ty⟩ := cv_cacheResponse_wire st.c.version s
    obtain ⟨n1, e1, t1, s1⟩ := cv_syncFirst_own fuel st (cvCacheResponse st.c.version s) rest ok.2.1 hs0 ht w.len w.size w.max
      (Or.inl w.ver) (by rw [ty]; decide)
    refine ⟨n1, _, cv_fsmStep_sync fuel st _ false none ok.1 ?_, t1, s1,
      ((CvAt.start { st with c := { st.c with hasReceived := true }, n := n1 } o st.n.now s1.now
        (s1.openOK ho)).report [] 0 0 txtWrongSession).change .errFatal hs0⟩
    have hh : handleCacheResponse ({ st.c with hasReceived := true } : Conn) st.ss n1 st.t.own (cvCacheResponse st.c.version s) =
        (false, (changeState ({ st.c with hasReceived := true } : Conn)
          (sendErrorFromHost ({ st.c with hasReceived := true } : Conn) n1 [] 0 0 txtWrongSession).2 st.t.own .errFatal).1, st.ss,
         (changeState ({ st.c with hasReceived := true } : Conn)
          (sendErrorFromHost ({ st.c with hasReceived := true } : Conn) n1 [] 0 0 txtWrongSession).2 st.t.own .errFatal).2) := by
      rw [handleCacheResponse_eq, cv_cacheResponse_session st.c.version s ok.2.2.2.2, if_pos ⟨ok.2.2.1, ok.2.2.2.1⟩, refuse_fatal]
      rfl
    unfold syncG
    rw [e1]
    simp only [ty]
    rw [hh]
    rfl
  | _ => cases he

theorem CvRep.at {st : St} {a : CvAbs} {bytes : List Nat} (r : CvRep st a bytes) : CvAt st.n st a :=
  ⟨r.abs, ⟨0, CvNet.refl _⟩, r.opn⟩

/-- **the state machine follows the table** -/
theorem cv_ev_step (fuel : Nat) (e : CvEv) {st : St} {a : CvAbs} {rest : List Nat}
    (r : CvRep st a (e.bytes a ++ rest)) (ok : e.ok fuel a) :
    ∃ st', fsmStep fuel st = some st' ∧ CvRep st' (e.next a) rest := by
  cases he : e.receives with
  | false =>
    have hb : e.bytes a = [] := by
      cases e <;> first | rfl | cases he
    rw [hb] at r
    obtain ⟨st', hs, h'⟩ := cv_ev_quiet fuel e r.at r.send he ok
    exact ⟨st', hs, h'.rep r.tape r.send⟩
  | true =>
    -- `a` has to be a constructor term before `st.abs ao = a` can be eliminated: its fields become those of `st`
    obtain ⟨ac, ass, atm, at', anow, ao⟩ := a
    cases r.abs
    obtain ⟨n1, st', hs, t1, s1, h'⟩ := cv_ev_recv fuel e st ao rest r.tape r.opn he ok
    exact ⟨st', hs, h'.rep t1 (by rw [s1.sendQ]; exact r.send)⟩

/-! ## the wait in ESTABLISHED -/

theorem cv_iter_polled (fuel : Nat) (st st2 : St) {n2 : Net} {a2 : CvAbs} (hs : st.c.state = .established)
    (hw : waitForSync st = (true, st2)) (h : CvAt n2 st2 a2) (hc : a2.c.state = .established) (hq : NoFail n2.sendQ) :
    ∃ st', fsmStep fuel st = some st' ∧ CvAt n2 st' (a2.at .sync) := by
  obtain ⟨n3, e3, h3⟩ := h.query (serialQueryBytes st2.c.version st2.ss.session st2.ss.serial) (alive_of hc (by decide)) hq
    (serialQueryBytes_ne _ _ _)
  refine ⟨_, by rw [fsmStep_eq, hs], ?_⟩
  show CvAt n2 (stepEstablished st) _
  rw [stepEstablished_eq, hw]
  simp only [if_true]
  unfold thenSync
  rw [sendSerialQuery_eq, e3]
  exact h3.change .sync (alive_of hc (by decide))

/-- a Serial Notify arrives: Serial Query, SYNC, no time passes.  (The model — like the C code in
    `rtr_wait_for_sync` — looks only at the PDU type, not at the session or serial of the notification.) -/
theorem cv_iter_notify (fuel : Nat) (st : St) (o : Bool) (sess sn : Nat) (rest : List Nat) (hs : st.c.state = .established)
    (hq : NoFail st.n.sendQ) (ho : o = true → CvOpenOK st.n.openQ)
    (ht : CvTape st.n (cvmSerialNotify st.c.version sess sn ++ rest)) :
    ∃ st', fsmStep fuel st = some st' ∧
      CvRep st' ⟨{ st.c with hasReceived := true, state := .sync }, st.ss, st.tm, st.t, st.n.now, o⟩ rest := by
  obtain ⟨w, ty⟩ := cvm_serialNotify_wire st.c.version sess sn
  have hd : downgraded st.c (cvmSerialNotify st.c.version sess sn) = { st.c with hasReceived := true } :=
    downgraded_same st.c _ w.ver
  obtain ⟨n1, r1, t1, s1⟩ := cv_receivePdu_wire st.c st.n st.t.own (waitTimeout st) _ _ rest (alive_of hs (by decide)) ht w
    (by rw [hd])
  rw [hd] at r1
  have hw : waitForSync st = (true, { st with c := { st.c with hasReceived := true }, n := n1 }) := by
    rw [waitForSync_eq, r1]
    simp [ty]
  have hq1 : NoFail n1.sendQ := by rw [s1.sendQ]; exact hq
  obtain ⟨st', h, h'⟩ := cv_iter_polled fuel st _ hs hw (CvAt.start _ o st.n.now s1.now (s1.openOK ho)) hs hq1
  exact ⟨st', h, h'.rep t1 hq1⟩

theorem cvmDeadline_eq (st : St) : cvmDeadline st = st.n.now + waitTimeout st ∧ 0 ≤ waitTimeout st := by
  unfold waitTimeout cvmDeadline
  split <;> omega

/-- the refresh timer expires: the next event of the script is a timeout of the transport -/
theorem cv_iter_timeout (fuel : Nat) (st : St) (o : Bool) (tp : List TapeEv) (rest : List Nat) (hs : st.c.state = .established)
    (hq : NoFail st.n.sendQ) (ho : o = true → CvOpenOK st.n.openQ) (htp : st.n.tape = .block :: tp) (hff : FaultFree tp)
    (hb : tapeBytes tp = rest) :
    ∃ st', fsmStep fuel st = some st' ∧ CvRep st' ⟨{ st.c with state := .sync }, st.ss, st.tm, st.t, cvmDeadline st, o⟩ rest := by
  obtain ⟨n1, r1, h1, h2, h3, h4⟩ := cvm_receivePdu_block st.c st.n st.t.own (waitTimeout st) tp (alive_of hs (by decide)) htp
  have hw : waitForSync st = (true, { st with c := st.c, n := n1 }) := by
    rw [waitForSync_eq, r1]
    simp
  have hnow : n1.now = cvmDeadline st := by
    rw [h2, (cvmDeadline_eq st).1]
    have := (cvmDeadline_eq st).2
    split <;> omega
  have hq1 : NoFail n1.sendQ := by rw [h3]; exact hq
  obtain ⟨st', h, h'⟩ := cv_iter_polled fuel st _ hs hw (CvAt.start _ o (cvmDeadline st) hnow (fun h => by rw [h4]; exact ho h)) hs hq1
  exact ⟨st', h, h'.rep ⟨by rw [h1]; exact hff, by rw [h1]; exact hb⟩ hq1⟩

/-! ## paths -/

def cvPath : List CvEv → CvAbs → CvAbs
  | [], a => a
  | e :: es, a => cvPath es (e.next a)

def cvPathBytes : List CvEv → CvAbs → List Nat → List Nat
  | [], _, rest => rest
  | e :: es, a, rest => e.bytes a ++ cvPathBytes es (e.next a) rest

def cvPathOk (fuel : Nat) : List CvEv → CvAbs → Prop
  | [], _ => True
  | e :: es, a => e.ok fuel a ∧ cvPathOk fuel es (e.next a)

/-- **a list of iterations is a run** -/
theorem cv_path (fuel : Nat) : ∀ (es : List CvEv) {st : St} {a : CvAbs} {rest : List Nat},
    CvRep st a (cvPathBytes es a rest) → cvPathOk fuel es a →
    ∃ st', CvRun fuel es.length st st' ∧ CvRep st' (cvPath es a) rest := by
  intro es
  induction es with
  | nil => intro st a rest r _; exact ⟨st, .nil st, r⟩
  | cons e es ih =>
    intro st a rest r ok
    obtain ⟨st1, h1, r2⟩ := cv_ev_step fuel e r ok.1
    obtain ⟨st', run, r3⟩ := ih r2 ok.2
    exact ⟨st', .cons h1 run, r3⟩

/-- what every iteration but the successful synchronisation keeps -/
structure CvKeeps (a b : CvAbs) : Prop where
  ver : b.c.version = a.c.version
  tm : b.tm = a.tm
  req : a.ss.reqSession = true → b.ss.reqSession = true
  tblok : TblOK a.t → TblOK b.t
  others : OthersSame a.t b.t
  inv : (a.ss.lastUpdate = 0 → NoOwn a.t) → (b.ss.lastUpdate = 0 → NoOwn b.t)

theorem CvKeeps.refl (a : CvAbs) : CvKeeps a a := ⟨rfl, rfl, id, id, OthersSame.refl _, id⟩

theorem CvKeeps.trans {a b c : CvAbs} (h1 : CvKeeps a b) (h2 : CvKeeps b c) : CvKeeps a c :=
  ⟨h2.ver.trans h1.ver, h2.tm.trans h1.tm, fun h => h2.req (h1.req h), fun h => h2.tblok (h1.tblok h),
   h1.others.trans h2.others, fun h => h2.inv (h1.inv h)⟩

theorem CvRep.keeps {st : St} {a : CvAbs} {bytes : List Nat} (r : CvRep st a bytes) (o : Bool) : CvKeeps (st.abs o) a :=
  ⟨congrArg Conn.version r.c.symm, r.tm.symm, fun h => by rw [← r.ss]; exact h, fun h => by rw [← r.t]; exact h,
   by rw [← r.t]; exact OthersSame.refl _,
   fun h h0 => by rw [← r.t]; exact h (by show st.ss.lastUpdate = 0; rw [r.ss]; exact h0)⟩

theorem CvKeeps.purge (a : CvAbs) : CvKeeps a a.purge := by
  by_cases h : a.expired
  · have et : a.purge.t = a.t.purge := if_pos h
    have pn := purge_noOwn a.t
    exact ⟨rfl, rfl, fun h => a.purge_req (Or.inl h), et ▸ pn.2.2, et ▸ pn.2.1, fun _ _ => et ▸ pn.1⟩
  · rw [a.purge_keep h]
    exact .refl a

def CvEv.isAnswer : CvEv → Bool
  | .answer .. => true
  | _ => false

theorem CvEv.keeps (e : CvEv) (a : CvAbs) (h : e.isAnswer = false) : CvKeeps a (e.next a) := by
  cases e with
  | answer ver sess serial iv items pt' kt' => cases h
  | connectReset =>
    have k := CvKeeps.purge a
    exact ⟨k.ver, k.tm, k.req, k.tblok, k.others, k.inv⟩
  | errNoData =>
    have k := CvKeeps.purge ({ a.requestReset.at .reset with now := a.now + a.tm.retry } : CvAbs)
    exact ⟨k.ver, k.tm, fun _ => k.req rfl, k.tblok, k.others, k.inv⟩
  | errNoIncr =>
    have k := CvKeeps.purge (a.requestReset.at .reset)
    exact ⟨k.ver, k.tm, fun _ => k.req rfl, k.tblok, k.others, k.inv⟩
  | _ => exact ⟨rfl, rfl, id, id, OthersSame.refl _, id⟩

theorem cvPath_keeps : ∀ (es : List CvEv) (a : CvAbs), (es.all fun e => !e.isAnswer) = true → CvKeeps a (cvPath es a) := by
  intro es
  induction es with
  | nil => intro a _; exact CvKeeps.refl a
  | cons e es ih =>
    intro a h
    rw [List.all_cons, Bool.and_eq_true] at h
    exact (e.keeps a (by simpa using h.1)).trans (ih _ h.2)

/-! ## the clock of a path, the request a purge check leaves -/

def CvEv.sleeps : CvEv → Bool
  | .closeErr => true
  | .errNoData => true
  | _ => false

/-- the seconds a list of iterations sleeps when the retry interval is `r`.  Written so that for a list
    given by its elements it evaluates to `0`, `r + 0`, `r + (r + 0)`, … -/
def cvSleep : List CvEv → Nat → Nat
  | [], _ => 0
  | e :: es, r => if e.sleeps then r + cvSleep es r else cvSleep es r

/-- only the retry sleeps move the clock: an exchange takes no time in a good environment -/
theorem cvPath_now : ∀ (es : List CvEv) (a : CvAbs), (es.all fun e => !e.isAnswer) = true →
    (cvPath es a).now = a.now + cvSleep es a.tm.retry := by
  intro es
  induction es with
  | nil => intro a _; exact (Int.add_zero _).symm
  | cons e es ih =>
    intro a h
    rw [List.all_cons, Bool.and_eq_true] at h
    have hq : e.isAnswer = false := by simpa using h.1
    have e1 : (e.next a).now = a.now + (if e.sleeps then a.tm.retry else 0 : Nat) := by
      cases e with
      | answer ver sess serial iv items pt' kt' => cases hq
      | closeErr => rfl
      | errNoData => rfl
      | _ => exact (Int.add_zero _).symm
    show (cvPath es (e.next a)).now = _
    rw [ih _ h.2, (e.keeps a hq).tm, e1]
    show _ = a.now + ((if e.sleeps then a.tm.retry + cvSleep es a.tm.retry else cvSleep es a.tm.retry : Nat) : Int)
    by_cases hsl : e.sleeps = true
    · rw [if_pos hsl, if_pos hsl, Int.natCast_add, Int.add_assoc]
    · rw [if_neg hsl, if_neg hsl, Int.natCast_zero, Int.add_zero]

/-- the request is the socket's own, or the one the purge check makes.  `a` has the session part and intervals of
    `st`, so the expiry is `cvExpired st` at the clock of `a`. -/
theorem cv_connectReset_req (a : CvAbs) (st : St) (hss : a.ss = st.ss) (htm : a.tm = st.tm)
    (h : st.ss.reqSession = true ∨ cvExpired st a.now) : (CvEv.connectReset.next a).ss.reqSession = true :=
  a.purge_req (h.imp (fun hr => by rw [hss]; exact hr) (a.expired_iff st hss htm).2)

end Rtr.P
