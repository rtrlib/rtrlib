/-
  SyncAtomic: the whole of `rtr_sync` (model `syncG`) is atomic with respect to the tables and
  the session state: on success the buffered PDUs have been applied in order, on failure the
  tables are as before (with the same next query) or this socket's records are gone and a new
  session is requested.  Records of other sockets are never touched.
-/
import RtrProofs.SyncTables
import RtrProofs.FsmLift

namespace Rtr.P

/-! ## the table part on the live tables -/

/-- the tables the buffered PDUs are applied to: the live ones, or (reload) a copy without this
    socket's records -/
def baseOf (t : Tbl) (resetting : Bool) : Upd :=
  if resetting then ⟨ptSrcRemove t.pt 0, ktSrcRemove t.kt 0⟩ else ⟨t.pt, t.kt⟩

/-- `src` 0: this socket -/
def NoOwn (t : Tbl) : Prop := (∀ x ∈ t.pt, x.src ≠ 0) ∧ (∀ x ∈ t.kt, x.src ≠ 0)

def OthersSame (t t' : Tbl) : Prop :=
  (∀ x : Rec, x.src ≠ 0 → (x ∈ t'.pt ↔ x ∈ t.pt)) ∧ (∀ x : KeyRec, x.src ≠ 0 → (x ∈ t'.kt ↔ x ∈ t.kt))

def TblSame (t t' : Tbl) : Prop := SameSet t'.pt t.pt ∧ SameSet t'.kt t.kt

/-- tables between synchronisations: no shadow tables, no duplicates -/
def TblOK (t : Tbl) : Prop := t.shadow = none ∧ t.pt.Nodup ∧ t.kt.Nodup

/-- `applyTables` is all or nothing: applied completely (`success`), or the records from before
    (`restored`), or none of this socket's records (`purged`); other sockets' records are untouched -/
structure TablesAtomic (t : Tbl) (resetting : Bool) (v4 v6 keys : List (List Nat)) (r : ApplyRes) : Prop where
  nodup : r.t.pt.Nodup ∧ r.t.kt.Nodup
  others : OthersSame t r.t
  success : r.ok = true → r.t.shadow = none ∧
    lsApplyAll (baseOf t resetting).pt ((v4 ++ v6).map pfxOp) = some r.t.pt ∧
    lsApplyAll (baseOf t resetting).kt (keys.map keyOp) = some r.t.kt ∧
    (∀ p ∈ v4 ++ v6, pfxOK p) ∧ (∀ p ∈ keys, keyOK p)
  restored : r.ok = false → r.purged = false → TblSame t r.t
  purged : r.ok = false → r.purged = true → NoOwn r.t

theorem mem_ptSrcRemove (l : List Rec) (x : Rec) : x ∈ ptSrcRemove l 0 ↔ x ∈ l ∧ x.src ≠ 0 := by
  simp [ptSrcRemove]
theorem mem_ktSrcRemove (l : List KeyRec) (x : KeyRec) : x ∈ ktSrcRemove l 0 ↔ x ∈ l ∧ x.src ≠ 0 := by
  simp [ktSrcRemove]

theorem OthersSame.refl (t : Tbl) : OthersSame t t := ⟨fun _ _ => Iff.rfl, fun _ _ => Iff.rfl⟩
theorem TblSame.refl (t : Tbl) : TblSame t t := ⟨SameSet.refl _, SameSet.refl _⟩

theorem OthersSame.trans {a b c : Tbl} (h1 : OthersSame a b) (h2 : OthersSame b c) : OthersSame a c :=
  ⟨fun x hx => (h2.1 x hx).trans (h1.1 x hx), fun x hx => (h2.2 x hx).trans (h1.2 x hx)⟩

theorem purge_noOwn (t : Tbl) : NoOwn t.purge ∧ OthersSame t t.purge ∧ (TblOK t → TblOK t.purge) := by
  refine ⟨⟨fun x hx => ((mem_ptSrcRemove _ x).1 hx).2, fun x hx => ((mem_ktSrcRemove _ x).1 hx).2⟩,
    ⟨fun x hx => by simp [Tbl.purge, mem_ptSrcRemove, hx], fun x hx => by simp [Tbl.purge, mem_ktSrcRemove, hx]⟩, ?_⟩
  intro ⟨h1, h2, h3⟩
  exact ⟨h1, h2.sublist List.filter_sublist, h3.sublist List.filter_sublist⟩

theorem startTbl_upd (t : Tbl) (resetting : Bool) (hs : t.shadow = none) : (startTbl t resetting).upd = baseOf t resetting := by
  unfold startTbl baseOf Tbl.upd
  cases resetting
  · simp [hs]
  · simp

/-- what an update in place and a reload onto shadow tables have in common -/
theorem work_tables (t : Tbl) (resetting : Bool) (ht : TblOK t) :
    (baseOf t resetting).pt.Nodup ∧ (baseOf t resetting).kt.Nodup ∧
    ∀ u, Pres (baseOf t resetting) u →
      OthersSame t ⟨u.pt, u.kt, none⟩ ∧
      ((startTbl t resetting).setUpd u).pt.Nodup ∧ ((startTbl t resetting).setUpd u).kt.Nodup ∧
      OthersSame t ((startTbl t resetting).setUpd u) ∧
      (SameSet u.pt (baseOf t resetting).pt → SameSet u.kt (baseOf t resetting).kt →
        TblSame t ((startTbl t resetting).setUpd u)) := by
  obtain ⟨hs, hp, hk⟩ := ht
  obtain ⟨pt, kt, sh⟩ := t
  simp only at hs hp hk
  subst hs
  cases resetting
  · refine ⟨hp, hk, fun u pr => ⟨⟨pr.2.2.1, pr.2.2.2⟩, pr.1 hp, pr.2.1 hk, ⟨pr.2.2.1, pr.2.2.2⟩, fun s1 s2 => ⟨s1, s2⟩⟩⟩
  · refine ⟨hp.sublist List.filter_sublist, hk.sublist List.filter_sublist, fun u pr => ?_⟩
    refine ⟨⟨fun x hx => ?_, fun x hx => ?_⟩, hp, hk, OthersSame.refl _, fun _ _ => TblSame.refl _⟩
    · rw [pr.2.2.1 x hx]
      simp [baseOf, mem_ptSrcRemove, hx]
    · rw [pr.2.2.2 x hx]
      simp [baseOf, mem_ktSrcRemove, hx]

theorem applyTables_atomic (c : Conn) (n : Net) (t : Tbl) (resetting : Bool) (v4 v6 keys : List (List Nat))
    (ht : TblOK t) : TablesAtomic t resetting v4 v6 keys (applyTables c n t resetting v4 v6 keys) := by
  obtain ⟨np, nk, W⟩ := work_tables t resetting ht
  have A := applyTablesU_atomic (baseOf t resetting) v4 v6 keys np nk
  -- `A` speaks of the outcome through `ures`, the goal through `res`: both are made to speak of the same `O`
  unfold applyTablesU at A
  rw [applyTables_eq, startTbl_upd t resetting ht.1]
  generalize tablesOut (baseOf t resetting) v4 v6 keys = O at A ⊢
  cases O with
  | applied u =>
    obtain ⟨o0, _, _, _, _⟩ := W u A.pres
    obtain ⟨s1, s2, s3, s4⟩ := A.success rfl
    rw [TablesOut.res_applied, startTbl_swapIn t resetting ht.1]
    exact ⟨⟨A.pres.1 np, A.pres.2.1 nk⟩, o0, fun _ => ⟨rfl, s1, s2, s3, s4⟩, (fun h => nomatch h), (fun h => nomatch h)⟩
  | refused p r uf undone u =>
    obtain ⟨_, n1, n2, o1, same⟩ := W u A.pres
    rw [TablesOut.res_refused]
    unfold applyFail
    cases undone with
    | false =>
      exact ⟨⟨n1.sublist List.filter_sublist, n2.sublist List.filter_sublist⟩, o1.trans (purge_noOwn _).2.1,
        (fun h => nomatch h), (fun _ h => nomatch h), fun _ _ => (purge_noOwn _).1⟩
    | true =>
      exact ⟨⟨n1, n2⟩, o1, (fun h => nomatch h), fun _ _ => same (A.restored rfl rfl).1 (A.restored rfl rfl).2,
        (fun _ h => nomatch h)⟩

/-! ## rtr_sync_receive_and_store_pdus and rtr_sync -/

/-- the query the socket sends next: `none` = Reset Query, `some (session, serial)` = Serial Query -/
def nextQuery (ss : Sess) : Option (Nat × Nat) := if ss.reqSession then none else some (ss.session, ss.serial)

/-- what `rtr_sync_receive_and_store_pdus` guarantees for tables `t → t'`, session part `ss → ss'` and
    the buffered PDUs `g`: `TablesAtomic` together with serial number and session request -/
structure RSpec (t : Tbl) (ss : Sess) (ok : Bool) (t' : Tbl) (ss' : Sess) (g : Option Buffered) : Prop where
  tblok : TblOK t'
  others : OthersSame t t'
  sess : ss'.session = ss.session ∧ ss'.lastUpdate = ss.lastUpdate
  success : ok = true → ∃ b, g = some b ∧ be16 b.eod 2 = ss.session ∧
    lsApplyAll (baseOf t ss.isResetting).pt ((b.v4 ++ b.v6).map pfxOp) = some t'.pt ∧
    lsApplyAll (baseOf t ss.isResetting).kt (b.keys.map keyOp) = some t'.kt ∧
    (∀ p ∈ b.v4 ++ b.v6, pfxOK p) ∧ (∀ p ∈ b.keys, keyOK p) ∧
    ss'.serial = be32 b.eod 8 ∧ ss'.reqSession = ss.reqSession
  failure : ok = false → ss'.serial = ss.serial ∧
    ((TblSame t t' ∧ ss'.reqSession = ss.reqSession) ∨ (NoOwn t' ∧ ss'.reqSession = true))

theorem rspec_unchanged (t : Tbl) (ss : Sess) (ht : TblOK t) (t' : Tbl) (ss' : Sess)
    (h1 : t'.pt = t.pt ∧ t'.kt = t.kt ∧ t'.shadow = none)
    (h2 : ss'.session = ss.session ∧ ss'.lastUpdate = ss.lastUpdate ∧ ss'.serial = ss.serial ∧ ss'.reqSession = ss.reqSession) :
    RSpec t ss false t' ss' none := by
  obtain ⟨e1, e2, e3⟩ := h1
  refine ⟨⟨e3, by rw [e1]; exact ht.2.1, by rw [e2]; exact ht.2.2⟩, ⟨fun x _ => by rw [e1], fun x _ => by rw [e2]⟩,
    ⟨h2.1, h2.2.1⟩, (fun h => nomatch h), fun _ => ⟨h2.2.2.1, Or.inl ⟨⟨fun x => by rw [e1], fun x => by rw [e2]⟩, h2.2.2.2⟩⟩⟩

theorem applyBuffered_spec (st : St) (eod : List Nat) (v4 v6 keys : List (List Nat)) (ht : TblOK st.t)
    (hs : be16 eod 2 = st.ss.session) :
    RSpec st.t st.ss (cleanup (applyBuffered st eod v4 v6 keys)).1 (cleanup (applyBuffered st eod v4 v6 keys)).2.t
      (cleanup (applyBuffered st eod v4 v6 keys)).2.ss (some ⟨eod, v4, v6, keys⟩) := by
  have A := applyTables_atomic st.c st.n st.t st.ss.isResetting v4 v6 keys ht
  unfold cleanup applyBuffered
  simp only
  generalize applyTables st.c st.n st.t st.ss.isResetting v4 v6 keys = r at A
  refine ⟨⟨rfl, A.nodup.1, A.nodup.2⟩, A.others, ?_, ?_, ?_⟩
  · cases r.ok <;> cases r.purged <;> simp
  · intro hok
    obtain ⟨_, a1, a2, a3, a4⟩ := A.success hok
    refine ⟨_, rfl, hs, a1, a2, a3, a4, ?_, ?_⟩ <;> simp [hok]
  · intro hok
    cases hpu : r.purged
    · refine ⟨by simp [hok], Or.inl ⟨A.restored hok hpu, by simp [hok]⟩⟩
    · refine ⟨by simp [hok], Or.inr ⟨A.purged hok hpu, by simp [hok]⟩⟩

theorem recvAndStore_spec : ∀ (fuel : Nat) (st : St) (v4 v6 keys : List (List Nat)), TblOK st.t →
    RSpec st.t st.ss (recvAndStore fuel st v4 v6 keys).1 (recvAndStore fuel st v4 v6 keys).2.1.t
      (recvAndStore fuel st v4 v6 keys).2.1.ss (recvAndStore fuel st v4 v6 keys).2.2 := by
  intro fuel
  induction fuel with
  | zero =>
    intro st v4 v6 keys ht
    simp only [recvAndStore]
    exact rspec_unchanged st.t st.ss ht st.t st.ss ⟨rfl, rfl, ht.1⟩ ⟨rfl, rfl, rfl, rfl⟩
  | succ fuel ih =>
    intro st v4 v6 keys ht
    have unch : ∀ (c : Conn) (n : Net),
        RSpec st.t st.ss false (cleanup (false, { st with c := c, n := n })).2.t (cleanup (false, { st with c := c, n := n })).2.ss none :=
      fun c n => rspec_unchanged st.t st.ss ht _ _ ⟨rfl, rfl, rfl⟩ ⟨rfl, rfl, rfl, rfl⟩
    unfold recvAndStore
    generalize receivePdu st.c st.n st.t.own Gen.RTR_RECV_TIMEOUT = res
    obtain ⟨rr, c, n⟩ := res
    cases rr with
    | rc code =>
      simp only
      split
      · generalize changeState c n st.t.own .errTransport = cs
        obtain ⟨c', n'⟩ := cs
        exact unch c' n'
      · exact unch c n
    | ok raw =>
      simp only
      split
      · exact ih { st with c := c, n := n } (v4 ++ [raw]) v6 keys ht
      · exact ih { st with c := c, n := n } v4 (v6 ++ [raw]) keys ht
      · exact ih { st with c := c, n := n } v4 v6 (keys ++ [raw]) ht
      · split
        · generalize sendErrorFromHost c n raw raw.length 0 (txtEodSession st.ss.session (be16 raw 2)) = se
          obtain ⟨_, n1⟩ := se
          simp only
          generalize changeState c n1 st.t.own .errFatal = cs
          obtain ⟨c', n'⟩ := cs
          exact unch c' n'
        · rename_i hsess
          have hs : be16 raw 2 = st.ss.session := by simpa using hsess
          exact applyBuffered_spec { st with c := c, n := n } raw v4 v6 keys ht hs
      · generalize handleErrorPdu c n st.t.own raw = he
        obtain ⟨c', n'⟩ := he
        exact unch c' n'
      · exact ih { st with c := c, n := n } v4 v6 keys ht
      · generalize sendErrorFromHost c n raw 8 0 txtUnexpectedSync = se
        obtain ⟨_, n1⟩ := se
        exact unch c n1

theorem syncFirst_frame : ∀ (fuel : Nat) (st : St),
    (syncFirst fuel st).2.t = st.t ∧ (syncFirst fuel st).2.ss = st.ss ∧ (syncFirst fuel st).2.tm = st.tm := by
  intro fuel
  induction fuel with
  | zero => intro st; simp [syncFirst]
  | succ fuel ih =>
    intro st
    unfold syncFirst
    generalize receivePdu st.c st.n st.t.own Gen.RTR_RECV_TIMEOUT = res
    obtain ⟨rr, c, n⟩ := res
    cases rr with
    | rc code =>
      simp only
      split
      · generalize changeState { c with version := c.version - 1 } n st.t.own .fastReconnect = cs
        obtain ⟨c', n'⟩ := cs; simp
      · split
        · generalize changeState c n st.t.own .errTransport = cs
          obtain ⟨c', n'⟩ := cs; simp
        · simp
    | ok raw =>
      simp only
      split
      · exact ih { st with c := c, n := n }
      · simp

/-- whether the exchange that a Cache Response opens in session state `ss` is a reload onto shadow tables -/
def resettingAfter (ss : Sess) : Bool :=
  if ss.reqSession then (if ss.lastUpdate ≠ 0 then true else ss.isResetting) else ss.isResetting

/-- what `rtr_sync` guarantees (C03): on success the buffered PDUs of one session were applied in order
    and serial, session and time stamp are those of this exchange; on failure the tables are as before
    with the same next query, or this socket's records are gone and a Reset Query is pending -/
structure SyncOK (st : St) (ok : Bool) (st' : St) (g : Option (List Nat × Buffered)) : Prop where
  tblok : TblOK st'.t
  others : OthersSame st.t st'.t
  success : ok = true → ∃ cr b, g = some (cr, b) ∧
    (st.ss.reqSession = false → be16 cr 2 = st.ss.session) ∧
    be16 cr 2 = st'.ss.session ∧ be16 b.eod 2 = st'.ss.session ∧
    lsApplyAll (baseOf st.t (resettingAfter st.ss)).pt ((b.v4 ++ b.v6).map pfxOp) = some st'.t.pt ∧
    lsApplyAll (baseOf st.t (resettingAfter st.ss)).kt (b.keys.map keyOp) = some st'.t.kt ∧
    (∀ p ∈ b.v4 ++ b.v6, pfxOK p) ∧ (∀ p ∈ b.keys, keyOK p) ∧
    st'.ss.serial = be32 b.eod 8 ∧ st'.ss.reqSession = false ∧ st'.ss.lastUpdate = st'.n.now
  failure : ok = false → st'.ss.lastUpdate = st.ss.lastUpdate ∧
    ((TblSame st.t st'.t ∧ nextQuery st'.ss = nextQuery st.ss) ∨ (NoOwn st'.t ∧ st'.ss.reqSession = true))

theorem syncOK_unchanged (st st' : St) (ht : TblOK st.t) (h1 : st'.t = st.t) (h2 : st'.ss = st.ss) :
    SyncOK st false st' none :=
  ⟨by rw [h1]; exact ht, by rw [h1]; exact OthersSame.refl _, (fun h => nomatch h),
   fun _ => ⟨by rw [h2], Or.inl ⟨by rw [h1]; exact TblSame.refl _, by rw [h2]⟩⟩⟩

theorem cvSessAfterCR_isResetting (ss : Sess) (sess : Nat) : (cvSessAfterCR ss sess).isResetting = resettingAfter ss := by
  unfold cvSessAfterCR resettingAfter
  by_cases h : ss.reqSession = true
  · rw [if_pos h, if_pos h]
    by_cases hl : ss.lastUpdate ≠ 0
    · rw [if_pos hl, if_pos hl]
    · rw [if_neg hl, if_neg hl]
  · rw [if_neg h, if_neg h]

theorem handleCacheResponse_spec (c : Conn) (ss : Sess) (n : Net) (own : Nat) (raw : List Nat) :
    let r := handleCacheResponse c ss n own raw
    (r.1 = false → r.2.2.1 = ss ∧ ss.reqSession = false ∧ ss.session ≠ be16 raw 2) ∧
    (r.1 = true → r.2.2.1.session = be16 raw 2 ∧ r.2.2.1.serial = ss.serial ∧ r.2.2.1.reqSession = ss.reqSession ∧
      r.2.2.1.lastUpdate = ss.lastUpdate ∧ r.2.2.1.isResetting = resettingAfter ss ∧
      (ss.reqSession = false → ss.session = be16 raw 2)) := by
  intro r
  -- `r` is a let-variable: the goal mentions `r`, not the call, so the equation is rewritten at `r`
  rw [show r = _ from handleCacheResponse_eq c ss n own raw]
  by_cases h : ss.reqSession = false ∧ ss.session ≠ be16 raw 2
  · rw [if_pos h]
    exact ⟨fun _ => ⟨rfl, h.1, h.2⟩, (fun h' => nomatch h')⟩
  · rw [if_neg h]
    have hq : ss.reqSession = true ∨ ss.session = be16 raw 2 := by
      cases hr : ss.reqSession
      · exact Or.inr (Decidable.byContradiction fun hne => h ⟨hr, hne⟩)
      · exact Or.inl rfl
    obtain ⟨f1, f2, f3⟩ := cvSessAfterCR_frame ss (be16 raw 2)
    exact ⟨(fun h' => nomatch h'), fun _ => ⟨cvSessAfterCR_session ss _ hq, f1, f2, f3, cvSessAfterCR_isResetting ss _,
      fun hr => hq.resolve_left (fun ht => nomatch hr.symm.trans ht)⟩⟩

theorem syncG_spec (fuel : Nat) (st : St) (ht : TblOK st.t) :
    SyncOK st (syncG fuel st).1 (syncG fuel st).2.1 (syncG fuel st).2.2 := by
  unfold syncG
  have F := syncFirst_frame fuel st
  generalize syncFirst fuel st = sf at F
  obtain ⟨r, st1⟩ := sf
  simp only at F
  obtain ⟨f1, f2, f3⟩ := F
  cases r with
  | none => exact syncOK_unchanged st st1 ht f1 f2
  | some raw =>
    simp only
    split
    · generalize handleErrorPdu st1.c st1.n st1.t.own raw = he
      obtain ⟨c', n'⟩ := he
      exact syncOK_unchanged st _ ht f1 f2
    · generalize changeState st1.c st1.n st1.t.own .errNoIncr = cs
      obtain ⟨c', n'⟩ := cs
      exact syncOK_unchanged st _ ht f1 f2
    · have H := handleCacheResponse_spec st1.c st1.ss st1.n st1.t.own raw
      simp only at H
      generalize handleCacheResponse st1.c st1.ss st1.n st1.t.own raw = hcr at H
      obtain ⟨okc, c2, ss2, n2⟩ := hcr
      simp only at H ⊢
      obtain ⟨Hf, Ht⟩ := H
      cases okc
      · simp only [Bool.not_false, if_true]
        obtain ⟨e, _, _⟩ := Hf rfl
        exact syncOK_unchanged st _ ht f1 (by simp only; rw [e, f2])
      · simp only [Bool.not_true, Bool.false_eq_true, if_false]
        obtain ⟨hsess, hserial, hreq, hlu, hres, hsame⟩ := Ht rfl
        rw [f2] at hserial hreq hlu hres hsame
        have R := recvAndStore_spec fuel { st1 with c := c2, ss := ss2, n := n2 } [] [] [] (by show TblOK st1.t; rw [f1]; exact ht)
        generalize recvAndStore fuel { st1 with c := c2, ss := ss2, n := n2 } [] [] [] = rs at R
        obtain ⟨ok, st2, g⟩ := rs
        simp only at R
        rw [f1] at R
        cases ok
        · simp only [Bool.not_false, if_true]
          obtain ⟨hser, hcase⟩ := R.failure rfl
          refine ⟨R.tblok, R.others, (fun h => nomatch h), fun _ => ⟨by rw [R.sess.2, hlu], ?_⟩⟩
          rcases hcase with ⟨h1, h2⟩ | ⟨h1, h2⟩
          · refine Or.inl ⟨h1, ?_⟩
            unfold nextQuery
            rw [h2, hreq, hser, hserial, R.sess.1, hsess]
            cases hr : st.ss.reqSession
            · simp [hsame hr]
            · simp
          · exact Or.inr ⟨h1, h2⟩
        · simp only [Bool.not_true, Bool.false_eq_true, if_false]
          obtain ⟨b, hg, he, a1, a2, a3, a4, a5, a6⟩ := R.success rfl
          refine ⟨R.tblok, R.others, fun _ => ?_, (fun h => nomatch h)⟩
          refine ⟨raw, b, by simp [hg], ?_, ?_, ?_, ?_, ?_, a3, a4, ?_, rfl, rfl⟩
          · intro h; exact (hsame h).symm
          · show be16 raw 2 = st2.ss.session
            rw [R.sess.1, hsess]
          · show be16 b.eod 2 = st2.ss.session
            rw [R.sess.1, he]
          · rw [← hres]; exact a1
          · rw [← hres]; exact a2
          · show st2.ss.serial = be32 b.eod 8
            exact a5
    · generalize sendErrorFromHost st1.c st1.n raw 8 0 txtUnexpectedSync2 = se
      obtain ⟨_, n1⟩ := se
      exact syncOK_unchanged st _ ht f1 f2

theorem SyncOK.stamp {st st' : St} {ok : Bool} {g : Option (List Nat × Buffered)} (h : SyncOK st ok st' g)
    (hok : ok = true) : st'.ss.lastUpdate = st'.n.now := by
  obtain ⟨_, _, _, _, _, _, _, _, _, _, _, _, e⟩ := h.success hok
  exact e

end Rtr.P
