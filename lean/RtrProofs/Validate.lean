/-
  Validate: the validation walk (`walkR`, model of pfx_table_validate_r on one trie) answers
  RFC 6811 over the nodes of a well-formed trie, and its reason list is what the property says.
-/
import RtrProofs.TrieWF

namespace Rtr

def anyCover (w : Nat) (q : Addr) (n : Nat) (ns : List NodeC) : Bool := ns.any (covB w q n)

def anyMatch (w : Nat) (q : Addr) (n asn : Nat) (ns : List NodeC) : Bool :=
  ns.any fun c => covB w q n c && elemMatches c.data asn n

/-- RFC 6811 over a flat list of nodes (a node = all records sharing prefix and length) -/
def specState (w : Nat) (q : Addr) (n asn : Nat) (seen : Bool) (ns : List NodeC) : PfxvState :=
  if anyMatch w q n asn ns then .valid else if seen || anyCover w q n ns then .invalid else .notFound

theorem specState_cases (w : Nat) (q : Addr) (n asn : Nat) (seen : Bool) (ns : List NodeC) :
    (specState w q n asn seen ns = .valid ↔ anyMatch w q n asn ns = true) ∧
    (specState w q n asn seen ns = .invalid ↔ (seen || anyCover w q n ns) = true ∧ ¬ anyMatch w q n asn ns = true) ∧
    (specState w q n asn seen ns = .notFound ↔ ¬ (seen || anyCover w q n ns) = true ∧ ¬ anyMatch w q n asn ns = true) := by
  unfold specState
  cases anyMatch w q n asn ns <;> cases (seen || anyCover w q n ns) <;> simp

theorem no_covB_other_side (w : Nat) (q : Addr) (n : Nat) (s : Trie) (c : NodeC) (d : Nat) (b : Bool)
    (hq2 : q < 2^w) (ok : s.All (NodeOK w))
    (hs : s.All (Below w c d b)) (hd : DepthOK s (d+1)) (hq : bitAt w q d ≠ b) :
    s.nodes.filter (covB w q n) = [] := by
  rw [List.filter_eq_nil_iff]
  intro x hx hcov
  have ok := (All_iff s).1 ok x hx
  exact no_cover_other_side w q n s c d b hs hd hq x hx ((covB_iff w q n x ok hq2).1 hcov)

/-- what the walk over the nodes `ns` returns as `res` = (state, visited covering nodes in visiting
    order): the state is RFC 6811 over `ns`; on INVALID the visited nodes are all covering nodes
    of `ns`; on VALID they are some of them (the walk stops at the first match), the last one
    matching; on NOT FOUND there are none -/
structure WalkOK (w : Nat) (q : Addr) (n asn : Nat) (seen : Bool) (ns : List NodeC) (res : PfxvState × List NodeC) : Prop where
  state : res.1 = specState w q n asn seen ns
  invalid : res.1 = .invalid → res.2.Perm (ns.filter (covB w q n))
  valid : res.1 = .valid → (∀ c ∈ res.2, c ∈ ns.filter (covB w q n)) ∧ ∃ c ∈ res.2, elemMatches c.data asn n = true
  notFound : res.1 = .notFound → res.2 = []

/-- `pfx_table_validate_r` at a node, with the two directions written as one: the walk goes on in
    the child on the side of bit `lvl` of the query -/
theorem walkR_node (w : Nat) (q : Addr) (n asn : Nat) (c : NodeC) (l r : Trie) (lvl : Nat) (seen : Bool) :
    walkR w q n asn (.node c l r) lvl seen =
      if covB w q n c then
        if elemMatches c.data asn n then (.valid, [c])
        else ((walkR w q n asn (if bitAt w q lvl then r else l) (lvl+1) true).1,
              c :: (walkR w q n asn (if bitAt w q lvl then r else l) (lvl+1) true).2)
      else walkR w q n asn (if bitAt w q lvl then r else l) (lvl+1) seen := by
  conv => lhs; unfold walkR
  simp only [covB, Bool.and_eq_true, decide_eq_true_eq, isLeft]
  by_cases hb : bitAt w q lvl = true <;> simp [hb]

/-- the specification reads the node list only through its covering nodes, up to their order -/
theorem WalkOK.congr {w : Nat} {q : Addr} {n asn : Nat} {seen : Bool} {ns ns' : List NodeC} {res : PfxvState × List NodeC}
    (h : (ns.filter (covB w q n)).Perm (ns'.filter (covB w q n))) (k : WalkOK w q n asn seen ns' res) :
    WalkOK w q n asn seen ns res := by
  have e : specState w q n asn seen ns = specState w q n asn seen ns' := by
    have e1 : ∀ l, anyCover w q n l = (l.filter (covB w q n)).any (fun _ => true) := by
      intro l; simp [anyCover, List.any_filter]
    have e2 : ∀ l, anyMatch w q n asn l = (l.filter (covB w q n)).any (fun c => elemMatches c.data asn n) := by
      intro l; simp [anyMatch, List.any_filter]
    simp only [specState, e1, e2, h.any_eq]
  refine ⟨e ▸ k.state, fun hi => (k.invalid hi).trans h.symm, fun hv => ?_, k.notFound⟩
  obtain ⟨h1, h2⟩ := k.valid hv
  exact ⟨fun c hc => h.mem_iff.2 (h1 c hc), h2⟩

theorem walkR_spec (w : Nat) (q : Addr) (n asn : Nat) (hq2 : q < 2^w) : ∀ (t : Trie) (d : Nat) (seen : Bool),
    WF w t d → DepthOK t d → WalkOK w q n asn seen t.nodes (walkR w q n asn t d seen) := by
  intro t d seen wf
  replace wf := (WF_iff_WFp w t d).1 wf
  induction t generalizing d seen with
  | nil =>
    intro _
    refine ⟨?_, ?_, ?_, ?_⟩ <;> cases seen <;> simp [walkR, specState, anyMatch, anyCover, Trie.nodes]
  | node c l r ihl ihr =>
    intro ⟨h0, dl, dr⟩
    rw [walkR_node]
    -- `s`: the child on the side of bit `d` of the query; nothing in the other child covers it
    have ih : ∀ seen', WalkOK w q n asn seen' (if bitAt w q d then r else l).nodes
        (walkR w q n asn (if bitAt w q d then r else l) (d+1) seen') := by
      cases bitAt w q d
      · exact fun seen' => ihl _ seen' wf.left dl
      · exact fun seen' => ihr _ seen' wf.right dr
    have filt : ((Trie.node c l r).nodes.filter (covB w q n)).Perm
        ((c :: (if bitAt w q d then r else l).nodes).filter (covB w q n)) := by
      cases hb : bitAt w q d
      · have nr := no_covB_other_side w q n r c d true hq2 (WFp_All w r _ wf.right) wf.belowR dr (by simp [hb])
        simp only [Trie.nodes, List.filter_append, List.filter_cons, nr, Bool.false_eq_true, if_false]
        split
        · exact List.perm_append_comm
        · exact List.perm_append_comm
      · have nl := no_covB_other_side w q n l c d false hq2 (WFp_All w l _ wf.left) wf.belowL dl (by simp [hb])
        simp only [Trie.nodes, List.filter_append, nl, List.nil_append, if_true]
        exact List.Perm.refl _
    generalize (if bitAt w q d then r else l) = s at ih filt ⊢
    refine WalkOK.congr filt ?_
    cases hcov : covB w q n c
    · rw [if_neg (by simp)]
      exact WalkOK.congr (by simp [hcov]) (ih seen)
    · rw [if_pos rfl]
      have fc : (c :: s.nodes).filter (covB w q n) = c :: s.nodes.filter (covB w q n) := by
        simp [hcov]
      cases hm : elemMatches c.data asn n
      · rw [if_neg (by simp)]
        have k := ih true
        refine ⟨?_, fun hi => ?_, fun hv => ?_, fun hn => ?_⟩
        · simp only [k.state, specState, anyMatch, anyCover, List.any_cons, hcov, hm]
          simp
        · rw [fc]
          exact (k.invalid hi).cons c
        · obtain ⟨h1, x, hx, hxm⟩ := k.valid hv
          refine ⟨fun y hy => ?_, x, List.mem_cons_of_mem _ hx, hxm⟩
          rw [fc]
          rcases List.mem_cons.1 hy with rfl | hy
          · exact List.mem_cons_self
          · exact List.mem_cons_of_mem _ (h1 y hy)
        · have := k.state
          rw [show (walkR w q n asn s (d+1) true).1 = .notFound from hn] at this
          simp only [specState, Bool.true_or, if_true] at this
          split at this <;> cases this
      · rw [if_pos rfl]
        refine ⟨?_, (fun hi => nomatch hi), fun _ => ⟨fun x hx => ?_, c, List.mem_singleton.2 rfl, hm⟩, (fun hn => nomatch hn)⟩
        · simp [specState, anyMatch, hcov, hm]
        · rw [List.mem_singleton.1 hx, fc]
          exact List.mem_cons_self

theorem depthOK_root (w : Nat) (t : Trie) (h : WF w t 0) : DepthOK t 0 :=
  depthOK w t 0 (fun _ => false) h ((All_iff t).2 (fun _ _ _ hi => by omega)) (fun _ _ _ _ => Nat.zero_le _)

theorem walkR_sub (w : Nat) (q : Addr) (n asn : Nat) : ∀ (t : Trie) (lvl : Nat) (seen : Bool),
    ∀ c ∈ (walkR w q n asn t lvl seen).2, c ∈ t.nodes := by
  intro t
  induction t with
  | nil => intro lvl seen c hc; simp [walkR] at hc
  | node c0 l r ihl ihr =>
    intro lvl seen c hc
    have sub : ∀ seen', ∀ c ∈ (walkR w q n asn (if bitAt w q lvl then r else l) (lvl+1) seen').2, c ∈ (Trie.node c0 l r).nodes := by
      intro seen' c hc
      simp only [Trie.nodes, List.mem_append, List.mem_cons]
      split at hc
      · exact Or.inr (Or.inr (ihr _ _ c hc))
      · exact Or.inl (ihl _ _ c hc)
    have here : c0 ∈ (Trie.node c0 l r).nodes := by simp [Trie.nodes]
    rw [walkR_node] at hc
    split at hc
    · split at hc
      · rw [List.mem_singleton.mp hc]
        exact here
      · rcases List.mem_cons.mp hc with hc | hc
        · exact hc ▸ here
        · exact sub true c hc
    · exact sub seen c hc

theorem validateR_spec (w : Nat) (q : Addr) (n asn : Nat) (t : Trie) (hq : q < 2^w) (h : WF w t 0) :
    WalkOK w q n asn false t.nodes (validateR w q n asn t) :=
  walkR_spec w q n asn hq t 0 false h (depthOK_root w t h)

end Rtr
