/-
  CLinkInit: the translation of `rtr_init` (rtrlib/rtr/rtr.c) against its specification.  The six pointer parameters are
  identities that are only stored into pointer members the structure does not model, or tested against NULL.  The three
  intervals are checked against the RFC 8210 ranges (the `C17.InRange` of the C17 theorems); outside them nothing modelled
  is written, inside exactly the fields of `initSock` are - so not `session_id`.
-/
import RtrProofs.CLinkIntervals

namespace Rtr.CLink
open Rtr Rtr.Gen Rtr.Intervals

/-- what `rtr_init` leaves in the modelled fields of the socket on success; the literals are those of the C text as
    translated: state `10#32` = RTR_CLOSED, version `1#32` = RTR_PROTOCOL_MAX_SUPPORTED_VERSION (and in `rtr_init_eq`
    `0#32` = RTR_SUCCESS, `4294967294#32` = RTR_INVALID_PARAM, i.e. -2 as a C `int`), see RtrModel/Generated/Constants.lean -/
def initSock (s : C.S_rtr_socket) (refresh expire retry mode : BitVec 32) : C.S_rtr_socket :=
  { s with refresh_interval := refresh, expire_interval := expire, retry_interval := retry, iv_mode := mode, state := 10#32,
           request_session_id := true, serial_number := 0#32, last_update := 0#64, thread_id := 0#64, version := 1#32,
           has_received_pdus := false, is_resetting := false }

def initInRange (refresh expire retry : BitVec 32) : Prop :=
  (1 ≤ refresh.toNat ∧ refresh.toNat ≤ 86400) ∧ (600 ≤ expire.toNat ∧ expire.toNat ≤ 172800) ∧ (1 ≤ retry.toNat ∧ retry.toNat ≤ 7200)

instance (a b c : BitVec 32) : Decidable (initInRange a b c) := by unfold initInRange; infer_instance

theorem rtr_init_eq (s : C.S_rtr_socket) (tr pt st : BitVec 64) (refresh expire retry mode : BitVec 32) (fp a b : BitVec 64) :
    C.rtr_init s tr pt st refresh expire retry mode fp a b =
      some (if initInRange refresh expire retry then (0#32, initSock s refresh expire retry mode) else (4294967294#32, s)) := by
  have hin : initInRange refresh expire retry ↔
      checkIntervalRange (u32Of refresh) (u32Of 1#32) (u32Of 86400#32) = .inside ∧
      checkIntervalRange (u32Of expire) (u32Of 600#32) (u32Of 172800#32) = .inside ∧
      checkIntervalRange (u32Of retry) (u32Of 1#32) (u32Of 7200#32) = .inside := by
    simp only [range_inside_iff]
    exact Iff.rfl
  unfold C.rtr_init
  simp only [rtr_check_interval_range_eq, ite_self, hin]
  generalize checkIntervalRange (u32Of refresh) _ _ = r1
  generalize checkIntervalRange (u32Of expire) _ _ = r2
  generalize checkIntervalRange (u32Of retry) _ _ = r3
  cases r1
  · rfl
  · cases r2
    · rfl
    · cases r3
      · rfl
      · rfl
      · rfl
    · rfl
  · rfl

theorem rtr_init_rejects (s : C.S_rtr_socket) (tr pt st : BitVec 64) (refresh expire retry mode : BitVec 32) (fp a b : BitVec 64)
    (h : ¬ initInRange refresh expire retry) :
    C.rtr_init s tr pt st refresh expire retry mode fp a b = some (4294967294#32, s) := by
  rw [rtr_init_eq, if_neg h]

theorem rtr_init_accepts (s : C.S_rtr_socket) (tr pt st : BitVec 64) (refresh expire retry mode : BitVec 32) (fp a b : BitVec 64)
    (h : initInRange refresh expire retry) :
    ∃ s', C.rtr_init s tr pt st refresh expire retry mode fp a b = some (0#32, s') ∧ s'.request_session_id = true ∧ s'.last_update = 0#64 ∧
      s'.serial_number = 0#32 ∧ s'.version = 1#32 ∧ s'.has_received_pdus = false ∧ s'.is_resetting = false ∧ s'.session_id = s.session_id ∧
      s'.refresh_interval = refresh ∧ s'.expire_interval = expire ∧ s'.retry_interval = retry ∧ s'.iv_mode = mode := by
  refine ⟨initSock s refresh expire retry mode, ?_, rfl, rfl, rfl, rfl, rfl, rfl, rfl, rfl, rfl, rfl, rfl⟩
  rw [rtr_init_eq, if_pos h]

theorem initInRange_iff_C17 (refresh expire retry : BitVec 32) :
    initInRange refresh expire retry ↔ C17.InRange refresh.toNat expire.toNat retry.toNat := Iff.rfl

/-- `rtrInit` is the model over which `C17.init_rejects_out_of_range` is stated -/
theorem rtr_init_ok_iff_model (s : C.S_rtr_socket) (tr pt st : BitVec 64) (refresh expire retry mode : BitVec 32) (fp a b : BitVec 64) (m : Int) :
    ((C.rtr_init s tr pt st refresh expire retry mode fp a b).map (fun r => r.1) = some 0#32) ↔
      (rtrInit (UInt32.ofBitVec refresh) (UInt32.ofBitVec expire) (UInt32.ofBitVec retry) m).1 = Gen.RTR_SUCCESS := by
  rw [rtr_init_eq]
  have hm := C17.init_rejects_out_of_range (UInt32.ofBitVec refresh) (UInt32.ofBitVec expire) (UInt32.ofBitVec retry) m
  simp only [UInt32.toNat_ofBitVec] at hm
  by_cases h : initInRange refresh expire retry
  · rw [if_pos h, hm.1 h]
    simp
  · rw [if_neg h, hm.2 h]
    simp [Gen.RTR_INVALID_PARAM, Gen.RTR_SUCCESS]

/-- the hypotheses are satisfiable and the two outcomes are distinct -/
example : initInRange 3600#32 7200#32 600#32 ∧ ¬ initInRange 0#32 7200#32 600#32 := by decide

end Rtr.CLink
