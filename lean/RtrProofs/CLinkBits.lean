/-
  CLinkBits: link theorems for the address-bit functions of rtrlib/lib/{ipv4,ipv6,ip}.c.

  The functions as translated from the C text equal the hand-written literal models of RtrModel/Bits.lean for ALL inputs,
  `none` (no defined result) exactly where stated.  The corollaries `c_is_left_child4/6`, `c_covers4/6` are the C
  expressions of trie.c's `is_left_child` and of the covering test of `trie_lookup`; through RtrProofs/BitsLink*.lean they
  reach the abstract `isLeft` / `prefixEq` the trie theorems are written against (`c_*_abs`, `is_left_child4/6`).

  Proof technique (meant to survive harmless refactorings of the C text): no navigation of the generated term.
  1. `simp only` with the unconditional normalisation lemmas of `Rtr.CLink.U8` below turns every `uint8_t`/`int`
     expression of the generated term into a `Nat` expression over `x.toNat` (conditions) — the always-true assertions
     and overflow guards disappear here;
  2. case split on the conditions *of the model*, one after the other, rewriting with each before the next split.
-/
import RtrProofs.CLink
import RtrProofs.BitsLink6

set_option linter.unusedSimpArgs false  -- the simp sets also hold lemmas for equivalent spellings of the C text

namespace Rtr.CLink
open Rtr Rtr.Gen

/-! ## normalisation lemmas: `uint8_t` values promoted to `int` (zero-extension to 32 bits) and truncated back -/
namespace U8

theorem add_zext8_toInt (a b : BitVec 8) :
    (BitVec.setWidth 32 a + BitVec.setWidth 32 b).toInt = ((a.toNat + b.toNat : Nat) : Int) := by
  rw [BitVec.toInt_eq_toNat_cond, BitVec.toNat_add, zext8_toNat, zext8_toNat]
  have := a.isLt; have := b.isLt
  split <;> omega

theorem sle_add_zext8_lit (a b : BitVec 8) (k : Nat) (hk : k < 2147483648) :
    BitVec.sle (BitVec.setWidth 32 a + BitVec.setWidth 32 b) (BitVec.ofNat 32 k) = decide (a.toNat + b.toNat ≤ k) := by
  simp only [BitVec.sle, add_zext8_toInt, lit32_toInt k hk]; simp; omega
theorem slt_add_zext8_lit (a b : BitVec 8) (k : Nat) (hk : k < 2147483648) :
    BitVec.slt (BitVec.setWidth 32 a + BitVec.setWidth 32 b) (BitVec.ofNat 32 k) = decide (a.toNat + b.toNat < k) := by
  simp only [BitVec.slt, add_zext8_toInt, lit32_toInt k hk]; simp; omega
theorem sle_lit_add_zext8 (a b : BitVec 8) (k : Nat) (hk : k < 2147483648) :
    BitVec.sle (BitVec.ofNat 32 k) (BitVec.setWidth 32 a + BitVec.setWidth 32 b) = decide (k ≤ a.toNat + b.toNat) := by
  simp only [BitVec.sle, add_zext8_toInt, lit32_toInt k hk]; simp; omega
theorem slt_lit_add_zext8 (a b : BitVec 8) (k : Nat) (hk : k < 2147483648) :
    BitVec.slt (BitVec.ofNat 32 k) (BitVec.setWidth 32 a + BitVec.setWidth 32 b) = decide (k < a.toNat + b.toNat) := by
  simp only [BitVec.slt, add_zext8_toInt, lit32_toInt k hk]; simp; omega

theorem saddOverflow_zext8 (a b : BitVec 8) :
    BitVec.saddOverflow (BitVec.setWidth 32 a) (BitVec.setWidth 32 b) = false := by
  rw [saddOverflow_eq_false_iff, zext8_toInt, zext8_toInt]
  have := a.isLt; have := b.isLt
  omega
theorem ssubOverflow_zext8 (a b : BitVec 8) :
    BitVec.ssubOverflow (BitVec.setWidth 32 a) (BitVec.setWidth 32 b) = false := by
  rw [ssubOverflow_eq_false_iff, zext8_toInt, zext8_toInt]
  have := a.isLt; have := b.isLt
  omega
theorem ssubOverflow_zext8_lit (a : BitVec 8) (k : Nat) (hk : k < 2147483648) :
    BitVec.ssubOverflow (BitVec.setWidth 32 a) (BitVec.ofNat 32 k) = false := by
  rw [ssubOverflow_eq_false_iff, zext8_toInt, lit32_toInt k hk]
  have := a.isLt
  omega
theorem saddOverflow_zext8_lit (a : BitVec 8) (k : Nat) (hk : k < 2147483648 - 256) :
    BitVec.saddOverflow (BitVec.setWidth 32 a) (BitVec.ofNat 32 k) = false := by
  rw [saddOverflow_eq_false_iff, zext8_toInt, lit32_toInt k (by omega)]
  have := a.isLt
  omega

theorem trunc8_zext8 (a : BitVec 8) : BitVec.setWidth 8 (BitVec.setWidth 32 a) = a := by
  apply BitVec.eq_of_toNat_eq; simp
theorem trunc8_add (x y : BitVec 32) : BitVec.setWidth 8 (x + y) = BitVec.setWidth 8 x + BitVec.setWidth 8 y :=
  BitVec.setWidth_add x y (by decide)
theorem trunc8_sub (x y : BitVec 32) : BitVec.setWidth 8 (x - y) = BitVec.setWidth 8 x - BitVec.setWidth 8 y := by
  rw [BitVec.sub_eq_add_neg, trunc8_add, BitVec.setWidth_neg_of_le (by decide), ← BitVec.sub_eq_add_neg]
theorem trunc8_lit (k : Nat) : BitVec.setWidth 8 (BitVec.ofNat 32 k) = BitVec.ofNat 8 k :=
  BitVec.setWidth_ofNat_of_le (by decide) k

theorem toNat_sub8_of_le (a b : BitVec 8) (h : b.toNat ≤ a.toNat) : (a - b).toNat = a.toNat - b.toNat :=
  BitVec.toNat_sub_of_le (BitVec.le_def.mpr h)
theorem toNat_lit8 (k : Nat) (h : k < 256) : (BitVec.ofNat 8 k).toNat = k := lit_toNat k h
theorem toNat_sub8_lit_of_not_lt (a : BitVec 8) (k : Nat) (hk : k < 256) (h : ¬ a.toNat < k) :
    (a - BitVec.ofNat 8 k).toNat = a.toNat - k := by
  rw [toNat_sub8_of_le]
  · rw [toNat_lit8 k hk]
  · rw [toNat_lit8 k hk]; omega
/-- `x > k ? k : x` -/
theorem ite_gt_min (a k : Nat) : (if k < a then k else a) = min a k := by
  split <;> omega
theorem ite_ge_min (a k : Nat) : (if k ≤ a then k else a) = min a k := by
  split <;> omega
theorem ite_lt_min (a k : Nat) : (if a < k then a else k) = min a k := by
  split <;> omega
theorem ite_le_min (a k : Nat) : (if a ≤ k then a else k) = min a k := by
  split <;> omega
/-- `x < k ? 0 : x - k` on natural numbers (truncated subtraction) -/
theorem ite_lt_zero_sub (a k : Nat) : (if a < k then 0 else a - k) = a - k := by
  split <;> omega
/-- `x < k ? 0 : x - k` computed in `uint8_t` -/
theorem ite_lt_sub8 (a : BitVec 8) (k : Nat) (hk : k < 256) :
    (if a.toNat < k then 0 else (a - BitVec.ofNat 8 k).toNat) = a.toNat - k := by
  split
  · omega
  · exact toNat_sub8_lit_of_not_lt a k hk ‹_›

/-- `x >= k ? x - k : 0` computed in `uint8_t` -/
theorem ite_ge_sub8 (a : BitVec 8) (k : Nat) (hk : k < 256) :
    (if k ≤ a.toNat then (a - BitVec.ofNat 8 k).toNat else 0) = a.toNat - k := by
  split
  · exact toNat_sub8_lit_of_not_lt a k hk (by omega)
  · omega
theorem ite_ge_sub_zero (a k : Nat) : (if k ≤ a then a - k else 0) = a - k := by
  split <;> omega

/-! deciding a comparison by arithmetic from the conditions of the enclosing `if`s: `simp (disch := omega)`
    (only `nat_le_false` is used) -/
theorem nat_le_false (a b : Nat) (h : ¬ a ≤ b) : (a ≤ b) = False := eq_false h
theorem nat_eq_true (a b : Nat) (h : a = b) : (a = b) = True := eq_true h
theorem nat_eq_false (a b : Nat) (h : ¬ a = b) : (a = b) = False := eq_false h

theorem getBits32_congr (v : BitVec 32) {a a' b b' : Nat} (h1 : a = a') (h2 : b = b') :
    getBits32 v a b = getBits32 v a' b' := by
  rw [h1, h2]

end U8
open U8

/-! ## IPv4 -/

theorem lrtr_ipv4_get_bits_eq (val : C.S_lrtr_ipv4_addr) (f n : BitVec 8) :
    C.lrtr_ipv4_get_bits val f n =
      if Defined32 f.toNat n.toNat then some { addr := getBits32 val.addr f.toNat n.toNat } else none := by
  unfold C.lrtr_ipv4_get_bits Defined32
  simp only [lrtr_get_bits_eq]
  by_cases h : n.toNat ≤ 32 <;> simp [h, C.S_lrtr_ipv4_addr.zero]

theorem lrtr_ipv4_addr_equal_eq (a b : C.S_lrtr_ipv4_addr) :
    C.lrtr_ipv4_addr_equal a b = some (a.addr == b.addr) := by
  unfold C.lrtr_ipv4_addr_equal
  by_cases h : a.addr = b.addr <;> simp [h, bne]

/-! ## IPv6 -/

/-- the generated record for `struct lrtr_ipv6_addr` and the model's `V6` are the same four words -/
def toV6 (a : C.S_lrtr_ipv6_addr) : V6 := ⟨a.addr_0, a.addr_1, a.addr_2, a.addr_3⟩
def ofV6 (a : V6) : C.S_lrtr_ipv6_addr := ⟨a.w0, a.w1, a.w2, a.w3⟩

@[simp] theorem toV6_ofV6 (a : V6) : toV6 (ofV6 a) = a := rfl
@[simp] theorem ofV6_toV6 (a : C.S_lrtr_ipv6_addr) : ofV6 (toV6 a) = a := rfl
theorem toV6_inj {a b : C.S_lrtr_ipv6_addr} : toV6 a = toV6 b ↔ a = b :=
  ⟨fun h => by simpa using congrArg ofV6 h, fun h => h ▸ rfl⟩
theorem toV6_zero : toV6 C.S_lrtr_ipv6_addr.zero = ⟨0, 0, 0, 0⟩ := rfl

theorem V6_beq_eq (a b : V6) : (a == b) = (a.w0 == b.w0 && a.w1 == b.w1 && a.w2 == b.w2 && a.w3 == b.w3) := by
  cases a; cases b
  rw [Bool.eq_iff_iff]
  simp only [beq_iff_eq, Bool.and_eq_true, V6.mk.injEq, and_assoc]

theorem lrtr_ipv6_addr_equal_eq (a b : C.S_lrtr_ipv6_addr) :
    C.lrtr_ipv6_addr_equal a b = some (toV6 a == toV6 b) := by
  unfold C.lrtr_ipv6_addr_equal
  rw [V6_beq_eq]
  simp only [toV6]
  -- decide the word equalities one after the other (the first word that differs settles it) and let simp evaluate
  -- both sides: independent of the form of the C text (one conjunction, a negated memcmp, an unrolled loop with
  -- early returns)
  by_cases h0 : a.addr_0 = b.addr_0
  · by_cases h1 : a.addr_1 = b.addr_1
    · by_cases h2 : a.addr_2 = b.addr_2
      · by_cases h3 : a.addr_3 = b.addr_3
        · simp [h0, h1, h2, h3, bne]
        · simp [h0, h1, h2, h3, bne]
      · simp [h0, h1, h2, bne]
    · simp [h0, h1, bne]
  · simp [h0, bne]

/-- It has a defined result exactly if `first_bit > 127` (early return of the zero address, before the assertions;
    the model yields the zero address there, too) or `DefinedV6` holds (both assertions pass; then every inner
    `lrtr_get_bits` is called with at most 32 bits, no `int` operation overflows, every `bits_left >= q` holds). -/
theorem lrtr_ipv6_get_bits_eq (val : C.S_lrtr_ipv6_addr) (f n : BitVec 8) :
    C.lrtr_ipv6_get_bits val f n =
      if 127 < f.toNat ∨ DefinedV6 f.toNat n.toNat then some (ofV6 (ipv6GetBits (toV6 val) f.toNat n.toNat))
      else none := by
  unfold C.lrtr_ipv6_get_bits
  -- 1. the generated term: every uint8_t / int expression becomes a Nat expression over `f.toNat`, `n.toNat`;
  --    the assertions and overflow guards that always hold disappear
  simp only [lrtr_get_bits_eq,
    slt_zext8_lit, slt_lit_zext8, sle_zext8_lit, sle_lit_zext8, sle_zext8_zext8, slt_zext8_zext8,
    sle_add_zext8_lit, slt_add_zext8_lit, sle_lit_add_zext8, slt_lit_add_zext8, zext8_beq_lit, zext8_bne_lit,
    saddOverflow_zext8, ssubOverflow_zext8, ssubOverflow_zext8_lit, saddOverflow_zext8_lit,
    trunc8_sub, trunc8_add, trunc8_zext8, trunc8_lit, apply_ite (BitVec.setWidth 8), apply_ite BitVec.toNat, toNat_sub8_of_le, toNat_lit8,
    ite_gt_min, ite_ge_min, ite_lt_min, ite_le_min, ite_lt_sub8, ite_ge_sub8,
    Nat.min_le_left, Nat.min_le_right, Nat.reduceLT, Nat.reduceLeDiff, Nat.reduceSub,
    decide_eq_true_eq, Bool.not_false, Bool.not_true, Bool.or_true, Bool.true_or, Bool.and_true, Bool.true_and,
    Bool.and_eq_true, Bool.or_eq_true, Bool.not_eq_true', decide_eq_false_iff_not, if_true, reduceIte, decide_true]
  -- the model, same normal form
  unfold ipv6GetBits DefinedV6 toV6 ofV6 C.S_lrtr_ipv6_addr.zero
  simp only [gt_iff_lt, ge_iff_le, ite_gt_min, ite_lt_zero_sub, apply_ite Prod.fst, apply_ite Prod.snd]
  -- 2. both sides are decision trees over the same conditions: the three that say whether there is a result, then
  --    the model's four (one per word); each case prunes the tree of the C text by half
  by_cases hbig : 127 < f.toNat
  · simp only [hbig, true_or, ↓reduceIte]
    simp (disch := omega) only [nat_le_false, false_and, if_false]
  · have hf : f.toNat ≤ 127 := Nat.le_of_not_lt hbig
    by_cases hn : n.toNat ≤ 128
    · by_cases hs : f.toNat + n.toNat ≤ 128
      · simp only [hbig, hn, hs, false_or, true_and, implies_true, ↓reduceIte]
        by_cases h0 : f.toNat ≤ 31
        all_goals
          simp only [h0, ↓reduceIte]
          by_cases h1 : f.toNat ≤ 63 ∧ 32 < f.toNat + n.toNat
          all_goals
            simp only [h1, and_self, ↓reduceIte]
            by_cases h2 : f.toNat ≤ 95 ∧ 64 < f.toNat + n.toNat
            all_goals
              simp only [h2, and_self, ↓reduceIte]
              by_cases h3 : f.toNat ≤ 127 ∧ 96 < f.toNat + n.toNat
              all_goals
                simp only [h3, and_self, ↓reduceIte]
        -- results that are written differently: word by word, positions and lengths by arithmetic
        all_goals
          simp only [Option.some.injEq, C.S_lrtr_ipv6_addr.mk.injEq]
          and_intros
          all_goals first | rfl | (apply getBits32_congr <;> omega)
      · simp only [hbig, hn, hs, hf, false_or, true_and, true_implies, ↓reduceIte]
    · simp only [hbig, hn, false_or, false_and, ↓reduceIte]

/-! ## either family (`struct lrtr_ip_addr`; `ver` = 0 is `LRTR_IPV4`, 1 is `LRTR_IPV6`, rtrlib/lib/ip.h)

The C code treats every `ver ≠ LRTR_IPV6` as IPv4; so do the statements below.  The translator represents the union
`u` as a record with one field per member; a function result carries the zero value in the member it did not assign. -/

theorem lrtr_ip_addr_is_zero_eq (p : C.S_lrtr_ip_addr) :
    C.lrtr_ip_addr_is_zero p =
      some (if p.ver = 1#32 then (toV6 p.u.addr6).isZero else p.u.addr4.addr == 0#32) := by
  unfold C.lrtr_ip_addr_is_zero V6.isZero toV6
  by_cases hv : p.ver = 1#32
  · by_cases h0 : p.u.addr6.addr_0 = 0#32
    · by_cases h1 : p.u.addr6.addr_1 = 0#32
      · by_cases h2 : p.u.addr6.addr_2 = 0#32
        · by_cases h3 : p.u.addr6.addr_3 = 0#32
          · simp [hv, h0, h1, h2, h3, bne]
          · simp [hv, h0, h1, h2, h3, bne]
        · simp [hv, h0, h1, h2, bne]
      · simp [hv, h0, h1, bne]
    · simp [hv, h0, bne]
  · by_cases h4 : p.u.addr4.addr = 0#32 <;> simp [hv, h4, bne]

theorem lrtr_ip_addr_equal_eq (a b : C.S_lrtr_ip_addr) :
    C.lrtr_ip_addr_equal a b =
      some (a.ver == b.ver &&
        (if a.ver = 1#32 then toV6 a.u.addr6 == toV6 b.u.addr6 else a.u.addr4.addr == b.u.addr4.addr)) := by
  unfold C.lrtr_ip_addr_equal
  simp only [lrtr_ipv6_addr_equal_eq, lrtr_ipv4_addr_equal_eq]
  by_cases hv : a.ver = b.ver <;> by_cases h1 : a.ver = 1#32 <;> simp_all

theorem lrtr_ip_addr_get_bits_eq (val : C.S_lrtr_ip_addr) (f n : BitVec 8) :
    C.lrtr_ip_addr_get_bits val f n =
      if val.ver = 1#32 then
        (if 127 < f.toNat ∨ DefinedV6 f.toNat n.toNat then
           some { ver := 1#32, u := { addr4 := C.S_lrtr_ipv4_addr.zero,
                                      addr6 := ofV6 (ipv6GetBits (toV6 val.u.addr6) f.toNat n.toNat) } }
         else none)
      else
        (if Defined32 f.toNat n.toNat then
           some { ver := 0#32, u := { addr4 := { addr := getBits32 val.u.addr4.addr f.toNat n.toNat },
                                      addr6 := C.S_lrtr_ipv6_addr.zero } }
         else none) := by
  unfold C.lrtr_ip_addr_get_bits
  simp only [lrtr_ipv6_get_bits_eq, lrtr_ipv4_get_bits_eq, beq_iff_eq]
  by_cases hv : val.ver = 1#32
  · by_cases hd : 127 < f.toNat ∨ DefinedV6 f.toNat n.toNat
    · simp only [hv, hd, if_true]
      rfl
    · simp only [hv, hd, if_true, if_false]
  · by_cases hd : Defined32 f.toNat n.toNat
    · simp only [hv, hd, if_true, if_false]
      rfl
    · simp only [hv, hd, if_false]

/-! ## the two expressions trie.c is built on -/

/-- `is_left_child(addr, lvl)` of pfx/trie/trie.c: `lrtr_ip_addr_is_zero(lrtr_ip_addr_get_bits(addr, lvl, 1))`,
    as translated -/
def cIsLeftChild (a : C.S_lrtr_ip_addr) (lvl : BitVec 8) : Option Bool :=
  (C.lrtr_ip_addr_get_bits a lvl 1#8).bind C.lrtr_ip_addr_is_zero

/-- the covering test of `trie_lookup`:
    `lrtr_ip_addr_equal(lrtr_ip_addr_get_bits(&p, 0, len), lrtr_ip_addr_get_bits(&q, 0, len))`, as translated -/
def cCovers (p q : C.S_lrtr_ip_addr) (len : BitVec 8) : Option Bool :=
  (C.lrtr_ip_addr_get_bits p 0#8 len).bind fun x =>
    (C.lrtr_ip_addr_get_bits q 0#8 len).bind fun y => C.lrtr_ip_addr_equal x y

theorem c_is_left_child4 (a : C.S_lrtr_ip_addr) (lvl : BitVec 8) (hv : a.ver ≠ 1#32) :
    cIsLeftChild a lvl = some (isLeftChildC4 a.u.addr4.addr lvl.toNat) := by
  unfold cIsLeftChild isLeftChildC4
  have h1 : (1#8).toNat = 1 := rfl
  have hd : Defined32 lvl.toNat 1 := by unfold Defined32; omega
  simp [lrtr_ip_addr_get_bits_eq, lrtr_ip_addr_is_zero_eq, hv, h1, hd]

theorem c_is_left_child6 (a : C.S_lrtr_ip_addr) (lvl : BitVec 8) (hv : a.ver = 1#32) :
    cIsLeftChild a lvl = some (isLeftChildC6 (toV6 a.u.addr6) lvl.toNat) := by
  unfold cIsLeftChild isLeftChildC6
  have h1 : (1#8).toNat = 1 := rfl
  have hd : 127 < lvl.toNat ∨ DefinedV6 lvl.toNat 1 := by unfold DefinedV6; omega
  simp [lrtr_ip_addr_get_bits_eq, lrtr_ip_addr_is_zero_eq, hv, h1, hd]

theorem c_covers4 (p q : C.S_lrtr_ip_addr) (len : BitVec 8) (hp : p.ver ≠ 1#32) (hq : q.ver ≠ 1#32) :
    cCovers p q len =
      if len.toNat ≤ 32 then some (coversC4 p.u.addr4.addr len.toNat q.u.addr4.addr) else none := by
  unfold cCovers coversC4
  have h0 : (0#8).toNat = 0 := rfl
  by_cases h : len.toNat ≤ 32 <;>
    simp [lrtr_ip_addr_get_bits_eq, lrtr_ip_addr_equal_eq, hp, hq, h0, h, Defined32]

theorem c_covers6 (p q : C.S_lrtr_ip_addr) (len : BitVec 8) (hp : p.ver = 1#32) (hq : q.ver = 1#32) :
    cCovers p q len =
      if len.toNat ≤ 128 then some (coversC6 (toV6 p.u.addr6) len.toNat (toV6 q.u.addr6)) else none := by
  unfold cCovers coversC6
  have h0 : (0#8).toNat = 0 := rfl
  by_cases h : len.toNat ≤ 128 <;>
    simp [lrtr_ip_addr_get_bits_eq, lrtr_ip_addr_equal_eq, hp, hq, h0, h, DefinedV6]

/-! ## down to the abstract bit view (`isLeft`, `prefixEq` of RtrModel/Trie.lean)

The address as the natural number the trie model works with: the host-order word (IPv4), the four words, most
significant first (IPv6, `V6.toNat`). -/

theorem V6_toNat_lt (a : V6) : a.toNat < 2 ^ 128 := by
  unfold V6.toNat
  have := a.w0.isLt; have := a.w1.isLt; have := a.w2.isLt; have := a.w3.isLt
  omega

theorem ofNat_horner (q : Nat) (w : BitVec 32) : BitVec.ofNat 32 (q * 2 ^ 32 + w.toNat) = w := by
  apply BitVec.eq_of_toNat_eq
  rw [BitVec.toNat_ofNat, Nat.add_comm, Nat.add_mul_mod_self_right, Nat.mod_eq_of_lt w.isLt]
theorem horner_div (q : Nat) (w : BitVec 32) : (q * 2 ^ 32 + w.toNat) / 2 ^ 32 = q := by
  rw [Nat.add_comm, Nat.add_mul_div_right _ _ (by decide), Nat.div_eq_of_lt w.isLt, Nat.zero_add]

theorem V6_ofNat_toNat (a : V6) : V6.ofNat a.toNat = a := by
  have e64 : 2 ^ 64 = 2 ^ 32 * 2 ^ 32 := by decide
  have e96 : 2 ^ 96 = 2 ^ 32 * 2 ^ 32 * 2 ^ 32 := by decide
  simp only [V6.ofNat, V6.toNat, e96, e64, ← Nat.div_div_eq_div_mul, horner_div, ofNat_horner, BitVec.ofNat_toNat,
    BitVec.setWidth_eq]

theorem c_is_left_child4_abs (a : C.S_lrtr_ip_addr) (lvl : BitVec 8) (hv : a.ver ≠ 1#32) :
    cIsLeftChild a lvl = some (isLeft 32 a.u.addr4.addr.toNat lvl.toNat) := by
  rw [c_is_left_child4 a lvl hv, ← isLeftChildC4_eq, BitVec.ofNat_toNat, BitVec.setWidth_eq]

theorem c_is_left_child6_abs (a : C.S_lrtr_ip_addr) (lvl : BitVec 8) (hv : a.ver = 1#32) :
    cIsLeftChild a lvl = some (isLeft 128 (toV6 a.u.addr6).toNat lvl.toNat) := by
  rw [c_is_left_child6 a lvl hv, ← isLeftChildC6_eq, V6_ofNat_toNat]

theorem c_covers4_abs (p q : C.S_lrtr_ip_addr) (len : BitVec 8) (hp : p.ver ≠ 1#32) (hq : q.ver ≠ 1#32)
    (h : len.toNat ≤ 32) :
    cCovers p q len = some (prefixEq 32 p.u.addr4.addr.toNat q.u.addr4.addr.toNat len.toNat) := by
  rw [c_covers4 p q len hp hq, if_pos h,
    ← coversC4_eq _ _ p.u.addr4.addr.isLt q.u.addr4.addr.isLt _ h, BitVec.ofNat_toNat, BitVec.ofNat_toNat,
    BitVec.setWidth_eq, BitVec.setWidth_eq]

theorem c_covers6_abs (p q : C.S_lrtr_ip_addr) (len : BitVec 8) (hp : p.ver = 1#32) (hq : q.ver = 1#32)
    (h : len.toNat ≤ 128) :
    cCovers p q len = some (prefixEq 128 (toV6 p.u.addr6).toNat (toV6 q.u.addr6).toNat len.toNat) := by
  rw [c_covers6 p q len hp hq, if_pos h,
    ← coversC6_eq _ _ (V6_toNat_lt _) (V6_toNat_lt _) _ h, V6_ofNat_toNat, V6_ofNat_toNat]

/-! ## `is_left_child` itself (pfx/trie/trie.c), as translated

`lvl` is an `unsigned int` there and is converted to `uint8_t` at the call of `lrtr_ip_addr_get_bits`: the bit tested
is bit `lvl mod 256`.  The trie never descends below level 128. -/

theorem is_left_child_eq (a : C.S_lrtr_ip_addr) (lvl : BitVec 32) :
    C.is_left_child a lvl = cIsLeftChild a (BitVec.setWidth 8 lvl) := by
  unfold C.is_left_child cIsLeftChild
  cases C.lrtr_ip_addr_get_bits a (BitVec.setWidth 8 lvl) 1#8 with
  | none => rfl
  | some r => simp only [Option.bind_some]; cases C.lrtr_ip_addr_is_zero r <;> rfl

theorem is_left_child4 (a : C.S_lrtr_ip_addr) (lvl : BitVec 32) (hv : a.ver ≠ 1#32) (hl : lvl.toNat < 256) :
    C.is_left_child a lvl = some (isLeft 32 a.u.addr4.addr.toNat lvl.toNat) := by
  rw [is_left_child_eq, c_is_left_child4_abs a _ hv, BitVec.toNat_setWidth, Nat.mod_eq_of_lt (by omega)]

theorem is_left_child6 (a : C.S_lrtr_ip_addr) (lvl : BitVec 32) (hv : a.ver = 1#32) (hl : lvl.toNat < 256) :
    C.is_left_child a lvl = some (isLeft 128 (toV6 a.u.addr6).toNat lvl.toNat) := by
  rw [is_left_child_eq, c_is_left_child6_abs a _ hv, BitVec.toNat_setWidth, Nat.mod_eq_of_lt (by omega)]

/-! ## the generated function evaluated (kernel `decide`): the cases the definedness condition distinguishes -/

/-- beyond the last bit: defined (early return before the assertions) although `DefinedV6` fails -/
example : C.lrtr_ipv6_get_bits ⟨0xffffffff#32, 0xffffffff#32, 0xffffffff#32, 0xffffffff#32⟩ 200#8 200#8
      = some C.S_lrtr_ipv6_addr.zero ∧ ¬ DefinedV6 200 200 := by decide
/-- `first_bit + quantity > 128`: the assertion fails -/
example : C.lrtr_ipv6_get_bits ⟨0xffffffff#32, 0xffffffff#32, 0xffffffff#32, 0xffffffff#32⟩ 100#8 100#8 = none := by
  decide
/-- a prefix mask, the only multi-word use the trie makes -/
example : C.lrtr_ipv6_get_bits ⟨0xffffffff#32, 0xffffffff#32, 0xffffffff#32, 0xffffffff#32⟩ 0#8 70#8
      = some ⟨0xffffffff#32, 0xffffffff#32, 0xfc000000#32, 0#32⟩ := by decide

end Rtr.CLink
