/-
  Expiry: the time stamp of the last successful synchronisation and the records of a socket
  (C07): data of this socket in the tables implies a time stamp (`Inv7`), and every iteration of
  the state machine keeps it so.  (When `last_update` is written is `Rtr.C07.last_update_written`.)
-/
import RtrProofs.TimeMono

namespace Rtr.P

/-- data from this socket is only present together with the time of its last successful
    synchronisation; the clock reads a positive value (the C code uses `last_update == 0` for "never
    synchronised", so a synchronisation completed at clock 0 would look like none) -/
def Inv7 (st : St) : Prop :=
  (¬ NoOwn st.t → st.ss.lastUpdate ≠ 0) ∧ (st.ss.lastUpdate = 0 → st.ss.reqSession = true) ∧ 0 < st.n.now

theorem noOwn_of_same {t t' : Tbl} (h : TblSame t t') (hn : NoOwn t) : NoOwn t' :=
  ⟨fun x hx => hn.1 x ((h.1 x).1 hx), fun x hx => hn.2 x ((h.2 x).1 hx)⟩

theorem reqSession_of_none {a : Sess} (h : nextQuery a = none) : a.reqSession = true := by
  unfold nextQuery at h
  cases ha : a.reqSession
  · rw [ha] at h; simp at h
  · rfl

theorem fsmStep_inv7 (fuel : Nat) (st st' : St) (h : fsmStep fuel st = some st') (ht : TblOK st.t) (hi : Inv7 st) :
    Inv7 st' := by
  have hpos : 0 < st'.n.now := Int.lt_of_lt_of_le hi.2.2 (fsmStep_now_le h)
  -- after the purge check of a state that has the time stamp and the tables of `st` and asks at least as
  -- often for a new session
  have purged : ∀ a : St, a.ss.lastUpdate = st.ss.lastUpdate → a.t = st.t →
      (st.ss.reqSession = true → a.ss.reqSession = true) → Purged a st' → Inv7 st' := by
    intro a hl hat hr p
    rcases p.elim with ⟨e1, e2⟩ | ⟨hn, _, _, hq, _⟩
    · rw [Inv7, e1, e2, hl, hat]
      exact ⟨hi.1, fun h0 => hr (hi.2.1 h0), hpos⟩
    · exact ⟨fun hown => absurd hn hown, fun _ => hq, hpos⟩
  rcases fsmStep_data fuel st st' h with p | ⟨_, p⟩ | ⟨_, e⟩
  · exact purged st rfl rfl id p
  · exact purged (requestReset st) rfl rfl (fun _ => rfl) p
  · rw [Inv7, e.1, e.2.1]
    cases hok : (syncG fuel st).1
    · obtain ⟨hl, hc⟩ := (syncG_spec fuel st ht).failure hok
      rw [hl]
      rcases hc with ⟨h1, q⟩ | ⟨h1, hr⟩
      · exact ⟨fun hown => hi.1 fun hn => hown (noOwn_of_same h1 hn),
          fun h0 => reqSession_of_none (q.trans (nextQuery_none (hi.2.1 h0))), hpos⟩
      · exact ⟨fun hown => absurd h1 hown, fun _ => hr, hpos⟩
    · -- a successful synchronisation sets the time stamp to a positive value
      have h11 := (syncG_spec fuel st ht).stamp hok
      have hne : (syncG fuel st).2.1.ss.lastUpdate ≠ 0 := by
        have := Int.lt_of_lt_of_le hi.2.2 (syncG_now_le fuel st)
        rw [h11]
        omega
      exact ⟨fun _ => hne, fun h0 => absurd h0 hne, hpos⟩

theorem reach_inv7 (fuel : Nat) {st st' : St} (h : Reach fuel st st') (ht : TblOK st.t) (hi : Inv7 st) : Inv7 st' := by
  induction h with
  | refl => exact hi
  | step r hs ih => exact fsmStep_inv7 fuel _ _ hs (reach_inv fuel r ht).2.1 ih

end Rtr.P
