/-
  The pieces of rtr_mgr_cb and of the API calls, one group or one list traversal at a time.
-/
import RtrModel.Mgr
import RtrProofs.MgrSort

namespace Rtr.Mgr

theorem mem_modG {gs : List Group} {p : Nat} {f : Group → Group} {g' : Group} :
    g' ∈ modG gs p f ↔ (g' ∈ gs ∧ g'.pref ≠ p) ∨ (∃ g ∈ gs, g.pref = p ∧ g' = f g) := by
  unfold modG
  rw [List.mem_map]
  constructor
  · rintro ⟨g, hg, rfl⟩
    by_cases hp : g.pref = p
    · rw [if_pos hp]
      exact Or.inr ⟨g, hg, hp, rfl⟩
    · rw [if_neg hp]
      exact Or.inl ⟨hg, hp⟩
  · rintro (⟨hg, hp⟩ | ⟨g, hg, hp, rfl⟩)
    · exact ⟨g', hg, if_neg hp⟩
    · exact ⟨g, hg, if_pos hp⟩

theorem mem_modG_iff_of_ne {gs : List Group} {p : Nat} {f : Group → Group} {c : Group}
    (hf : ∀ g, g.pref = p → (f g).pref = p) (hc : c.pref ≠ p) : c ∈ modG gs p f ↔ c ∈ gs := by
  rw [mem_modG]
  constructor
  · rintro (⟨h, _⟩ | ⟨g, _, hg, rfl⟩)
    · exact h
    · exact absurd (hf g hg) hc
  · exact fun h => Or.inl ⟨h, hc⟩

theorem prefs_map {f : Group → Group} (hf : ∀ g, (f g).pref = g.pref) (gs : List Group) :
    prefs (gs.map f) = prefs gs := by
  unfold prefs
  rw [List.map_map]
  exact List.map_congr_left fun g _ => hf g

theorem prefs_modG {gs : List Group} {p : Nat} {f : Group → Group} (hf : ∀ g, g.pref = p → (f g).pref = g.pref) :
    prefs (modG gs p f) = prefs gs := by
  apply prefs_map
  intro g
  split
  · rename_i h
    exact hf g h
  · rfl

theorem prefs_setStatus (gs : List Group) (p : Nat) (st : Status) : prefs (setStatus gs p st) = prefs gs :=
  prefs_modG (fun _ _ => rfl)

theorem prefs_setIvs (gs : List Group) (p : Nat) (iv : Nat × Nat × Nat) : prefs (setIvs gs p iv) = prefs gs :=
  prefs_modG (fun _ _ => rfl)

theorem modG_const_modG {gs : List Group} {p : Nat} {a : Group} (ha : a.pref = p) (f : Group → Group) :
    modG (modG gs p fun _ => a) p f = modG gs p fun _ => f a := by
  unfold modG
  rw [List.map_map]
  apply List.map_congr_left
  intro g _
  by_cases hg : g.pref = p
  · simp only [Function.comp, if_pos hg, if_pos ha]
  · simp only [Function.comp, if_neg hg]

theorem mem_modG_const {gs : List Group} {p : Nat} {a x : Group} (h : x ∈ modG gs p fun _ => a) :
    (x ∈ gs ∧ x.pref ≠ p) ∨ x = a := by
  rcases mem_modG.mp h with h | ⟨_, _, _, h⟩
  · exact Or.inl h
  · exact Or.inr h

/-! ### the stop loop -/

/-- One round of the loop: `rtr_stop` on socket `done.length`, the status callbacks `l1` of the nested
    RTR_SHUTDOWN event, which report the status `st1` the loop goes on with — CLOSED or the old one. -/
theorem stopGo_cons (pref : Nat) (st : Status) (done : List Sock) (s : Sock) (rest : List Sock) :
    ∃ st1 l1, (st1 = .closed ∨ st1 = st) ∧ (∀ e ∈ l1, ∃ x, e = Ev.status pref st1 x) ∧
      stopGo pref st done (s :: rest) =
        ((stopGo pref st1 (done ++ [s.stopped]) rest).1, (stopGo pref st1 (done ++ [s.stopped]) rest).2.1,
          Ev.stop pref done.length :: (l1 ++ (stopGo pref st1 (done ++ [s.stopped]) rest).2.2)) := by
  by_cases h : s.state = .shutdown
  · simp only [stopGo, if_pos h]
    exact ⟨st, [], Or.inr rfl, nofun, rfl⟩
  · simp only [stopGo, if_neg h]
    refine ⟨_, _, ?_, ?_, rfl⟩
    · split
      · exact Or.inl rfl
      · exact Or.inr rfl
    · intro e he
      exact ⟨_, List.mem_singleton.mp he⟩

def StopEv (pref : Nat) (st : Status) (e : Ev) : Prop :=
  (∃ j, e = Ev.stop pref j) ∨ (∃ x, e = Ev.status pref .closed x) ∨ (∃ x, e = Ev.status pref st x)

theorem stopEv_est {pref : Nat} {st : Status} {q : Nat} {x : Option (Nat × Nat)}
    (h : StopEv pref st (Ev.status q .established x)) : q = pref ∧ st = .established := by
  rcases h with ⟨_, he⟩ | ⟨_, he⟩ | ⟨_, he⟩
  · cases he
  · cases he
  · cases he
    exact ⟨rfl, rfl⟩

theorem stopEv_stop {pref : Nat} {st : Status} {q j : Nat} (h : StopEv pref st (Ev.stop q j)) : q = pref := by
  rcases h with ⟨_, he⟩ | ⟨_, he⟩ | ⟨_, he⟩
  · cases he
    rfl
  · cases he
  · cases he

/-- The final status is left as "CLOSED or unchanged" on purpose: which of the two depends on whether every socket is
    RTR_SHUTDOWN at the moment of some nested callback, and no caller needs to know: `closeOne` overwrites the
    status with CLOSED, `remove` drops the group, and for `rtr_mgr_stop` the results only ask that no
    status is newly ESTABLISHED. -/
theorem stopGo_spec (pref : Nat) (st : Status) (done rest : List Sock) :
    ((stopGo pref st done rest).1 = .closed ∨ (stopGo pref st done rest).1 = st) ∧
    (stopGo pref st done rest).2.1 = done ++ rest.map Sock.stopped ∧
    (∀ e ∈ (stopGo pref st done rest).2.2, StopEv pref st e) ∧
    ∀ j, j < rest.length → Ev.stop pref (done.length + j) ∈ (stopGo pref st done rest).2.2 := by
  induction rest generalizing st done with
  | nil => exact ⟨Or.inr rfl, (List.append_nil _).symm, nofun, nofun⟩
  | cons s t ih =>
    obtain ⟨st1, l1, h1, h2, eq⟩ := stopGo_cons pref st done s t
    obtain ⟨i1, i2, i3, i4⟩ := ih st1 (done ++ [s.stopped])
    rw [eq]
    -- a report of the round's status `st1` is a report of CLOSED or of `st`
    have key : ∀ e, (∃ x, e = Ev.status pref st1 x) →
        (∃ x, e = Ev.status pref .closed x) ∨ (∃ x, e = Ev.status pref st x) := by
      rcases h1 with rfl | rfl
      · exact fun _ => Or.inl
      · exact fun _ => Or.inr
    refine ⟨?_, ?_, ?_, ?_⟩
    · rcases i1 with h | h
      · exact Or.inl h
      · exact h1.imp h.trans h.trans
    · simp only [i2, List.map_cons, List.append_assoc, List.singleton_append]
    · intro e he
      rcases List.mem_cons.mp he with rfl | he
      · exact Or.inl ⟨_, rfl⟩
      · rcases List.mem_append.mp he with he | he
        · exact Or.inr (key e (h2 e he))
        · rcases i3 e he with h | h | h
          · exact Or.inl h
          · exact Or.inr (Or.inl h)
          · exact Or.inr (key e h)
    · intro j hj
      cases j with
      | zero => exact List.mem_cons_self
      | succ k =>
        have := i4 k (by simpa using hj)
        rw [List.length_append, List.length_singleton, Nat.add_assoc, Nat.add_comm 1 k] at this
        exact List.mem_cons_of_mem _ (List.mem_append_right _ this)

theorem Sock.stopped_thread (s : Sock) : s.stopped.thread = false := by
  unfold Sock.stopped
  split
  · rfl
  · rename_i h
    simpa using h

theorem stopAll_pref (g : Group) : g.stopAll.1.pref = g.pref := rfl

theorem stopAll_status (g : Group) : g.stopAll.1.status = .closed ∨ g.stopAll.1.status = g.status :=
  (stopGo_spec g.pref g.status [] g.socks).1

theorem stopAll_socks (g : Group) : g.stopAll.1.socks = g.socks.map Sock.stopped :=
  (stopGo_spec g.pref g.status [] g.socks).2.1

theorem stopAll_threads (g : Group) : ∀ s ∈ g.stopAll.1.socks, s.thread = false := by
  intro s hs
  rw [stopAll_socks] at hs
  obtain ⟨x, _, rfl⟩ := List.mem_map.mp hs
  exact Sock.stopped_thread x

theorem stopAll_log {g : Group} {e : Ev} (h : e ∈ g.stopAll.2) : StopEv g.pref g.status e :=
  (stopGo_spec g.pref g.status [] g.socks).2.2.1 e h

theorem stopAll_stops {g : Group} {j : Nat} (hj : j < g.socks.length) : Ev.stop g.pref j ∈ g.stopAll.2 := by
  have h := (stopGo_spec g.pref g.status [] g.socks).2.2.2 j hj
  rw [List.length_nil, Nat.zero_add] at h
  exact h

/-! ### rtr_mgr_start_sockets -/

theorem startSocks_log {pref : Nat} {i : Nat} {l : List Sock} {e : Ev} (h : e ∈ (startSocks pref i l).2.1) :
    ∃ j ok, e = Ev.start pref j ok := by
  induction l generalizing i with
  | nil => simp [startSocks] at h
  | cons s t ih =>
    unfold startSocks at h
    split at h
    · simp only [List.mem_singleton] at h; exact ⟨_, _, h⟩
    · rcases List.mem_cons.mp h with rfl | h
      · exact ⟨_, _, rfl⟩
      · exact ih h

theorem startSocks_ok {pref : Nat} {i : Nat} {l : List Sock} (h : ∀ s ∈ l, s.thread = false) :
    (startSocks pref i l).2.2 = true ∧ (∀ s ∈ (startSocks pref i l).1, s.thread = true) ∧
    (∀ j, j < l.length → Ev.start pref (i + j) true ∈ (startSocks pref i l).2.1) := by
  induction l generalizing i with
  | nil =>
    refine ⟨rfl, ?_, ?_⟩
    · intro s hs; simp [startSocks] at hs
    · intro j hj; exact absurd hj (Nat.not_lt_zero _)
  | cons s t ih =>
    have hs := h s List.mem_cons_self
    have ht := @ih (i + 1) (fun x hx => h x (List.mem_cons_of_mem _ hx))
    unfold startSocks
    rw [if_neg (by simp [hs])]
    refine ⟨ht.1, ?_, ?_⟩
    · intro x hx
      rcases List.mem_cons.mp hx with rfl | hx
      · rfl
      · exact ht.2.1 x hx
    · intro j hj
      cases j with
      | zero => exact List.mem_cons_self
      | succ k =>
        apply List.mem_cons_of_mem
        have := ht.2.2 k (by simpa using hj)
        have e : i + (k + 1) = i + 1 + k := by omega
        rw [e]; exact this

theorem startSockets_pref (g : Group) : g.startSockets.1.pref = g.pref := rfl

theorem startSockets_status (g : Group) :
    g.startSockets.1.status = .connecting ∨ g.startSockets.1.status = g.status := by
  unfold Group.startSockets
  simp only
  split
  · left; rfl
  · right; rfl

theorem startSockets_log {g : Group} {e : Ev} (h : e ∈ g.startSockets.2.1) : ∃ j ok, e = Ev.start g.pref j ok :=
  startSocks_log h

theorem startSockets_est {q : Group} (h : q.startSockets.1.status = .established) : q.status = .established := by
  rcases startSockets_status q with hs | hs
  · rw [hs] at h
    cases h
  · rw [← hs, h]

theorem startSockets_ok {q : Group} (ht : ∀ s ∈ q.socks, s.thread = false) :
    q.startSockets.1.status = .connecting ∧ (∀ x ∈ q.startSockets.1.socks, x.thread = true) ∧
    ∀ j, j < q.socks.length → Ev.start q.pref j true ∈ q.startSockets.2.1 := by
  have := startSocks_ok (pref := q.pref) (i := 0) ht
  refine ⟨?_, this.2.1, ?_⟩
  · unfold Group.startSockets
    simp only [this.1, if_true]
  · intro j hj
    have h := this.2.2 j hj
    rw [Nat.zero_add] at h
    exact h

theorem startSockets_not_closed {q : Group} (h : q.status = .closed → ∀ s ∈ q.socks, s.thread = false) :
    q.startSockets.1.status ≠ .closed := by
  intro hc
  rcases startSockets_status q with hs | hs
  · rw [hs] at hc
    cases hc
  · rw [(startSockets_ok (h (hs.symm.trans hc))).1] at hc
    cases hc

/-! ### rtr_mgr_close_less_preferable_groups -/

theorem closeOne_pref (p : Nat) (sock : Option (Nat × Nat)) (g : Group) : (closeOne p sock g).1.pref = g.pref := by
  unfold closeOne
  split <;> rfl

theorem closeOne_of_le {p : Nat} {sock : Option (Nat × Nat)} {g : Group} (h : g.pref ≤ p) :
    closeOne p sock g = (g, []) := by
  unfold closeOne
  rw [if_neg]
  intro hc; omega

theorem closeOne_closed {p : Nat} {sock : Option (Nat × Nat)} {g : Group} (h : p < g.pref) :
    (closeOne p sock g).1.status = .closed := by
  unfold closeOne
  split
  · rfl
  · rename_i hc
    simp only
    by_cases hcl : g.status = .closed
    · exact hcl
    · exact absurd ⟨hcl, by omega, h⟩ hc

theorem closeOne_threads (p : Nat) (sock : Option (Nat × Nat)) (g : Group) :
    (closeOne p sock g).1 = g ∨ ∀ s ∈ (closeOne p sock g).1.socks, s.thread = false := by
  unfold closeOne
  split
  · exact Or.inr (stopAll_threads g)
  · exact Or.inl rfl

theorem closeOne_log {p : Nat} {sock : Option (Nat × Nat)} {g : Group} {e : Ev} (h : e ∈ (closeOne p sock g).2) :
    p < g.pref ∧ g.status ≠ .closed ∧ StopEv g.pref g.status e := by
  unfold closeOne at h
  split at h
  · rename_i hc
    refine ⟨hc.2.2, hc.1, ?_⟩
    rcases List.mem_append.mp h with h | h
    · exact stopAll_log h
    · simp only [List.mem_singleton] at h
      right; left; exact ⟨_, h⟩
  · cases h

theorem closeOne_emits {p : Nat} {sock : Option (Nat × Nat)} {g : Group} (hp : p < g.pref) (hs : g.status ≠ .closed) :
    Ev.status g.pref .closed sock ∈ (closeOne p sock g).2 ∧
    ∀ j, j < g.socks.length → Ev.stop g.pref j ∈ (closeOne p sock g).2 := by
  unfold closeOne
  rw [if_pos ⟨hs, by omega, hp⟩]
  refine ⟨List.mem_append_right _ (List.mem_singleton.mpr rfl), ?_⟩
  intro j hj
  exact List.mem_append_left _ (stopAll_stops hj)

theorem closeLess_eq (p : Nat) (sock : Option (Nat × Nat)) (gs : List Group) :
    closeLess p sock gs = (gs.map fun g => (closeOne p sock g).1, gs.flatMap fun g => (closeOne p sock g).2) := by
  induction gs with
  | nil => rfl
  | cons g t ih => simp only [closeLess, List.map_cons, List.flatMap_cons, ih]

theorem closeLess_mem_of {p : Nat} {sock : Option (Nat × Nat)} {gs : List Group} {g : Group}
    (h : g ∈ gs) : (closeOne p sock g).1 ∈ (closeLess p sock gs).1 := by
  rw [closeLess_eq]
  exact List.mem_map.mpr ⟨g, h, rfl⟩

theorem startBest_eq (p : Nat) (gs : List Group) :
    ((∀ c ∈ gs, ¬ (c.pref ≠ p ∧ c.status = .closed)) ∧ startBest p gs = (gs, [])) ∨
    ∃ l₁ q l₂, gs = l₁ ++ q :: l₂ ∧ (∀ c ∈ l₁, ¬ (c.pref ≠ p ∧ c.status = .closed)) ∧
      q.pref ≠ p ∧ q.status = .closed ∧
      startBest p gs = (l₁ ++ q.startSockets.1 :: l₂, q.startSockets.2.1) := by
  induction gs with
  | nil => exact Or.inl ⟨nofun, rfl⟩
  | cons c t ih =>
    unfold startBest
    by_cases hc : c.pref ≠ p ∧ c.status = .closed
    · rw [if_pos hc]
      exact Or.inr ⟨[], c, t, rfl, nofun, hc.1, hc.2, rfl⟩
    · rw [if_neg hc]
      rcases ih with ⟨hn, e⟩ | ⟨l₁, q, l₂, rfl, hn, h1, h2, e⟩
      · rw [e]
        exact Or.inl ⟨List.forall_mem_cons.mpr ⟨hc, hn⟩, rfl⟩
      · rw [e]
        exact Or.inr ⟨c :: l₁, q, l₂, rfl, List.forall_mem_cons.mpr ⟨hc, hn⟩, h1, h2, rfl⟩

/-! ### one group handed to rtr_mgr_start_sockets: failover, first group, rtr_mgr_start -/

def StartedOne (gs gs' : List Group) (l : List Ev) : Prop :=
  (gs' = gs ∧ l = []) ∨
  ∃ l₁ q l₂, gs = l₁ ++ q :: l₂ ∧ gs' = l₁ ++ q.startSockets.1 :: l₂ ∧ l = q.startSockets.2.1

theorem StartedOne.refl (gs : List Group) : StartedOne gs gs [] :=
  Or.inl ⟨rfl, rfl⟩

theorem StartedOne.started (l₁ : List Group) (q : Group) (l₂ : List Group) :
    StartedOne (l₁ ++ q :: l₂) (l₁ ++ q.startSockets.1 :: l₂) q.startSockets.2.1 :=
  Or.inr ⟨l₁, q, l₂, rfl, rfl, rfl⟩

theorem startBest_shape (p : Nat) (gs : List Group) : StartedOne gs (startBest p gs).1 (startBest p gs).2 := by
  rcases startBest_eq p gs with ⟨_, e⟩ | ⟨l₁, q, l₂, rfl, _, _, _, e⟩
  · rw [e]
    exact .refl gs
  · rw [e]
    exact .started l₁ q l₂

theorem startFirstIfClosed_shape (gs : List Group) :
    StartedOne gs (startFirstIfClosed gs).1 (startFirstIfClosed gs).2 := by
  cases gs with
  | nil => exact .refl []
  | cons b t =>
    by_cases hb : b.status = .closed
    · simp only [startFirstIfClosed, if_pos hb]
      exact .started [] b t
    · simp only [startFirstIfClosed, if_neg hb]
      exact .refl _

theorem start_shape (gs : List Group) : StartedOne gs (start gs).1 (start gs).2.1 := by
  cases gs with
  | nil => exact .refl []
  | cons b t => exact .started [] b t

section
variable {gs gs' : List Group} {l : List Ev} (h : StartedOne gs gs' l)
include h

theorem startedOne_prefs : prefs gs' = prefs gs := by
  rcases h with ⟨rfl, _⟩ | ⟨l₁, q, l₂, rfl, rfl, _⟩
  · rfl
  · simp only [prefs, List.map_append, List.map_cons, startSockets_pref]

theorem startedOne_forall {P : Group → Prop} (h0 : ∀ g ∈ gs, P g) (hstart : ∀ g, P g → P g.startSockets.1) :
    ∀ g' ∈ gs', P g' := by
  intro g' hg'
  rcases h with ⟨rfl, _⟩ | ⟨l₁, q, l₂, rfl, rfl, _⟩
  · exact h0 g' hg'
  · rcases List.mem_append.mp hg' with hm | hm
    · exact h0 g' (List.mem_append_left _ hm)
    · rcases List.mem_cons.mp hm with rfl | hm
      · exact hstart q (h0 q (List.mem_append_right _ List.mem_cons_self))
      · exact h0 g' (List.mem_append_right _ (List.mem_cons_of_mem _ hm))

theorem startedOne_log {e : Ev} (he : e ∈ l) : ∃ q j ok, e = Ev.start q j ok := by
  rcases h with ⟨_, rfl⟩ | ⟨l₁, q, l₂, _, _, rfl⟩
  · cases he
  · obtain ⟨j, ok, rfl⟩ := startSockets_log he
    exact ⟨_, j, ok, rfl⟩

theorem startedOne_keeps {g : Group} (hg : g ∈ gs) : ∃ g' ∈ gs', g'.pref = g.pref ∧ g'.ivs = g.ivs := by
  rcases h with ⟨rfl, _⟩ | ⟨l₁, q, l₂, rfl, rfl, _⟩
  · exact ⟨g, hg, rfl, rfl⟩
  · rcases List.mem_append.mp hg with hm | hm
    · exact ⟨g, List.mem_append_left _ hm, rfl, rfl⟩
    · rcases List.mem_cons.mp hm with rfl | hm
      · exact ⟨_, List.mem_append_right _ List.mem_cons_self, rfl, rfl⟩
      · exact ⟨g, List.mem_append_right _ (List.mem_cons_of_mem _ hm), rfl, rfl⟩

end

/-! ### which group the failover starts -/

theorem startBest_none {p : Nat} {gs : List Group} (h : ∀ c ∈ gs, ¬ (c.pref ≠ p ∧ c.status = .closed)) :
    startBest p gs = (gs, []) := by
  rcases startBest_eq p gs with ⟨_, e⟩ | ⟨l₁, q, l₂, rfl, _, h1, h2, _⟩
  · exact e
  · exact absurd ⟨h1, h2⟩ (h q (List.mem_append_right _ List.mem_cons_self))

theorem startBest_mem {p : Nat} {gs : List Group} {g' : Group} (h : g' ∈ (startBest p gs).1) :
    g' ∈ gs ∨ ∃ q ∈ gs, q.pref ≠ p ∧ q.status = .closed ∧ g' = q.startSockets.1 := by
  rcases startBest_eq p gs with ⟨_, e⟩ | ⟨l₁, q, l₂, rfl, _, h1, h2, e⟩
  · rw [e] at h
    exact Or.inl h
  · rw [e] at h
    rcases List.mem_append.mp h with h | h
    · exact Or.inl (List.mem_append_left _ h)
    · rcases List.mem_cons.mp h with rfl | h
      · exact Or.inr ⟨q, List.mem_append_right _ List.mem_cons_self, h1, h2, rfl⟩
      · exact Or.inl (List.mem_append_right _ (List.mem_cons_of_mem _ h))

theorem startBest_spec {p : Nat} {gs : List Group} (hs : Sorted gs) {q : Group} (hq : q ∈ gs)
    (hq1 : q.pref ≠ p) (hq2 : q.status = .closed)
    (hmin : ∀ c ∈ gs, c.pref ≠ p → c.status = .closed → q.pref ≤ c.pref) :
    (startBest p gs).2 = q.startSockets.2.1 ∧ q.startSockets.1 ∈ (startBest p gs).1 ∧
    (∀ c ∈ gs, c ≠ q → c ∈ (startBest p gs).1) := by
  rcases startBest_eq p gs with ⟨hn, _⟩ | ⟨l₁, q', l₂, rfl, hn, h1, h2, e⟩
  · exact absurd ⟨hq1, hq2⟩ (hn q hq)
  · -- `q'` is the first candidate in list order, `q` the one with the smallest preference
    have hq' : q' ∈ l₁ ++ q' :: l₂ := List.mem_append_right _ List.mem_cons_self
    have hqq : q = q' := by
      apply hs.unique hq hq'
      have h3 := hmin q' hq' h1 h2
      rcases List.mem_append.mp hq with h | h
      · exact absurd ⟨hq1, hq2⟩ (hn q h)
      · rcases List.mem_cons.mp h with rfl | h
        · rfl
        · have := (List.pairwise_cons.mp (List.pairwise_append.mp hs).2.1).1 q h
          omega
    subst hqq
    rw [e]
    refine ⟨rfl, List.mem_append_right _ List.mem_cons_self, ?_⟩
    intro c hc hne
    rcases List.mem_append.mp hc with h | h
    · exact List.mem_append_left _ h
    · rcases List.mem_cons.mp h with rfl | h
      · exact absurd rfl hne
      · exact List.mem_append_right _ (List.mem_cons_of_mem _ h)

theorem stop_eq (gs : List Group) : stop gs = (gs.map fun g => g.stopAll.1, gs.flatMap fun g => g.stopAll.2) := by
  induction gs with
  | nil => rfl
  | cons g t ih => simp only [stop, List.map_cons, List.flatMap_cons, ih]

theorem stop_prefs (gs : List Group) : prefs (stop gs).1 = prefs gs := by
  rw [stop_eq]
  exact prefs_map stopAll_pref gs

end Rtr.Mgr
