/-
  DiffPass: what `pfx_table_notify_diff` and `spki_table_notify_diff` share.  Both walk the
  enumeration of the new table once; an entry of the reloading source is removed from the old table
  if that holds it and reported as added if not.  `diffPass_spec` is that loop for any table type,
  given what one step does; the prefix table (NotifyDiff) and the router-key table (SpkiRefine)
  supply the step from their `remove`.  With it the set algebra for one record that both need.
-/
namespace Rtr

/-- The invariant of a loop that removes from a set the members of a work list that have `B`, for one
    `x`: "in the set, and not a processed member with `B`" (`A ∧ ¬ (B ∧ C)`), across a step whose
    head is removed.  `E`: `x` is the head; `A`, `A'`: in the set before / after the step; `C`:
    processed later. -/
theorem drop_head {A A' B C E : Prop} (h1 : E → B) (hA : A' ↔ ¬ E ∧ A) :
    (A' ∧ ¬ (B ∧ C)) ↔ (A ∧ ¬ (B ∧ (E ∨ C))) := by
  grind

/-- the same across a step that leaves the set alone: the head is not in it, or has not `B` -/
theorem skip_head {A B C E : Prop} (h : E → ¬ (A ∧ B)) : (A ∧ ¬ (B ∧ C)) ↔ (A ∧ ¬ (B ∧ (E ∨ C))) := by
  grind

/-- The set algebra of a net difference, for one record (`O`, `N`: held by the old / new table,
    `S`: of the reloading source): what was there, plus what was added, minus what was removed,
    is what is there now, provided the two agree outside the source. -/
theorem net_diff {O N S : Prop} (h : ¬ S → (N ↔ O)) :
    ((O ∨ (N ∧ S ∧ ¬ O)) ∧ ¬ (O ∧ S ∧ ¬ N)) ↔ N := by
  grind

/-- The first phase of a notify_diff as a fold of `step` over a duplicate-free enumeration `L` of the
    new table.  The state is (what the new table is told, the old table); `c` reads the contents of
    an old table, `I` is what every old table on the way satisfies.  A step skips an entry without
    `p`; removes one with `p` that the old table holds; and notes one it does not hold. -/
theorem diffPass_spec {α ν σ : Type} [DecidableEq α] (p : α → Bool) (c : σ → List α) (I : σ → Prop)
    (note : ν → α → ν) (step : ν × σ → α → ν × σ)
    (hskip : ∀ n o e, p e = false → step (n, o) e = (n, o))
    (hin : ∀ n o e, I o → p e = true → e ∈ c o →
      ∃ o', step (n, o) e = (n, o') ∧ I o' ∧ ∀ x, x ∈ c o' ↔ ¬ x = e ∧ x ∈ c o)
    (hout : ∀ n o e, I o → p e = true → e ∉ c o → step (n, o) e = (note n e, o)) :
    ∀ (L : List α) (n : ν) (o : σ), L.Nodup → I o →
      I (L.foldl step (n, o)).2 ∧
      (∀ x, x ∈ c (L.foldl step (n, o)).2 ↔ x ∈ c o ∧ ¬ (p x = true ∧ x ∈ L)) ∧
      (L.foldl step (n, o)).1 = (L.filter fun e => p e && !decide (e ∈ c o)).foldl note n := by
  intro L
  induction L with
  | nil => intro n o _ ho; exact ⟨ho, fun x => by simp, rfl⟩
  | cons e L ih =>
    intro n o nd ho
    rw [List.nodup_cons] at nd
    rw [List.foldl_cons]
    cases hp : p e with
    | false =>
      obtain ⟨a, b, k⟩ := ih n o nd.2 ho
      rw [hskip n o e hp, List.filter_cons_of_neg (by simp [hp])]
      refine ⟨a, fun x => ?_, k⟩
      rw [b x, List.mem_cons]
      exact skip_head fun h q => by rw [h, hp] at q; exact absurd q.2 (by decide)
    | true =>
      by_cases hm : e ∈ c o
      · obtain ⟨o', hs, ho', hc⟩ := hin n o e ho hp hm
        obtain ⟨a, b, k⟩ := ih n o' nd.2 ho'
        rw [hs]
        refine ⟨a, fun x => ?_, ?_⟩
        · rw [b x, List.mem_cons]
          exact drop_head (fun h => h ▸ hp) (hc x)
        · -- `e` is in the old table, and for the others it makes no difference that it has left it
          rw [k, List.filter_cons_of_neg (by simp [hm])]
          congr 1
          apply List.filter_congr
          intro x hx
          have : ¬ x = e := fun h => nd.1 (h ▸ hx)
          simp [hc x, this]
      · obtain ⟨a, b, k⟩ := ih (note n e) o nd.2 ho
        rw [hout n o e ho hp hm, List.filter_cons_of_pos (by simp [hp, hm])]
        refine ⟨a, fun x => ?_, k⟩
        rw [b x, List.mem_cons]
        exact skip_head fun h q => hm (h ▸ q.1)

end Rtr
