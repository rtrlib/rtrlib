/-
  CLinkRecvWalk: the one tactic abbreviation that the link proof of `rtr_receive_pdu` uses (RtrProofs/CLinkRecv.lean,
  `receive_pdu_eq_model`). It stands here, in front of that module, because the non-theorem commands of CLinkRecv.lean are
  mirrored into lean/RtrSpec; the names it uses are those of CLinkRecv.lean and are resolved where it is called
  (`hygiene false`).
-/

set_option hygiene false in
/-- strips the bounds guards at the head of the C text - tests `decide (a + k ≤ b) && …` that the contract makes true -,
    however many the translation has put there (a read that the C text hoists or repeats moves its guard) -/
macro "recv_guards" : tactic =>
  `(tactic| repeat (refine Agrees.pos (by simp only [Bool.and_eq_true, Bool.or_eq_true, decide_eq_true_eq]; omega) ?_))
