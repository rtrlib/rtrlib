/-
  CLinkErr: the three functions of rtrlib/rtr/packets.c through which every byte leaves the library, as translated by
  tools/gen_cfuns.py (RtrModel/Generated/CFuns.lean, regenerated from the current source on every run), equal short
  readable specifications - for EVERY world, socket and memory, under explicit side conditions.  (Property C14.)

      C.rtr_send_error_pdu            = sendErrorSpec     (rtr_send_error_pdu_eq, rtr_send_error_pdu_eq_below)
      C.rtr_send_pdu                  = sendPduSpec       (rtr_send_pdu_eq)
      C.rtr_send_error_pdu_from_host  = fromHostSpec      (rtr_send_error_pdu_from_host_eq; from_host_eq_callee: it is its
                                                           callee on the converted copy)

  The functions are translated over `C.XWorld C.S_rtr_socket` (RtrModel/CSem.lean): a callee that the translator's entry for
  the calling function declares external (`externs` in tools/gen_cfuns.py; `rtr_send_pdu` is one for `rtr_send_error_pdu`
  although it is translated on its own as well) is answered by the world and recorded in `w.trace` with its name and its
  recorded arguments.  For `rtr_send_pdu` called by `rtr_send_error_pdu` these are the length followed by the `length`
  bytes of the message (`C.bytesAt`); for `tr_send_all` length, timeout and the bytes of the buffer.  What
  `rtr_pdu_to_network_byte_order` was handed is not recorded: the converted copy is the world's answer, so "the bytes sent are
  the conversion of the caller's bytes" is outside these theorems.  Memory is `Nat → BitVec 8`; the variable-length arrays
  `msg`, `pdu`, `pdu_converted` live in pages of their own above `C.STACK` (`MSG`, `FH`, `SP`; page size 2^20).  The array
  `pdu` of `rtr_send_error_pdu_from_host` and the array `msg` of its translated callee must be different objects - the
  callee's header stores would otherwise overwrite the copy before it is read; the translator gives every translated
  function pages of its own and refuses a function that would share one with a translated callee (tools/gen_cfuns.py);
  `pages_apart` is that fact in the form the proof needs.

  rtr_send_error_pdu (`errorReportBytes` = the report in HOST byte order on a little-endian host):
    * `erroneous_pdu_len ≥ 2` and type byte (offset 1) = 10 (ERROR): NO call, nothing written, RTR_SUCCESS;
    * otherwise exactly ONE call, "rtr_send_pdu", whose arguments are `16 + |enc| + |text|` and exactly
      `errorReportBytes ver code enc text`, enc = the bytes at `erroneous_pdu`, text = the bytes at `err_text`, both as
      they were when the function was called; the return value is the callee's; the memory afterwards is the memory
      before with the report at `MSG` (`C.memFill`), so nothing below `C.STACK` is written.
    Side conditions (rtr_send_error_pdu_eq).  Where a report is made the first three are necessary for a defined result of
    the translation; the early return asks only that the size (mod 2^32) is in 1..2^20 and for two bytes at
    `erroneous_pdu`.  `Apart` is sufficient, not necessary: see there.
      `16 + el + tl ≤ 2^20`                      the translator's page size for `msg`; implies that `unsigned int msg_size`
                                                 does not wrap.  When the sum DOES wrap 2^32 the array is too small for
                                                 what is written: `none` for all such lengths (rtr_send_error_pdu_wrap)
      `el = 0 ∨ erroneous_pdu + el ≤ msize`      the encapsulated PDU lies in its object (`NULL, 0` is fine)
      `tl = 0 ∨ err_text + tl ≤ err_text_end`    the text lies in its object
      `Apart … MSG …` (twice)                    the two buffers do not meet the message array.  For a defined result a
                                                 source need only be apart from the destination of its own copy
                                                 (`memcpy` must not overlap); the equation needs the whole array: the
                                                 report must not overwrite what is still to be copied.
                                                 `Below` = the convenient special case: the objects end below `C.STACK`.

  Nothing navigates the generated term: `c_norm` normalises it, `walk` compares its decision tree with the specification's
  (`omega`), the memory at a leaf is compared with the report piece by piece whatever the order of the stores (`leaf`,
  `close_bytes`, `close_frame`).  What the proofs do not refer to: the order of the two copies and of the header stores,
  where `len_enc_pdu` is assigned, the order in which `msg_size` is summed, through which pointer a field is written, the
  spelling of a comparison (`ERROR == t`, a local in between, `> 1` for `>= 2`, `RTR_SHUTDOWN == state`: conditions are
  normalised and compared by `omega`), merged return paths, the order of from_host's case distinction, the page numbers.
  What they do depend on is every length, field, buffer and test of the three functions: each occurs in a specification.
-/
import RtrProofs.CLink
import RtrProofs.CLinkPdu
import RtrProofs.CLinkSync
import RtrProofs.CLinkRecv

set_option linter.unusedSimpArgs false
set_option linter.unusedVariables false

namespace Rtr.CLink.Err
open Rtr Rtr.Gen Rtr.CLink

abbrev Mem := Nat → BitVec 8
abbrev Sock := C.S_rtr_socket
abbrev XW := C.XWorld Sock
abbrev Out := Option (BitVec 32 × Mem × XW)

section
/- keeps `omega`, which compares atoms up to definitional equality, from looking into `C.STACK = 2 ^ 40`; so does
   `generalize C.STACK = S` in the proofs over the generated text -/
attribute [local irreducible] C.STACK

/-! ## byte strings in memory -/

/-- the `n` bytes at `a` -/
def bytesOf (m : Mem) (a n : Nat) : List (BitVec 8) := (List.range n).map fun i => m (a + i)

/-- a 16-bit value as it lies in memory on a little-endian host -/
def le16 (v : BitVec 16) : List (BitVec 8) := [v.extractLsb' 0 8, v.extractLsb' 8 8]
/-- a 32-bit value as it lies in memory on a little-endian host -/
def le32 (v : BitVec 32) : List (BitVec 8) :=
  [v.extractLsb' 0 8, v.extractLsb' 8 8, v.extractLsb' 16 8, v.extractLsb' 24 8]

theorem bytesAt_eq (m : Mem) (a n : Nat) : C.bytesAt m a n = (bytesOf m a n).map (BitVec.setWidth 64) := by
  unfold C.bytesAt bytesOf; rw [List.map_map]; rfl

@[simp] theorem bytesOf_length (m : Mem) (a n : Nat) : (bytesOf m a n).length = n := by unfold bytesOf; simp
theorem bytesOf_zero (m : Mem) (a : Nat) : bytesOf m a 0 = [] := rfl
theorem bytesOf_getD (m : Mem) (a n i : Nat) (d : BitVec 8) (h : i < n) : (bytesOf m a n).getD i d = m (a + i) := by
  unfold bytesOf; simp [List.getD_eq_getElem?_getD, h]

theorem bytesOf_congr {m m' : Mem} {a a' n : Nat} (h : ∀ i, i < n → m (a + i) = m' (a' + i)) :
    bytesOf m a n = bytesOf m' a' n := by
  unfold bytesOf
  apply List.map_congr_left
  intro i hi
  exact h i (List.mem_range.mp hi)

theorem bytesOf_add (m : Mem) (a n k : Nat) : bytesOf m a (n + k) = bytesOf m a n ++ bytesOf m (a + n) k := by
  unfold bytesOf
  rw [List.range_add, List.map_append, List.map_map]
  congr 1
  apply List.map_congr_left
  intro i _
  simp only [Function.comp, Nat.add_assoc]

/-- the layout of an Error Report: five header fields, the encapsulated PDU, the text length, the text -/
theorem bytesOf_split (m : Mem) (b e t : Nat) :
    bytesOf m b (16 + e + t) =
      bytesOf m b 1 ++ bytesOf m (b + 1) 1 ++ bytesOf m (b + 2) 2 ++ bytesOf m (b + 4) 4 ++ bytesOf m (b + 8) 4 ++
        bytesOf m (b + 12) e ++ bytesOf m (b + 12 + e) 4 ++ bytesOf m (b + 12 + e + 4) t := by
  rw [show 16 + e + t = 12 + e + 4 + t by omega, bytesOf_add, bytesOf_add, bytesOf_add,
    show (12 : Nat) = 1 + 1 + 2 + 4 + 4 from rfl, bytesOf_add, bytesOf_add, bytesOf_add, bytesOf_add]
  simp only [Nat.add_assoc, Nat.reduceAdd]

/-! ### stores and copies, seen through `bytesOf`

Each lemma has ONE side condition, of linear arithmetic: so `simp (disch := omega)` can use it as a conditional rewrite rule
(`close_bytes`).  That is why a lemma that needs address and length to fit takes the conjunction `a = d ∧ n = k` as a
single hypothesis. -/

theorem bytesOf_store8_other (m : Mem) (p : Nat) (v : BitVec 8) (a n : Nat) (h : a + n ≤ p ∨ p < a) :
    bytesOf (C.store8 m p v) a n = bytesOf m a n :=
  bytesOf_congr fun i hi => store8_other m p v _ (by omega)
theorem bytesOf_store16_other (m : Mem) (p : Nat) (v : BitVec 16) (a n : Nat) (h : a + n ≤ p ∨ p + 2 ≤ a) :
    bytesOf (C.store16 m p v) a n = bytesOf m a n :=
  bytesOf_congr fun i hi => store16_other m p v _ (by omega)
theorem bytesOf_store32_other (m : Mem) (p : Nat) (v : BitVec 32) (a n : Nat) (h : a + n ≤ p ∨ p + 4 ≤ a) :
    bytesOf (C.store32 m p v) a n = bytesOf m a n :=
  bytesOf_congr fun i hi => store32_other m p v _ (by omega)
theorem bytesOf_memcpy_other (m : Mem) (d s k a n : Nat) (h : a + n ≤ d ∨ d + k ≤ a) :
    bytesOf (C.memcpy m d s k) a n = bytesOf m a n :=
  bytesOf_congr fun i hi => memcpy_out m d s k _ (by omega)
theorem bytesOf_memFill_other (m : Mem) (d k : Nat) (l : List (BitVec 8)) (a n : Nat) (h : a + n ≤ d ∨ d + k ≤ a) :
    bytesOf (C.memFill m d k l) a n = bytesOf m a n :=
  bytesOf_congr fun i hi => memFill_out m d k l _ (by omega)

theorem bytesOf_memcpy_at (m : Mem) (d s k a n : Nat) (h : a = d ∧ n = k) :
    bytesOf (C.memcpy m d s k) a n = bytesOf m s n := by
  obtain ⟨rfl, rfl⟩ := h
  exact bytesOf_congr fun i hi => memcpy_at m a s n i hi

theorem bytesOf_store8_at (m : Mem) (p : Nat) (v : BitVec 8) (a : Nat) (h : a = p) :
    bytesOf (C.store8 m p v) a 1 = [v] := by
  subst h; simp [bytesOf, C.store8, List.range_succ]
theorem bytesOf_store16_at (m : Mem) (p : Nat) (v : BitVec 16) (a : Nat) (h : a = p) :
    bytesOf (C.store16 m p v) a 2 = le16 v := by
  subst h; simp [bytesOf, C.store16, List.range_succ, le16]
theorem bytesOf_store32_at (m : Mem) (p : Nat) (v : BitVec 32) (a : Nat) (h : a = p) :
    bytesOf (C.store32 m p v) a 4 = le32 v := by
  subst h; simp [bytesOf, C.store32, List.range_succ, le32]

theorem bytesOf_memFill_at (m : Mem) (d k : Nat) (l : List (BitVec 8)) (a n : Nat) (h : a = d ∧ n = k) :
    bytesOf (C.memFill m d k l) a n = Recv.takeD l n := by
  obtain ⟨rfl, rfl⟩ := h
  unfold bytesOf Recv.takeD Recv.hdrB
  apply List.map_congr_left
  intro i hi
  exact memFill_at m a n l i (List.mem_range.mp hi)

/-! ## the Error Report -/

/-- the Error Report in HOST byte order, as `rtr_send_error_pdu` assembles it on a little-endian host -/
def errorReportBytes (ver : BitVec 8) (code : BitVec 16) (enc text : List (BitVec 8)) : List (BitVec 8) :=
  [ver, 10#8] ++ le16 code ++ le32 (BitVec.ofNat 32 (16 + enc.length + text.length)) ++
    le32 (BitVec.ofNat 32 enc.length) ++ enc ++ le32 (BitVec.ofNat 32 text.length) ++ text

theorem errorReportBytes_length (ver : BitVec 8) (code : BitVec 16) (enc text : List (BitVec 8)) :
    (errorReportBytes ver code enc text).length = 16 + enc.length + text.length := by
  simp [errorReportBytes, le16, le32]; omega

/-- Where the translation puts the variable-length arrays: every translated function has pages of its own above `C.STACK`
    (page size 2^20).  Page number of the `k`-th such object of the function at position `i` (from 0) of the list `FUNCS` in
    tools/gen_cfuns.py: `4 * i + k`; the three functions stand at 31, 32, 33 and have one array each, hence pages 125, 129,
    133, times 1048576.  THE ONLY PLACE where the three literal addresses occur: `msg` of `rtr_send_error_pdu`, … -/
def MSG : Nat := C.STACK + 131072000
/-- … `pdu` of `rtr_send_error_pdu_from_host`, … -/
def FH : Nat := C.STACK + 135266304
/-- … `pdu_converted` of `rtr_send_pdu`. -/
def SP : Nat := C.STACK + 139460608

/-- the object `[a, a+n)` does not meet `[b, b+k)` (nothing is required of an empty object: `NULL, 0` is a legal argument) -/
def Apart (a n b k : Nat) : Prop := n = 0 ∨ a + n ≤ b ∨ b + k ≤ a

def sendErrorSpec (w : XW) (mem : Mem) (s : Sock) (ep : Nat) (el error : BitVec 32) (tp : Nat) (tl : BitVec 32) : Out :=
  let enc := bytesOf mem ep el.toNat
  let text := bytesOf mem tp tl.toNat
  if 2 ≤ el.toNat ∧ mem (ep + 1) = 10#8 then some (0#32, mem, w)
  else
    let report := errorReportBytes (s.version.setWidth 8) (error.setWidth 16) enc text
    some (xret (xans w), C.memFill mem MSG report.length report,
          xrec w "rtr_send_pdu" (BitVec.ofNat 64 report.length :: report.map (BitVec.setWidth 64)) s)

/-- `ite_cases_lhs` under the name `walk` uses -/
theorem ite_lhs {α : Sort _} {c : Prop} [Decidable c] {a b r : α} (h1 : c → a = r) (h2 : ¬c → b = r) :
    (if c then a else b) = r :=
  ite_cases_lhs h1 h2

/-! ### normal form of the generated conditions, and the walk down a decision tree -/

theorem sext8_eq10 (x : BitVec 8) : (BitVec.signExtend 32 x = 10#32) = (x = 10#8) :=
  sext8_eq_lit x 10 (by decide)

theorem eq32_lit (x : BitVec 32) (k : Nat) (hk : k < 4294967296) : (x = BitVec.ofNat 32 k) = (x.toNat = k) :=
  propext (toNat_eq_lit x k hk).symm
theorem zext64_eq_lit (x : BitVec 32) (k : Nat) (hk : k < 4294967296) :
    (BitVec.setWidth 64 x = BitVec.ofNat 64 k) = (x.toNat = k) := by
  apply propext; rw [← toNat_eq_lit _ k (by omega), zext64_toNat]
/-- a literal on the left of an equation goes to the right (`ERROR == t` is `t == ERROR`) -/
theorem lit_eq_comm {n : Nat} (k : Nat) (x : BitVec n) : (BitVec.ofNat n k = x) = (x = BitVec.ofNat n k) :=
  propext eq_comm

theorem ite_rhs {α : Sort _} {c : Prop} [Decidable c] {a b l : α} (h1 : c → l = a) (h2 : ¬c → l = b) :
    l = (if c then a else b) :=
  iteInduction (motive := (l = ·)) h1 h2

/-- normal form of the generated term: external calls as `xans`/`xrec`; `decide`, `&&`, `==`, `!=` as propositions;
    unsigned comparisons as comparisons of `toNat`, signed ones of `toInt`; widenings and literals evaluated; comparisons
    with the literals of these functions (0, 8, ERROR = 10) as statements about the narrow value -/
local syntax "c_norm" "[" Lean.Parser.Tactic.simpLemma,* "]" : tactic
local macro_rules
  | `(tactic| c_norm [$ls,*]) =>
    `(tactic| simp only [xcall_eq, xcallBuf_eq, xret_fold, zext64_toNat, Bool.and_eq_true, Bool.or_eq_true, decide_eq_true_eq,
        beq_iff_eq, bne_iff_ne, ne_eq, BitVec.ult_eq_decide, BitVec.ule_eq_decide, BitVec.slt_eq_decide,
        BitVec.sle_eq_decide, BitVec.toNat_ofNat, BitVec.toInt_zero, Nat.reducePow, Nat.reduceMod,
        lit_eq_comm 0, lit_eq_comm 8, lit_eq_comm 9, lit_eq_comm 10, eq32_lit _ 0 (by decide),
        zext64_eq_lit _ 8 (by decide), sext8_eq10, Nat.add_sub_cancel_left, List.cons_append, List.nil_append,
        not_true_eq_false, not_false_eq_true, true_and, and_true, false_and, and_false, if_true, if_false, $ls,*])

/-- walk down the decision tree of the generated term (left) and of the specification (right): a condition that follows
    from the context, or whose negation does, is passed (`omega`); a real decision splits the goal and prunes both sides;
    a path that contradicts the side conditions is closed (`omega`) -/
local macro "walk" : tactic =>
  `(tactic| repeat' (first
      | (with_reducible rfl)
      | omega
      | ((with_reducible refine Eq.trans (if_pos ?hc_) ?_); (case hc_ => omega))
      | ((with_reducible refine Eq.trans (if_neg ?hc_) ?_); (case hc_ => omega))
      | ((with_reducible refine ite_lhs ?_ ?_) <;> intro h_ <;>
          try simp only [h_, if_true, if_false, not_true_eq_false, not_false_eq_true, Bool.false_eq_true])
      | ((with_reducible refine Eq.trans ?_ (Eq.symm (if_pos ?hc_))); (case hc_ => omega))
      | ((with_reducible refine Eq.trans ?_ (Eq.symm (if_neg ?hc_))); (case hc_ => omega))
      | ((with_reducible refine ite_rhs ?_ ?_) <;> intro h_ <;>
          try simp only [h_, if_true, if_false, not_true_eq_false, not_false_eq_true, Bool.false_eq_true])))

/-- a leaf of `rtr_send_error_pdu`: the memory `M` holds the report at `b` and is `mem` elsewhere -/
theorem leaf {w : XW} {s : Sock} {rc : BitVec 32} {M mem : Mem} {b N : Nat} {n32 : BitVec 32} {report : List (BitVec 8)}
    (hn : n32.toNat = N) (hb : bytesOf M b N = report) (hout : ∀ x, x < b ∨ b + N ≤ x → M x = mem x) :
    (some (rc, M, xrec w "rtr_send_pdu" ([BitVec.setWidth 64 n32] ++ C.bytesAt M b N) s) : Out) =
      some (rc, C.memFill mem b N report,
        xrec w "rtr_send_pdu" (BitVec.ofNat 64 N :: report.map (BitVec.setWidth 64)) s) := by
  have hM : M = C.memFill mem b N report := by
    funext x
    by_cases hx : b ≤ x ∧ x < b + N
    · rw [memFill_in _ _ _ _ _ hx, ← hb, bytesOf_getD _ _ _ _ _ (by omega), Nat.add_sub_cancel' hx.1]
    · rw [memFill_out _ _ _ _ _ (by omega)]
      exact hout x (by omega)
  have h64 : BitVec.setWidth 64 n32 = BitVec.ofNat 64 N := by
    apply BitVec.eq_of_toNat_eq
    have := n32.isLt
    rw [zext64_toNat, BitVec.toNat_ofNat, hn]; omega
  rw [bytesAt_eq, hb, h64, ← hM]; rfl

theorem bytesOf_nil (m : Mem) (a n : Nat) (h : n = 0) : bytesOf m a n = [] := by subst h; rfl

/-- the bytes of the assembled message, piece by piece -/
local macro "close_bytes" : tactic =>
  `(tactic| (rw [bytesOf_split]; unfold errorReportBytes; simp only [bytesOf_length]
             simp (disch := omega) only [bytesOf_length, bytesOf_store8_other, bytesOf_store16_other, bytesOf_store32_other,
               bytesOf_memcpy_other, bytesOf_memcpy_at, bytesOf_store8_at, bytesOf_store16_at, bytesOf_store32_at,
               bytesOf_nil, BitVec.ofNat_toNat, BitVec.setWidth_eq, List.append_assoc, List.cons_append, List.nil_append,
               List.append_nil]))

/-- nothing but the message array is written -/
local macro "close_frame" : tactic =>
  `(tactic| (intro x hx
             simp (disch := omega) only [store8_other, store16_other, store32_other, Recv.memcpy_out]))

/-- a source that does not meet `[b, b+k)` ends below it or begins above it - or it is empty, and then it may be taken to
    lie at address 0: nothing is read through it -/
theorem Apart.src {a n b k : Nat} (h : Apart a n b k) :
    ∃ a', (a' + n ≤ b ∨ b + k ≤ a') ∧ (∀ (m : Mem) (d : Nat), C.memcpy m d a n = C.memcpy m d a' n) ∧
      ∀ m : Mem, bytesOf m a n = bytesOf m a' n := by
  rcases h with h0 | h
  · subst h0
    refine ⟨0, Or.inl (Nat.zero_le b), fun m d => ?_, fun m => rfl⟩
    rw [memcpy_len0 (Nat.lt_irrefl 0), memcpy_len0 (Nat.lt_irrefl 0)]
  · exact ⟨a, h, fun _ _ => rfl, fun _ => rfl⟩

theorem rtr_send_error_pdu_eq (w : XW) (mem : Mem) (msize : Nat) (s : Sock) (ep : Nat) (el error : BitVec 32)
    (tp tend : Nat) (tl : BitVec 32)
    (hsz : 16 + el.toNat + tl.toNat ≤ 1048576)
    (hep : el.toNat = 0 ∨ ep + el.toNat ≤ msize) (hea : Apart ep el.toNat MSG (16 + el.toNat + tl.toNat))
    (htp : tl.toNat = 0 ∨ tp + tl.toNat ≤ tend) (hta : Apart tp tl.toNat MSG (16 + el.toNat + tl.toNat)) :
    C.rtr_send_error_pdu w mem msize s ep el error tp tend tl = sendErrorSpec w mem s ep el error tp tl := by
  unfold C.rtr_send_error_pdu sendErrorSpec
  -- from here on the address of the array is a variable
  generalize hb : MSG = b at *
  unfold MSG at hb
  rw [hb]
  clear hb
  extract_lets +onlyGivenNames msg_size
  have hms : msg_size = BitVec.ofNat 32 (16 + el.toNat + tl.toNat) := by
    apply BitVec.eq_of_toNat_eq
    simp only [msg_size, BitVec.toNat_setWidth, BitVec.toNat_add, BitVec.toNat_ofNat]
    have := el.isLt; have := tl.isLt
    omega
  have hN : msg_size.toNat = 16 + el.toNat + tl.toNat := by rw [hms, BitVec.toNat_ofNat]; omega
  clear_value msg_size
  have hpos : 0 < 16 + el.toNat + tl.toNat := by omega
  -- the type test as a statement about a number, so that `omega` can compare the two sides' tests
  have h10 : (mem (ep + 1) = 10#8) = ((mem (ep + 1)).toNat = 10) := by rw [← BitVec.toNat_inj]; rfl
  c_norm [hN, hsz, hpos, errorReportBytes_length, bytesOf_length, h10]
  -- under its guard `2 ≤ el` the callee `rtr_get_pdu_type` returns the type byte
  refine Eq.trans (ite_congr (u := ?b) rfl (fun h2 => ?h) (fun _ => rfl)) ?_
  case h => rw [Recv.rtr_get_pdu_type_at mem msize ep (by omega)]
  -- the code after the early return is translated twice (in its else branch and after the `if`): `ite_ite_same` makes
  -- the two copies one, and the test the specification's
  c_norm [h10, ite_ite_same]
  refine ite_congr (propext (by omega)) (fun _ => rfl) fun _ => ?_
  clear hsz hpos h10
  -- `if (len > 0) memcpy(…)`, twice: the code that follows is translated behind the copy and behind no copy; a copy of
  -- nothing is no copy (`memcpy_len0`), so the four paths are one on which both copies are made (`ite_opt`).  The guard
  -- of each copy is proved with the hypotheses about its own buffer only in sight (`omega` splits every disjunction it
  -- sees, and the cases of all four multiply), and after that none of them is needed on the way down
  have hea' := hea
  have hta' := hta
  unfold Apart at hea hta
  revert hep hea
  simp (disch := first | (intro h; rw [memcpy_len0 h]) | omega) only [ite_opt]
  clear htp hta
  intro hep hea
  simp (disch := first | (intro h; rw [memcpy_len0 h]) | omega) only [ite_opt]
  clear hep hea
  walk
  refine leaf hN ?_ ?_
  all_goals clear hN
  · -- an empty source is taken to lie below the array: two alternatives for each buffer, not three
    obtain ⟨ep', hea, hme, hbe⟩ := hea'.src
    obtain ⟨tp', hta, hmt, hbt⟩ := hta'.src
    rw [hme, hbe, hmt, hbt]
    subst hms
    close_bytes
  · close_frame

/-! ### the two outcomes -/

/-- the side conditions of `rtr_send_error_pdu_eq` for buffers that lie in objects of the caller below `C.STACK`
    (an empty buffer may be any pointer, e.g. `NULL`) -/
structure Below (msize ep : Nat) (el : BitVec 32) (tp tend : Nat) (tl : BitVec 32) : Prop where
  size : 16 + el.toNat + tl.toNat ≤ 1048576
  enc : el.toNat = 0 ∨ (ep + el.toNat ≤ msize ∧ msize ≤ C.STACK)
  text : tl.toNat = 0 ∨ (tp + tl.toNat ≤ tend ∧ tend ≤ C.STACK)

theorem apart_below {a n e k : Nat} (h : n = 0 ∨ (a + n ≤ e ∧ e ≤ C.STACK)) : Apart a n MSG k := by
  unfold Apart MSG
  generalize C.STACK = S at *
  omega

theorem rtr_send_error_pdu_eq_below {w : XW} {mem : Mem} {msize : Nat} {s : Sock} {ep : Nat} {el error : BitVec 32}
    {tp tend : Nat} {tl : BitVec 32} (H : Below msize ep el tp tend tl) :
    C.rtr_send_error_pdu w mem msize s ep el error tp tend tl = sendErrorSpec w mem s ep el error tp tl := by
  obtain ⟨h1, h2, h3⟩ := H
  exact rtr_send_error_pdu_eq _ _ _ _ _ _ _ _ _ _ h1 (by omega) (apart_below h2) (by omega) (apart_below h3)

/-- "never in reply to an Error Report": no call is made, nothing is written, RTR_SUCCESS -/
theorem error_report_never_for_error_report {w : XW} {mem : Mem} {msize : Nat} {s : Sock} {ep : Nat}
    {el error : BitVec 32} {tp tend : Nat} {tl : BitVec 32} (H : Below msize ep el tp tend tl)
    (h2 : 2 ≤ el.toNat) (hty : mem (ep + 1) = 10#8) :
    C.rtr_send_error_pdu w mem msize s ep el error tp tend tl = some (0#32, mem, w) := by
  rw [rtr_send_error_pdu_eq_below H]; unfold sendErrorSpec
  rw [if_pos ⟨h2, hty⟩]

theorem bytesOf_below {m m' : Mem} {a n e : Nat} (hm : ∀ x, x < C.STACK → m x = m' x)
    (h : n = 0 ∨ (a + n ≤ e ∧ e ≤ C.STACK)) : bytesOf m a n = bytesOf m' a n := by
  rcases h with h0 | ⟨_, _⟩
  · rw [bytesOf_nil _ _ _ h0, bytesOf_nil _ _ _ h0]
  · exact bytesOf_congr fun i hi => hm _ (by omega)

/-- the specification when it reports, for a memory `m` that is `mem` below `C.STACK`: one call with the report made of the
    bytes of `m`; below `C.STACK` the memory afterwards is still `mem` -/
theorem sendErrorSpec_call (w : XW) {m mem : Mem} (s : Sock) {ep : Nat} (el error : BitVec 32) (tp : Nat) (tl : BitVec 32)
    (h : ¬ (2 ≤ el.toNat ∧ m (ep + 1) = 10#8)) (hout : ∀ a, a < C.STACK → m a = mem a) :
    ∃ mem', sendErrorSpec w m s ep el error tp tl =
        some (xret (xans w), mem',
          xrec w "rtr_send_pdu"
            (BitVec.ofNat 64 (16 + el.toNat + tl.toNat) ::
              (errorReportBytes (s.version.setWidth 8) (error.setWidth 16) (bytesOf m ep el.toNat)
                (bytesOf m tp tl.toNat)).map (BitVec.setWidth 64)) s) ∧
      ∀ a, a < C.STACK → mem' a = mem a := by
  unfold sendErrorSpec
  simp only [if_neg h, errorReportBytes_length, bytesOf_length]
  refine ⟨_, rfl, fun a ha => ?_⟩
  rw [memFill_out _ _ _ _ _ (by unfold MSG; omega)]
  exact hout a ha

/-- otherwise: exactly one call, `rtr_send_pdu(msg, 16 + |enc| + |text|)`, with exactly the bytes of the report; the return
    value is that call's; the only memory written is the message array (in its page above `C.STACK`) -/
theorem error_report_one_call {w : XW} {mem : Mem} {msize : Nat} {s : Sock} {ep : Nat}
    {el error : BitVec 32} {tp tend : Nat} {tl : BitVec 32} (H : Below msize ep el tp tend tl)
    (h : ¬ (2 ≤ el.toNat ∧ mem (ep + 1) = 10#8)) :
    ∃ mem', C.rtr_send_error_pdu w mem msize s ep el error tp tend tl =
        some (xret (w.ext w.n), mem',
          xrecs w [("rtr_send_pdu",
            BitVec.ofNat 64 (16 + el.toNat + tl.toNat) ::
              (errorReportBytes (s.version.setWidth 8) (error.setWidth 16) (bytesOf mem ep el.toNat)
                (bytesOf mem tp tl.toNat)).map (BitVec.setWidth 64), s)]) ∧
      ∀ a, a < C.STACK → mem' a = mem a := by
  rw [rtr_send_error_pdu_eq_below H]
  exact sendErrorSpec_call _ _ _ _ _ _ h fun _ _ => rfl

/-! ### C14: lengths, echo, no uninitialised byte -/

/-- a little-endian 32-bit field of a byte string -/
def rd32 (l : List (BitVec 8)) (i : Nat) : BitVec 32 :=
  l.getD (i + 3) 0#8 ++ l.getD (i + 2) 0#8 ++ l.getD (i + 1) 0#8 ++ l.getD i 0#8

theorem rd32_le32 (v : BitVec 32) (l : List (BitVec 8)) : rd32 (le32 v ++ l) 0 = v := by
  unfold rd32 le32; simp only [List.cons_append, List.getD_cons_succ, List.getD_cons_zero, Nat.zero_add]
  exact bytes_of_32 v

theorem rd32_drop (l : List (BitVec 8)) (i : Nat) : rd32 l i = rd32 (l.drop i) 0 := by
  unfold rd32; simp [List.getD_eq_getElem?_getD, List.getElem?_drop]

theorem errorReportBytes_drop12 (ver : BitVec 8) (code : BitVec 16) (enc text : List (BitVec 8)) :
    (errorReportBytes ver code enc text).drop 12 = enc ++ (le32 (BitVec.ofNat 32 text.length) ++ text) := by
  unfold errorReportBytes le16 le32
  simp only [List.append_assoc]
  rfl

/-- the length field of the report is the number of bytes handed over, the nested lengths add up, type and code are in
    their places -/
theorem error_report_length_consistent (ver : BitVec 8) (code : BitVec 16) (enc text : List (BitVec 8))
    (h : 16 + enc.length + text.length < 4294967296) :
    let r := errorReportBytes ver code enc text
    (rd32 r 4).toNat = r.length ∧ (rd32 r 8).toNat = enc.length ∧ (rd32 r (12 + enc.length)).toNat = text.length ∧
      (rd32 r 4).toNat = 16 + (rd32 r 8).toNat + (rd32 r (12 + enc.length)).toNat ∧
      r.getD 0 0#8 = ver ∧ r.getD 1 0#8 = 10#8 ∧ r.getD 3 0#8 ++ r.getD 2 0#8 = code := by
  intro r
  -- the three fields that lie in the first twelve bytes are read off the list
  have hh : rd32 r 4 = BitVec.ofNat 32 (16 + enc.length + text.length) ∧ rd32 r 8 = BitVec.ofNat 32 enc.length ∧
      r.getD 3 0#8 ++ r.getD 2 0#8 = code := by
    simp only [r, rd32, errorReportBytes, le16, le32, List.cons_append, List.nil_append, List.getD_cons_succ,
      List.getD_cons_zero]
    refine ⟨bytes_of_32 _, bytes_of_32 _, ?_⟩
    rw [BitVec.extractLsb'_append_extractLsb'_eq_extractLsb' (by rfl)]; simp
  obtain ⟨h4, h8, hc⟩ := hh
  have ht : rd32 r (12 + enc.length) = BitVec.ofNat 32 text.length := by
    rw [rd32_drop, ← List.drop_drop, errorReportBytes_drop12, List.drop_left, rd32_le32]
  refine ⟨?_, ?_, ?_, ?_, rfl, rfl, hc⟩
  · rw [h4, errorReportBytes_length, BitVec.toNat_ofNat]; omega
  · rw [h8, BitVec.toNat_ofNat]; omega
  · rw [ht, BitVec.toNat_ofNat]; omega
  · rw [h4, h8, ht]; simp only [BitVec.toNat_ofNat]; omega

/-- the encapsulated copy is byte for byte the PDU handed in; the text is byte for byte the text handed in -/
theorem error_report_echo_exact (ver : BitVec 8) (code : BitVec 16) (enc text : List (BitVec 8)) :
    ((errorReportBytes ver code enc text).drop 12).take enc.length = enc ∧
      (errorReportBytes ver code enc text).drop (12 + enc.length + 4) = text := by
  constructor
  · rw [errorReportBytes_drop12, List.take_left]
  · rw [show 12 + enc.length + 4 = 12 + (enc.length + 4) by omega, ← List.drop_drop, errorReportBytes_drop12,
      ← List.drop_drop, List.drop_left]
    exact List.drop_left' (by simp [le32])

/-- ... of the translated function: in the recorded arguments of the one call (length first), the encapsulated copy is
    exactly the `erroneous_pdu_len` bytes at `erroneous_pdu` as they were when the function was called -/
theorem error_report_echo_exact_call {w : XW} {mem : Mem} {msize : Nat} {s : Sock} {ep : Nat}
    {el error : BitVec 32} {tp tend : Nat} {tl : BitVec 32} (H : Below msize ep el tp tend tl)
    (h : ¬ (2 ≤ el.toNat ∧ mem (ep + 1) = 10#8)) :
    ∃ rc mem' args, C.rtr_send_error_pdu w mem msize s ep el error tp tend tl =
        some (rc, mem', xrecs w [("rtr_send_pdu", args, s)]) ∧
      ((args.drop 13).take el.toNat) = C.bytesAt mem ep el.toNat ∧
      args.drop (13 + el.toNat + 4) = C.bytesAt mem tp tl.toNat := by
  obtain ⟨mem', he, _⟩ := error_report_one_call (w := w) (s := s) (error := error) H h
  obtain ⟨h1, h2⟩ := error_report_echo_exact (s.version.setWidth 8) (error.setWidth 16) (bytesOf mem ep el.toNat)
    (bytesOf mem tp tl.toNat)
  rw [bytesOf_length] at h1 h2
  refine ⟨_, mem', _, he, ?_, ?_⟩
  · rw [show (13 : Nat) = 1 + 12 from rfl, ← List.drop_drop, List.drop_succ_cons, List.drop_zero, ← List.map_drop,
      ← List.map_take, h1, bytesAt_eq]
  · rw [show 13 + el.toNat + 4 = 1 + (12 + el.toNat + 4) by omega, ← List.drop_drop, List.drop_succ_cons, List.drop_zero,
      ← List.map_drop, h2, bytesAt_eq]

/-- no byte handed to `rtr_send_pdu` stems from uninitialised memory: what is returned and what is recorded do not
    depend on the contents of memory above `C.STACK` (where the message array lives) when the function is called -/
theorem error_report_no_uninitialised_byte {w : XW} {mem mem' : Mem} {msize : Nat} {s : Sock} {ep : Nat}
    {el error : BitVec 32} {tp tend : Nat} {tl : BitVec 32} (H : Below msize ep el tp tend tl)
    (hm : ∀ a, a < C.STACK → mem a = mem' a) :
    (C.rtr_send_error_pdu w mem msize s ep el error tp tend tl).map (fun r => (r.1, r.2.2)) =
      (C.rtr_send_error_pdu w mem' msize s ep el error tp tend tl).map (fun r => (r.1, r.2.2)) := by
  rw [rtr_send_error_pdu_eq_below H, rtr_send_error_pdu_eq_below H]
  obtain ⟨h1, h2, h3⟩ := H
  unfold sendErrorSpec
  simp only [bytesOf_below hm h2, bytesOf_below hm h3]
  by_cases h2' : 2 ≤ el.toNat
  · have : mem (ep + 1) = mem' (ep + 1) := hm _ (by omega)
    rw [this]
    split <;> simp only [Option.map_some]
  · simp only [h2', false_and, if_false, Option.map_some]

/-- `unsigned int msg_size = sizeof(struct pdu_error) + 4 + erroneous_pdu_len + err_text_len` is computed modulo 2^32.
    When the sum wraps, the array `msg[msg_size]` is smaller than what is then written into it: a header store or one of
    the two `memcpy`s leaves the array - the C text has no defined result there (`none`), for ALL such lengths; the only
    defined outcome left is the early return for an encapsulated Error Report, which is taken before anything is written.
    (No caller in packets.c passes such lengths: the encapsulated PDU is at most RTR_MAX_PDU_LEN bytes, the texts are
    local arrays of at most 67 bytes.) -/
theorem rtr_send_error_pdu_wrap (w : XW) (mem : Mem) (msize : Nat) (s : Sock) (ep : Nat) (el error : BitVec 32)
    (tp tend : Nat) (tl : BitVec 32) (hw : 4294967296 ≤ 16 + el.toNat + tl.toNat) :
    C.rtr_send_error_pdu w mem msize s ep el error tp tend tl = none ∨
      C.rtr_send_error_pdu w mem msize s ep el error tp tend tl = some (0#32, mem, w) := by
  unfold C.rtr_send_error_pdu
  generalize C.STACK = S at *
  extract_lets +onlyGivenNames msg_size
  -- so `msg_size < 16 + el`: whatever else fits, the store of the text length at offset `12 + el` does not
  have hN : msg_size.toNat + 4294967296 ≤ 16 + el.toNat + tl.toNat := by
    simp only [msg_size, BitVec.toNat_setWidth, BitVec.toNat_add, BitVec.toNat_ofNat]
    have := el.isLt; have := tl.isLt
    omega
  clear_value msg_size
  clear hw
  have htl := tl.isLt
  -- whatever the callee `rtr_get_pdu_type` returns
  generalize C.rtr_get_pdu_type mem msize ep = o
  c_norm [ite_ite_same]
  -- every guard that asks for that store fails; what is left are paths that end in `none`, and the early return
  simp (disch := omega) only [if_neg, ite_self]
  rcases o with _ | r
  all_goals repeat' (first | exact Or.inl rfl | exact Or.inr rfl |
    (refine iteInduction (motive := fun x => x = none ∨ x = some _) ?_ ?_ <;> intro h_))

/-! ## rtr_send_pdu: host-to-network conversion of a copy, then one transport send -/

/-- What `rtr_send_pdu` does.  `conv` = the copy after the callee `rtr_pdu_to_network_byte_order` rewrote it (external: the
    world's answer, padded with zeros / cut to `len` bytes).  NOTE the order in the C text: the copy is made and converted
    first, the SHUTDOWN check comes AFTER the conversion call. -/
def sendPduSpec (w : XW) (mem : Mem) (s : Sock) (len : BitVec 32) : Out :=
  let conv := Recv.takeD (xans w).buf len.toNat
  let mem' := C.memFill mem SP len.toNat (xans w).buf
  let w1 := xrec w "rtr_pdu_to_network_byte_order" [] s
  if s.state = 9#32 then some (4294967295#32, mem', w1)
  else
    let w2 := xrec w1 "tr_send_all" (BitVec.setWidth 64 len :: 60#64 :: conv.map (BitVec.setWidth 64)) s
    if 0 < (xret (xans w1)).toInt then some (0#32, mem', w2) else some (4294967295#32, mem', w2)

theorem bytesAt_memFill (m : Mem) (d n : Nat) (l : List (BitVec 8)) :
    C.bytesAt (C.memFill m d n l) d n = (Recv.takeD l n).map (BitVec.setWidth 64) := by
  rw [bytesAt_eq, bytesOf_memFill_at _ _ _ _ _ _ ⟨rfl, rfl⟩]

theorem rtr_send_pdu_eq (w : XW) (mem : Mem) (msize : Nat) (s : Sock) (pdu : Nat) (len : BitVec 32)
    (h0 : 0 < len.toNat) (h1 : len.toNat ≤ 1048576) (hp : pdu + len.toNat ≤ msize) (hm : msize ≤ C.STACK) :
    C.rtr_send_pdu w mem msize s pdu len = sendPduSpec w mem s len := by
  unfold C.rtr_send_pdu sendPduSpec SP
  generalize C.STACK = S at *
  c_norm [memFill_memcpy, bytesAt_memFill]
  walk

/-- SHUTDOWN: RTR_ERROR, nothing is handed to the transport (the only call is the conversion of the copy, which precedes
    the check) -/
theorem send_pdu_shutdown {w : XW} {mem : Mem} {msize : Nat} {s : Sock} {pdu : Nat} {len : BitVec 32}
    (h0 : 0 < len.toNat) (h1 : len.toNat ≤ 1048576) (hp : pdu + len.toNat ≤ msize) (hm : msize ≤ C.STACK)
    (hs : s.state = 9#32) :
    C.rtr_send_pdu w mem msize s pdu len =
      some (4294967295#32, C.memFill mem SP len.toNat (w.ext w.n).buf,
        xrecs w [("rtr_pdu_to_network_byte_order", [], s)]) := by
  rw [rtr_send_pdu_eq w mem msize s pdu len h0 h1 hp hm]; unfold sendPduSpec
  simp only [hs, if_true]; rfl

/-- otherwise: the conversion call, then ONE `tr_send_all` with length `len`, timeout 60 (RTR_SEND_TIMEOUT) and exactly the
    `len` bytes of the converted copy; RTR_SUCCESS iff the transport returned a value > 0, else RTR_ERROR -/
theorem send_pdu_sends {w : XW} {mem : Mem} {msize : Nat} {s : Sock} {pdu : Nat} {len : BitVec 32}
    (h0 : 0 < len.toNat) (h1 : len.toNat ≤ 1048576) (hp : pdu + len.toNat ≤ msize) (hm : msize ≤ C.STACK)
    (hs : s.state ≠ 9#32) :
    C.rtr_send_pdu w mem msize s pdu len =
      some (if 0 < (xret (w.ext (w.n + 1))).toInt then 0#32 else 4294967295#32,
        C.memFill mem SP len.toNat (w.ext w.n).buf,
        xrecs w [("rtr_pdu_to_network_byte_order", [], s),
                 ("tr_send_all", BitVec.setWidth 64 len :: 60#64 ::
                    (Recv.takeD (w.ext w.n).buf len.toNat).map (BitVec.setWidth 64), s)]) := by
  rw [rtr_send_pdu_eq w mem msize s pdu len h0 h1 hp hm]; unfold sendPduSpec
  have e : xans (xrec w "rtr_pdu_to_network_byte_order" [] s) = w.ext (w.n + 1) := rfl
  simp only [hs, if_false, e]
  by_cases hr : 0 < (xret (w.ext (w.n + 1))).toInt <;>
    simp only [hr, if_true, if_false, xrec_eq_xrecs, xrecs_xrecs, xans_eq, List.cons_append, List.nil_append]

/-- the number of bytes handed to the transport is the length handed to it -/
theorem send_pdu_length_consistent (buf : List (BitVec 8)) (len : BitVec 32) :
    ((Recv.takeD buf len.toNat).map (BitVec.setWidth 64)).length = (BitVec.setWidth 64 len).toNat := by
  rw [List.length_map, Recv.takeD_length, zext64_toNat]

/-- the caller's PDU is not modified (the conversion works on a copy): whatever the outcome, memory below `C.STACK` is as
    before -/
theorem send_pdu_caller_unchanged {w : XW} {mem : Mem} {msize : Nat} {s : Sock} {pdu : Nat} {len : BitVec 32}
    (h0 : 0 < len.toNat) (h1 : len.toNat ≤ 1048576) (hp : pdu + len.toNat ≤ msize) (hm : msize ≤ C.STACK) :
    ∃ rc mem' w', C.rtr_send_pdu w mem msize s pdu len = some (rc, mem', w') ∧ ∀ a, a < C.STACK → mem' a = mem a := by
  rw [rtr_send_pdu_eq w mem msize s pdu len h0 h1 hp hm]; unfold sendPduSpec
  have hf : ∀ a, a < C.STACK → C.memFill mem SP len.toNat (xans w).buf a = mem a :=
    fun a ha => memFill_out _ _ _ _ _ (by unfold SP; omega)
  by_cases hs : s.state = 9#32
  · simp only [hs, if_true]; exact ⟨_, _, _, rfl, hf⟩
  · simp only [hs, if_false]
    split
    · exact ⟨_, _, _, rfl, hf⟩
    · exact ⟨_, _, _, rfl, hf⟩

/-! ## rtr_send_error_pdu_from_host -/

/-- `return f(…);` for a translated callee `f` that writes memory or makes calls: the translation takes the callee's result
    apart - `none` stays `none`, the memory and the world it left become the caller's - and returns the same triple, so
    every such return ends in this `match`, which is the identity -/
theorem match_id (o : Out) : (match o with | none => none | some (a, b, c) => some (a, b, c)) = o := by
  rcases o with _ | ⟨a, b, c⟩ <;> rfl

/-- `rtr_send_error_pdu_from_host` is its callee `rtr_send_error_pdu` on a copy of the PDU that was converted back to
    network byte order, by the length of the PDU handed in (the side condition is the callers': nothing, or an object below
    `C.STACK` that holds at most a page) -/
theorem from_host_eq_callee {w : XW} {mem : Mem} {msize : Nat} {s : Sock} {ep : Nat} {el error : BitVec 32} {tp tend : Nat}
    {tl : BitVec 32} (hep : el.toNat = 0 ∨ (el.toNat ≤ 1048576 ∧ ep + el.toNat ≤ msize ∧ msize ≤ C.STACK)) :
    C.rtr_send_error_pdu_from_host w mem msize s ep el error tp tend tl =
      if el.toNat = 0 then C.rtr_send_error_pdu w mem msize s C.NULL 0#32 error tp tend tl
      else if el.toNat < 8 then some (4294967295#32, C.memcpy mem FH ep el.toNat, w)
      else if el.toNat = 8 then
        C.rtr_send_error_pdu w (Recv.hdrSwap (C.memcpy mem FH ep el.toNat) FH) (FH + el.toNat) s FH el error tp tend tl
      else C.rtr_send_error_pdu (xrec w "rtr_pdu_to_network_byte_order" [] s)
        (C.memFill mem FH el.toNat (xans w).buf) (FH + el.toNat) s FH el error tp tend tl := by
  unfold C.rtr_send_error_pdu_from_host FH
  generalize C.STACK = S at *
  c_norm [memFill_memcpy]
  simp (disch := omega) only [Recv.to_network_eq]
  walk
  all_goals exact match_id _

/-- the array `pdu` of `rtr_send_error_pdu_from_host` and the array `msg` of its callee are different objects: their pages
    are four apart, and both arrays fit into one -/
theorem pages_apart (n k : Nat) (hk : 16 + n + k ≤ 1048576) : Apart FH n MSG (16 + n + k) := by
  unfold Apart FH MSG; generalize C.STACK = S; omega

/-- what `rtr_send_error_pdu_from_host` does, by the length of the PDU handed in (host byte order):
      0      the report without encapsulated PDU (`rtr_send_error_pdu(NULL, 0, …)`);
      1..7   RTR_ERROR, no call;
      8      the header is converted back to network byte order in a copy, the copy is reported;
      > 8    the copy is converted by `rtr_pdu_to_network_byte_order` (external: the world's answer), then reported -/
def fromHostSpec (w : XW) (mem : Mem) (s : Sock) (ep : Nat) (el error : BitVec 32) (tp : Nat) (tl : BitVec 32) : Out :=
  if el.toNat = 0 then sendErrorSpec w mem s C.NULL 0#32 error tp tl
  else if el.toNat < 8 then some (4294967295#32, C.memcpy mem FH ep el.toNat, w)
  else if el.toNat = 8 then sendErrorSpec w (Recv.hdrSwap (C.memcpy mem FH ep 8) FH) s FH el error tp tl
  else sendErrorSpec (xrec w "rtr_pdu_to_network_byte_order" [] s) (C.memFill mem FH el.toNat (xans w).buf) s FH el error
    tp tl

theorem fromHostSpec_zero {w : XW} {mem : Mem} {s : Sock} {ep : Nat} {el error : BitVec 32} {tp : Nat} {tl : BitVec 32} (h : el.toNat = 0) :
    fromHostSpec w mem s ep el error tp tl = sendErrorSpec w mem s C.NULL 0#32 error tp tl := by
  unfold fromHostSpec
  rw [if_pos h]

theorem fromHostSpec_short {w : XW} {mem : Mem} {s : Sock} {ep : Nat} {el error : BitVec 32} {tp : Nat} {tl : BitVec 32} (h0 : el.toNat ≠ 0)
    (h : el.toNat < 8) :
    fromHostSpec w mem s ep el error tp tl = some (4294967295#32, C.memcpy mem FH ep el.toNat, w) := by
  unfold fromHostSpec
  rw [if_neg h0, if_pos h]

theorem fromHostSpec_header {w : XW} {mem : Mem} {s : Sock} {ep : Nat} {el error : BitVec 32} {tp : Nat} {tl : BitVec 32} (h : el.toNat = 8) :
    fromHostSpec w mem s ep el error tp tl = sendErrorSpec w (Recv.hdrSwap (C.memcpy mem FH ep 8) FH) s FH el error tp tl := by
  unfold fromHostSpec
  rw [if_neg (by omega), if_neg (by omega), if_pos h]

theorem fromHostSpec_long {w : XW} {mem : Mem} {s : Sock} {ep : Nat} {el error : BitVec 32} {tp : Nat} {tl : BitVec 32} (h : 8 < el.toNat) :
    fromHostSpec w mem s ep el error tp tl =
      sendErrorSpec (xrec w "rtr_pdu_to_network_byte_order" [] s) (C.memFill mem FH el.toNat (xans w).buf) s FH el error
        tp tl := by
  unfold fromHostSpec
  rw [if_neg (by omega), if_neg (by omega), if_neg (by omega)]

theorem rtr_send_error_pdu_from_host_eq {w : XW} {mem : Mem} {msize : Nat} {s : Sock} {ep : Nat} {el error : BitVec 32}
    {tp tend : Nat} {tl : BitVec 32} (H : Below msize ep el tp tend tl) :
    C.rtr_send_error_pdu_from_host w mem msize s ep el error tp tend tl = fromHostSpec w mem s ep el error tp tl := by
  obtain ⟨hsz, hep, htp⟩ := H
  rw [from_host_eq_callee (by omega)]
  by_cases h0 : el.toNat = 0
  · rw [if_pos h0, fromHostSpec_zero h0]
    have : el = 0#32 := BitVec.eq_of_toNat_eq h0
    subst this
    exact rtr_send_error_pdu_eq_below ⟨hsz, Or.inl rfl, htp⟩
  rw [if_neg h0]
  by_cases h7 : el.toNat < 8
  · rw [if_pos h7, fromHostSpec_short h0 h7]
  rw [if_neg h7]
  by_cases h8 : el.toNat = 8
  · rw [if_pos h8, fromHostSpec_header h8, h8]
    refine rtr_send_error_pdu_eq _ _ _ _ _ _ _ _ _ _ hsz (Or.inr (by omega)) ?_ (by omega) (apart_below htp)
    rw [h8]
    exact pages_apart 8 tl.toNat (by omega)
  · rw [if_neg h8, fromHostSpec_long (by omega)]
    exact rtr_send_error_pdu_eq _ _ _ _ _ _ _ _ _ _ hsz (Or.inr (Nat.le_refl _)) (pages_apart _ _ hsz) (by omega)
      (apart_below htp)

/-! ### what is reported -/

/-- a header in network byte order, given in host byte order (little-endian host): bytes 4..7 reversed, bytes 2, 3 swapped
    unless the type is ROUTER_KEY (9) -/
def netHeader (h : List (BitVec 8)) : List (BitVec 8) :=
  (List.range 8).map fun k => h.getD (Recv.perm (h.getD 1 0#8) k) 0#8

/-- the copy that is reported for length 8 is the caller's header in network byte order -/
theorem from_host_header_bytes (mem : Mem) (ep : Nat) :
    bytesOf (Recv.hdrSwap (C.memcpy mem FH ep 8) FH) FH 8 = netHeader (bytesOf mem ep 8) := by
  have hc : ∀ j, j < 8 → C.memcpy mem FH ep 8 (FH + j) = mem (ep + j) := fun j hj => memcpy_at _ _ _ _ _ hj
  unfold bytesOf netHeader
  apply List.map_congr_left
  intro k hk
  have hk8 : k < 8 := List.mem_range.mp hk
  have h1 : ((List.range 8).map fun i => mem (ep + i)).getD 1 0#8 = mem (ep + 1) := by simp [List.range_succ]
  have hperm := Recv.perm_lt (mem (ep + 1)) k hk8
  rw [Recv.hdrSwap_at, hc 1 (by omega), hc _ hperm, h1]
  exact (bytesOf_getD mem ep 8 _ 0#8 hperm).symm

/-- length 8, the type is not ERROR: ONE call, `rtr_send_pdu`, with the report that encapsulates the header in NETWORK
    byte order and the caller's text; the caller's memory is not written -/
theorem from_host_header_call {w : XW} {mem : Mem} {msize : Nat} {s : Sock} {ep : Nat} {el error : BitVec 32}
    {tp tend : Nat} {tl : BitVec 32} (H : Below msize ep el tp tend tl) (h8 : el.toNat = 8) (hty : mem (ep + 1) ≠ 10#8) :
    ∃ mem', C.rtr_send_error_pdu_from_host w mem msize s ep el error tp tend tl =
        some (xret (w.ext w.n), mem',
          xrecs w [("rtr_send_pdu",
            BitVec.ofNat 64 (16 + 8 + tl.toNat) ::
              (errorReportBytes (s.version.setWidth 8) (error.setWidth 16) (netHeader (bytesOf mem ep 8))
                (bytesOf mem tp tl.toNat)).map (BitVec.setWidth 64), s)]) ∧
      ∀ a, a < C.STACK → mem' a = mem a := by
  rw [rtr_send_error_pdu_from_host_eq H]
  obtain ⟨hsz, hep, htp⟩ := H
  have hep' := hep.resolve_left (by omega)
  rw [fromHostSpec_header h8]
  have hout : ∀ a, a < C.STACK → Recv.hdrSwap (C.memcpy mem FH ep 8) FH a = mem a := by
    intro a ha
    rw [Recv.hdrSwap_out _ _ _ (by unfold FH; omega), memcpy_out _ _ _ _ _ (by unfold FH; omega)]
  have hcopy1 : Recv.hdrSwap (C.memcpy mem FH ep 8) FH (FH + 1) = mem (ep + 1) := by
    rw [Recv.hdrSwap_out _ _ _ (by omega), memcpy_at _ _ _ _ _ (by omega)]
  obtain ⟨mem', he, hm⟩ := sendErrorSpec_call w s el error tp tl (by rw [hcopy1]; exact fun h => hty h.2) hout
  rw [h8, from_host_header_bytes mem ep, bytesOf_below hout htp] at he
  exact ⟨mem', he, hm⟩

/-- length > 8, the type byte of the converted copy is not ERROR: the conversion call, then ONE `rtr_send_pdu` with the
    report that encapsulates the converted copy (the world's answer, `el` bytes) and the caller's text -/
theorem from_host_long_call {w : XW} {mem : Mem} {msize : Nat} {s : Sock} {ep : Nat} {el error : BitVec 32}
    {tp tend : Nat} {tl : BitVec 32} (H : Below msize ep el tp tend tl) (h8 : 8 < el.toNat)
    (hty : (w.ext w.n).buf.getD 1 0#8 ≠ 10#8) :
    ∃ mem', C.rtr_send_error_pdu_from_host w mem msize s ep el error tp tend tl =
        some (xret (w.ext (w.n + 1)), mem',
          xrecs w [("rtr_pdu_to_network_byte_order", [], s),
            ("rtr_send_pdu",
              BitVec.ofNat 64 (16 + el.toNat + tl.toNat) ::
                (errorReportBytes (s.version.setWidth 8) (error.setWidth 16) (Recv.takeD (w.ext w.n).buf el.toNat)
                  (bytesOf mem tp tl.toNat)).map (BitVec.setWidth 64), s)]) ∧
      ∀ a, a < C.STACK → mem' a = mem a := by
  rw [rtr_send_error_pdu_from_host_eq H]
  obtain ⟨hsz, hep, htp⟩ := H
  have hep' := hep.resolve_left (by omega)
  rw [fromHostSpec_long h8]
  have hout : ∀ a, a < C.STACK → C.memFill mem FH el.toNat (xans w).buf a = mem a :=
    fun a ha => memFill_out _ _ _ _ _ (by unfold FH; omega)
  have hcopy1 : C.memFill mem FH el.toNat (xans w).buf (FH + 1) = (w.ext w.n).buf.getD 1 0#8 := by
    rw [memFill_in _ _ _ _ _ (by omega), Nat.add_sub_cancel_left]; rfl
  obtain ⟨mem', he, hm⟩ := sendErrorSpec_call (xrec w "rtr_pdu_to_network_byte_order" [] s) s el error tp tl
    (by rw [hcopy1]; exact fun h => hty h.2) hout
  rw [bytesOf_memFill_at _ _ _ _ _ _ ⟨rfl, rfl⟩, bytesOf_below hout htp] at he
  rw [he]
  refine ⟨mem', ?_, hm⟩
  simp only [xrec_eq_xrecs, xrecs_xrecs, xans_eq, List.cons_append, List.nil_append]
  rfl

end

/-! ## concrete instances (the hypotheses are satisfiable; the generated text runs in the kernel) -/

def exWorld (answers : List (C.ExtAns Sock)) : XW :=
  { ext := fun i => answers.getD i { rc := 0#64, aux := 0#64, st := C.S_rtr_socket.zero } }
def exSock (state : BitVec 32) : Sock := { C.S_rtr_socket.zero with version := 1#32, state := state }
def exAns (rc : BitVec 64) (buf : List (BitVec 8)) : C.ExtAns Sock := { rc := rc, aux := 0#64, st := exSock 2#32, buf := buf }
/-- what is observable of a result: the return value, the calls with their recorded arguments, and the first 13 bytes of
    memory (the caller's buffers in these examples) -/
def obs (o : Out) : Option (BitVec 32 × List (String × List (BitVec 64)) × List (BitVec 8)) :=
  o.map fun r => (r.1, r.2.2.trace.map (fun c => (c.1, c.2.1)), bytesOf r.2.1 0 13)

/-- a Cache Response header in host order at 0..7 (type 3, session 0xBBAA, length 8), the text "hell\0" at 8..12 -/
def exMem : Mem := C.memOfBytes [1#8, 3#8, 0xAA#8, 0xBB#8, 8#8, 0#8, 0#8, 0#8, 0x68#8, 0x65#8, 0x6c#8, 0x6c#8, 0#8]
/-- the same with type 10: an Error Report -/
def exMemErr : Mem := C.memOfBytes [1#8, 10#8, 0xAA#8, 0xBB#8, 8#8, 0#8, 0#8, 0#8, 0x68#8, 0x65#8, 0x6c#8, 0x6c#8, 0#8]

example : Below 13 0 8#32 8 13 5#32 := ⟨by decide, Or.inr ⟨by decide, by decide⟩, Or.inr ⟨by decide, by decide⟩⟩

/-- the 8-byte header echoed with a 5-byte text, error code 0x0105: one call, 29 bytes, every length consistent; the callee
    returns 0; the caller's 13 bytes are untouched -/
example : obs (C.rtr_send_error_pdu (exWorld []) exMem 13 (exSock 2#32) 0 8#32 0x0105#32 8 13 5#32) =
    some (0#32,
      [("rtr_send_pdu", [29#64, 1#64, 10#64, 5#64, 1#64, 29#64, 0#64, 0#64, 0#64, 8#64, 0#64, 0#64, 0#64,
         1#64, 3#64, 0xAA#64, 0xBB#64, 8#64, 0#64, 0#64, 0#64, 5#64, 0#64, 0#64, 0#64,
         0x68#64, 0x65#64, 0x6c#64, 0x6c#64, 0#64])],
      [1#8, 3#8, 0xAA#8, 0xBB#8, 8#8, 0#8, 0#8, 0#8, 0x68#8, 0x65#8, 0x6c#8, 0x6c#8, 0#8]) := by decide +kernel
/-- ... and that is what the specification says -/
example : errorReportBytes 1#8 0x0105#16 (bytesOf exMem 0 8) (bytesOf exMem 8 5) =
    [1#8, 10#8, 5#8, 1#8, 29#8, 0#8, 0#8, 0#8, 8#8, 0#8, 0#8, 0#8, 1#8, 3#8, 0xAA#8, 0xBB#8, 8#8, 0#8, 0#8, 0#8,
     5#8, 0#8, 0#8, 0#8, 0x68#8, 0x65#8, 0x6c#8, 0x6c#8, 0#8] := by decide +kernel
/-- the callee's failure is handed through -/
example : obs (C.rtr_send_error_pdu (exWorld [exAns 0xFFFFFFFFFFFFFFFF#64 []]) exMem 13 (exSock 2#32) C.NULL 0#32 2#32 C.NULL 0 0#32) =
    some (4294967295#32,
      [("rtr_send_pdu", [16#64, 1#64, 10#64, 2#64, 0#64, 16#64, 0#64, 0#64, 0#64, 0#64, 0#64, 0#64, 0#64, 0#64, 0#64, 0#64, 0#64])],
      [1#8, 3#8, 0xAA#8, 0xBB#8, 8#8, 0#8, 0#8, 0#8, 0x68#8, 0x65#8, 0x6c#8, 0x6c#8, 0#8]) := by decide +kernel
/-- an encapsulated Error Report: no call, RTR_SUCCESS -/
example : obs (C.rtr_send_error_pdu (exWorld []) exMemErr 13 (exSock 2#32) 0 8#32 0x0105#32 8 13 5#32) =
    some (0#32, [], [1#8, 10#8, 0xAA#8, 0xBB#8, 8#8, 0#8, 0#8, 0#8, 0x68#8, 0x65#8, 0x6c#8, 0x6c#8, 0#8]) := by decide +kernel
/-- `16 + 0xFFFFFFF8 + 0` wraps to 8: `msg` has 8 bytes, the store of `len_enc_pdu` at offset 8 leaves it -/
example : C.rtr_send_error_pdu (exWorld []) exMem 13 (exSock 2#32) 0 0xFFFFFFF8#32 0x0105#32 8 13 0#32 = none := by decide +kernel
/-- `16 + 0xFFFFFFFC + 5` wraps to 17: the header fits, the copy of the encapsulated PDU does not -/
example : C.rtr_send_error_pdu (exWorld []) exMem 13 (exSock 2#32) 0 0xFFFFFFFC#32 0x0105#32 8 13 5#32 = none := by decide +kernel
/-- one byte past the object of the encapsulated PDU: undefined as well -/
example : C.rtr_send_error_pdu (exWorld []) exMem 7 (exSock 2#32) 0 8#32 0x0105#32 8 13 5#32 = none := by decide +kernel

/-- rtr_send_pdu on a SHUTDOWN socket: the copy is converted (one call), nothing is sent, RTR_ERROR -/
example : obs (C.rtr_send_pdu (exWorld [exAns 0#64 [1#8, 3#8, 0xBB#8, 0xAA#8, 0#8, 0#8, 0#8, 8#8]]) exMem 13 (exSock 9#32) 0 8#32) =
    some (4294967295#32, [("rtr_pdu_to_network_byte_order", [])],
      [1#8, 3#8, 0xAA#8, 0xBB#8, 8#8, 0#8, 0#8, 0#8, 0x68#8, 0x65#8, 0x6c#8, 0x6c#8, 0#8]) := by decide +kernel
/-- a socket that is not in SHUTDOWN (state 2, RESET): the converted copy (the world's answer) goes to the transport, 8
    bytes, timeout 60; the transport sent 8 bytes: RTR_SUCCESS; the caller's PDU is still in host order -/
example : obs (C.rtr_send_pdu (exWorld [exAns 0#64 [1#8, 3#8, 0xBB#8, 0xAA#8, 0#8, 0#8, 0#8, 8#8], exAns 8#64 []]) exMem 13
      (exSock 2#32) 0 8#32) =
    some (0#32, [("rtr_pdu_to_network_byte_order", []),
                 ("tr_send_all", [8#64, 60#64, 1#64, 3#64, 0xBB#64, 0xAA#64, 0#64, 0#64, 0#64, 8#64])],
      [1#8, 3#8, 0xAA#8, 0xBB#8, 8#8, 0#8, 0#8, 0#8, 0x68#8, 0x65#8, 0x6c#8, 0x6c#8, 0#8]) := by decide +kernel
/-- the transport would block (-2), or sent nothing (0): RTR_ERROR -/
example : (obs (C.rtr_send_pdu (exWorld [exAns 0#64 [], exAns 0xFFFFFFFFFFFFFFFE#64 []]) exMem 13 (exSock 2#32) 0 8#32)).map (·.1) =
    some 4294967295#32 := by decide +kernel
example : (obs (C.rtr_send_pdu (exWorld [exAns 0#64 [], exAns 0#64 []]) exMem 13 (exSock 2#32) 0 8#32)).map (·.1) =
    some 4294967295#32 := by decide +kernel
/-- a zero-length PDU is a zero-length array: undefined -/
example : C.rtr_send_pdu (exWorld []) exMem 13 (exSock 2#32) 0 0#32 = none := by decide +kernel

/-- rtr_send_error_pdu_from_host with length 0 (no encapsulated PDU, text only) and with a length shorter than a header -/
example : obs (C.rtr_send_error_pdu_from_host (exWorld []) exMem 13 (exSock 2#32) C.NULL 0#32 6#32 8 13 5#32) =
    some (0#32,
      [("rtr_send_pdu", [21#64, 1#64, 10#64, 6#64, 0#64, 21#64, 0#64, 0#64, 0#64, 0#64, 0#64, 0#64, 0#64,
         5#64, 0#64, 0#64, 0#64, 0x68#64, 0x65#64, 0x6c#64, 0x6c#64, 0#64])],
      [1#8, 3#8, 0xAA#8, 0xBB#8, 8#8, 0#8, 0#8, 0#8, 0x68#8, 0x65#8, 0x6c#8, 0x6c#8, 0#8]) := by decide +kernel
example : obs (C.rtr_send_error_pdu_from_host (exWorld []) exMem 13 (exSock 2#32) 0 7#32 6#32 8 13 5#32) =
    some (4294967295#32, [], [1#8, 3#8, 0xAA#8, 0xBB#8, 8#8, 0#8, 0#8, 0#8, 0x68#8, 0x65#8, 0x6c#8, 0x6c#8, 0#8]) := by decide +kernel
/-- length 8: the header goes out in NETWORK byte order (session 0xBBAA as BB AA, length 8 as 00 00 00 08) inside a report
    whose own header is in host byte order (rtr_send_pdu converts it); the caller's header is still in host order -/
example : obs (C.rtr_send_error_pdu_from_host (exWorld []) exMem 13 (exSock 2#32) 0 8#32 6#32 8 13 5#32) =
    some (0#32,
      [("rtr_send_pdu", [29#64, 1#64, 10#64, 6#64, 0#64, 29#64, 0#64, 0#64, 0#64, 8#64, 0#64, 0#64, 0#64,
         1#64, 3#64, 0xBB#64, 0xAA#64, 0#64, 0#64, 0#64, 8#64, 5#64, 0#64, 0#64, 0#64,
         0x68#64, 0x65#64, 0x6c#64, 0x6c#64, 0#64])],
      [1#8, 3#8, 0xAA#8, 0xBB#8, 8#8, 0#8, 0#8, 0#8, 0x68#8, 0x65#8, 0x6c#8, 0x6c#8, 0#8]) := by decide +kernel
example : netHeader (bytesOf exMem 0 8) = [1#8, 3#8, 0xBB#8, 0xAA#8, 0#8, 0#8, 0#8, 8#8] := by decide +kernel
/-- length 8, an Error Report: converted, but not reported -/
example : obs (C.rtr_send_error_pdu_from_host (exWorld []) exMemErr 13 (exSock 2#32) 0 8#32 6#32 8 13 5#32) =
    some (0#32, [], [1#8, 10#8, 0xAA#8, 0xBB#8, 8#8, 0#8, 0#8, 0#8, 0x68#8, 0x65#8, 0x6c#8, 0x6c#8, 0#8]) := by decide +kernel
/-- length 12: the copy is converted by the external callee (its answer: 12 bytes), the converted copy is reported -/
example : obs (C.rtr_send_error_pdu_from_host
      (exWorld [exAns 0#64 [1#8, 3#8, 0xBB#8, 0xAA#8, 0#8, 0#8, 0#8, 12#8, 0xDE#8, 0xAD#8, 0xBE#8, 0xEF#8]]) exMem 13
      (exSock 2#32) 0 12#32 6#32 8 13 5#32) =
    some (0#32,
      [("rtr_pdu_to_network_byte_order", []),
       ("rtr_send_pdu", [33#64, 1#64, 10#64, 6#64, 0#64, 33#64, 0#64, 0#64, 0#64, 12#64, 0#64, 0#64, 0#64,
         1#64, 3#64, 0xBB#64, 0xAA#64, 0#64, 0#64, 0#64, 12#64, 0xDE#64, 0xAD#64, 0xBE#64, 0xEF#64, 5#64, 0#64, 0#64, 0#64,
         0x68#64, 0x65#64, 0x6c#64, 0x6c#64, 0#64])],
      [1#8, 3#8, 0xAA#8, 0xBB#8, 8#8, 0#8, 0#8, 0#8, 0x68#8, 0x65#8, 0x6c#8, 0x6c#8, 0#8]) := by decide +kernel

end Rtr.CLink.Err
