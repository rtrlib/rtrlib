/-
  A table that one thread only ever write-locks changes by exactly that thread's events (`Steps.single_writer`: any
  number of write sections, whatever the others do).  With at most one write section (`rinv_reach`, `two_states`):
  the old value until the section begins, the new one from its end on: the two-state theorem behind C06.
-/
import RtrProofs.Locks

namespace Rtr.Locks

/-- effect of all writes of a path on the abstract value of table `L` -/
def applyW (L : Nat) : List Ev → (Part → Nat) → (Part → Nat)
  | [], a => a
  | e :: π, a => applyW L π (applyEv L e a)

theorem applyW_append (L : Nat) (d r : List Ev) : ∀ a, applyW L (d ++ r) a = applyW L r (applyW L d a) := by
  induction d with
  | nil => exact fun a => rfl
  | cons e d ih => exact fun a => ih _

theorem applyW_noW {strict : Bool} {L : Nat} (π : List Ev) :
    ∀ (h : Held) (a : Part → Nat), (runHeld strict h π).isSome = true → (L, Mode.W) ∉ h →
      countAcq (selL L) π = 0 → applyW L π a = a := by
  induction π with
  | nil => intro h a _ _ _; rfl
  | cons e π ih =>
    intro h a hg hn hc
    obtain ⟨hok, hgr⟩ := runHeld_cons_some hg
    rw [countAcq_cons] at hc
    simp only [applyW]
    rw [applyEv_of_not_held a hok hn]
    apply ih (updHeld h e) a hgr _ (by omega)
    intro hm
    rcases mem_updHeld_W hm with hm | rfl
    · exact hn hm
    · simp [isAcq, selL] at hc

/-- lock exclusion plays no part: nobody but `w` ever asks for the write lock -/
theorem Steps.single_writer {σ : Nat → Bool} {w L : Nat} {s s' : Sys}
    (hg : ∀ i, (runHeld (σ i) (s.thr i).held (s.thr i).rest).isSome = true)
    (hnone : ∀ j, j ≠ w → (L, Mode.W) ∉ (s.thr j).held ∧ countAcq (selL L) (s.thr j).rest = 0)
    (hs : Steps s s') :
    ∃ d, (s.thr w).rest = d ++ (s'.thr w).rest ∧ (s'.thr w).held = d.foldl updHeld (s.thr w).held ∧
      abs s' L = applyW L d (abs s L) := by
  induction hs with
  | refl => exact ⟨[], rfl, rfl, rfl⟩
  | @tail t _ hpre hst ih =>
    obtain ⟨d, hd, hh, ha⟩ := ih
    obtain ⟨i, hf⟩ := hst
    obtain ⟨e, r, hr, _, rfl⟩ := fire_thr hf
    by_cases hi : w = i
    · subst hi
      refine ⟨d ++ [e], ?_, ?_, ?_⟩
      · rw [apply_thr_same, hd, hr, List.append_assoc]
        rfl
      · rw [apply_thr_same, List.foldl_append, ← hh]
        rfl
      · rw [abs_apply, ha, applyW_append]
        rfl
    · -- another thread: it is guarded and does not hold `L`'s write lock, so its event leaves `L` alone
      obtain ⟨hnw, hc⟩ := hnone i fun h => hi h.symm
      have hgt := hpre.guarded (hg i)
      rw [hr] at hgt
      rw [apply_thr_other t i e r hi, abs_apply,
        applyEv_of_not_held _ (runHeld_cons_some hgt).1 (hpre.noW hnw hc).1]
      exact ⟨d, hd, hh, ha⟩

theorem Reach.single_writer {σ : Nat → Bool} {w L : Nat} {store : Loc → Nat} {paths : Nat → List Ev}
    (hg : ∀ i, Guarded (σ i) (paths i)) (hnone : ∀ j, j ≠ w → countAcq (selL L) (paths j) = 0)
    {s : Sys} (hr : Reach store paths s) :
    ∃ d, paths w = d ++ (s.thr w).rest ∧ (s.thr w).held = d.foldl updHeld [] ∧
      abs s L = applyW L d fun p => store ⟨L, p⟩ :=
  Steps.single_writer (s := init store paths) hg (fun j hj => ⟨List.not_mem_nil, hnone j hj⟩) hr

/-- what `Steps.single_writer` says when `w` has at most one write section of `L` on its path: replaying the
    writes `w` still has ahead on the current value of `L` gives `new` (`fut`); while `w`'s write acquisition
    of `L` is still ahead the value is `old` (`past`); `w` has at most one such acquisition ahead or under
    way (`budget`), the others none -/
structure RInv (w L : Nat) (old new : Part → Nat) (s : Sys) : Prop where
  others : ∀ j, j ≠ w → (L, Mode.W) ∉ (s.thr j).held ∧ countAcq (selL L) (s.thr j).rest = 0
  budget : countAcq (selL L) (s.thr w).rest + (if (L, Mode.W) ∈ (s.thr w).held then 1 else 0) ≤ 1
  fut : applyW L (s.thr w).rest (abs s L) = new
  past : countAcq (selL L) (s.thr w).rest = 1 → abs s L = old

theorem rinv_reach {σ : Nat → Bool} {store : Loc → Nat} {paths : Nat → List Ev} (w L : Nat)
    (hg : ∀ i, Guarded (σ i) (paths i))
    (hone : countAcq (selL L) (paths w) ≤ 1)
    (hnone : ∀ j, j ≠ w → countAcq (selL L) (paths j) = 0)
    {s : Sys} (hr : Reach store paths s) :
    RInv w L (fun p => store ⟨L, p⟩) (applyW L (paths w) fun p => store ⟨L, p⟩) s := by
  obtain ⟨d, hd, hh, ha⟩ := Reach.single_writer (w := w) (L := L) hg hnone hr
  have hgd := hg w
  unfold Guarded at hgd
  rw [hd] at hgd hone ⊢
  rw [countAcq_append] at hone
  refine ⟨fun j hj => ?_, ?_, ?_, fun hp => ?_⟩
  · exact Steps.noW hr List.not_mem_nil (hnone j hj)
  · -- `w` inside the section has its acquisition behind it
    by_cases hm : (L, Mode.W) ∈ (s.thr w).held
    · have := (mem_foldl_updHeld_W d [] (hh ▸ hm)).resolve_left List.not_mem_nil
      rw [if_pos hm]
      omega
    · rw [if_neg hm]
      omega
  · rw [ha, ← applyW_append]
  · -- the section is ahead: nothing behind `w` has touched `L`
    rw [ha]
    exact applyW_noW d [] _ (runHeld_split d [] hgd).1 List.not_mem_nil (by omega)

/-- the single write critical section of `L` has not begun yet -/
def swapPending (w L : Nat) (s : Sys) : Prop := countAcq (selL L) (s.thr w).rest = 1

theorem pending_antitone {w L : Nat} {s s' : Sys} (hs : Steps s s') :
    countAcq (selL L) (s'.thr w).rest ≤ countAcq (selL L) (s.thr w).rest := by
  obtain ⟨d, hd, _⟩ := hs.split w
  rw [hd, countAcq_append]
  omega

theorem Reach.pending_le {w L : Nat} {store : Loc → Nat} {paths : Nat → List Ev} {s : Sys}
    (hr : Reach store paths s) : countAcq (selL L) (s.thr w).rest ≤ countAcq (selL L) (paths w) :=
  pending_antitone hr

theorem swapPending_iff {w L : Nat} {s : Sys} : swapPending w L s ↔ countAcq (selL L) (s.thr w).rest = 1 :=
  Iff.rfl

theorem swapPending_done {w L : Nat} {s : Sys} (hle : countAcq (selL L) (s.thr w).rest ≤ 1)
    (hp : ¬ swapPending w L s) : countAcq (selL L) (s.thr w).rest = 0 := by
  unfold swapPending at hp
  omega

theorem swapPending_done_steps {w L : Nat} {s s' : Sys} (hs : Steps s s')
    (hle : countAcq (selL L) (s.thr w).rest ≤ 1) (hp : ¬ swapPending w L s) : ¬ swapPending w L s' := by
  have h0 := swapPending_done hle hp
  have := pending_antitone (w := w) (L := L) hs
  unfold swapPending
  omega

theorem swapPending_congr {w A B : Nat} {s : Sys}
    (h : countAcq (selL A) (s.thr w).rest = countAcq (selL B) (s.thr w).rest) :
    swapPending w A s ↔ swapPending w B s := by
  unfold swapPending
  rw [h]

theorem two_states {σ : Nat → Bool} {store : Loc → Nat} {paths : Nat → List Ev} (w L : Nat)
    (hg : ∀ i, Guarded (σ i) (paths i))
    (hone : countAcq (selL L) (paths w) ≤ 1)
    (hnone : ∀ j, j ≠ w → countAcq (selL L) (paths j) = 0)
    {s : Sys} (hr : Reach store paths s) (hout : (L, Mode.W) ∉ (s.thr w).held) :
    let old : Part → Nat := fun p => store ⟨L, p⟩
    let new := applyW L (paths w) old
    (swapPending w L s ∧ abs s L = old) ∨ (¬ swapPending w L s ∧ abs s L = new) := by
  intro old new
  have hR := rinv_reach w L hg hone hnone hr
  by_cases hp : swapPending w L s
  · exact Or.inl ⟨hp, hR.past (swapPending_iff.mp hp)⟩
  · refine Or.inr ⟨hp, ?_⟩
    have hb := hR.budget
    rw [if_neg hout] at hb
    -- the section is behind `w` and `w` is out of it: nothing ahead touches `L`
    have := hR.fut
    rwa [applyW_noW _ _ _ ((inv_reach hg hr).guarded w) hout (swapPending_done hb hp)] at this

theorem reader_excludes_writer {σ : Nat → Bool} {s : Sys} (hI : Inv σ s) {j w L : Nat}
    (hj : j ∈ s.readers L) : (L, Mode.W) ∉ (s.thr w).held :=
  fun hm => List.not_mem_nil (hI.excl L w ((hI.wIff w L).mp hm) ▸ hj)

/-- let thread `i` take up to `n` steps (used to exhibit concrete reachable states) -/
def fireN (s : Sys) (i : Nat) : Nat → Sys
  | 0 => s
  | n + 1 =>
    match fire s i with
    | some s' => fireN s' i n
    | none => s

theorem fireN_steps (s : Sys) (i n : Nat) : Steps s (fireN s i n) := by
  induction n generalizing s with
  | zero => exact .refl _
  | succ n ih =>
    simp only [fireN]
    split
    · rename_i s' hf
      exact Steps.trans (.tail (.refl _) ⟨i, hf⟩) (ih s')
    · exact .refl _

end Rtr.Locks
