/-
  ErrReports: which Error Reports the protocol model `Rtr.P` sends, with which code, echoing what.

  `Sent n n' rs`: the environment `n'` that a model function returns for `n` is reached by `tr_recv_all` calls,
  state-change callbacks and — in this order — `tr_send_all` of exactly the Error Report PDUs `rs`.  Below the
  synchronisation the statements give the list exactly (`Sent n n'` of the list a specification names); from
  `rtr_receive_pdu` upwards they bound it (`OneReport P ok n n'`: at most one report, it satisfies `P`, and then
  the function failed).
  The lists are specifications written beside the model: `repOf` / `repHost`, `pfxReports` / `keyReports` (these
  repeat the branch conditions of the update functions; `pfxReports_eq` / `keyReports_eq` tie them to the
  verdicts), and `classReports` / `classOf`, the terms of `C14b.receive_violation_reported` only: `er_receivePdu`,
  for every tape without empty chunks, transport faults included, needs no classes.
  `SiteCode` is the table of the code / text combinations of all sites; a site names its row.
-/
import RtrProofs.RecvOutcome

namespace Rtr.P

/-! ## reports and the relation `Sent` -/

/-- an Error Report as data: version byte, error code, encapsulated bytes, text bytes -/
structure Report where
  ver : Nat
  code : Nat
  enc : List Nat
  text : List Nat
deriving DecidableEq

/-- the PDU handed to `tr_send_all` -/
def Report.bytes (r : Report) : List Nat := errorPduBytes r.ver r.enc r.code r.text

/-- `n'` is reached from `n` by recv calls, state callbacks and `tr_send_all` of exactly the Error
    Reports `rs`, in this order; nothing else touches the environment.
    The relation is read by its constructors, each of which is a call of a model function; no theorem takes a
    `Sent` apart, the statements that end in one are the end results of C14b.  What a `report` step does to
    the trace and the send script is `C14.sendAll_chunking` / `C14.sendAll_prefix` at `r.bytes`: the `W` lines
    of the calls made, whose accepted chunks form a prefix of `r.bytes` (all of it when no call fails).
    In `state` the socket `c` is free: what a state change does to the environment (nothing, or the callback
    line) depends on the socket, and the relation speaks of environments only. -/
inductive Sent : Net → Net → List Report → Prop
  | refl (n : Net) : Sent n n []
  | recv (n : Net) (len : Nat) (t : Int) : Sent n (recvAll n len t).2.2.1 []
  | state (c : Conn) (n : Net) (own : Nat) (s : SState) : Sent n (changeState c n own s).2 []
  | report (n : Net) (r : Report) : Sent n (sendAll n r.bytes).2 [r]
  | trans {a b c : Net} {r1 r2 : List Report} : Sent a b r1 → Sent b c r2 → Sent a c (r1 ++ r2)

theorem Sent.then_quiet {a b c : Net} {rs : List Report} (h1 : Sent a b rs) (h2 : Sent b c []) : Sent a c rs := by
  have := Sent.trans h1 h2
  rwa [List.append_nil] at this

theorem Sent.quiet_then {a b c : Net} {rs : List Report} (h1 : Sent a b []) (h2 : Sent b c rs) : Sent a c rs :=
  Sent.trans h1 h2

theorem Sent.of_eq {a b : Net} (h : b = a) : Sent a b [] := by rw [h]; exact Sent.refl a

/-- what `rtr_send_error_pdu` hands to the transport: nothing in reply to an Error Report (`enc` of
    at least 2 bytes with type 10) and nothing once the socket is shut down (`rtr_send_pdu`), else
    the one report of the socket's current version -/
def repOf (c : Conn) (enc : List Nat) (code : Nat) (text : List Nat) : List Report :=
  if (2 ≤ enc.length ∧ enc.getD 1 0 = 10) ∨ c.state = .shutdown then [] else [⟨c.version, code, enc, text⟩]

/-- `rtr_send_error_pdu_from_host(pdu, k)`: no encapsulation for k = 0, refused for 0 < k < 8 -/
def repHost (c : Conn) (raw : List Nat) (k : Nat) (code : Nat) (text : List Nat) : List Report :=
  if k = 0 then repOf c [] code text else if k < 8 then [] else repOf c (raw.take k) code text

theorem er_sendErrorPdu (c : Conn) (n : Net) (enc : List Nat) (code : Nat) (text : List Nat) :
    Sent n (sendErrorPdu c n enc code text).2 (repOf c enc code text) := by
  unfold sendErrorPdu repOf
  by_cases he : enc.length ≥ 2 ∧ enc.getD 1 0 = 10
  · rw [if_pos he, if_pos (Or.inl he)]; exact Sent.refl n
  · rw [if_neg he]
    unfold sendPdu
    by_cases hs : c.state = .shutdown
    · rw [if_pos (Or.inr hs), if_pos hs]; exact Sent.refl n
    · rw [if_neg hs, if_neg (not_or.2 ⟨he, hs⟩)]
      exact Sent.report n ⟨c.version, code, enc, text⟩

theorem er_sendErrorFromHost (c : Conn) (n : Net) (raw : List Nat) (k code : Nat) (text : List Nat) :
    Sent n (sendErrorFromHost c n raw k code text).2 (repHost c raw k code text) := by
  unfold sendErrorFromHost repHost
  by_cases h0 : k = 0
  · rw [if_pos h0, if_pos h0]; exact er_sendErrorPdu c n [] code text
  · rw [if_neg h0, if_neg h0]
    by_cases h8 : k < 8
    · rw [if_pos h8, if_pos h8]; exact Sent.refl n
    · rw [if_neg h8, if_neg h8]; exact er_sendErrorPdu c n _ code text

theorem er_repOf_le (c : Conn) (enc : List Nat) (code : Nat) (text : List Nat) :
    (repOf c enc code text).length ≤ 1 := by
  unfold repOf; split <;> simp

theorem er_repOf_mem (c : Conn) (enc : List Nat) (code : Nat) (text : List Nat) (r : Report)
    (h : r ∈ repOf c enc code text) :
    r = ⟨c.version, code, enc, text⟩ ∧ ¬ (2 ≤ enc.length ∧ enc.getD 1 0 = 10) ∧ c.state ≠ .shutdown := by
  unfold repOf at h
  split at h
  · cases h
  · rename_i hn
    exact ⟨List.mem_singleton.1 h, fun h' => hn (Or.inl h'), fun h' => hn (Or.inr h')⟩

theorem er_repOf_one (c : Conn) (enc : List Nat) (code : Nat) (text : List Nat)
    (he : ¬ (2 ≤ enc.length ∧ enc.getD 1 0 = 10)) (hs : c.state ≠ .shutdown) :
    repOf c enc code text = [⟨c.version, code, enc, text⟩] := by
  unfold repOf
  rw [if_neg (not_or.2 ⟨he, hs⟩)]

theorem er_repOf_error (c : Conn) (enc : List Nat) (code : Nat) (text : List Nat)
    (h2 : 2 ≤ enc.length) (h10 : enc.getD 1 0 = 10) : repOf c enc code text = [] := by
  unfold repOf; rw [if_pos (Or.inl ⟨h2, h10⟩)]

/-! ## at most one report, and only on failure -/

def OneReport (P : Report → Prop) (ok : Bool) (n m : Net) : Prop :=
  ∃ rs, Sent n m rs ∧ rs.length ≤ 1 ∧ (rs ≠ [] → ok = false) ∧ ∀ r ∈ rs, P r

theorem OneReport.quiet {P : Report → Prop} {ok : Bool} {n m : Net} (h : Sent n m []) : OneReport P ok n m :=
  ⟨[], h, Nat.zero_le _, fun h => absurd rfl h, fun _ h => nomatch h⟩

theorem OneReport.sent {P : Report → Prop} {n m : Net} (h : OneReport P true n m) : Sent n m [] := by
  obtain ⟨rs, hs, _, hf, _⟩ := h
  cases rs with
  | nil => exact hs
  | cons r rs => exact nomatch hf (List.cons_ne_nil r rs)

theorem OneReport.of_repOf {P : Report → Prop} {n m : Net} {c : Conn} {enc : List Nat} {code : Nat} {text : List Nat}
    (h : Sent n m (repOf c enc code text))
    (hP : ¬ (2 ≤ enc.length ∧ enc.getD 1 0 = 10) → c.state ≠ .shutdown → P ⟨c.version, code, enc, text⟩) :
    OneReport P false n m := by
  refine ⟨_, h, er_repOf_le c enc code text, fun _ => rfl, fun r hr => ?_⟩
  obtain ⟨e, a, b⟩ := er_repOf_mem c enc code text r hr
  rw [e]
  exact hP a b

theorem OneReport.after {P : Report → Prop} {ok : Bool} {a b c : Net} (h1 : Sent a b []) (h2 : OneReport P ok b c) :
    OneReport P ok a c := by
  obtain ⟨rs, hs, h⟩ := h2
  exact ⟨rs, h1.quiet_then hs, h⟩

theorem OneReport.before {P : Report → Prop} {ok : Bool} {a b c : Net} (h1 : OneReport P ok a b) (h2 : Sent b c []) :
    OneReport P ok a c := by
  obtain ⟨rs, hs, h⟩ := h1
  exact ⟨rs, hs.then_quiet h2, h⟩

theorem OneReport.mono {P Q : Report → Prop} {ok ok' : Bool} {n m : Net} (h : OneReport P ok n m)
    (hPQ : ∀ r, P r → Q r) (hok : ok = false → ok' = false) : OneReport Q ok' n m := by
  obtain ⟨rs, hs, hle, hf, hsh⟩ := h
  exact ⟨rs, hs, hle, fun hne => hok (hf hne), fun r hr => hPQ r (hsh r hr)⟩

/-! ## `rtr_receive_pdu` -/

theorem er_failFatal (c : Conn) (n : Net) (own : Nat) (hdr txt : List Nat) :
    Sent n (failFatal c n own hdr txt).2.2 (repOf c hdr 0 txt) ∧ (failFatal c n own hdr txt).1 = .rc (-1) ∧
    (failFatal c n own hdr txt).2.1.version = c.version := by
  refine ⟨?_, rfl, (failFatal_conn c n own hdr txt).version⟩
  unfold failFatal
  exact (er_sendErrorPdu c n hdr 0 txt).then_quiet (Sent.state c _ own .errFatal)

theorem er_recvTransportError (c : Conn) (n : Net) (own : Nat) (code : Int) :
    Sent n (recvTransportError c n own code).2.2 [] := by
  rw [recvTransportError_eq]
  cases (errExit code).2 with
  | none => exact Sent.refl n
  | some s => exact Sent.state c n own s

/-- the outcomes of `rtr_receive_pdu` as far as reports are concerned.  `classOf` yields five of them; `noHeader` and
    `payloadFault` (a stream that ends or fails before: nothing is sent, the corresponding cases of `er_receivePdu`)
    are produced by no statement -/
inductive RecvClass where
  | delivered (raw : List Nat)   -- a checked PDU is handed to the caller, nothing sent
  | noHeader (k : Int)           -- shut down, or the 8 header bytes did not arrive (fault, time-out, end): nothing sent
  | payloadFault (k : Int)       -- header accepted, the payload did not arrive: nothing sent
  | lenSmall | lenBig | version | sizeCheck
deriving DecidableEq

/-- the reports of a class, for header `hdr` and the socket `c` as it was before the call -/
def classReports (c : Conn) (hdr : List Nat) : RecvClass → List Report
  | .delivered _ => []
  | .noHeader _ => []
  | .payloadFault _ => []
  | .lenSmall => repOf c hdr 0 txtCorrupt
  | .lenBig => repOf c hdr 0 txtTooBig
  | .version => repOf (downgrade c hdr) hdr 8 []
  | .sizeCheck => repOf (downgrade c hdr) hdr 0 txtCorrupt

def RecvCode (code : Nat) (text : List Nat) : Prop :=
  (code = 0 ∧ (text = txtCorrupt ∨ text = txtTooBig)) ∨ (code = 8 ∧ text = [])

theorem RecvCode.corrupt : RecvCode 0 txtCorrupt := Or.inl ⟨rfl, Or.inl rfl⟩
theorem RecvCode.tooBig : RecvCode 0 txtTooBig := Or.inl ⟨rfl, Or.inr rfl⟩
theorem RecvCode.version : RecvCode 8 [] := Or.inr ⟨rfl, rfl⟩

/-- what a report of a call of `rtr_receive_pdu` on the stream `bs` satisfies; `res`, `c1`: what the call returned -/
structure RecvReport (bs : List Nat) (res : RecvRes) (c1 : Conn) (r : Report) : Prop where
  failed : res = .rc (-1)
  header : 8 ≤ bs.length
  ver : r.ver = c1.version
  enc : r.enc = bs.take 8
  notErr : ¬ (2 ≤ r.enc.length ∧ r.enc.getD 1 0 = 10)
  code : RecvCode r.code r.text

/-- `rtr_receive_pdu` and its reports, on any tape without empty chunks (transport faults included).  Which report a
    stream without faults draws is `C14b.receive_violation_reported`. -/
theorem er_receivePdu (c : Conn) (n : Net) (own : Nat) (t : Int) (hok : TapeOk n.tape)
    (res : RecvRes) (c1 : Conn) (m : Net) (hr : receivePdu c n own t = (res, c1, m)) :
    ∃ rs, Sent n m rs ∧ rs.length ≤ 1 ∧ (∀ r ∈ rs, RecvReport (tapeBytes n.tape) res c1 r) ∧
      ∀ raw, res = .ok raw → rs = [] ∧ c1 = downgraded c ((tapeBytes n.tape).take 8) := by
  rcases receivePdu_path c n own t with ⟨hs, e⟩ | ⟨hs, rc, hdr, n1, stop, h1, hp⟩
  · rw [e] at hr
    cases hr
    exact ⟨[], Sent.refl n, Nat.zero_le _, nofun, nofun⟩
  have hq : Sent n n1 [] := by
    have := Sent.recv n 8 t
    rwa [h1] at this
  obtain ⟨hok1, _, _, hsucc⟩ := recvAll_facts n 8 t hok rc hdr n1 stop h1
  rcases hp with ⟨hneg, e⟩ | ⟨hrc, hp⟩
  · have a := er_recvTransportError (applyStop c stop) n1 own rc
    have b := recvTransportError_rc (applyStop c stop) n1 own rc
    rw [← e, hr] at a b
    exact ⟨[], hq.then_quiet a, Nat.zero_le _, nofun, fun raw h => absurd h (b raw)⟩
  obtain ⟨_, hl8, _, htb⟩ := hsucc hrc
  have h8 : 8 ≤ (hdr ++ tapeBytes n1.tape).length := by
    rw [List.length_append]
    omega
  rw [htb, List.take_left' hl8]
  -- the one report of a way that ends in `rtr_send_error_pdu` for socket `c'`, echoing the header
  have shape : ∀ (c' : Conn) (code : Nat) (text : List Nat), res = .rc (-1) → c'.version = c1.version →
      RecvCode code text → ∀ r ∈ repOf c' hdr code text, RecvReport (hdr ++ tapeBytes n1.tape) res c1 r := by
    intro c' code text hres hv hc r hr'
    obtain ⟨e, hne, _⟩ := er_repOf_mem c' hdr code text r hr'
    subst e
    exact ⟨hres, h8, hv, (List.take_left' hl8).symm, hne, hc⟩
  -- a way that ends at the `error:` label for CORRUPT_DATA / PDU_TOO_BIG, entered from `n2` for socket `c'`
  have fatal : ∀ (c' : Conn) (n2 : Net) (txt : List Nat), Sent n n2 [] → RecvCode 0 txt →
      failFatal c' n2 own hdr txt = (res, c1, m) →
      ∃ rs, Sent n m rs ∧ rs.length ≤ 1 ∧ (∀ r ∈ rs, RecvReport (hdr ++ tapeBytes n1.tape) res c1 r) ∧
        ∀ raw, res = .ok raw → rs = [] ∧ c1 = downgraded c hdr := by
    intro c' n2 txt hq2 hc e
    obtain ⟨a, b, v⟩ := er_failFatal c' n2 own hdr txt
    rw [e] at a b v
    exact ⟨_, hq2.quiet_then a, er_repOf_le _ _ _ _, shape c' 0 txt b v.symm hc, fun raw h => nomatch b.symm.trans h⟩
  have hp2 := Sent.recv n1 (lenOf hdr - 8) Gen.RTR_RECV_TIMEOUT
  generalize receivePdu c n own t = out at hp hr
  cases hp with
  | lenSmall _ => exact fatal c n1 txtCorrupt hq .corrupt hr
  | lenBig _ => exact fatal c n1 txtTooBig hq .tooBig hr
  | version _ _ _ =>
    cases hr
    exact ⟨_, hq.quiet_then (er_sendErrorPdu (downgraded c hdr) n1 hdr 8 []), er_repOf_le _ _ _ _,
      shape _ 8 [] rfl rfl .version, nofun⟩
  | @payloadFault _ rc2 body n2 stop2 h2 _ =>
    rw [h2] at hp2
    have a := er_recvTransportError (applyStop (downgraded c hdr) stop2) n2 own rc2
    have b := recvTransportError_rc (applyStop (downgraded c hdr) stop2) n2 own rc2
    rw [hr] at a b
    exact ⟨[], (hq.quiet_then hp2).then_quiet a, Nat.zero_le _, nofun, fun raw h => absurd h (b raw)⟩
  | @sizeCheck _ rc2 body n2 h2 _ _ =>
    rw [h2] at hp2
    exact fatal (downgraded c hdr) n2 txtCorrupt (hq.quiet_then hp2) .corrupt hr
  | @delivered _ rc2 body n2 h2 _ _ =>
    rw [h2] at hp2
    cases hr
    exact ⟨[], hq.quiet_then hp2, Nat.zero_le _, nofun, fun _ _ => ⟨rfl, rfl⟩⟩

/-- the class a stream `bs` (at least 8 bytes, the announced PDU complete) falls into -/
def classOf (c : Conn) (bs : List Nat) : RecvClass :=
  if lenOf (bs.take 8) < 8 then .lenSmall
  else if lenOf (bs.take 8) > Gen.RTR_MAX_PDU_LEN then .lenBig
  else if verOf (bs.take 8) ≠ (downgrade c (bs.take 8)).version ∧ typeOf (bs.take 8) ≠ 10 then .version
  else if checkSize (bs.take (lenOf (bs.take 8))) then .delivered (bs.take (lenOf (bs.take 8)))
  else .sizeCheck

theorem take_header_payload (bs : List Nat) (len : Nat) (h : 8 ≤ len) :
    bs.take 8 ++ (bs.drop 8).take (len - 8) = bs.take len := by
  have e : 8 + (len - 8) = len := by omega
  rw [← List.take_add, e]

/-! ## the table updates (`rtr_update_pfx_table`, `rtr_update_spki_table`) -/

/-- the code / text combinations of the table stage (`TableReport` ends in `TableCode r.code r.text`, written out) -/
def TableCode (code : Nat) (text : List Nat) : Prop :=
  (code = 0 ∧ (text = txtBadLenPfx ∨ text = txtBadFlagsPfx ∨ text = txtBadFlagsKey)) ∨
  (code = 7 ∧ text = []) ∨ (code = 6 ∧ text = [])

theorem TableCode.pfxText {text : List Nat} (h : text = txtBadLenPfx ∨ text = txtBadFlagsPfx) : TableCode 0 text :=
  Or.inl ⟨rfl, h.imp_right Or.inl⟩
theorem TableCode.keyText {text : List Nat} (h : text = txtBadFlagsKey) : TableCode 0 text :=
  Or.inl ⟨rfl, Or.inr (Or.inr h)⟩
theorem TableCode.duplicate : TableCode 7 [] := Or.inr (Or.inl ⟨rfl, rfl⟩)
theorem TableCode.unknown : TableCode 6 [] := Or.inr (Or.inr ⟨rfl, rfl⟩)

/-- a report of the table stage: the socket's version, the whole offending PDU echoed, and one of
    the code / text combinations of `rtr_update_pfx_table` / `rtr_update_spki_table` -/
def TableReport (c : Conn) (p : List Nat) (r : Report) : Prop :=
  r.ver = c.version ∧ r.enc = p ∧ ¬ (2 ≤ p.length ∧ p.getD 1 0 = 10) ∧ c.state ≠ .shutdown ∧
  ((r.code = 0 ∧ (r.text = txtBadLenPfx ∨ r.text = txtBadFlagsPfx ∨ r.text = txtBadFlagsKey)) ∨
   (r.code = 7 ∧ r.text = []) ∨ (r.code = 6 ∧ r.text = []))

theorem er_repHost_len (c : Conn) (raw : List Nat) (code : Nat) (text : List Nat) (h8 : 8 ≤ raw.length) :
    repHost c raw raw.length code text = repOf c raw code text := by
  unfold repHost
  rw [if_neg (by omega), if_neg (by omega), List.take_length]

theorem er_repHost_8 (c : Conn) (raw : List Nat) (code : Nat) (text : List Nat) :
    repHost c raw 8 code text = repOf c (raw.take 8) code text := by
  unfold repHost
  rw [if_neg (by omega), if_neg (by omega)]

/-- the type byte of `raw.take 8` is that of `raw` -/
theorem er_repHost_hdr (c : Conn) (raw : List Nat) (code : Nat) (text : List Nat) (h10 : typeOf raw ≠ 10)
    (hs : c.state ≠ .shutdown) : repHost c raw 8 code text = [⟨c.version, code, raw.take 8, text⟩] := by
  rw [er_repHost_8]
  refine er_repOf_one c _ code text (fun h => h10 ?_) hs
  rw [← h.2]
  exact (getD_take raw 8 1 (by omega)).symm

theorem er_repHost_whole (c : Conn) (raw : List Nat) (code : Nat) (text : List Nat) (r : Report)
    (h : r ∈ repHost c raw raw.length code text) :
    r = ⟨c.version, code, raw, text⟩ ∧ ¬ (2 ≤ raw.length ∧ raw.getD 1 0 = 10) ∧ c.state ≠ .shutdown := by
  unfold repHost at h
  by_cases h0 : raw.length = 0
  · rw [if_pos h0] at h
    have hr : raw = [] := List.eq_nil_of_length_eq_zero h0
    obtain ⟨e, _, hs⟩ := er_repOf_mem _ _ _ _ r h
    subst hr
    exact ⟨e, fun h' => by simp at h', hs⟩
  · rw [if_neg h0] at h
    by_cases h8 : raw.length < 8
    · rw [if_pos h8] at h; cases h
    · rw [if_neg h8, List.take_length] at h
      exact er_repOf_mem _ _ _ _ r h

theorem er_repHost_le (c : Conn) (raw : List Nat) (k code : Nat) (text : List Nat) :
    (repHost c raw k code text).length ≤ 1 := by
  unfold repHost
  split
  · exact er_repOf_le _ _ _ _
  · split
    · exact Nat.zero_le _
    · exact er_repOf_le _ _ _ _

theorem er_repHost_one (c : Conn) (raw : List Nat) (code : Nat) (text : List Nat) (h8 : 8 ≤ raw.length)
    (h10 : raw.getD 1 0 ≠ 10) (hs : c.state ≠ .shutdown) :
    repHost c raw raw.length code text = [⟨c.version, code, raw, text⟩] := by
  rw [er_repHost_len c raw code text h8]
  exact er_repOf_one _ _ _ _ (fun h => h10 h.2) hs

/-- address width of the family of a Prefix PDU -/
def maxBitsOf (raw : List Nat) : Nat := if (pfxRecOf raw).v6 = true then 128 else 32

/-- the reports of `rtr_update_pfx_table` for PDU `raw` against update tables `t` -/
def pfxReports (c : Conn) (t : Tbl) (raw : List Nat) : List Report :=
  if (pfxRecOf raw).len > maxBitsOf raw ∨ (pfxRecOf raw).maxLen > maxBitsOf raw then
    repHost c raw raw.length 0 txtBadLenPfx
  else if flagsOf raw ≠ 0 ∧ flagsOf raw ≠ 1 then repHost c raw raw.length 0 txtBadFlagsPfx
  else
    match (if flagsOf raw = 1 then ptAdd t.upd.pt (pfxRecOf raw) else ptRemove t.upd.pt (pfxRecOf raw)).2 with
    | .duplicate => repHost c raw raw.length 7 []
    | .notFound => repHost c raw raw.length 6 []
    | _ => []

def keyReports (c : Conn) (t : Tbl) (raw : List Nat) : List Report :=
  if flagsOf raw ≠ 0 ∧ flagsOf raw ≠ 1 then repHost c raw raw.length 0 txtBadFlagsKey
  else
    match (if flagsOf raw = 1 then ktAdd t.upd.kt (keyRecOf raw) else ktRemove t.upd.kt (keyRecOf raw)).2 with
    | .duplicate => repHost c raw raw.length 7 []
    | .notFound => repHost c raw raw.length 6 []
    | _ => []

/-- a PDU long enough to be echoed whole and not an Error Report (every PDU `rtr_receive_pdu` hands
    on has at least 8 bytes; Prefix / Router Key PDUs have type 4 / 6 / 9).  The weakest of the notions of a
    complete PDU: it is what makes `repHost` send, and asks nothing of the length field (`ValidPdu`,
    `WellFormedPdu` do). -/
def GoodPdu (p : List Nat) : Prop := 8 ≤ p.length ∧ p.getD 1 0 ≠ 10

def Rej.reports (c : Conn) (raw : List Nat) : Rej → List Report
  | .report code text _ => repHost c raw raw.length code text
  | .silent => []

def Verdict.reports {σ : Type} (c : Conn) (raw : List Nat) : Verdict σ → List Report
  | .accept _ => []
  | .refuse r => r.reports c raw

theorem Verdict.reports_map {σ τ : Type} (f : σ → τ) (c : Conn) (raw : List Nat) (v : Verdict σ) :
    (v.map f).reports c raw = v.reports c raw := by
  cases v <;> rfl

theorem refuse_sent (c : Conn) (n : Net) (own : Nat) (raw : List Nat) (r : Rej) :
    Sent n (refuse c n own raw r).2 (r.reports c raw) := by
  cases r with
  | silent => exact Sent.refl n
  | report code text fatal =>
    cases fatal with
    | false => exact er_sendErrorFromHost c n raw _ code text
    | true => exact (er_sendErrorFromHost c n raw _ code text).then_quiet (Sent.state c _ own .errFatal)

theorem refuse_conn (c : Conn) (n : Net) (own : Nat) (raw : List Nat) (r : Rej) :
    (refuse c n own raw r).1.version = c.version ∧
    (c.state ≠ .shutdown → (refuse c n own raw r).1.state ≠ .shutdown) := by
  refine ⟨(refuse_steps connSame_sendRel c n own raw r).version, fun h => ?_⟩
  cases r with
  | silent => exact h
  | report code text fatal =>
    cases fatal with
    | false => exact h
    | true => exact changeState_ne_shutdown c _ own _ h (by decide)

theorem applyVerdict_sent (c : Conn) (n : Net) (t : Tbl) (raw : List Nat) (v : Verdict Tbl) :
    Sent n (applyVerdict c n t raw v).2.2.1 (v.reports c raw) := by
  cases v with
  | accept t' => exact Sent.refl n
  | refuse r => exact refuse_sent c n t.own raw r

theorem lsVerdict_reports {α : Type} [DecidableEq α] (c : Conn) (raw : List Nat) (bad : List Nat → Option (List Nat))
    (op : List Nat → Bool × α) (l : List α) :
    (lsVerdict bad op l raw).reports c raw =
      match bad raw with
      | some text => repHost c raw raw.length 0 text
      | none =>
        match (lsApply l (op raw).1 (op raw).2).2 with
        | .duplicate => repHost c raw raw.length 7 []
        | .notFound => repHost c raw raw.length 6 []
        | _ => [] := by
  unfold lsVerdict
  cases bad raw with
  | some text => rfl
  | none =>
    dsimp only
    generalize lsApply l (op raw).1 (op raw).2 = x
    obtain ⟨l', rc⟩ := x
    cases rc <;> rfl

theorem pfxReports_eq (c : Conn) (t : Tbl) (raw : List Nat) : pfxReports c t raw = (onPt pfxV t raw).reports c raw := by
  rw [onPt, onTbl, Verdict.reports_map, pfxV, lsVerdict_reports]
  unfold pfxReports pfxBad maxBitsOf pfxOp
  have key : lsApply t.upd.pt (decide (flagsOf raw = 1)) (pfxRecOf raw) =
      (if flagsOf raw = 1 then ptAdd t.upd.pt (pfxRecOf raw) else ptRemove t.upd.pt (pfxRecOf raw)) :=
    (lsApply_ite _ _ _).symm
  dsimp only
  rw [key]
  by_cases h1 : (pfxRecOf raw).len > (if (pfxRecOf raw).v6 = true then 128 else 32) ∨
      (pfxRecOf raw).maxLen > (if (pfxRecOf raw).v6 = true then 128 else 32)
  · rw [if_pos h1, if_pos h1]
  · rw [if_neg h1, if_neg h1]
    by_cases h2 : flagsOf raw ≠ 0 ∧ flagsOf raw ≠ 1
    · rw [if_pos h2, if_pos h2]
    · rw [if_neg h2, if_neg h2]

theorem keyReports_eq (c : Conn) (t : Tbl) (raw : List Nat) : keyReports c t raw = (onKt keyV t raw).reports c raw := by
  rw [onKt, onTbl, Verdict.reports_map, keyV, lsVerdict_reports]
  unfold keyReports keyBad keyOp
  have key : lsApply t.upd.kt (decide (flagsOf raw = 1)) (keyRecOf raw) =
      (if flagsOf raw = 1 then ktAdd t.upd.kt (keyRecOf raw) else ktRemove t.upd.kt (keyRecOf raw)) :=
    (lsApply_ite _ _ _).symm
  dsimp only
  rw [key]
  by_cases h2 : flagsOf raw ≠ 0 ∧ flagsOf raw ≠ 1
  · rw [if_pos h2, if_pos h2]
  · rw [if_neg h2, if_neg h2]

theorem updatePfx_sent (c : Conn) (n : Net) (t : Tbl) (raw : List Nat) :
    Sent n (updatePfx c n t raw).2.2.1 (pfxReports c t raw) := by
  rw [updatePfx_eq, pfxReports_eq]
  exact applyVerdict_sent c n t raw _

theorem updateKey_sent (c : Conn) (n : Net) (t : Tbl) (raw : List Nat) :
    Sent n (updateKey c n t raw).2.2.1 (keyReports c t raw) := by
  rw [updateKey_eq, keyReports_eq]
  exact applyVerdict_sent c n t raw _

/-- the hypothesis is the reason `tablesOut_refused` gives for a failure of the table part -/
theorem refused_code {r : Rej} {p : List Nat} (h : (∃ l, pfxV l p = .refuse r) ∨ ∃ l, keyV l p = .refuse r) :
    ∃ code text fatal, r = .report code text fatal ∧ TableCode code text := by
  rcases h with ⟨l, hl⟩ | ⟨l, hl⟩
  · rcases lsVerdict_refuse _ _ l p r hl with ⟨text, hb, rfl⟩ | rfl | rfl
    · exact ⟨0, text, false, rfl, .pfxText (pfxBad_some hb)⟩
    · exact ⟨7, [], true, rfl, .duplicate⟩
    · exact ⟨6, [], true, rfl, .unknown⟩
  · rcases lsVerdict_refuse _ _ l p r hl with ⟨text, hb, rfl⟩ | rfl | rfl
    · exact ⟨0, text, false, rfl, .keyText (keyBad_some hb)⟩
    · exact ⟨7, [], true, rfl, .duplicate⟩
    · exact ⟨6, [], true, rfl, .unknown⟩

structure TableRun (c : Conn) (ps : List (List Nat)) (ok : Bool) (c1 : Conn) (rs : List Report) : Prop where
  le : rs.length ≤ 1
  version : c1.version = c.version
  alive : c.state ≠ .shutdown → c1.state ≠ .shutdown
  success : ok = true → rs = [] ∧ c1 = c
  shape : ∀ r ∈ rs, ∃ p ∈ ps, TableReport c p r
  failure : ok = false → (∀ p ∈ ps, GoodPdu p) → c.state ≠ .shutdown → rs.length = 1

theorem TableRun.nil (c : Conn) (ps : List (List Nat)) : TableRun c ps true c [] :=
  ⟨Nat.zero_le _, rfl, id, fun _ => ⟨rfl, rfl⟩, (fun _ h => by cases h), (fun h => by cases h)⟩

/-- for any longer list `qs`; as a conjunction and without `failure`, which would carry over too.  Nothing uses it. -/
theorem TableRun.mono {c : Conn} {ps qs : List (List Nat)} {ok : Bool} {c1 : Conn} {rs : List Report}
    (h : TableRun c ps ok c1 rs) (hsub : ∀ p ∈ ps, p ∈ qs) : 
    rs.length ≤ 1 ∧ c1.version = c.version ∧ (c.state ≠ .shutdown → c1.state ≠ .shutdown) ∧
    (ok = true → rs = [] ∧ c1 = c) ∧ (∀ r ∈ rs, ∃ p ∈ qs, TableReport c p r) :=
  ⟨h.le, h.version, h.alive, h.success, fun r hr => by
    obtain ⟨p, hp, ht⟩ := h.shape r hr
    exact ⟨p, hsub p hp, ht⟩⟩

theorem TableRun.refused (c : Conn) (n : Net) (own : Nat) {p : List Nat} {ps : List (List Nat)} (hp : p ∈ ps)
    (code : Nat) (text : List Nat) (fatal : Bool) (hc : TableCode code text) :
    TableRun c ps false (refuse c n own p (.report code text fatal)).1 (repHost c p p.length code text) := by
  obtain ⟨hv, hal⟩ := refuse_conn c n own p (.report code text fatal)
  refine ⟨er_repHost_le c p _ code text, hv, hal, nofun, ?_, ?_⟩
  · intro r hr
    obtain ⟨e, a, b⟩ := er_repHost_whole c p code text r hr
    subst e
    exact ⟨p, hp, rfl, rfl, a, b, hc⟩
  · intro _ hg hs
    rw [er_repHost_one c p code text (hg p hp).1 (hg p hp).2 hs]
    rfl

theorem TableRun.applyFail {c : Conn} {ps : List (List Nat)} {c1 : Conn} {rs : List Report} {n n1 : Net}
    (hs : Sent n n1 rs) (run : TableRun c ps false c1 rs) (undone : Bool) (t : Tbl) :
    ∃ rs, Sent n (applyFail undone c1 n1 t).n rs ∧
      TableRun c ps (applyFail undone c1 n1 t).ok (applyFail undone c1 n1 t).c rs := by
  unfold Rtr.P.applyFail
  exact ⟨rs, hs.then_quiet (Sent.state c1 n1 _ .errFatal), run.le,
    (changeState_conn c1 n1 _ _).version.trans run.version,
    fun h => changeState_ne_shutdown c1 n1 _ _ (run.alive h) (by decide), (fun h => by cases h), run.shape,
    run.failure⟩

theorem er_applyTables (c : Conn) (n : Net) (t : Tbl) (resetting : Bool) (v4 v6 keys : List (List Nat)) :
    ∃ rs, Sent n (applyTables c n t resetting v4 v6 keys).n rs ∧
      TableRun c (v4 ++ v6 ++ keys) (applyTables c n t resetting v4 v6 keys).ok
        (applyTables c n t resetting v4 v6 keys).c rs := by
  rw [applyTables_eq]
  cases h : tablesOut (startTbl t resetting).upd v4 v6 keys with
  | applied u => exact ⟨[], Sent.refl n, TableRun.nil c _⟩
  | refused p r uf undone u =>
    obtain ⟨hp, hv⟩ := tablesOut_refused _ _ _ _ p r uf undone u h
    obtain ⟨code, text, fatal, rfl, hc⟩ := refused_code hv
    exact (TableRun.refused c n _ hp code text fatal hc).applyFail (refuse_sent c n _ p _) undone _

/-! ## text lengths (`sizeof(txt)` of the C literals) -/

/-- `cstr` goes through `String.toUTF8.toList`, and `ByteArray.toList` is this loop; core states nothing about
    its length, which `er_cstr_len` needs to reduce `(cstr s).length` to the byte size of the literal -/
theorem toListLoop_length (bs : ByteArray) (i : Nat) (r : List UInt8) :
    (ByteArray.toList.loop bs i r).length = r.length + (bs.size - i) := by
  fun_induction ByteArray.toList.loop bs i r with
  | case1 i r h ih => rw [ih]; simp only [List.length_cons]; omega
  | case2 i r h => simp only [List.length_reverse]; omega

theorem er_cstr_len (s : String) : (cstr s).length = s.toUTF8.size + 1 := by
  simp [cstr, strBytes, ByteArray.toList, toListLoop_length]

theorem er_text_lengths :
    txtCorrupt.length = 56 ∧ txtTooBig.length = 42 ∧ txtWrongSession.length = 39 ∧ txtBadLenPfx.length = 46 ∧
    txtBadFlagsPfx.length = 45 ∧ txtBadFlagsKey.length = 49 ∧ txtUnexpectedSync.length = 52 ∧
    txtUnexpectedSync2.length = 48 :=
  ⟨(er_cstr_len _).trans (by decide +kernel), (er_cstr_len _).trans (by decide +kernel),
   (er_cstr_len _).trans (by decide +kernel), (er_cstr_len _).trans (by decide +kernel),
   (er_cstr_len _).trans (by decide +kernel), (er_cstr_len _).trans (by decide +kernel),
   (er_cstr_len _).trans (by decide +kernel), (er_cstr_len _).trans (by decide +kernel)⟩

/-- the End of Data text is written into `char txt[67]` (`snprintf`, then `strlen + 1`); every other text
    is a shorter literal -/
theorem er_txtEodSession_len (a b : Nat) : (txtEodSession a b).length ≤ 67 := by
  unfold txtEodSession
  simp only [List.length_append, List.length_take, List.length_cons, List.length_nil]
  omega

/-! ## provenance of the echoed bytes: PDU boundaries of the stream -/

/-- a complete PDU as `rtr_receive_pdu` hands it on (the `.ok` case of `receivePdu_cases`): the bounds and the
    length field of `WellFormedPdu` (SentPdus, for the PDUs the client builds) without its version byte, plus
    the size check; it implies the length half of `GoodPdu` -/
def ValidPdu (p : List Nat) : Prop :=
  checkSize p = true ∧ p.length = lenOf p ∧ 8 ≤ p.length ∧ p.length ≤ Gen.RTR_MAX_PDU_LEN

theorem ValidPdu.min {p : List Nat} (h : ValidPdu p) : 8 ≤ p.length := h.2.2.1

/-- `rest` starts at a PDU boundary of the stream `s`: what precedes it is a sequence of complete,
    checked PDUs (those processed before) -/
def AtBoundary (s rest : List Nat) : Prop :=
  ∃ ps : List (List Nat), (∀ p ∈ ps, ValidPdu p) ∧ s = ps.flatten ++ rest

/-- `enc` is a byte-exact prefix of a PDU as received: at some PDU boundary of the stream `s` it
    is the first 8 bytes (the header, whatever follows), or a whole complete checked PDU -/
def StreamEcho (s enc : List Nat) : Prop :=
  ∃ rest, AtBoundary s rest ∧ ((8 ≤ rest.length ∧ enc = rest.take 8) ∨ (ValidPdu enc ∧ enc <+: rest))

theorem AtBoundary.refl (s : List Nat) : AtBoundary s s := ⟨[], (fun _ h => by cases h), rfl⟩

theorem StreamEcho.lift {s rest enc : List Nat} (hb : AtBoundary s rest) (h : StreamEcho rest enc) :
    StreamEcho s enc := by
  obtain ⟨ps, hps, hs⟩ := hb
  obtain ⟨rest', ⟨qs, hqs, hr⟩, h⟩ := h
  refine ⟨rest', ⟨ps ++ qs, ?_, ?_⟩, h⟩
  · intro q hq
    rcases List.mem_append.1 hq with hq | hq
    · exact hps q hq
    · exact hqs q hq
  · rw [hs, hr, List.flatten_append, List.append_assoc]

theorem StreamEcho.head8 {s : List Nat} (h : 8 ≤ s.length) : StreamEcho s (s.take 8) :=
  ⟨s, AtBoundary.refl s, Or.inl ⟨h, rfl⟩⟩

theorem StreamEcho.whole {raw : List Nat} (s : List Nat) (hv : ValidPdu raw) : StreamEcho (raw ++ s) raw :=
  ⟨raw ++ s, AtBoundary.refl _, Or.inr ⟨hv, List.prefix_append _ _⟩⟩

theorem StreamEcho.hdr {raw : List Nat} (s : List Nat) (hv : ValidPdu raw) : StreamEcho (raw ++ s) (raw.take 8) := by
  have h := StreamEcho.head8 (s := raw ++ s) (by rw [List.length_append]; have := hv.min; omega)
  rwa [List.take_append_of_le_length hv.min] at h

theorem StreamEcho.prefix {s enc : List Nat} (h : StreamEcho s enc) :
    ∃ rest, AtBoundary s rest ∧ enc <+: rest ∧ (enc = rest.take 8 ∨ ValidPdu enc) := by
  obtain ⟨rest, hb, h | h⟩ := h
  · exact ⟨rest, hb, by rw [h.2]; exact List.take_prefix _ _, Or.inl h.2⟩
  · exact ⟨rest, hb, h.2, Or.inr h.1⟩

/-! ## the reports of a synchronisation: codes and texts -/

/-- what every report of a synchronisation satisfies: the socket's (final) version, not an echo of
    an Error Report, one of the four codes the client uses, a short text -/
structure SyncReport (c1 : Conn) (r : Report) : Prop where
  ver : r.ver = c1.version
  notErr : ¬ (2 ≤ r.enc.length ∧ r.enc.getD 1 0 = 10)
  code : r.code = 0 ∨ r.code = 6 ∨ r.code = 7 ∨ r.code = 8
  text : r.text.length ≤ 67

/-- the SITE → CODE table of C14b as a predicate: the combinations of code and text of `rtr_receive_pdu`, of the
    table stage, and of the four sites of `rtr_sync` itself (the text of the last names two session ids) -/
def SiteCode (code : Nat) (text : List Nat) : Prop :=
  RecvCode code text ∨ TableCode code text ∨
  (code = 0 ∧ (text = txtUnexpectedSync ∨ text = txtUnexpectedSync2 ∨ text = txtWrongSession ∨
    ∃ exp got, text = txtEodSession exp got))

theorem SiteCode.recv {code : Nat} {text : List Nat} (h : RecvCode code text) : SiteCode code text := Or.inl h
theorem SiteCode.table {code : Nat} {text : List Nat} (h : TableCode code text) : SiteCode code text := Or.inr (Or.inl h)
theorem SiteCode.unexpectedSync : SiteCode 0 txtUnexpectedSync := Or.inr (Or.inr ⟨rfl, Or.inl rfl⟩)
theorem SiteCode.unexpectedSync2 : SiteCode 0 txtUnexpectedSync2 := Or.inr (Or.inr ⟨rfl, Or.inr (Or.inl rfl)⟩)
theorem SiteCode.wrongSession : SiteCode 0 txtWrongSession := Or.inr (Or.inr ⟨rfl, Or.inr (Or.inr (Or.inl rfl))⟩)
theorem SiteCode.eodSession (exp got : Nat) : SiteCode 0 (txtEodSession exp got) :=
  Or.inr (Or.inr ⟨rfl, Or.inr (Or.inr (Or.inr ⟨exp, got, rfl⟩))⟩)

theorem SiteCode.sync {code : Nat} {text : List Nat} (h : SiteCode code text) :
    (code = 0 ∨ code = 6 ∨ code = 7 ∨ code = 8) ∧ text.length ≤ 67 := by
  obtain ⟨l1, l2, l3, l4, l5, l6, l7, l8⟩ := er_text_lengths
  have nil : ([] : List Nat).length ≤ 67 := Nat.zero_le _
  rcases h with (⟨h0, ht | ht⟩ | ⟨h8, ht⟩) | (⟨h0, ht | ht | ht⟩ | ⟨h7, ht⟩ | ⟨h6, ht⟩) | ⟨h0, ht | ht | ht | ⟨_, _, ht⟩⟩
  · exact ⟨Or.inl h0, by rw [ht, l1]; omega⟩
  · exact ⟨Or.inl h0, by rw [ht, l2]; omega⟩
  · exact ⟨Or.inr (Or.inr (Or.inr h8)), ht ▸ nil⟩
  · exact ⟨Or.inl h0, by rw [ht, l4]; omega⟩
  · exact ⟨Or.inl h0, by rw [ht, l5]; omega⟩
  · exact ⟨Or.inl h0, by rw [ht, l6]; omega⟩
  · exact ⟨Or.inr (Or.inr (Or.inl h7)), ht ▸ nil⟩
  · exact ⟨Or.inr (Or.inl h6), ht ▸ nil⟩
  · exact ⟨Or.inl h0, by rw [ht, l7]; omega⟩
  · exact ⟨Or.inl h0, by rw [ht, l8]; omega⟩
  · exact ⟨Or.inl h0, by rw [ht, l3]; omega⟩
  · exact ⟨Or.inl h0, ht ▸ er_txtEodSession_len _ _⟩

structure SiteReport (c1 : Conn) (r : Report) : Prop where
  ver : r.ver = c1.version
  notErr : ¬ (2 ≤ r.enc.length ∧ r.enc.getD 1 0 = 10)
  code : SiteCode r.code r.text

theorem SiteReport.sync {c1 : Conn} {r : Report} (h : SiteReport c1 r) : SyncReport c1 r :=
  ⟨h.ver, h.notErr, h.code.sync.1, h.code.sync.2⟩

/-! ## the receive loops, `rtr_sync`, `rtr_wait_for_sync` -/

theorem er_handleErrorPdu (c : Conn) (n : Net) (own : Nat) (raw : List Nat) :
    Sent n (handleErrorPdu c n own raw).2 [] := by
  rw [handleErrorPdu_eq]
  exact Sent.state _ _ _ _

def Echoes (c1 : Conn) (s : List Nat) (r : Report) : Prop := SiteReport c1 r ∧ StreamEcho s r.enc

theorem OneReport.thenState {c1 : Conn} {s : List Nat} {ok : Bool} {a b : Net} (h : OneReport (Echoes c1 s) ok a b)
    (own : Nat) (new : SState) :
    OneReport (Echoes (changeState c1 b own new).1 s) ok a (changeState c1 b own new).2 :=
  (h.before (Sent.state c1 b own new)).mono
    (fun _ h => ⟨⟨h.1.ver.trans (changeState_conn c1 b own new).version.symm, h.1.notErr, h.1.code⟩, h.2⟩) id

theorem AtBoundary.pdu {s raw rest : List Nat} (hb : AtBoundary s (raw ++ rest)) (hv : ValidPdu raw) :
    StreamEcho s raw ∧ StreamEcho s (raw.take 8) ∧ AtBoundary s rest := by
  refine ⟨(StreamEcho.whole rest hv).lift hb, (StreamEcho.hdr rest hv).lift hb, ?_⟩
  obtain ⟨ps, hps, hs⟩ := hb
  refine ⟨ps ++ [raw], ?_, by rw [hs, List.flatten_append, List.flatten_singleton, List.append_assoc]⟩
  intro q hq
  rcases List.mem_append.1 hq with hq | hq
  · exact hps q hq
  · rw [List.mem_singleton.1 hq]
    exact hv

/-- a PDU `raw` handed on by the receiving between `n` and `m`, begun at a PDU boundary of `s` -/
structure Delivered (s : List Nat) (n m : Net) (raw : List Nat) : Prop where
  quiet : Sent n m []
  valid : ValidPdu raw
  whole : StreamEcho s raw
  header : StreamEcho s (raw.take 8)
  boundary : AtBoundary s (tapeBytes m.tape)
  tapeOk : TapeOk m.tape

theorem Delivered.after {s : List Nat} {a n m : Net} {raw : List Nat} (h : Sent a n []) (d : Delivered s n m raw) :
    Delivered s a m raw :=
  { d with quiet := h.quiet_then d.quiet }

/-- `rtr_receive_pdu` called at a PDU boundary of `s`, in the form the loops need: `ok` is whatever flag the caller
    returns, provided it is false when the call returned RTR_ERROR -/
theorem er_receivePdu_loop (c : Conn) (n : Net) (own : Nat) (t : Int) (hok : TapeOk n.tape) {s : List Nat}
    (hb : AtBoundary s (tapeBytes n.tape)) (res : RecvRes) (c1 : Conn) (m : Net)
    (hr : receivePdu c n own t = (res, c1, m)) :
    (∀ ok : Bool, (res = .rc (-1) → ok = false) → OneReport (Echoes c1 s) ok n m) ∧
    (∀ raw, res = .ok raw → Delivered s n m raw) := by
  obtain ⟨rs, hs, hle, hsh, _⟩ := er_receivePdu c n own t hok res c1 m hr
  have hrep : ∀ ok : Bool, (res = .rc (-1) → ok = false) → OneReport (Echoes c1 s) ok n m := by
    intro ok hok'
    refine ⟨rs, hs, hle, fun hne => ?_, fun r hr' => ?_⟩
    · obtain ⟨r, hr'⟩ := List.exists_mem_of_ne_nil _ hne
      exact hok' (hsh r hr').failed
    · have h := hsh r hr'
      exact ⟨⟨h.ver, h.notErr, .recv h.code⟩, h.enc ▸ (StreamEcho.head8 h.header).lift hb⟩
  refine ⟨hrep, fun raw hraw => ?_⟩
  obtain ⟨_, hout⟩ := receivePdu_cases c n own t hok res c1 m hr
  rcases hout with ⟨k, hk, _⟩ | ⟨raw', hr', hcs, h8, hmax, hlen, _, htb, hokm⟩
  · rw [hraw] at hk; cases hk
  · rw [hraw] at hr'; cases hr'
    have hvalid : ValidPdu raw := ⟨hcs, hlen, by omega, by omega⟩
    rw [htb] at hb
    obtain ⟨e1, e2, hb'⟩ := hb.pdu hvalid
    exact ⟨(hrep true (fun h => by rw [hraw] at h; cases h)).sent, hvalid, e1, e2, hb', hokm⟩

theorem mem_buffers_snoc (p raw : List Nat) (a b c : List (List Nat))
    (h : p ∈ a ++ [raw] ++ b ++ c ∨ p ∈ a ++ (b ++ [raw]) ++ c ∨ p ∈ a ++ b ++ (c ++ [raw])) :
    p ∈ a ++ b ++ c ∨ p = raw := by
  simp only [List.mem_append, List.mem_singleton] at h ⊢
  grind

/-- `rtr_sync_receive_and_store_pdus`, entered at a PDU boundary of `s` with buffers that hold PDUs of `s` -/
theorem er_recvAndStore {s : List Nat} : ∀ (fuel : Nat) (st : St) (v4 v6 keys : List (List Nat)), TapeOk st.n.tape →
    AtBoundary s (tapeBytes st.n.tape) → (∀ p ∈ v4 ++ v6 ++ keys, StreamEcho s p) →
    OneReport (Echoes (recvAndStore fuel st v4 v6 keys).2.1.c s)
      (recvAndStore fuel st v4 v6 keys).1 st.n (recvAndStore fuel st v4 v6 keys).2.1.n := by
  intro fuel
  induction fuel with
  | zero =>
    intro st v4 v6 keys _ _ _
    exact OneReport.quiet (Sent.refl _)
  | succ fuel ih =>
    intro st v4 v6 keys hok hb hbuf
    unfold recvAndStore
    rcases e : receivePdu st.c st.n st.t.own Gen.RTR_RECV_TIMEOUT with ⟨res, c1, n1⟩
    obtain ⟨hrep, hdel⟩ := er_receivePdu_loop st.c st.n st.t.own _ hok hb res c1 n1 e
    cases res with
    | rc code =>
      -- the reports are those of the receive; what follows only changes the state
      have h0 := hrep false (fun _ => rfl)
      simp only
      by_cases hc : code = -2
      · rw [if_pos hc]
        exact h0.thenState st.t.own .errTransport
      · rw [if_neg hc]
        exact h0
    | ok raw =>
      have d := hdel raw rfl
      have hq := d.quiet
      simp only
      -- the PDU is buffered and the loop goes on
      have next : ∀ (w4 w6 wk : List (List Nat)),
          (∀ p, p ∈ w4 ++ w6 ++ wk → p ∈ v4 ++ v6 ++ keys ∨ p = raw) →
          OneReport (Echoes (recvAndStore fuel { st with c := c1, n := n1 } w4 w6 wk).2.1.c s)
            (recvAndStore fuel { st with c := c1, n := n1 } w4 w6 wk).1 st.n
            (recvAndStore fuel { st with c := c1, n := n1 } w4 w6 wk).2.1.n :=
        fun w4 w6 wk hsub => (ih { st with c := c1, n := n1 } w4 w6 wk d.tapeOk d.boundary
          (fun p hp => (hsub p hp).elim (hbuf p) (fun e => e ▸ d.whole))).after hq
      split
      · exact next _ _ _ (fun p hp => mem_buffers_snoc p raw v4 v6 keys (Or.inl hp))
      · exact next _ _ _ (fun p hp => mem_buffers_snoc p raw v4 v6 keys (Or.inr (Or.inl hp)))
      · exact next _ _ _ (fun p hp => mem_buffers_snoc p raw v4 v6 keys (Or.inr (Or.inr hp)))
      · by_cases hsess : be16 raw 2 ≠ st.ss.session
        · rw [if_pos hsess]
          have hs := refuse_sent c1 n1 st.t.own raw (.report 0 (txtEodSession st.ss.session (be16 raw 2)) true)
          rw [Rej.reports, er_repHost_len c1 raw 0 _ d.valid.min] at hs
          exact OneReport.after hq (OneReport.of_repOf hs (fun he _ =>
            ⟨⟨(changeState_conn c1 _ st.t.own .errFatal).version.symm, he, .eodSession _ _⟩, d.whole⟩))
        · rw [if_neg hsess]
          obtain ⟨rs, hs, run⟩ := er_applyTables c1 n1 st.t st.ss.isResetting v4 v6 keys
          refine ⟨rs, hq.quiet_then hs, run.le, ?_, ?_⟩
          · intro hne
            cases hb : (applyTables c1 n1 st.t st.ss.isResetting v4 v6 keys).ok with
            | false => exact hb
            | true => exact absurd (run.success hb).1 hne
          · intro r hr'
            obtain ⟨p, hp, htr⟩ := run.shape r hr'
            obtain ⟨hv, he, hne, _, hc⟩ := htr
            exact ⟨⟨hv.trans run.version.symm, he ▸ hne, .table hc⟩, he ▸ hbuf p hp⟩
      · -- an Error Report was received: handled, never answered
        exact OneReport.quiet (hq.quiet_then (er_handleErrorPdu c1 n1 st.t.own raw))
      · exact next _ _ _ (fun p hp => Or.inl hp)
      · -- a PDU that does not belong into the answer
        have hs := er_sendErrorFromHost c1 n1 raw 8 0 txtUnexpectedSync
        rw [er_repHost_8] at hs
        exact OneReport.after hq (OneReport.of_repOf hs (fun he _ => ⟨⟨rfl, he, .unexpectedSync⟩, d.header⟩))

theorem er_syncFirst {s : List Nat} : ∀ (fuel : Nat) (st : St), TapeOk st.n.tape → AtBoundary s (tapeBytes st.n.tape) →
    OneReport (Echoes (syncFirst fuel st).2.c s) (syncFirst fuel st).1.isSome st.n (syncFirst fuel st).2.n ∧
    (∀ raw, (syncFirst fuel st).1 = some raw → Delivered s st.n (syncFirst fuel st).2.n raw) := by
  intro fuel
  induction fuel with
  | zero =>
    intro st _ _
    exact ⟨OneReport.quiet (Sent.refl _), fun _ h => nomatch h⟩
  | succ fuel ih =>
    intro st hok hb
    unfold syncFirst
    rcases e : receivePdu st.c st.n st.t.own Gen.RTR_RECV_TIMEOUT with ⟨res, c1, n1⟩
    obtain ⟨hrep, hdel⟩ := er_receivePdu_loop st.c st.n st.t.own _ hok hb res c1 n1 e
    cases res with
    | rc code =>
      simp only
      by_cases h4 : code = -4 ∧ st.ss.reqSession = true ∧ c1.version > Gen.RTR_PROTOCOL_MIN_SUPPORTED_VERSION
      · -- TR_CLOSED during version negotiation: the version changes, but nothing was sent
        rw [if_pos h4]
        have hq := (hrep true (fun h => by injection h with h; omega)).sent
        exact ⟨OneReport.quiet (hq.then_quiet (Sent.state _ n1 st.t.own .fastReconnect)), fun _ h => nomatch h⟩
      · rw [if_neg h4]
        by_cases h2 : code = -2
        · rw [if_pos h2]
          exact ⟨(hrep false (fun _ => rfl)).thenState st.t.own .errTransport, fun _ h => nomatch h⟩
        · rw [if_neg h2]
          exact ⟨hrep false (fun _ => rfl), fun _ h => nomatch h⟩
    | ok raw =>
      have d := hdel raw rfl
      simp only
      by_cases h0 : typeOf raw = 0
      · rw [if_pos h0]
        obtain ⟨h1, h2⟩ := ih { st with c := c1, n := n1 } d.tapeOk d.boundary
        exact ⟨h1.after d.quiet, fun raw' h' => (h2 raw' h').after d.quiet⟩
      · rw [if_neg h0]
        refine ⟨OneReport.quiet d.quiet, fun raw' h' => ?_⟩
        cases h'
        exact d

theorem er_handleCacheResponse (c : Conn) (ss : Sess) (n : Net) (own : Nat) (raw : List Nat) :
    Sent n (handleCacheResponse c ss n own raw).2.2.2
      (if ss.reqSession = false ∧ ss.session ≠ be16 raw 2 then repOf c [] 0 txtWrongSession else []) ∧
    ((handleCacheResponse c ss n own raw).1 = false ↔ (ss.reqSession = false ∧ ss.session ≠ be16 raw 2)) := by
  rw [handleCacheResponse_eq]
  by_cases h : ss.reqSession = false ∧ ss.session ≠ be16 raw 2
  · rw [if_pos h, if_pos h]
    exact ⟨refuse_sent c n own [] (.report 0 txtWrongSession true), fun _ => h, fun _ => rfl⟩
  · rw [if_neg h, if_neg h]
    exact ⟨Sent.refl n, (fun h' => nomatch h'), fun h' => absurd h' h⟩

/-- provenance of a report of `rtr_sync`: (a prefix of) a PDU at a PDU boundary of the stream, or —
    one site only, the Cache Response with the wrong session id — no encapsulated PDU at all -/
def SyncEcho (stream : List Nat) (r : Report) : Prop :=
  StreamEcho stream r.enc ∨ (r.enc = [] ∧ r.code = 0 ∧ r.text = txtWrongSession)

theorem OneReport.echoes {c : Conn} {s : List Nat} {ok : Bool} {a b : Net} (h : OneReport (Echoes c s) ok a b) :
    OneReport (fun r => SiteReport c r ∧ SyncEcho s r) ok a b :=
  h.mono (fun _ h => ⟨h.1, Or.inl h.2⟩) id

theorem er_syncG (fuel : Nat) (st : St) (hok : TapeOk st.n.tape) :
    OneReport (fun r => SiteReport (syncG fuel st).2.1.c r ∧ SyncEcho (tapeBytes st.n.tape) r)
      (syncG fuel st).1 st.n (syncG fuel st).2.1.n := by
  unfold syncG
  obtain ⟨h1, h2⟩ := er_syncFirst fuel st hok (AtBoundary.refl _)
  rcases e : syncFirst fuel st with ⟨r, st1⟩
  rw [e] at h1 h2
  cases r with
  | none => exact h1.echoes
  | some raw =>
    have d := h2 raw rfl
    have hq := d.quiet
    simp only
    split
    · -- Error Report: handled, not answered
      exact OneReport.quiet (hq.quiet_then (er_handleErrorPdu st1.c st1.n st1.t.own raw))
    · exact OneReport.quiet (hq.quiet_then (Sent.state st1.c st1.n st1.t.own .errNoIncr))
    · obtain ⟨hs, hiff⟩ := er_handleCacheResponse st1.c st1.ss st1.n st1.t.own raw
      -- the handler keeps the version and the tape: it only sends and changes the state
      have hv := (handleCacheResponse_steps connSame_sendRel st1.c st1.ss st1.n st1.t.own raw).version
      have htape : _ = st1.n.tape := handleCacheResponse_steps tapeKept.sendRel st1.c st1.ss st1.n st1.t.own raw
      rcases hh : handleCacheResponse st1.c st1.ss st1.n st1.t.own raw with ⟨ok2, c2, ss2, n2⟩
      rw [hh] at hs hv htape hiff
      simp only at hs hv htape hiff ⊢
      cases ok2 with
      | false =>
        rw [if_pos (hiff.1 rfl)] at hs
        exact OneReport.after hq (OneReport.of_repOf hs (fun he _ =>
          ⟨⟨hv.symm, he, .wrongSession⟩, Or.inr ⟨rfl, rfl, rfl⟩⟩))
      | true =>
        rw [if_neg (fun h => nomatch hiff.2 h)] at hs
        have hok1 := d.tapeOk
        have hb1 := d.boundary
        rw [← htape] at hok1 hb1
        have key := ((er_recvAndStore fuel { st1 with c := c2, ss := ss2, n := n2 } [] [] [] hok1 hb1
          (fun _ h => nomatch h)).after (hq.quiet_then hs)).echoes
        rcases e3 : recvAndStore fuel { st1 with c := c2, ss := ss2, n := n2 } [] [] [] with ⟨ok3, st3, g3⟩
        rw [e3] at key
        cases ok3 <;> exact key
    · -- any other PDU: refused, header echoed
      have hs := er_sendErrorFromHost st1.c st1.n raw 8 0 txtUnexpectedSync2
      rw [er_repHost_8] at hs
      exact OneReport.after hq (OneReport.of_repOf hs (fun he _ => ⟨⟨rfl, he, .unexpectedSync2⟩, Or.inl d.header⟩))

theorem er_waitForSync (st : St) (hok : TapeOk st.n.tape) :
    OneReport (Echoes (waitForSync st).2.c (tapeBytes st.n.tape)) (waitForSync st).1 st.n (waitForSync st).2.n := by
  rw [waitForSync_eq]
  rcases e : receivePdu st.c st.n st.t.own (waitTimeout st) with ⟨res, c1, n1⟩
  obtain ⟨hrep, _⟩ := er_receivePdu_loop st.c st.n st.t.own _ hok (AtBoundary.refl _) res c1 n1 e
  cases res with
  | ok raw => exact hrep _ (fun h => nomatch h)
  | rc code => exact hrep _ (fun h => by cases h; rfl)

/-! ## well-formedness of the reports -/

/-- 123 = `sizeof_pdu_router_key`: the Router Key PDU is the largest PDU that is not an Error Report and passes
    `rtr_pdu_check_size` (`checkSize_len`), so the largest report is 16 + 123 + 67 bytes -/
theorem er_streamEcho_len (s enc : List Nat) (h : StreamEcho s enc) (hne : ¬ (2 ≤ enc.length ∧ enc.getD 1 0 = 10)) :
    enc.length ≤ 123 := by
  obtain ⟨rest, _, h | ⟨⟨hc, hl, h8, _⟩, _⟩⟩ := h
  · rw [h.2, List.length_take]; omega
  · rw [hl]
    exact (checkSize_len enc hc).2 fun h10 => hne ⟨by omega, h10⟩

theorem er_report_wellformed (c1 : Conn) (stream : List Nat) (r : Report) (hs : SyncReport c1 r)
    (he : SyncEcho stream r) :
    r.enc.length + r.text.length + 16 ≤ Gen.RTR_MAX_PDU_LEN ∧ WellFormedPdu c1.version r.bytes ∧
    be32 r.bytes 8 = r.enc.length ∧ (r.bytes.drop 12).take r.enc.length = r.enc ∧
    be32 r.bytes (12 + r.enc.length) = r.text.length ∧ r.bytes.drop (16 + r.enc.length) = r.text ∧
    r.bytes.length = 16 + r.enc.length + r.text.length ∧ be16 r.bytes 2 = r.code ∧ typeOf r.bytes = 10 := by
  have hlen : r.enc.length ≤ 123 := by
    rcases he with he | he
    · exact er_streamEcho_len stream r.enc he hs.notErr
    · rw [he.1]; simp
  -- the largest echo with the longest text fits the client's maximum
  have hm : 123 + 67 + 16 ≤ Gen.RTR_MAX_PDU_LEN := by decide
  have htext := hs.text
  have hb : r.enc.length + r.text.length + 16 ≤ Gen.RTR_MAX_PDU_LEN := by omega
  have hf := errorPdu_fields r.ver r.enc r.code r.text hb
  have hw : WellFormedPdu c1.version r.bytes := by
    have := errorPdu_wf r.ver r.enc r.code r.text hb
    rw [← hs.ver]; exact this
  have hcode : r.code < 65536 := by rcases hs.code with h | h | h | h <;> omega
  exact ⟨hb, hw, hf.2.2.1, hf.2.2.2.1, hf.2.2.2.2.1, hf.2.2.2.2.2.1, hf.2.2.2.2.2.2.1, hf.2.1 hcode, hf.1⟩

theorem er_streamEcho_prefix (s enc : List Nat) (h : StreamEcho s enc) :
    ∃ rest, AtBoundary s rest ∧ enc <+: rest := by
  obtain ⟨rest, hb, hp, _⟩ := h.prefix
  exact ⟨rest, hb, hp⟩

end Rtr.P
