/-
  AllocSpki: tommy_hashlin and the router-key table under the allocator oracle.  Growing is
  optional (the table keeps its invariant when the new segment is refused); block accounting
  (entries + hash segments).
-/
import RtrProofs.AllocPfx
import RtrProofs.SpkiRefine

namespace Rtr
namespace Alloc
open SpkiTable

/-! ### how many segments a grow / shrink step adds / drops -/

section Hl
variable {α : Type}

theorem growLoop_bit : ∀ (fuel target : Nat) (h : Hashlin α), (Hashlin.growLoop fuel target h).bucketBit = h.bucketBit := by
  intro fuel
  induction fuel with
  | zero => intro target h; rfl
  | succ fuel ih =>
    intro target h
    unfold Hashlin.growLoop
    split
    · simp only
      split
      · rfl
      · rw [ih]; rfl
    · rfl

theorem growSetup_bit (h : Hashlin α) :
    (Hashlin.growSetup h).bucketBit = h.bucketBit + (if needSeg h then 1 else 0) := by
  unfold Hashlin.growSetup needSeg
  by_cases hc : h.count > h.bucketMax / 2 <;> cases h.state <;> simp [hc]

theorem growStep_bit (h : Hashlin α) :
    (Hashlin.growStep h).bucketBit = h.bucketBit + (if needSeg h then 1 else 0) := by
  unfold Hashlin.growStep
  simp only
  split
  · rw [growLoop_bit, growSetup_bit]
  · rw [growSetup_bit]

theorem shrinkSetup_bit (h : Hashlin α) : (Hashlin.shrinkSetup h).bucketBit = h.bucketBit := by
  unfold Hashlin.shrinkSetup
  split
  · split
    · split <;> rfl
    · rfl
  · rfl

theorem shrinkLoop_bit : ∀ (fuel target : Nat) (h : Hashlin α),
    (Hashlin.shrinkLoop fuel target h).bucketBit = h.bucketBit ∨
    (Hashlin.shrinkLoop fuel target h).bucketBit = h.bucketBit - 1 := by
  intro fuel
  induction fuel with
  | zero => intro target h; exact Or.inl rfl
  | succ fuel ih =>
    intro target h
    unfold Hashlin.shrinkLoop
    split
    · simp only
      split
      · exact Or.inr rfl
      · exact ih target (Hashlin.shrinkOne h)
    · exact Or.inl rfl

theorem shrinkStep_bit (h : Hashlin α) :
    (Hashlin.shrinkStep h).bucketBit = h.bucketBit ∨ (Hashlin.shrinkStep h).bucketBit = h.bucketBit - 1 := by
  unfold Hashlin.shrinkStep
  simp only
  split
  · have := shrinkLoop_bit (Hashlin.shrinkSetup h).split (8 * (Hashlin.shrinkSetup h).count) (Hashlin.shrinkSetup h)
    rw [shrinkSetup_bit] at this
    exact this
  · exact Or.inl (shrinkSetup_bit h)

/-! ### what is released: by a shrink step that finishes, by `tommy_hashlin_done` -/

theorem segActs_blocks (h h' : Hashlin α) (hb : h'.bucketBit = h.bucketBit ∨ h'.bucketBit = h.bucketBit - 1)
    (hge : hashlinBit ≤ h'.bucketBit) :
    frees (segActs h h') + hlBlocks h' = hlBlocks h := by
  unfold segActs hlBlocks
  split
  · simp [frees_cons, Act.isShrink]
    omega
  · simp
    omega

theorem frees_map_free {β : Type} (f : β → Blk × Nat) (l : List β) :
    frees (l.map fun x => Act.free (f x).1 (f x).2) = l.length := by
  induction l with
  | nil => rfl
  | cons x xs ih => rw [List.map_cons, frees_cons, ih, List.length_cons, Nat.add_comm]; rfl

theorem doneActs_frees (h : Hashlin α) : frees (doneActs h) = hlBlocks h := by
  unfold doneActs hlBlocks
  rw [frees_cons, frees_map_free (fun i => (Blk.segment, 2 ^ (hashlinBit + i))), List.length_range, Nat.add_comm]
  rfl

/-! ### tommy_hashlin_insert under the oracle -/

/-- the table right after the node has been linked and counted, before `hashlin_grow_step` -/
def linked (h : Hashlin α) (data : α) (hash : Nat) : Hashlin α :=
  { h with bucket := upd h.bucket (h.bucketPos hash) (h.bucket (h.bucketPos hash) ++ [⟨hash, data⟩]), count := h.count + 1 }

theorem insert_eq (h : Hashlin α) (data : α) (hash : Nat) : h.insert data hash = (linked h data hash).growStep := rfl

theorem hlInsertF_eq (a : A) (h : Hashlin α) (data : α) (hash : Nat) :
    hlInsertF a h data hash = growStepF a (linked h data hash) := rfl

/-- requests of `hashlin_grow_step` -/
def segReqs (h : Hashlin α) : Nat := if needSeg h then 1 else 0

theorem growStepF_ok (a : A) (h : Hashlin α) : Guarded a (segReqs h) (growStepF a h) h.growStep h := by
  unfold growStepF segReqs
  by_cases hn : needSeg h
  · rw [if_pos hn, if_pos hn]
    exact Guarded.of_reqs (malloc_reqs a .segment h.bucketMax) _ _
  · rw [if_neg hn, if_neg hn]
    exact Guarded.quiet a _ _

theorem growStepF_bal (a : A) (h : Hashlin α) (hge : hashlinBit ≤ h.bucketBit) :
    Bal a (growStepF a h).1 (hlBlocks (growStepF a h).2 - hlBlocks h : Int) := by
  have hb := growStep_bit h
  unfold growStepF
  by_cases hn : needSeg h
  · rw [if_pos hn] at hb ⊢
    refine Bal.of_reqs (malloc_bal a .segment h.bucketMax) (fun x : Hashlin α => (hlBlocks x : Int)) ?_ rfl
    simp only [hlBlocks, hb]
    omega
  · rw [if_neg hn] at hb ⊢
    refine (Bal.refl a).cast ?_
    simp only [hlBlocks, hb]
    omega

end Hl

/-! ### spki_table_add_entry -/

/-- the table after an add whose new hash segment was refused: entry stored, no growth -/
def addNoGrow (T : SpkiTable) (r : SpkiRec) : SpkiTable :=
  ({ T with ht := linked T.ht r (spkiHash r), list := T.list ++ [r] } : SpkiTable).notify true r

theorem addNoGrow_spec {T : SpkiTable} (iv : SInv T) (r : SpkiRec) (hr : r ∉ T.list) :
    SInv (addNoGrow T r) ∧ (addNoGrow T r).list = (T.add r).1.list ∧ (addNoGrow T r).log = (T.add r).1.log ∧
    (addNoGrow T r).hasCb = (T.add r).1.hasCb := by
  obtain ⟨i1, m1⟩ := Hashlin.appended_spec iv.ht r (spkiHash r)
  rw [add_new iv r hr]
  refine ⟨sinv_notify (sinv_insert iv r hr _ i1 m1) _ _, ?_, ?_, ?_⟩
  · simp [addNoGrow]
  · simp [addNoGrow, notify_log]
  · simp [addNoGrow]

theorem spkiBlocks_notify (T : SpkiTable) (b : Bool) (r : SpkiRec) : spkiBlocks (T.notify b r) = spkiBlocks T := by
  simp [spkiBlocks]

/-- requests of `spki_table_add_entry`: the entry, and a hash segment if the table grows now -/
def kaddReqs (T : SpkiTable) (r : SpkiRec) : Nat :=
  if (T.ht.search (cmp r) (spkiHash r)).isSome then 1 else 1 + segReqs (linked T.ht r (spkiHash r))

/-- `spki_table_add_entry` under the oracle, `n` the number of its requests: the entry is required, the
    hash segment is not.  Only the block count reads the table's shape (the hash table has its first segment) -/
structure KAddOK (a : A) (T : SpkiTable) (r : SpkiRec) (n : Nat) (q : A × SpkiTable × SpkiRc) : Prop where
  span : Span a q.1 n
  pass : ¬ a.hits n → q.2 = T.add r
  hit1 : a.hits 1 → q.2 = (T, .error)
  hit2 : ¬ a.hits 1 → a.hits n → q.2 = (addNoGrow T r, .success) ∧ (T.ht.search (cmp r) (spkiHash r)).isSome = false
  bal : hashlinBit ≤ T.ht.bucketBit → Bal a q.1 (spkiBlocks q.2.1 - spkiBlocks T : Int)

theorem kaddF_ok (a : A) (T : SpkiTable) (r : SpkiRec) : KAddOK a T r (kaddReqs T r) (kaddF a T r) := by
  have q := malloc_reqs a .entry 1
  have qb := malloc_bal a .entry 1
  have hle : 1 ≤ kaddReqs T r := by unfold kaddReqs; split <;> omega
  unfold kaddF
  dsimp only
  cases hq : (a.malloc .entry 1).1
  · have h1 := q.hits_of_false hq
    rw [hq] at qb
    obtain ⟨k, hk⟩ := Nat.exists_eq_add_of_le hle
    rw [hk]
    exact ⟨q.span.stop h1 k, fun nh => absurd (hits_mono h1 (Nat.le_add_right 1 k)) nh, fun _ => rfl,
      fun nh => absurd h1 nh, fun _ => qb.cast (by simp)⟩
  · have h1 : ¬ a.hits 1 := q.ok.1 hq
    rw [hq] at qb
    simp only [Bool.not_true, Bool.false_eq_true, if_false]
    by_cases hdup : (T.ht.search (cmp r) (spkiHash r)).isSome
    · have hk : kaddReqs T r = 1 := by simp [kaddReqs, hdup]
      rw [if_pos hdup, hk]
      exact ⟨q.span.trans (free_span _ .entry 1), fun _ => (add_found hdup).symm, fun h => absurd h h1, fun _ h => absurd h h1,
        fun _ => (qb.trans (free_bal _ .entry 1)).cast (by simp)⟩
    · have hk : kaddReqs T r = 1 + segReqs (linked T.ht r (spkiHash r)) := by simp [kaddReqs, hdup]
      have g := growStepF_ok (a.malloc .entry 1).2 (linked T.ht r (spkiHash r))
      have hh := hits_after (q.span.pass h1).1 h1 (segReqs (linked T.ht r (spkiHash r)))
      rw [if_neg hdup, hlInsertF_eq, hk]
      refine ⟨q.span.trans g.span, fun h => ?_, fun h => absurd h h1, fun _ h => ⟨?_, (Bool.not_eq_true _).mp hdup⟩,
        fun hge => (qb.trans (growStepF_bal _ (linked T.ht r (spkiHash r)) hge)).cast ?_⟩
      · rw [add_not_found hdup, g.pass (fun x => h (hh.1 x)), insert_eq]
      · rw [g.hit (hh.2 h)]
        rfl
      · simp only [spkiBlocks_notify]
        simp only [spkiBlocks, List.length_append, List.length_singleton]
        have : hlBlocks T.ht = hlBlocks (linked T.ht r (spkiHash r)) := rfl
        rw [this]
        push_cast
        omega

theorem KAddOK.none {a : A} {T : SpkiTable} {r : SpkiRec} {n : Nat} {q : A × SpkiTable × SpkiRc} (h : KAddOK a T r n q)
    (hb : a.budget = none) : q.2 = T.add r ∧ q.1.budget = none :=
  ⟨h.pass (not_hits_of_none hb n), h.span.none hb⟩

/-- the refused request was the segment, in a table that satisfies its invariant: the record was new -/
theorem KAddOK.absorbed {a : A} {T : SpkiTable} {r : SpkiRec} {n : Nat} {q : A × SpkiTable × SpkiRc} (h : KAddOK a T r n q)
    (iv : SInv T) (h1 : ¬ a.hits 1) (h2 : a.hits n) : q.2 = (addNoGrow T r, .success) ∧ r ∉ T.list :=
  ⟨(h.hit2 h1 h2).1, fun hin => Bool.false_ne_true ((h.hit2 h1 h2).2.symm.trans ((search_iff iv r).2 hin))⟩

theorem kaddF_cases (a : A) {T : SpkiTable} (iv : SInv T) (r : SpkiRec) :
    (kaddF a T r).2 = T.add r ∨ (kaddF a T r).2 = (T, .error) ∨
    ((kaddF a T r).2 = (addNoGrow T r, .success) ∧ r ∉ T.list) := by
  have h := kaddF_ok a T r
  by_cases h1 : a.hits 1
  · exact Or.inr (Or.inl (h.hit1 h1))
  · by_cases h2 : a.hits (kaddReqs T r)
    · exact Or.inr (Or.inr (h.absorbed iv h1 h2))
    · exact Or.inl (h.pass h2)

/-! ### spki_table_remove_entry, spki_table_src_remove -/

theorem remove_ht_bit {T : SpkiTable} (iv : SInv T) (r : SpkiRec) :
    ((T.remove r).1.ht.bucketBit = T.ht.bucketBit ∨ (T.remove r).1.ht.bucketBit = T.ht.bucketBit - 1) ∧
    hashlinBit ≤ (T.remove r).1.ht.bucketBit := by
  by_cases hr : r ∈ T.list
  · refine ⟨?_, (remove_present_spec iv r hr).sinv.ht.bit_ge⟩
    have hs := (search_iff iv r).mpr hr
    have hnone : ¬ (T.ht.search (cmp r) (spkiHash r)).isNone = true := by
      cases h : T.ht.search (cmp r) (spkiHash r) <;> simp_all
    have key : (T.ht.remove (cmp r) (spkiHash r)).1.bucketBit = T.ht.bucketBit ∨
        (T.ht.remove (cmp r) (spkiHash r)).1.bucketBit = T.ht.bucketBit - 1 := by
      unfold Hashlin.remove
      simp only
      split
      · exact Or.inl rfl
      · exact shrinkStep_bit _
    unfold SpkiTable.remove
    simp only [hnone, Bool.false_eq_true, if_false]
    rcases hrm : T.ht.remove (cmp r) (spkiHash r) with ⟨ht', o⟩
    rw [hrm] at key
    cases o <;> simpa using key
  · rw [remove_absent iv r hr]
    exact ⟨Or.inl rfl, iv.ht.bit_ge⟩

theorem kremActs_frees {T : SpkiTable} (iv : SInv T) (r : SpkiRec) :
    frees (kremActs T r) + spkiBlocks (T.remove r).1 = spkiBlocks T := by
  unfold kremActs
  obtain ⟨hb, hge⟩ := remove_ht_bit iv r
  by_cases hr : r ∈ T.list
  · have rm := remove_present_spec iv r hr
    have s1 := segActs_blocks T.ht (T.remove r).1.ht hb hge
    have : 0 < T.list.length := List.length_pos_of_mem hr
    rw [if_pos rm.rc, frees_append]
    simp only [spkiBlocks, rm.list, List.length_erase_of_mem hr, frees_cons, frees_nil, Act.isShrink, Bool.false_eq_true, if_false]
    omega
  · rw [remove_absent iv r hr]
    simp

theorem kremoveF_result (a : A) (T : SpkiTable) (r : SpkiRec) : (kremoveF a T r).2 = T.remove r := rfl

theorem kremoveF_bal (a : A) {T : SpkiTable} (iv : SInv T) (r : SpkiRec) :
    Bal a (kremoveF a T r).1 (spkiBlocks (kremoveF a T r).2.1 - spkiBlocks T : Int) :=
  run_releases (kremActs_frees iv r) a

theorem ksrcRemoveActs_frees (src : Nat) : ∀ (L : List SpkiRec) (T : SpkiTable), SInv T → L.Nodup →
    (∀ e, e ∈ L → e ∈ T.list) →
    frees (ksrcRemoveActs src L T) + spkiBlocks (srcRemoveLoop src L T) = spkiBlocks T := by
  refine srcRemoveLoop_ind src (fun T _ => by simp [ksrcRemoveActs, srcRemoveLoop]) ?_ ?_
  · intro e rest T hs ih
    have e2 : ksrcRemoveActs src (e :: rest) T = ksrcRemoveActs src rest T := by simp [ksrcRemoveActs, hs]
    rw [srcRemoveLoop_skip hs, e2]
    exact ih
  · intro e rest T _ hin hs iv1 ih
    have e2 : ksrcRemoveActs src (e :: rest) T =
        segActs T.ht (srcRemoved T e).ht ++ [.free .entry 1] ++ ksrcRemoveActs src rest (srcRemoved T e) := by
      simp [ksrcRemoveActs, srcRemoved, hs]
    -- the step drops the entry and at most the last segment
    have s1 := segActs_blocks T.ht (srcRemoved T e).ht (by rw [srcRemoved_ht]; exact shrinkStep_bit _) iv1.ht.bit_ge
    have hl : (srcRemoved T e).list.length + 1 = T.list.length := by
      rw [srcRemoved_list]
      have := List.length_pos_of_mem hin
      rw [List.length_erase_of_mem hin]
      omega
    rw [srcRemoveLoop_take hs, e2, frees_append, frees_append, frees_cons, frees_nil]
    simp only [Act.isShrink, Bool.false_eq_true, if_false]
    simp only [spkiBlocks] at ih ⊢
    omega

theorem ksrcRemoveF_result (a : A) (T : SpkiTable) (src : Nat) : (ksrcRemoveF a T src).2 = T.srcRemove src := rfl

theorem ksrcRemoveF_bal (a : A) {T : SpkiTable} (iv : SInv T) (src : Nat) :
    Bal a (ksrcRemoveF a T src).1 (spkiBlocks (ksrcRemoveF a T src).2.1 - spkiBlocks T : Int) :=
  run_releases (ksrcRemoveActs_frees src T.list T iv iv.nodup (fun _ h => h)) a

/-! ### lookups: the result array -/

theorem growReqs_eq (b : Blk) : ∀ (m cur : Nat) (a : A), growReqs b m cur a = growBy b (List.replicate m 1) cur a
  | 0, _, _ => rfl
  | m + 1, cur, a => by
    rw [growReqs, List.replicate_succ, growBy, growReqs_eq b m]

/-- the common part of `spki_table_get_all` and `spki_table_search_by_ski`: the result array for `rs` -/
def lookupF (a : A) (rs : List SpkiRec) : A × SpkiRc × List SpkiRec :=
  let q := growReqs .result rs.length 0 a
  if q.1 then (q.2, .success, rs) else (q.2, .error, [])

theorem kgetAllF_eq (a : A) (T : SpkiTable) (asn ski : Nat) : kgetAllF a T asn ski = lookupF a (T.getAll asn ski) := rfl

theorem ksearchBySkiF_eq (a : A) (T : SpkiTable) (ski : Nat) : ksearchBySkiF a T ski = lookupF a (T.searchBySki ski) := rfl

theorem lookupF_ok (a : A) (rs : List SpkiRec) : Guarded a rs.length (lookupF a rs) (.success, rs) (.error, []) := by
  have h := growBy_reqs .result (List.replicate rs.length 1) 0 a
  rw [← growReqs_eq, List.length_replicate] at h
  exact Guarded.of_reqs h _ _

theorem lookupF_bal (a : A) (rs : List SpkiRec) : Bal a (lookupF a rs).1 (if (lookupF a rs).2.2 = [] then 0 else 1) := by
  have hn := growBy_bal .result (List.replicate rs.length 1) 0 a
    (fun d hd => by rw [List.eq_of_mem_replicate hd]; exact Nat.one_ne_zero)
  rw [← growReqs_eq] at hn
  unfold lookupF
  dsimp only
  by_cases hq : (growReqs .result rs.length 0 a).1 = true
  · rw [if_pos hq] at hn ⊢
    exact hn.cast (by cases rs <;> simp [live])
  · rw [if_neg hq] at hn ⊢
    exact hn.cast (by simp [live])

/-! ### spki_table_init, spki_table_free -/

theorem kfreeActs_frees (T : SpkiTable) : frees (kfreeActs T) = spkiBlocks T := by
  unfold kfreeActs spkiBlocks
  rw [frees_append, doneActs_frees, frees_map_free (fun _ => (Blk.entry, 1))]

theorem kfreeF_bal (a : A) (T : SpkiTable) : Bal a (kfreeF a T) (-(spkiBlocks T : Int)) :=
  (run_bal (kfreeActs T) a).cast (by rw [kfreeActs_frees])

theorem spkiBlocks_init (cb : Bool) : spkiBlocks (SpkiTable.init cb) = 1 := rfl

/-- `spki_table_init` (F16b): the first hash segment is a required request -/
theorem kinitF_ok (a : A) (cb : Bool) : Guarded a 1 (kinitF a cb) (some (SpkiTable.init cb)) none :=
  Guarded.of_reqs (malloc_reqs a .segment (2 ^ hashlinBit)) _ _

theorem kinitF_bal (a : A) (cb : Bool) : Bal a (kinitF a cb).1 (if (kinitF a cb).2.isSome then 1 else 0) :=
  (Bal.of_reqs (malloc_bal a .segment (2 ^ hashlinBit)) (fun o : Option SpkiTable => if o.isSome then 1 else 0)
    (c := 0) rfl rfl).cast (Int.sub_zero _)

end Alloc
end Rtr
