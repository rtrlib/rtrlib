/-
  BGPsec path validation, and the byte layout it shares with signing (C11, C12).  `Supported`, `NoOverrun` and `WfData`
  are vocabulary of the property statements; `KeyVerifies` (one hop under one table) and `HopsOk` (every hop, each under
  the table its own lookup finds) are the terms in which they are proved.
-/
import RtrModel.Bgpsec

namespace Rtr.Bgpsec
open Rtr.Rfc8205

@[simp] theorem be16_length (n : Nat) : (be16 n).length = 2 := rfl
@[simp] theorem be32_length (n : Nat) : (be32 n).length = 4 := rfl
@[simp] theorem pathBytes_length (p : PathSeg) : (pathBytes p).length = 6 := rfl

theorem sigBytes_length (s : SigSeg) : (sigBytes s).length = s.ski.length + 2 + s.sig.length := by
  simp only [sigBytes, List.length_append, be16_length]
  omega

theorem tailBytes_length (d : Data) : (tailBytes d).length = 5 + d.nlri.bytes.length := by
  simp only [tailBytes, List.length_append, be16_length, List.length_cons, List.length_nil]
  omega

/-! ## `align_byte_sequence` writes the RFC sequence (SIGNING, and the whole VALIDATION stream) -/

theorem alignLoop_eq_segments : ∀ (ps : List PathSeg) (ss : List SigSeg),
    ps.length = ss.length + 1 → alignLoop ps ss = segments ps ss
  | [p], [], _ => List.append_nil _
  | p :: p' :: ps, s :: ss, h => by
    rw [alignLoop, segments, alignLoop_eq_segments (p' :: ps) ss (Nat.succ.inj h)]

theorem alignBytes_signing (d : Data) (h : d.path.length = d.sigs.length + 1) :
    alignBytes .signing d = signDigest d := by
  rw [alignBytes, startSigs, alignLoop_eq_segments _ _ h]
  rfl

theorem alignBytes_validation {d : Data} {s : SigSeg} {ss : List SigSeg} (hs : d.sigs = s :: ss) :
    alignBytes .validation d = be32 d.targetAs ++ (alignLoop d.path ss ++ tailBytes d) := by
  rw [alignBytes, hs]
  rfl

/-! ## the moving offset: dropping `next_offset` bytes lands on the next hop's sequence -/

/-- one step of the loop: dropping `sig_len(next) + 28` bytes removes the target AS (4), the next
    Signature Segment (SKI 20, length field 2, signature) and pCount+Flags (2) of the current Secure_Path Segment,
    so that the remaining bytes START WITH THE CURRENT SEGMENT'S AS NUMBER — which is the next hop's target AS.
    (The C code writes the 28 as `SKI_SIZE + sizeof(tmp_sig->sig_len) + SECURE_PATH_SEG_SIZE` = 20 + 2 + 6.) -/
theorem drop_step (t : Nat) (p : PathSeg) (ps : List PathSeg) (s' : SigSeg) (ss : List SigSeg) (tl : List Nat)
    (hski : s'.ski.length = 20) :
    (be32 t ++ (alignLoop (p :: ps) (s' :: ss) ++ tl)).drop (s'.sig.length + 28)
      = be32 p.asn ++ (alignLoop ps ss ++ tl) := by
  have e : be32 t ++ (alignLoop (p :: ps) (s' :: ss) ++ tl)
      = (be32 t ++ (sigBytes s' ++ [p.pcount, p.flags])) ++ (be32 p.asn ++ (alignLoop ps ss ++ tl)) := by
    simp only [alignLoop, pathBytes, List.append_assoc]
  rw [e]
  apply List.drop_left'
  simp only [List.length_append, be32_length, sigBytes_length, hski, List.length_cons, List.length_nil]
  omega

theorem length_drop_succ {α β : Type} {ps : List α} {ss : List β} (hl : ps.length = ss.length) {i : Nat} (hi : i < ps.length) :
    (ps.drop i).length = (ss.drop (i + 1)).length + 1 := by
  rw [List.length_drop, List.length_drop, ← hl, Nat.sub_add_eq, Nat.sub_add_cancel (Nat.sub_pos_of_lt hi)]

theorem targetOf_cons_succ (t : Nat) (p : PathSeg) (ps : List PathSeg) (i : Nat) :
    targetOf t (p :: ps) (i + 1) = targetOf p.asn ps i := by
  cases i <;> rfl

theorem drop_offsetAt : ∀ (i : Nat) (t : Nat) (ps : List PathSeg) (s : SigSeg) (ss : List SigSeg) (tl : List Nat),
    (∀ x ∈ ss, x.ski.length = 20) → ps.length = ss.length + 1 → i ≤ ss.length →
    (be32 t ++ (alignLoop ps ss ++ tl)).drop (offsetAt (s :: ss) i)
      = be32 (targetOf t ps i) ++ (alignLoop (ps.drop i) (ss.drop i) ++ tl)
  | 0, _, _, _, _, _, _, _, _ => rfl
  | i + 1, t, p :: ps, s, s' :: ss, tl, hski, hlen, hi => by
    have ih := drop_offsetAt i p.asn ps s' ss tl (fun x hx => hski x (List.mem_cons_of_mem _ hx)) (Nat.succ.inj hlen)
      (Nat.le_of_succ_le_succ hi)
    rw [targetOf_cons_succ, List.drop_succ_cons, List.drop_succ_cons, ← ih, ← drop_step t p ps s' ss tl (hski s' List.mem_cons_self),
      List.drop_drop]
    -- `offsetAt (s :: s' :: ss) (i + 1)` is `next_offset + offsetAt (s' :: ss) i` by definition
    rfl

/-! ## key selection and `check_router_keys` -/

theorem keyOk_iff {m : KeyMode} {ski : List Nat} {asn : Nat} {k : Key} :
    keyOk m ski asn k = true ↔ k.ski = ski ∧ (m = .skiAndAs → k.asn = asn) := by
  cases m <;> simp [keyOk]

theorem mem_searchBySki {T : Table} {ski : List Nat} {k : Key} : k ∈ searchBySki T ski ↔ k ∈ T ∧ k.ski = ski := by
  simp [searchBySki]

theorem keysFor_ne_nil_iff {m : KeyMode} {T : Table} {ski : List Nat} {asn : Nat} :
    keysFor m T ski asn ≠ [] ↔ ∃ k ∈ T, keyOk m ski asn k = true := by
  simp [keysFor]

theorem search_ne_nil_of_keyOk {m : KeyMode} {T : Table} {ski : List Nat} {asn : Nat} {k : Key}
    (hk : k ∈ T) (hok : keyOk m ski asn k = true) : searchBySki T ski ≠ [] :=
  List.ne_nil_of_mem (mem_searchBySki.mpr ⟨hk, (keyOk_iff.mp hok).1⟩)

theorem keysFor_sub_search (m : KeyMode) (T : Table) (ski : List Nat) (asn : Nat) :
    keysFor m T ski asn ≠ [] → searchBySki T ski ≠ [] := by
  intro h
  obtain ⟨k, hk, hok⟩ := keysFor_ne_nil_iff.mp h
  exact search_ne_nil_of_keyOk hk hok

theorem checkRouterKeysV_cases (m : KeyMode) (V : View) : ∀ (ss : List SigSeg) (ps : List PathSeg) (k : Nat),
    checkRouterKeysV m V k ss ps = .success ∨ checkRouterKeysV m V k ss ps = .routerKeyNotFound
  | [], _, _ => Or.inl rfl
  | s :: ss, ps, k => by
    rw [checkRouterKeysV]
    split
    · exact Or.inr rfl
    · exact checkRouterKeysV_cases m V ss ps.tail (k + 1)

theorem checkRouterKeys_cases (m : KeyMode) (T : Table) (ss : List SigSeg) (ps : List PathSeg) :
    checkRouterKeys m T ss ps = .success ∨ checkRouterKeys m T ss ps = .routerKeyNotFound :=
  checkRouterKeysV_cases m (fun _ => T) ss ps 0

theorem checkRouterKeysV_cons {m : KeyMode} {V : View} {k : Nat} {s : SigSeg} {ss : List SigSeg} {p : PathSeg} {ps : List PathSeg} :
    checkRouterKeysV m V k (s :: ss) (p :: ps) =
      if keysFor m (V k) s.ski p.asn = [] then .routerKeyNotFound else checkRouterKeysV m V (k + 1) ss ps := by
  rw [checkRouterKeysV]
  simp only [List.isEmpty_iff, List.head?_cons, Option.map_some, Option.getD_some, List.tail_cons]

theorem forall_getElem?_cons₂ {α β : Type} {P : Nat → α → β → Prop} {a : α} {as : List α} {b : β} {bs : List β} :
    (∀ i x y, (a :: as)[i]? = some x → (b :: bs)[i]? = some y → P i x y) ↔
      P 0 a b ∧ ∀ i x y, as[i]? = some x → bs[i]? = some y → P (i + 1) x y := by
  constructor
  · intro h
    exact ⟨h 0 a b rfl rfl, fun i x y hx hy => h (i + 1) x y hx hy⟩
  · rintro ⟨h0, hr⟩ i x y hx hy
    cases i with
    | zero =>
      cases hx
      cases hy
      exact h0
    | succ i => exact hr i x y hx hy

theorem checkRouterKeysV_success_iff {m : KeyMode} {V : View} : ∀ {ss : List SigSeg} {ps : List PathSeg} {k : Nat},
    ps.length = ss.length →
    (checkRouterKeysV m V k ss ps = .success ↔
      ∀ i s p, ss[i]? = some s → ps[i]? = some p → keysFor m (V (k + i)) s.ski p.asn ≠ [])
  | [], _, _, _ => iff_of_true rfl (fun _ _ _ hs => nomatch hs)
  | s :: ss, p :: ps, k, h => by
    have ih := checkRouterKeysV_success_iff (m := m) (V := V) (k := k + 1) (Nat.succ.inj h)
    simp only [Nat.add_assoc k 1, Nat.add_comm 1] at ih
    rw [checkRouterKeysV_cons, forall_getElem?_cons₂, ← ih]
    split
    · next he => exact iff_of_false (by decide) (fun h => h.1 he)
    · next he => exact (and_iff_right he).symm

theorem checkRouterKeysV_missing {m : KeyMode} {V : View} : ∀ {ss : List SigSeg} {ps : List PathSeg} {k i : Nat} {s : SigSeg} {p : PathSeg},
    ss[i]? = some s → ps[i]? = some p → keysFor m (V (k + i)) s.ski p.asn = [] →
    checkRouterKeysV m V k ss ps = .routerKeyNotFound
  | s0 :: ss, p0 :: ps, k, i, s, p, hs, hp, hk => by
    rw [checkRouterKeysV_cons]
    split
    · rfl
    · next he =>
      cases i with
      | zero =>
        cases hs
        cases hp
        exact absurd hk he
      | succ i => exact checkRouterKeysV_missing hs hp (by rwa [Nat.add_right_comm k 1])

theorem checkRouterKeys_missing (m : KeyMode) (T : Table) (ss : List SigSeg) (ps : List PathSeg) (i : Nat) (s : SigSeg) (p : PathSeg)
    (hs : ss[i]? = some s) (hp : ps[i]? = some p) (hk : keysFor m T s.ski p.asn = []) :
    checkRouterKeys m T ss ps = .routerKeyNotFound :=
  checkRouterKeysV_missing (V := fun _ => T) (k := 0) hs hp hk

/-! ## the inner key loop and the validation loop -/

section defs
variable {H : Type} (hash : List Nat → H) (verify : List Nat → H → List Nat → VRes)

def KeyVerifies (m : KeyMode) (T : Table) (s : SigSeg) (p : PathSeg) (dg : List Nat) : Prop :=
  ∃ k ∈ T, keyOk m s.ski p.asn k = true ∧ verify k.spki (hash dg) s.sig = .valid

def keyRc (m : KeyMode) (h : H) (sig : List Nat) (asn : Nat) (k : Key) : Rc :=
  let r := (verify k.spki h sig).rc
  if m = .skiAndAs ∧ r = .valid ∧ k.asn ≠ asn then .notValid else r

/-- every hop `i` of (`ps`, `ss`) (`i = 0` the most recent one, sent to `t`) verifies over its RFC sequence under a key
    of the table found by its own lookup, number `k + i` -/
def HopsOk (m : KeyMode) (V : View) (d : Data) (k t : Nat) (ps : List PathSeg) (ss : List SigSeg) : Prop :=
  ∀ i s p, ss[i]? = some s → ps[i]? = some p →
    KeyVerifies hash verify m (V (k + i)) s p (digestOf d (targetOf t ps i) (ps.drop i) (ss.drop (i + 1)))

/-- the lookup of a hop returned nothing: the key loop leaves `retval` at `SUCCESS`, which is not VALID -/
theorem tryKeys_nil_not_valid (m : KeyMode) (h : H) (sig : List Nat) (asn : Nat) :
    tryKeys verify m h sig asn [] .success ≠ .valid := by
  simp [tryKeys]

end defs

section loop
variable {H : Type} {hash : List Nat → H} {verify : List Nat → H → List Nat → VRes} {m : KeyMode} {stop : Bool} {V : View}
  {d : Data}

theorem tryKeys_cons {h : H} {sig : List Nat} {asn : Nat} {k : Key} {ks : List Key} {acc : Rc} :
    tryKeys verify m h sig asn (k :: ks) acc =
      if keyRc verify m h sig asn k = .valid then .valid else tryKeys verify m h sig asn ks (keyRc verify m h sig asn k) :=
  rfl

theorem keyRc_valid_iff {h : H} {sig : List Nat} {asn : Nat} {k : Key} :
    keyRc verify m h sig asn k = .valid ↔ verify k.spki h sig = .valid ∧ (m = .skiAndAs → k.asn = asn) := by
  have hrc : (verify k.spki h sig).rc = .valid ↔ verify k.spki h sig = .valid := by
    cases verify k.spki h sig <;> simp [VRes.rc]
  rw [← hrc, keyRc]
  split
  · next hc => exact iff_of_false (by decide) (fun h => hc.2.2 (h.2 hc.1))
  · next hc => exact ⟨fun hv => ⟨hv, fun hm => Decidable.by_contra fun ha => hc ⟨hm, hv, ha⟩⟩, And.left⟩

theorem tryKeys_valid_iff {h : H} {sig : List Nat} {asn : Nat} : ∀ {keys : List Key} {acc : Rc}, acc ≠ .valid →
    (tryKeys verify m h sig asn keys acc = .valid ↔
      ∃ k ∈ keys, verify k.spki h sig = .valid ∧ (m = .skiAndAs → k.asn = asn))
  | [], acc, hacc => by simp [tryKeys, hacc]
  | k :: ks, _, _ => by
    simp only [List.mem_cons, exists_eq_or_imp]
    rw [tryKeys_cons, ← keyRc_valid_iff]
    split
    · next hr => exact iff_of_true rfl (Or.inl hr)
    · next hr => rw [tryKeys_valid_iff hr, or_iff_right hr]

/-- `retval` is `SUCCESS` when the key loop starts, so a lookup without result is not VALID -/
theorem tryKeys_search_iff {T : Table} {s : SigSeg} {p : PathSeg} {dg : List Nat} :
    tryKeys verify m (hash dg) s.sig p.asn (searchBySki T s.ski) .success = .valid ↔ KeyVerifies hash verify m T s p dg := by
  rw [tryKeys_valid_iff (by decide)]
  simp only [KeyVerifies, mem_searchBySki, keyOk_iff]
  exact ⟨fun ⟨k, ⟨hk, hs⟩, hv, ha⟩ => ⟨k, hk, ⟨hs, ha⟩, hv⟩, fun ⟨k, hk, ⟨hs, ha⟩, hv⟩ => ⟨k, ⟨hk, hs⟩, hv, ha⟩⟩

theorem validateSignature_valid_iff {wf : List Nat → Bool} {spki : List Nat} {h : H} {sig : List Nat} :
    validateSignature wf verify spki h sig = .valid ↔ wf sig = true ∧ verify spki h sig = .valid := by
  unfold validateSignature
  by_cases hw : wf sig = true <;> simp [hw]

theorem keyVerifies_validateSignature {wf : List Nat → Bool} {T : Table} {s : SigSeg} {p : PathSeg} {dg : List Nat} :
    KeyVerifies hash (validateSignature wf verify) m T s p dg ↔ wf s.sig = true ∧ KeyVerifies hash verify m T s p dg := by
  simp only [KeyVerifies, validateSignature_valid_iff]
  exact ⟨fun ⟨k, hk, hok, hw, hv⟩ => ⟨hw, k, hk, hok, hv⟩, fun ⟨hw, k, hk, hok, hv⟩ => ⟨k, hk, hok, hw, hv⟩⟩

theorem hopsOk_cons {k t : Nat} {p : PathSeg} {ps : List PathSeg} {s : SigSeg} {ss : List SigSeg} :
    HopsOk hash verify m V d k t (p :: ps) (s :: ss) ↔
      KeyVerifies hash verify m (V k) s p (digestOf d t (p :: ps) ss) ∧ HopsOk hash verify m V d (k + 1) p.asn ps ss := by
  refine forall_getElem?_cons₂.trans (and_congr Iff.rfl ?_)
  simp only [HopsOk, targetOf_cons_succ, List.drop_succ_cons, Nat.add_right_comm k 1]
  rfl

theorem hopsOk_nil {k t : Nat} {ps : List PathSeg} : HopsOk hash verify m V d k t ps [] :=
  fun _ _ _ hs => nomatch hs

theorem hopsOk_iff {k : Nat} :
    HopsOk hash verify m V d k d.targetAs d.path d.sigs ↔
      ∀ i s p, d.sigs[i]? = some s → d.path[i]? = some p → KeyVerifies hash verify m (V (k + i)) s p (digest d i) :=
  Iff.rfl

/-- the sequences of all hops are made of the same trailer -/
theorem hopsOk_congr {d' : Data} (h : tailBytes d = tailBytes d') {k t : Nat} {ps : List PathSeg} {ss : List SigSeg} :
    HopsOk hash verify m V d k t ps ss ↔ HopsOk hash verify m V d' k t ps ss := by
  simp only [HopsOk, digestOf, h]

theorem hopsOk_const {T : Table} (k k' : Nat) {t : Nat} {ps : List PathSeg} {ss : List SigSeg} :
    HopsOk hash verify m (fun _ => T) d k t ps ss ↔ HopsOk hash verify m (fun _ => T) d k' t ps ss :=
  Iff.rfl

theorem length_of_drop_eq {l x : List Nat} {n : Nat} (h : l.drop n = x) (hx : x ≠ []) : l.length = n + x.length := by
  have hn : n ≤ l.length := Nat.le_of_lt (Nat.lt_of_not_le fun hle => hx (h ▸ List.drop_eq_nil_iff.mpr hle))
  rw [← h, List.length_drop, Nat.add_sub_cancel' hn]

theorem ite_valid_iff {r x : Rc} : (if r = .valid then x else r) = .valid ↔ r = .valid ∧ x = .valid := by
  by_cases h : r = .valid <;> simp [h]

theorem valLoopV_nil {stream : List Nat} {k : Nat} {ps : List PathSeg} {off : Nat} :
    valLoopV hash verify m stop V stream k [] ps off = .valid ↔ stop = true ∨ stream.length < off := by
  unfold valLoopV
  cases stop
  · simp only [Bool.false_eq_true, if_false, false_or]
    split
    · next h => exact iff_of_false (by decide) (Nat.not_lt.mpr h)
    · next h => exact iff_of_true rfl (Nat.lt_of_not_le h)
  · exact iff_of_true rfl (Or.inl rfl)

theorem valLoopV_step {stream : List Nat} {k t off : Nat} {s : SigSeg} {ss : List SigSeg} {p : PathSeg} {ps : List PathSeg}
    (hlen : (p :: ps).length = ss.length + 1)
    (hdrop : stream.drop off = be32 t ++ (alignLoop (p :: ps) ss ++ tailBytes d)) :
    valLoopV hash verify m stop V stream k (s :: ss) (p :: ps) off = .valid ↔
      KeyVerifies hash verify m (V k) s p (digestOf d t (p :: ps) ss) ∧
        valLoopV hash verify m stop V stream (k + 1) ss ps (off + ((ss.head?.getD s).sig.length + 28)) = .valid := by
  have hoff : ¬ stream.length < off :=
    Nat.not_lt.mpr (Nat.le.intro (length_of_drop_eq hdrop (List.cons_ne_nil _ _)).symm)
  rw [← tryKeys_search_iff, digestOf, ← alignLoop_eq_segments _ _ hlen, ← hdrop]
  -- the equation of `valLoopV` for a non-empty list comes in two forms, by the `match` that picks `next_offset`:
  -- `eq_3` for the last segment, `eq_2` with a segment after it (plain `rw [valLoopV]` would take `eq_1` and unfold
  -- the loop on `[]` on the right-hand side)
  cases ss with
  | nil =>
    rw [valLoopV.eq_3, if_neg hoff]
    exact ite_valid_iff
  | cons s' ss =>
    rw [valLoopV.eq_2, if_neg hoff]
    exact ite_valid_iff

/-- Invariant: the stream from `offset` on is the RFC sequence of the current hop.  Past the last Signature Segment
    the loop answers VALID exactly when it tests `tmp_sig` (`stop`) or the offset has left the stream, which is a
    condition on the last signature's length (see `NoOverrun`). -/
theorem valLoopV_iff : ∀ {ss : List SigSeg} {s : SigSeg} {ps : List PathSeg} {k t off : Nat} {stream : List Nat},
    (∀ x ∈ ss, x.ski.length = 20) → ps.length = ss.length + 1 →
    stream.drop off = be32 t ++ (alignLoop ps ss ++ tailBytes d) →
    (valLoopV hash verify m stop V stream k (s :: ss) ps off = .valid ↔
      HopsOk hash verify m V d k t ps (s :: ss) ∧
        (stop = true ∨ ∀ x, (s :: ss).getLast? = some x → d.nlri.bytes.length < 13 + x.sig.length))
  | [], s, [p], k, t, off, stream, _, hlen, hdrop => by
    have hsl : stream.length = off + (4 + (6 + (5 + d.nlri.bytes.length))) := by
      rw [length_of_drop_eq hdrop (List.cons_ne_nil _ _), List.length_append, List.length_append, tailBytes_length]
      rfl
    have hlast : stream.length < off + (s.sig.length + 28) ↔
        ∀ x, [s].getLast? = some x → d.nlri.bytes.length < 13 + x.sig.length := by
      rw [hsl]
      constructor
      · intro h x hx
        obtain rfl : s = x := Option.some.inj hx
        omega
      · intro h
        have := h s rfl
        omega
    rw [valLoopV_step hlen hdrop, hopsOk_cons, valLoopV_nil, and_iff_left hopsOk_nil]
    exact and_congr Iff.rfl (or_congr Iff.rfl hlast)
  | s' :: ss, s, p :: ps, k, t, off, stream, hski, hlen, hdrop => by
    rw [valLoopV_step hlen hdrop, hopsOk_cons, and_assoc]
    refine and_congr Iff.rfl (valLoopV_iff (fun x hx => hski x (List.mem_cons_of_mem _ hx)) (Nat.succ.inj hlen) ?_)
    rw [← List.drop_drop, hdrop]
    exact drop_step t p ps s' ss (tailBytes d) (hski s' List.mem_cons_self)

end loop

/-! ## the entry point -/

/-- the checks `rtr_bgpsec_validate_as_path` makes before any key is looked up -/
def Supported (d : Data) : Prop :=
  d.path ≠ [] ∧ d.sigs ≠ [] ∧ d.path.length = d.sigs.length ∧ d.alg = 1 ∧ (d.nlri.afi = 1 ∨ d.nlri.afi = 2)

/-- With `stop = false` the loop is bounded by `offset <= stream size`, not by the Signature Segment list: after the
    last segment verified it runs once more (and dereferences NULL) unless the last signature is
    longer than `nlri bytes - 13`: from the last offset on the stream holds target AS (4), one Secure_Path
    Segment (6), suite/AFI/SAFI/NLRI length (5) and the NLRI octets, and the offset then moves on by
    `sig_len + 28`; it has left the stream iff `15 + nlri bytes < sig_len + 28`.  True whenever `nlri_len ≤ 128`
    and signatures have ≥ 4 octets (a DER ECDSA signature has at least 8). -/
def NoOverrun (d : Data) : Prop := ∀ s, d.sigs.getLast? = some s → d.nlri.bytes.length < 13 + s.sig.length

instance (d : Data) : Decidable (Supported d) := by unfold Supported; infer_instance

instance (d : Data) : Decidable (NoOverrun d) :=
  match h : d.sigs.getLast? with
  | none => isTrue (by unfold NoOverrun; simp [h])
  | some s =>
    if hlt : d.nlri.bytes.length < 13 + s.sig.length then isTrue (by unfold NoOverrun; simp [h, hlt])
    else isFalse (by unfold NoOverrun; simp [h, hlt])

section entry
variable {H : Type} {hash : List Nat → H} {verify : List Nat → H → List Nat → VRes} {m : KeyMode} {stop : Bool} {V : View}
  {d : Data}

theorem validateV_of_supported (h : Supported d) :
    validateV hash verify m stop d V =
      match checkRouterKeysV m V 0 d.sigs d.path with
      | .success => valLoopV hash verify m stop V (alignBytes .validation d) d.sigs.length d.sigs d.path 0
      | e => e := by
  obtain ⟨h1, h2, h3, h4, h5⟩ := h
  rw [validateV, if_neg (not_or.mpr ⟨h1, h2⟩), if_neg (fun h => h h3), if_neg (fun h => h h4), if_neg (fun h => h5.elim h.1 h.2)]
  rfl

theorem supported_of_valid (h : validateV hash verify m stop d V = .valid) : Supported d := by
  unfold validateV at h
  by_cases h1 : d.path = [] ∨ d.sigs = []
  · rw [if_pos h1] at h
    cases h
  by_cases h2 : d.path.length ≠ d.sigs.length
  · rw [if_neg h1, if_pos h2] at h
    cases h
  by_cases h3 : d.alg ≠ 1
  · rw [if_neg h1, if_neg h2, if_pos h3] at h
    cases h
  by_cases h4 : d.nlri.afi ≠ 1 ∧ d.nlri.afi ≠ 2
  · rw [if_neg h1, if_neg h2, if_neg h3, if_pos h4] at h
    cases h
  exact ⟨fun x => h1 (Or.inl x), fun x => h1 (Or.inr x), Decidable.of_not_not h2, Decidable.of_not_not h3,
    Decidable.or_iff_not_not_and_not.mpr h4⟩

/-- every hop verifies under a key found by the lookup of its own loop iteration (numbers `n`, `n+1`, … where `n` is
    the number of segments; `0 … n-1` are the lookups of `check_router_keys`) -/
theorem validateV_valid_iff (hski : ∀ s ∈ d.sigs, s.ski.length = 20) :
    validateV hash verify m stop d V = .valid ↔
      Supported d ∧ checkRouterKeysV m V 0 d.sigs d.path = .success ∧
        HopsOk hash verify m V d d.sigs.length d.targetAs d.path d.sigs ∧ (stop = true ∨ NoOverrun d) := by
  by_cases hsup : Supported d
  · rw [validateV_of_supported hsup, and_iff_right hsup]
    rcases checkRouterKeysV_cases m V d.sigs d.path 0 with hc | hc
    · rw [hc, and_iff_right rfl]
      obtain ⟨s, ss, hs⟩ := List.exists_cons_of_length_pos (List.length_pos_iff.mpr hsup.2.1)
      rw [NoOverrun, hs]
      rw [hs] at hski
      exact valLoopV_iff (off := 0) (fun x hx => hski x (List.mem_cons_of_mem _ hx)) (hsup.2.2.1.trans (congrArg List.length hs))
        (alignBytes_validation hs)
    · rw [hc]
      exact iff_of_false nofun (fun h => nomatch h.1)
  · exact iff_of_false (fun h => hsup (supported_of_valid h)) (fun h => hsup h.1)

/-- `hover` is the last conjunct of `validateV_valid_iff` taken as a hypothesis: it holds of the repository's loop
    (`stop = true`) for every input, of the loop bounded by the offset alone only for inputs with `NoOverrun`.  Only
    "every hop verifies ⇒ VALID" needs it. -/
theorem validateV_iff (hski : ∀ s ∈ d.sigs, s.ski.length = 20) (hover : stop = true ∨ NoOverrun d) :
    validateV hash verify m stop d V = .valid ↔
      Supported d ∧ checkRouterKeysV m V 0 d.sigs d.path = .success ∧
        HopsOk hash verify m V d d.sigs.length d.targetAs d.path d.sigs := by
  rw [validateV_valid_iff hski, and_iff_left hover]

/-- against one table the pre-check finds what the loop finds, so its conjunct goes (`hover` as in `validateV_iff`) -/
theorem validate_iff {T : Table} (hski : ∀ s ∈ d.sigs, s.ski.length = 20) (hover : stop = true ∨ NoOverrun d) :
    validate hash verify m stop d T = .valid ↔
      Supported d ∧ HopsOk hash verify m (fun _ => T) d 0 d.targetAs d.path d.sigs := by
  rw [validate, validateV_iff hski hover, hopsOk_const d.sigs.length 0]
  refine and_congr_right fun hsup => ⟨And.right, fun h => ⟨?_, h⟩⟩
  rw [checkRouterKeysV_success_iff hsup.2.2.1]
  intro i s p hs hp
  obtain ⟨k, hk, hok, _⟩ := h i s p hs hp
  exact keysFor_ne_nil_iff.mpr ⟨k, hk, hok⟩

end entry

/-! ## `req_stream_size` is exactly the number of bytes `align_byte_sequence` writes -/

theorem alignLoop_length : ∀ (ps : List PathSeg) (ss : List SigSeg), ss.length ≤ ps.length →
    (∀ x ∈ ss, x.ski.length = 20) →
    (alignLoop ps ss).length = (ss.map fun s => s.sig.length + 2 + 20).sum + 6 * ps.length
  | [], [], _, _ => rfl
  | p :: ps, [], _, _ => by
    rw [alignLoop, List.length_append, pathBytes_length, alignLoop_length ps [] (Nat.zero_le _) (fun _ h => nomatch h)]
    simp only [List.map_nil, List.sum_nil, List.length_cons]
    omega
  | p :: ps, s :: ss, h, hski => by
    rw [alignLoop, List.length_append, List.length_append, pathBytes_length, sigBytes_length, hski s List.mem_cons_self,
      alignLoop_length ps ss (Nat.le_of_succ_le_succ h) (fun x hx => hski x (List.mem_cons_of_mem _ hx))]
    simp only [List.map_cons, List.sum_cons, List.length_cons]
    omega

theorem alignBytes_length (ty : AlignType) (d : Data) (hn : d.nlri.bytes.length = nlriB d.nlri.len)
    (hski : ∀ s ∈ d.sigs, s.ski.length = 20) (hl : (startSigs ty d.sigs).length ≤ d.path.length) :
    (alignBytes ty d).length = reqStreamSize ty d := by
  have hski' : ∀ x ∈ startSigs ty d.sigs, x.ski.length = 20 := by
    intro x hx
    cases ty
    · exact hski x (List.mem_of_mem_drop hx)
    · exact hski x hx
  simp only [alignBytes, reqStreamSize, sigSegSize, List.length_append, be32_length, tailBytes_length,
    alignLoop_length _ _ hl hski', hn]
  omega

/-! ## injectivity of the RFC sequence (what is hashed determines every signed field) -/

def WfPath (p : PathSeg) : Prop := p.pcount < 256 ∧ p.flags < 256 ∧ p.asn < 4294967296
def WfSig (s : SigSeg) : Prop := s.ski.length = 20 ∧ s.sig.length < 65536

instance (p : PathSeg) : Decidable (WfPath p) := by unfold WfPath; infer_instance
instance (s : SigSeg) : Decidable (WfSig s) := by unfold WfSig; infer_instance

/-- the ranges the C types impose (`uint8_t`, `uint16_t`, `uint32_t`, `ski[20]`) and the NLRI buffer
    holding exactly `(nlri_len + 7) / 8` octets -/
structure WfData (d : Data) : Prop where
  alg : d.alg < 256
  afi : d.afi < 65536
  safi : d.safi < 256
  target : d.targetAs < 4294967296
  nlriLen : d.nlri.len < 256
  nlriBytes : d.nlri.bytes.length = nlriB d.nlri.len
  path : ∀ p ∈ d.path, WfPath p
  sigs : ∀ s ∈ d.sigs, WfSig s

/-- octet by octet from the most significant one: equal quotients by `256^(j+1)` and equal octets `j` give equal
    quotients by `256^j` -/
theorem be32_inj {a b : Nat} (ha : a < 4294967296) (hb : b < 4294967296) (h : be32 a = be32 b) : a = b := by
  injection h with h3 h
  injection h with h2 h
  injection h with h1 h
  injection h with h0
  rw [Nat.mod_eq_of_lt (Nat.div_lt_of_lt_mul ha), Nat.mod_eq_of_lt (Nat.div_lt_of_lt_mul hb)] at h3
  have h16 : a / 65536 = b / 65536 := Nat.ext_div_mod (n := 256) (by rwa [Nat.div_div_eq_div_mul, Nat.div_div_eq_div_mul]) h2
  have h8 : a / 256 = b / 256 := Nat.ext_div_mod (n := 256) (by rwa [Nat.div_div_eq_div_mul, Nat.div_div_eq_div_mul]) h1
  exact Nat.ext_div_mod h8 h0

theorem be16_inj {a b : Nat} (ha : a < 65536) (hb : b < 65536) (h : be16 a = be16 b) : a = b := by
  injection h with h1 h
  injection h with h0
  rw [Nat.mod_eq_of_lt (Nat.div_lt_of_lt_mul ha), Nat.mod_eq_of_lt (Nat.div_lt_of_lt_mul hb)] at h1
  exact Nat.ext_div_mod h1 h0

theorem pathBytes_append_inj {p p' : PathSeg} {r r' : List Nat} (hp : WfPath p) (hp' : WfPath p')
    (h : pathBytes p ++ r = pathBytes p' ++ r') : p = p' ∧ r = r' := by
  obtain ⟨pc, fl, asn⟩ := p
  obtain ⟨pc', fl', asn'⟩ := p'
  injection h with h1 h
  injection h with h2 h
  have h : be32 asn ++ r = be32 asn' ++ r' := h
  obtain ⟨h3, h4⟩ := List.append_inj h rfl
  obtain rfl : pc = pc' := h1
  obtain rfl : fl = fl' := h2
  obtain rfl : asn = asn' := be32_inj hp.2.2 hp'.2.2 h3
  exact ⟨rfl, h4⟩

theorem sigBytes_append_inj {s s' : SigSeg} {r r' : List Nat} (hs : WfSig s) (hs' : WfSig s')
    (h : sigBytes s ++ r = sigBytes s' ++ r') : s = s' ∧ r = r' := by
  obtain ⟨ski, sig⟩ := s
  obtain ⟨ski', sig'⟩ := s'
  simp only [sigBytes, List.append_assoc] at h
  obtain ⟨h1, h⟩ := List.append_inj h (hs.1.trans hs'.1.symm)
  obtain ⟨h2, h⟩ := List.append_inj h rfl
  obtain ⟨h3, h4⟩ := List.append_inj h (be16_inj hs.2 hs'.2 h2)
  rw [h1, h3, h4]
  exact ⟨rfl, rfl⟩

theorem segments_append_inj : ∀ {ps ps' : List PathSeg} {ss ss' : List SigSeg} {r r' : List Nat},
    ps.length = ps'.length → ps.length = ss.length + 1 → ps'.length = ss'.length + 1 →
    (∀ p ∈ ps, WfPath p) → (∀ p ∈ ps', WfPath p) → (∀ s ∈ ss, WfSig s) → (∀ s ∈ ss', WfSig s) →
    segments ps ss ++ r = segments ps' ss' ++ r' → ps = ps' ∧ ss = ss' ∧ r = r'
  | [p], [p'], [], [], r, r', _, _, _, wp, wp', _, _, h => by
    obtain ⟨a, b⟩ := pathBytes_append_inj (wp p List.mem_cons_self) (wp' p' List.mem_cons_self) h
    rw [a, b]
    exact ⟨rfl, rfl, rfl⟩
  | p :: q :: ps, p' :: q' :: ps', s :: ss, s' :: ss', r, r', hl, h1, h2, wp, wp', ws, ws', h => by
    simp only [segments, List.append_assoc] at h
    obtain ⟨a, h⟩ := sigBytes_append_inj (ws s List.mem_cons_self) (ws' s' List.mem_cons_self) h
    obtain ⟨b, h⟩ := pathBytes_append_inj (wp p List.mem_cons_self) (wp' p' List.mem_cons_self) h
    obtain ⟨c, d, e⟩ := segments_append_inj (Nat.succ.inj hl) (Nat.succ.inj h1)
      (Nat.succ.inj h2) (fun x hx => wp x (List.mem_cons_of_mem _ hx)) (fun x hx => wp' x (List.mem_cons_of_mem _ hx))
      (fun x hx => ws x (List.mem_cons_of_mem _ hx)) (fun x hx => ws' x (List.mem_cons_of_mem _ hx)) h
    rw [a, b, c, d, e]
    exact ⟨rfl, rfl, rfl⟩

theorem tailBytes_inj {d d' : Data} (w : WfData d) (w' : WfData d') (h : tailBytes d = tailBytes d') :
    d.alg = d'.alg ∧ d.afi = d'.afi ∧ d.safi = d'.safi ∧ d.nlri.len = d'.nlri.len ∧ d.nlri.bytes = d'.nlri.bytes := by
  injection h with h1 h
  have h : be16 d.afi ++ ([d.safi] ++ ([d.nlri.len] ++ d.nlri.bytes)) = be16 d'.afi ++ ([d'.safi] ++ ([d'.nlri.len] ++ d'.nlri.bytes)) := h
  obtain ⟨h2, h⟩ := List.append_inj h rfl
  injection h with h3 h
  injection h with h4 h5
  exact ⟨h1, be16_inj w.afi w'.afi h2, h3, h4, h5⟩

theorem targetAt_lt (d : Data) (w : WfData d) (i : Nat) : targetAt d i < 4294967296 := by
  cases i with
  | zero => exact w.target
  | succ i =>
    simp only [targetAt, targetOf]
    cases h : d.path[i]? with
    | none => simp
    | some p =>
      have : p ∈ d.path := List.mem_of_getElem? h
      simpa using (w.path p this).2.2

end Rtr.Bgpsec
