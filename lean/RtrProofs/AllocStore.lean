/-
  AllocStore: the temporary PDU stores of rtr_sync_receive_and_store_pdus: the three stores as one, their
  block count, then block by block.

  `net` (RtrModel.Alloc) counts live blocks; a block returned twice and another one never returned
  cancel in it.  `ledger k` follows the blocks of ONE kind through a trace and fails (`none`) at the
  first release — or reallocation — of a block of that kind when none is live: "a block returned twice /
  a block that was never obtained".  Of each store kind (`pdu4`, `pdu6`, `pduk`) at most one block is
  live at any time, so for the stores the ledger is exact about block identity.
-/
import RtrProofs.AllocBasic

namespace Rtr
namespace Alloc

/-! ### the temporary PDU arrays -/

/-- the store a payload PDU goes to -/
def Item.kind : Item → Blk
  | .p4 .. => .pdu4
  | .p6 .. => .pdu6
  | .key .. => .pduk

/-- capacity of the store of kind `k` (0 for the kinds that are not stores) -/
def Bufs.cap (b : Bufs) : Blk → Nat
  | .pdu4 => b.s4
  | .pdu6 => b.s6
  | .pduk => b.sk
  | _ => 0

def Bufs.fill (b : Bufs) : Item → Nat
  | .p4 .. => b.n4
  | .p6 .. => b.n6
  | .key .. => b.nk

/-- `it` stored in a store that had room -/
def Bufs.bump (b : Bufs) : Item → Bufs
  | .p4 .. => { b with n4 := b.n4 + 1 }
  | .p6 .. => { b with n6 := b.n6 + 1 }
  | .key .. => { b with nk := b.nk + 1 }

/-- `it` stored after its store has grown -/
def Bufs.grow (b : Bufs) : Item → Bufs
  | .p4 .. => { b with s4 := b.s4 + storeIncr, n4 := b.n4 + 1 }
  | .p6 .. => { b with s6 := b.s6 + storeIncr, n6 := b.n6 + 1 }
  | .key .. => { b with sk := b.sk + storeIncr, nk := b.nk + 1 }

/-- `rtr_store_prefix_pdu` and `rtr_store_router_key_pdu` do the same thing, each to the store of its kind -/
theorem storeLoop_cons (it : Item) (rest : List Item) (a : A) (b : Bufs) :
    storeLoop (it :: rest) a b =
      if b.fill it ≥ b.cap it.kind then
        (if (a.realloc it.kind (b.cap it.kind) (b.cap it.kind + storeIncr)).1 then
          storeLoop rest (a.realloc it.kind (b.cap it.kind) (b.cap it.kind + storeIncr)).2 (b.grow it)
        else (false, (a.realloc it.kind (b.cap it.kind) (b.cap it.kind + storeIncr)).2, b))
      else storeLoop rest a (b.bump it) := by
  cases it <;> rfl

theorem cap_bump (b : Bufs) (it : Item) (k : Blk) : (b.bump it).cap k = b.cap k := by
  cases it <;> cases k <;> rfl

theorem cap_grow (b : Bufs) (it : Item) (k : Blk) :
    (b.grow it).cap k = if it.kind = k then b.cap k + storeIncr else b.cap k := by
  cases it <;> cases k <;> rfl

/-- the increment of the tree under test is positive (otherwise a full store would never grow) -/
theorem storeIncr_pos : 0 < storeIncr := by decide

theorem live_incr (s : Nat) : live (s + storeIncr) = 1 :=
  if_neg (by have := storeIncr_pos; omega)

theorem live_grow (b : Bufs) (it : Item) (k : Blk) :
    live ((b.grow it).cap k) = if it.kind = k then 1 else live (b.cap k) := by
  rw [cap_grow]
  split
  · exact live_incr _
  · rfl

def bufsLive (b : Bufs) : Nat := live (b.cap .pdu4) + live (b.cap .pdu6) + live (b.cap .pduk)

theorem bufsLive_grow (b : Bufs) (it : Item) :
    (bufsLive (b.grow it) : Int) - bufsLive b = live (b.cap it.kind + storeIncr) - live (b.cap it.kind) := by
  simp only [bufsLive, live_grow, live_incr]
  cases it <;> simp [Item.kind] <;> omega

theorem storeLoop_bal : ∀ (items : List Item) (a : A) (b : Bufs),
    Bal a (storeLoop items a b).2.1 (bufsLive (storeLoop items a b).2.2 - bufsLive b : Int) := by
  intro items
  induction items with
  | nil => intro a b; exact (Bal.refl a).cast (by simp [storeLoop])
  | cons it rest ih =>
    intro a b
    rw [storeLoop_cons]
    by_cases hf : b.fill it ≥ b.cap it.kind
    · rw [if_pos hf]
      have g := realloc_live a it.kind (b.cap it.kind) (b.cap it.kind + storeIncr) (by have := storeIncr_pos; omega)
      by_cases hq : (a.realloc it.kind (b.cap it.kind) (b.cap it.kind + storeIncr)).1 = true
      · rw [if_pos hq]
        rw [hq] at g
        have := bufsLive_grow b it
        exact (g.trans (ih _ (b.grow it))).cast (by simp only [if_true]; omega)
      · rw [if_neg hq]
        rw [Bool.not_eq_true] at hq
        rw [hq] at g
        exact g.cast (by simp)
    · rw [if_neg hf]
      refine (ih a (b.bump it)).cast ?_
      simp only [bufsLive, cap_bump]

theorem freeBufs_bal (a : A) (b : Bufs) : Bal a (freeBufs a b) (-(bufsLive b : Int)) :=
  (((freeIf_live a .pduk b.sk).trans (freeIf_live _ .pdu6 b.s6)).trans (freeIf_live _ .pdu4 b.s4)).cast
    (by simp only [bufsLive, Bufs.cap]; omega)

/-- live blocks of kind `k` after the events, starting from `n` live blocks; `none`: a block of kind `k`
    is released (or handed to realloc) although none is live — returned twice, or never obtained — or is
    released through libc `free`.  `realloc` with old size 0 is `realloc(NULL, …)`: a new block if granted;
    with old size > 0 a block of that kind existed before and exists after, granted or not -/
def ledger (k : Blk) : List Ev → Nat → Option Nat
  | [], n => some n
  | .malloc b _ ok :: es, n => ledger k es (if b = k ∧ ok = true then n + 1 else n)
  | .realloc b 0 _ ok :: es, n => ledger k es (if b = k ∧ ok = true then n + 1 else n)
  | .realloc b (_ + 1) _ _ :: es, n => if b = k ∧ n = 0 then none else ledger k es n
  | .free b _ :: es, n => if b = k then (if n = 0 then none else ledger k es (n - 1)) else ledger k es n
  | .libcFree b _ :: es, n => if b = k then none else ledger k es n

/-- every block of every kind obtained in the trace is returned exactly once: no release without a live
    block (no double release, no foreign block), nothing left at the end (no leak) -/
def ExactlyOnce (t : List Ev) : Prop := ∀ k, ledger k t 0 = some 0

theorem ledger_append (k : Blk) : ∀ (s t : List Ev) (n : Nat),
    ledger k (s ++ t) n = (ledger k s n).bind (ledger k t) := by
  intro s
  induction s with
  | nil => intro t n; simp [ledger]
  | cons e s ih =>
    intro t n
    cases e with
    | malloc b m ok => simp only [List.cons_append, ledger]; exact ih t _
    | realloc b o m ok =>
      cases o with
      | zero => simp only [List.cons_append, ledger]; exact ih t _
      | succ o =>
        simp only [List.cons_append, ledger]
        split
        · rfl
        · exact ih t _
    | free b m =>
      simp only [List.cons_append, ledger]
      split
      · split
        · rfl
        · exact ih t _
      · exact ih t _
    | libcFree b m =>
      simp only [List.cons_append, ledger]
      split
      · rfl
      · exact ih t _

theorem ledger_snoc (k : Blk) (t : List Ev) (e : Ev) (m : Nat) (h : ledger k t 0 = some m) :
    ledger k (t ++ [e]) 0 = ledger k [e] m := by
  rw [ledger_append, h]; rfl

/-! ### the stores -/

/-- the ledger of every kind is defined and agrees with the capacities: a store block is live exactly
    when the capacity is not 0, nothing else is live -/
def StoreLedger (a : A) (b : Bufs) : Prop := ∀ k, ledger k a.trace 0 = some (live (b.cap k))

theorem StoreLedger.start {a : A} (h : ExactlyOnce a.trace) : StoreLedger a {} := fun k => by
  rw [h k]
  cases k <;> rfl

/-- one reallocation of the store of kind `c` -/
theorem store_step (a : A) (b b' : Bufs) (c : Blk) (h : StoreLedger a b)
    (hb' : ∀ k, live (b'.cap k) = if c = k then 1 else live (b.cap k)) :
    StoreLedger (a.realloc c (b.cap c) (b.cap c + storeIncr)).2
      (if (a.realloc c (b.cap c) (b.cap c + storeIncr)).1 then b' else b) := by
  intro k
  have et : (a.realloc c (b.cap c) (b.cap c + storeIncr)).2.trace =
      a.trace ++ [.realloc c (b.cap c) (b.cap c + storeIncr) (a.realloc c (b.cap c) (b.cap c + storeIncr)).1] := rfl
  rw [et, ledger_snoc k _ _ _ (h k)]
  cases (a.realloc c (b.cap c) (b.cap c + storeIncr)).1 <;> simp only [if_true, Bool.false_eq_true, if_false, hb' k]
  all_goals
    by_cases hk : c = k
    · subst hk
      cases b.cap c <;> simp [ledger, live]
    · cases b.cap c <;> simp [ledger, hk]

/-- finished, or stopped by a refused reallocation -/
theorem storeLoop_ledger : ∀ (items : List Item) (a : A) (b : Bufs), StoreLedger a b →
    StoreLedger (storeLoop items a b).2.1 (storeLoop items a b).2.2 := by
  intro items
  induction items with
  | nil => exact fun _ _ h => h
  | cons it rest ih =>
    intro a b h
    have st := store_step a b (b.grow it) it.kind h (live_grow b it)
    rw [storeLoop_cons]
    by_cases hf : b.fill it ≥ b.cap it.kind
    · rw [if_pos hf]
      by_cases hq : (a.realloc it.kind (b.cap it.kind) (b.cap it.kind + storeIncr)).1 = true
      · rw [if_pos hq] at st ⊢
        exact ih _ _ st
      · rw [if_neg hq] at st ⊢
        exact st
    · rw [if_neg hf]
      exact ih _ _ (fun k => by rw [cap_bump]; exact h k)

/-- one release of the `cleanup:` label -/
theorem freeIf_store (a : A) (b b' : Bufs) (c : Blk) (h : StoreLedger a b)
    (hb' : ∀ k, live (b'.cap k) = if c = k then 0 else live (b.cap k)) : StoreLedger (a.freeIf c (b.cap c)) b' := by
  intro k
  unfold A.freeIf
  by_cases hs : b.cap c = 0
  · rw [if_pos hs, h k, hb' k]
    by_cases hk : c = k
    · subst hk; simp [hs, live]
    · simp [hk]
  · have et : (a.free c (b.cap c)).trace = a.trace ++ [.free c (b.cap c)] := rfl
    rw [if_neg hs, et, ledger_snoc k _ _ _ (h k), hb' k]
    by_cases hk : c = k
    · subst hk; simp [ledger, live, hs]
    · simp [ledger, hk]

theorem freeBufs_ledger (a : A) (b : Bufs) (h : StoreLedger a b) : ExactlyOnce (freeBufs a b).trace := by
  have h1 := freeIf_store a b { b with sk := 0 } .pduk h (by intro k; cases k <;> rfl)
  have h2 := freeIf_store _ { b with sk := 0 } { b with sk := 0, s6 := 0 } .pdu6 h1 (by intro k; cases k <;> rfl)
  have h3 := freeIf_store _ { b with sk := 0, s6 := 0 } { b with sk := 0, s6 := 0, s4 := 0 } .pdu4 h2
    (by intro k; cases k <;> rfl)
  exact fun k => (h3 k).trans (by cases k <;> rfl)

/-! ### which budgets hit the store loop -/

/-- number of reallocations the store loop makes when none is refused: one for the first PDU of a kind
    and one whenever `storeIncr` more PDUs of that kind have arrived (element storeIncr + 1,
    2·storeIncr + 1, … finds its store full) -/
def storeReqs : List Item → Bufs → Nat
  | [], _ => 0
  | .p4 .. :: rest, b =>
    if b.n4 ≥ b.s4 then storeReqs rest { b with s4 := b.s4 + storeIncr, n4 := b.n4 + 1 } + 1
    else storeReqs rest { b with n4 := b.n4 + 1 }
  | .p6 .. :: rest, b =>
    if b.n6 ≥ b.s6 then storeReqs rest { b with s6 := b.s6 + storeIncr, n6 := b.n6 + 1 } + 1
    else storeReqs rest { b with n6 := b.n6 + 1 }
  | .key .. :: rest, b =>
    if b.nk ≥ b.sk then storeReqs rest { b with sk := b.sk + storeIncr, nk := b.nk + 1 } + 1
    else storeReqs rest { b with nk := b.nk + 1 }

theorem storeReqs_cons (it : Item) (rest : List Item) (b : Bufs) :
    storeReqs (it :: rest) b =
      if b.fill it ≥ b.cap it.kind then storeReqs rest (b.grow it) + 1 else storeReqs rest (b.bump it) := by
  cases it <;> rfl

theorem storeLoop_reqs : ∀ (items : List Item) (a : A) (b : Bufs),
    Reqs a ((storeLoop items a b).1, (storeLoop items a b).2.1) (storeReqs items b) := by
  intro items
  induction items with
  | nil => exact fun a _ => Reqs.nil a
  | cons it rest ih =>
    intro a b
    rw [storeLoop_cons, storeReqs_cons]
    by_cases hf : b.fill it ≥ b.cap it.kind
    · rw [if_pos hf, if_pos hf]
      have h := (realloc_reqs a it.kind (b.cap it.kind) (b.cap it.kind + storeIncr)).cons (ih _ (b.grow it)) (Span.refl _)
      rw [Nat.add_comm 1] at h
      cases hq : (a.realloc it.kind (b.cap it.kind) (b.cap it.kind + storeIncr)).1 <;> rw [hq] at h <;> exact h
    · rw [if_neg hf, if_neg hf]
      exact ih _ _

theorem freeBufs_span (a : A) (b : Bufs) : Span a (freeBufs a b) 0 :=
  ((freeIf_span a .pduk b.sk).trans (freeIf_span _ .pdu6 b.s6)).trans (freeIf_span _ .pdu4 b.s4)

/-- the refusal falls into the store loop: the call leaves through `cleanup:` before the table part is entered -/
theorem syncF_store_refused (a : A) (P : PfxTable) (K : SpkiTable) (reset : Bool) (items : List Item)
    (h : a.hits (storeReqs items {})) :
    syncF a P K reset items = (freeBufs (storeLoop items a {}).2.1 (storeLoop items a {}).2.2, P, K, ⟨false, false⟩) ∧
    refusals (freeBufs (storeLoop items a {}).2.1 (storeLoop items a {}).2.2).trace = refusals a.trace + 1 := by
  have q := storeLoop_reqs items a {}
  have h1 : (storeLoop items a {}).1 = false := Bool.eq_false_iff.2 fun e => q.ok.1 e h
  refine ⟨?_, ((q.span.trans (freeBufs_span _ _)).hit h).2⟩
  unfold syncF
  simp [h1]

end Alloc
end Rtr
