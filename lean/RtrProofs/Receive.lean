/-
  Receive: `rtr_receive_pdu` (model `receivePdu`) decomposed into stages; the ways through it as one
  table (`HdrPath`, `receivePdu_path`: every leaf with its branch conditions and the exact result); the call
  once a `tr_recv_all` has delivered (`receivePdu_of_header`, `recvStage3_of_payload`); what it guarantees
  about the protocol version and about the PDUs it hands to its callers.
-/
import RtrModel.Rtr
import RtrProofs.FsmLift

namespace Rtr.P

/-- payload reception, size check (the part of `receivePdu` after the version handling) -/
def recvStage3 (c : Conn) (n : Net) (own : Nat) (hdr : List Nat) : RecvRes × Conn × Net :=
  let remaining := lenOf hdr - 8
  if remaining > 0 ∧ c.state = .shutdown then (.rc (-1), c, n)
  else
    match (if remaining > 0 then recvAll n remaining Gen.RTR_RECV_TIMEOUT
           else ((0 : Int), ([] : List Nat), n, false)) with
    | (rc2, body, n, stop2) =>
    let c := applyStop c stop2
    if rc2 < 0 then recvTransportError c n own rc2
    else
      let raw := hdr ++ body
      if !checkSize raw then
        match sendErrorPdu c n hdr 0 txtCorrupt with
        | (_, n) => match changeState c n own .errFatal with | (c, n) => (.rc (-1), c, n)
      else (.ok raw, c, n)

/-- the version the socket speaks after seeing the first header of a connection -/
def downgraded (c : Conn) (hdr : List Nat) : Conn :=
  if !c.hasReceived then
    let v := if c.version = 1 ∧ verOf hdr = 0 ∧ typeOf hdr ≠ 10 then 0 else c.version
    { c with version := v, hasReceived := true }
  else c

/-- length checks, live downgrade, version check (the part of `receivePdu` after the header) -/
def recvStage2 (c : Conn) (n : Net) (own : Nat) (hdr : List Nat) : RecvRes × Conn × Net :=
  let len := lenOf hdr
  if len < 8 then
    match sendErrorPdu c n hdr 0 txtCorrupt with
    | (_, n) => match changeState c n own .errFatal with | (c, n) => (.rc (-1), c, n)
  else if len > Gen.RTR_MAX_PDU_LEN then
    match sendErrorPdu c n hdr 0 txtTooBig with
    | (_, n) => match changeState c n own .errFatal with | (c, n) => (.rc (-1), c, n)
  else
    let c := downgraded c hdr
    if verOf hdr ≠ c.version ∧ typeOf hdr ≠ 10 then
      match sendErrorPdu c n hdr 8 [] with
      | (_, n) => (.rc (-1), c, n)
    else recvStage3 c n own hdr

theorem receivePdu_eq (c : Conn) (n : Net) (own : Nat) (t : Int) :
    receivePdu c n own t =
      if c.state = .shutdown then (.rc (-1), c, n)
      else
        match recvAll n 8 t with
        | (rc, hdr, n, stop) =>
          if rc < 0 then recvTransportError (applyStop c stop) n own rc
          else recvStage2 (applyStop c stop) n own hdr := by
  unfold receivePdu recvStage2 recvStage3 downgraded
  rfl

/-- the timeout of the `rtr_receive_pdu` call in `rtr_wait_for_sync` -/
def waitTimeout (st : St) : Int :=
  if st.ss.lastUpdate + ↑st.tm.refresh - st.n.now < 0 then 0 else st.ss.lastUpdate + ↑st.tm.refresh - st.n.now

theorem waitForSync_eq (st : St) :
    waitForSync st =
      match receivePdu st.c st.n st.t.own (waitTimeout st) with
      | (.ok raw, c, n) => (typeOf raw = 0, { st with c := c, n := n })
      | (.rc code, c, n) => (code = -2, { st with c := c, n := n }) := by
  unfold waitForSync waitTimeout
  rfl

/-- the `error:` label for CORRUPT_DATA / PDU_TOO_BIG: an Error Report echoing the header, then
    RTR_ERROR_FATAL -/
def failFatal (c : Conn) (n : Net) (own : Nat) (hdr : List Nat) (txt : List Nat) : RecvRes × Conn × Net :=
  match sendErrorPdu c n hdr 0 txt with
  | (_, n) => match changeState c n own .errFatal with | (c, n) => (.rc (-1), c, n)

structure HdrPassed (c : Conn) (hdr : List Nat) : Prop where
  min : 8 ≤ lenOf hdr
  max : lenOf hdr ≤ Gen.RTR_MAX_PDU_LEN
  version : ¬ (verOf hdr ≠ (downgraded c hdr).version ∧ typeOf hdr ≠ 10)

theorem recvStage2_lenSmall {hdr : List Nat} (c : Conn) (n : Net) (own : Nat) (h : lenOf hdr < 8) :
    recvStage2 c n own hdr = failFatal c n own hdr txtCorrupt := by
  unfold recvStage2
  simp only
  rw [if_pos h]
  rfl

theorem recvStage2_lenBig {hdr : List Nat} (c : Conn) (n : Net) (own : Nat) (h : lenOf hdr > Gen.RTR_MAX_PDU_LEN) :
    recvStage2 c n own hdr = failFatal c n own hdr txtTooBig := by
  have hm : 8 ≤ Gen.RTR_MAX_PDU_LEN := by decide
  unfold recvStage2
  simp only
  rw [if_neg (by omega), if_pos h]
  rfl

theorem recvStage2_version {c : Conn} {hdr : List Nat} (n : Net) (own : Nat) (h8 : 8 ≤ lenOf hdr)
    (hm : lenOf hdr ≤ Gen.RTR_MAX_PDU_LEN) (hv : verOf hdr ≠ (downgraded c hdr).version ∧ typeOf hdr ≠ 10) :
    recvStage2 c n own hdr = (.rc (-1), downgraded c hdr, (sendErrorPdu (downgraded c hdr) n hdr 8 []).2) := by
  unfold recvStage2
  simp only
  rw [if_neg (by omega), if_neg (by omega), if_pos hv]

theorem recvStage2_of_passed {c : Conn} {hdr : List Nat} (n : Net) (own : Nat) (h : HdrPassed c hdr) :
    recvStage2 c n own hdr = recvStage3 (downgraded c hdr) n own hdr := by
  unfold recvStage2
  simp only
  rw [if_neg (Nat.not_lt.2 h.min), if_neg (Nat.not_lt.2 h.max), if_neg h.version]

/-- `tr_recv_all` for 0 bytes is the tuple the model takes when there is no payload -/
theorem payloadRecv_eq (n : Net) (k : Nat) (t : Int) :
    (if k > 0 then recvAll n k t else ((0 : Int), ([] : List Nat), n, false)) = recvAll n k t := by
  by_cases hr : k > 0
  · rw [if_pos hr]
  · rw [if_neg hr, show k = 0 by omega]
    rfl

theorem receivePdu_of_header {c : Conn} {n : Net} {own : Nat} {t : Int} {hdr : List Nat} {n1 : Net}
    (hs : c.state ≠ .shutdown) (h1 : recvAll n 8 t = (8, hdr, n1, false)) :
    receivePdu c n own t = recvStage2 c n1 own hdr := by
  rw [receivePdu_eq, if_neg hs, h1]
  rfl

theorem recvStage3_of_payload {c : Conn} {n : Net} {own : Nat} {hdr body : List Nat} {n2 : Net}
    (hs : c.state ≠ .shutdown)
    (h2 : recvAll n (lenOf hdr - 8) Gen.RTR_RECV_TIMEOUT = (((lenOf hdr - 8 : Nat) : Int), body, n2, false)) :
    recvStage3 c n own hdr =
      if checkSize (hdr ++ body) then (.ok (hdr ++ body), c, n2) else failFatal c n2 own hdr txtCorrupt := by
  unfold recvStage3
  simp only
  rw [if_neg (fun h => hs h.2), payloadRecv_eq, h2]
  simp only
  rw [if_neg (by omega)]
  cases checkSize (hdr ++ body) <;> rfl

/-! ## `rtr_receive_pdu` and its callers as sequences of primitive steps -/

section steps
variable {R : Conn × Net → Conn × Net → Prop} (hR : SendRel R)
include hR

theorem downgraded_steps (hv : Lowers R) (c : Conn) (n : Net) (hdr : List Nat) : R (c, n) (downgraded c hdr, n) := by
  unfold downgraded
  split
  · refine hv c n _ true ?_
    split
    · exact Nat.zero_le _
    · exact Nat.le_refl _
  · exact hR.refl _

/-- the part of one iteration of `syncFirst` after its `rtr_receive_pdu`.  The recursive call is passed in, so
    that one walk serves both the induction (`syncFirst_steps`) and the statement about a single iteration
    (`syncFirst_succ_steps`). -/
theorem syncFirst_succ_steps_aux (hv : Lowers R) (fuel : Nat) (ih : ∀ st : St, R (st.c, st.n) ((syncFirst fuel st).2.c, (syncFirst fuel st).2.n))
    (st : St) : R (receivePdu st.c st.n st.t.own Gen.RTR_RECV_TIMEOUT).2
      ((syncFirst (fuel + 1) st).2.c, (syncFirst (fuel + 1) st).2.n) := by
  unfold syncFirst
  generalize receivePdu st.c st.n st.t.own Gen.RTR_RECV_TIMEOUT = res
  obtain ⟨rr, c, n⟩ := res
  cases rr with
  | rc code =>
    simp only
    split
    · exact hR.trans (hv c n (c.version - 1) c.hasReceived (Nat.sub_le _ _)) (changeState_steps hR _ n st.t.own .fastReconnect)
    · split
      · exact changeState_steps hR c n st.t.own .errTransport
      · exact hR.refl _
  | ok raw =>
    simp only
    split
    · exact ih { st with c := c, n := n }
    · exact hR.refl _

theorem failFatal_steps (c : Conn) (n : Net) (own : Nat) (hdr txt : List Nat) : R (c, n) (failFatal c n own hdr txt).2 :=
  hR.trans (sendErrorPdu_steps hR c n hdr 0 txt) (changeState_steps hR c _ own .errFatal)

variable (hv : Lowers R) (hr : Recvs R)
include hr

theorem recvStage3_steps (c : Conn) (n : Net) (own : Nat) (hdr : List Nat) : R (c, n) (recvStage3 c n own hdr).2 := by
  unfold recvStage3
  simp only
  rw [payloadRecv_eq]
  by_cases hs : lenOf hdr - 8 > 0 ∧ c.state = .shutdown
  · rw [if_pos hs]
    exact hR.refl _
  · rw [if_neg hs]
    have h := recvAll_steps hR hr c n (lenOf hdr - 8) Gen.RTR_RECV_TIMEOUT
    generalize recvAll n (lenOf hdr - 8) Gen.RTR_RECV_TIMEOUT = r at h
    obtain ⟨rc2, body, n2, stop2⟩ := r
    simp only at h ⊢
    have ha := hR.trans h (applyStop_steps hR c n2 stop2)
    by_cases hrc : rc2 < 0
    · rw [if_pos hrc]
      exact hR.trans ha (recvTransportError_steps hR _ n2 own rc2)
    · rw [if_neg hrc]
      by_cases hcs : (!checkSize (hdr ++ body)) = true
      · rw [if_pos hcs]
        exact hR.trans ha (failFatal_steps hR _ n2 own hdr txtCorrupt)
      · rw [if_neg hcs]
        exact ha

include hv

theorem recvStage2_steps (c : Conn) (n : Net) (own : Nat) (hdr : List Nat) : R (c, n) (recvStage2 c n own hdr).2 := by
  by_cases h1 : lenOf hdr < 8
  · rw [recvStage2_lenSmall c n own h1]
    exact failFatal_steps hR c n own hdr txtCorrupt
  by_cases h2 : lenOf hdr > Gen.RTR_MAX_PDU_LEN
  · rw [recvStage2_lenBig c n own h2]
    exact failFatal_steps hR c n own hdr txtTooBig
  have hd := downgraded_steps hR hv c n hdr
  by_cases h3 : verOf hdr ≠ (downgraded c hdr).version ∧ typeOf hdr ≠ 10
  · rw [recvStage2_version n own (by omega) (by omega) h3]
    exact hR.trans hd (sendErrorPdu_steps hR _ n hdr 8 [])
  · rw [recvStage2_of_passed n own ⟨by omega, by omega, h3⟩]
    exact hR.trans hd (recvStage3_steps hR hr _ n own hdr)

theorem receivePdu_steps (c : Conn) (n : Net) (own : Nat) (t : Int) : R (c, n) (receivePdu c n own t).2 := by
  rw [receivePdu_eq]
  by_cases hs : c.state = .shutdown
  · rw [if_pos hs]
    exact hR.refl _
  · rw [if_neg hs]
    have h := recvAll_steps hR hr c n 8 t
    generalize recvAll n 8 t = r at h
    obtain ⟨rc, hdr, n1, stop⟩ := r
    simp only at h ⊢
    have ha := hR.trans h (applyStop_steps hR c n1 stop)
    split
    · exact hR.trans ha (recvTransportError_steps hR _ n1 own rc)
    · exact hR.trans ha (recvStage2_steps hR hv hr _ n1 own hdr)

theorem recvAndStore_steps : ∀ (fuel : Nat) (st : St) (v4 v6 keys : List (List Nat)),
    R (st.c, st.n) ((recvAndStore fuel st v4 v6 keys).2.1.c, (recvAndStore fuel st v4 v6 keys).2.1.n) := by
  intro fuel
  induction fuel with
  | zero => intro st v4 v6 keys; exact hR.refl _
  | succ fuel ih =>
    intro st v4 v6 keys
    unfold recvAndStore
    have h := receivePdu_steps hR hv hr st.c st.n st.t.own Gen.RTR_RECV_TIMEOUT
    generalize receivePdu st.c st.n st.t.own Gen.RTR_RECV_TIMEOUT = res at h
    obtain ⟨rr, c, n⟩ := res
    simp only at h
    cases rr with
    | rc code =>
      simp only
      split
      · exact hR.trans h (changeState_steps hR c n st.t.own .errTransport)
      · exact h
    | ok raw =>
      simp only
      split
      · exact hR.trans h (ih { st with c := c, n := n } _ _ _)
      · exact hR.trans h (ih { st with c := c, n := n } _ _ _)
      · exact hR.trans h (ih { st with c := c, n := n } _ _ _)
      · split
        · -- the End of Data of another session is refused like a PDU of the table stage (`refuse_fatal`)
          exact hR.trans h (refuse_steps hR c n st.t.own raw (.report 0 (txtEodSession st.ss.session (be16 raw 2)) true))
        · exact hR.trans h (applyBuffered_steps hR { st with c := c, n := n } raw v4 v6 keys)
      · exact hR.trans h (handleErrorPdu_steps hR hv c n st.t.own raw)
      · exact hR.trans h (ih { st with c := c, n := n } _ _ _)
      · exact hR.trans h (sendErrorFromHost_steps hR c n raw 8 0 txtUnexpectedSync)

theorem syncFirst_steps : ∀ (fuel : Nat) (st : St), R (st.c, st.n) ((syncFirst fuel st).2.c, (syncFirst fuel st).2.n) := by
  intro fuel
  induction fuel with
  | zero => intro st; exact hR.refl _
  | succ fuel ih =>
    intro st
    exact hR.trans (receivePdu_steps hR hv hr st.c st.n st.t.own Gen.RTR_RECV_TIMEOUT)
      (syncFirst_succ_steps_aux hR hv fuel ih st)

theorem syncFirst_succ_steps (fuel : Nat) (st : St) : R (receivePdu st.c st.n st.t.own Gen.RTR_RECV_TIMEOUT).2
    ((syncFirst (fuel + 1) st).2.c, (syncFirst (fuel + 1) st).2.n) :=
  syncFirst_succ_steps_aux hR hv fuel (syncFirst_steps hR hv hr fuel) st

theorem syncG_after_first_steps (fuel : Nat) (st : St) :
    R ((syncFirst fuel st).2.c, (syncFirst fuel st).2.n) ((syncG fuel st).2.1.c, (syncG fuel st).2.1.n) := by
  unfold syncG
  generalize syncFirst fuel st = sf
  obtain ⟨r, st1⟩ := sf
  cases r with
  | none => exact hR.refl _
  | some raw =>
    simp only
    split
    · exact handleErrorPdu_steps hR hv st1.c st1.n st1.t.own raw
    · exact changeState_steps hR st1.c st1.n st1.t.own .errNoIncr
    · have hc := handleCacheResponse_steps hR st1.c st1.ss st1.n st1.t.own raw
      generalize handleCacheResponse st1.c st1.ss st1.n st1.t.own raw = hcr at hc
      obtain ⟨okc, c2, ss2, n2⟩ := hcr
      simp only at hc ⊢
      split
      · exact hc
      · have hs := hR.trans hc (recvAndStore_steps hR hv hr fuel { st1 with c := c2, ss := ss2, n := n2 } [] [] [])
        generalize recvAndStore fuel { st1 with c := c2, ss := ss2, n := n2 } [] [] [] = rs at hs
        obtain ⟨ok, st2, g⟩ := rs
        simp only at hs ⊢
        split
        · exact hs
        · exact hs
    · exact sendErrorFromHost_steps hR st1.c st1.n raw 8 0 txtUnexpectedSync2

theorem syncG_steps (fuel : Nat) (st : St) : R (st.c, st.n) ((syncG fuel st).2.1.c, (syncG fuel st).2.1.n) :=
  hR.trans (syncFirst_steps hR hv hr fuel st) (syncG_after_first_steps hR hv hr fuel st)

theorem waitForSync_steps (st : St) : R (st.c, st.n) ((waitForSync st).2.c, (waitForSync st).2.n) := by
  rw [waitForSync_eq]
  have h := receivePdu_steps hR hv hr st.c st.n st.t.own (waitTimeout st)
  generalize receivePdu st.c st.n st.t.own (waitTimeout st) = r at h
  obtain ⟨rr, c, n⟩ := r
  cases rr <;> exact h

end steps

/-! ## the version and the first-PDU flag -/

structure ConnSame (a b : Conn × Net) : Prop where
  version : b.1.version = a.1.version
  hasReceived : b.1.hasReceived = a.1.hasReceived

theorem connSame_sendRel : SendRel ConnSame :=
  { refl := fun _ => ⟨rfl, rfl⟩
    trans := fun h1 h2 => ⟨h2.version.trans h1.version, h2.hasReceived.trans h1.hasReceived⟩
    emit := fun _ _ _ => ⟨rfl, rfl⟩
    send := fun _ _ _ => ⟨rfl, rfl⟩
    state := fun _ _ _ => ⟨rfl, rfl⟩ }

theorem changeState_conn (c : Conn) (n : Net) (own : Nat) (s : SState) : ConnSame (c, n) (changeState c n own s) :=
  changeState_steps connSame_sendRel c n own s

/-! ### the live downgrade, case by case -/

theorem downgraded_seen (c : Conn) (hdr : List Nat) (h : c.hasReceived = true) : downgraded c hdr = c := by
  unfold downgraded
  rw [h]
  rfl

theorem downgraded_keep (c : Conn) (hdr : List Nat) (hd : ¬ (c.version = 1 ∧ verOf hdr = 0 ∧ typeOf hdr ≠ 10)) :
    downgraded c hdr = { c with hasReceived := true } := by
  cases h : c.hasReceived with
  | true =>
    rw [downgraded_seen c hdr h, ← h]
  | false =>
    unfold downgraded
    rw [h]
    simp only [Bool.not_false, if_true]
    rw [if_neg hd]

theorem downgraded_same (c : Conn) (hdr : List Nat) (hv : verOf hdr = c.version) :
    downgraded c hdr = { c with hasReceived := true } :=
  downgraded_keep c hdr (fun x => by rw [hv] at x; omega)

theorem downgraded_err (c : Conn) (hdr : List Nat) (h : typeOf hdr = 10) :
    downgraded c hdr = { c with hasReceived := true } :=
  downgraded_keep c hdr (fun x => x.2.2 h)

theorem downgraded_down (c : Conn) (hdr : List Nat) (h1 : c.hasReceived = false) (h2 : c.version = 1)
    (h3 : verOf hdr = 0) (h4 : typeOf hdr ≠ 10) :
    downgraded c hdr = { c with version := 0, hasReceived := true } := by
  unfold downgraded
  simp only [h1, Bool.not_false, if_true]
  rw [if_pos ⟨h2, h3, h4⟩]

theorem downgraded_conn (c : Conn) (hdr : List Nat) :
    ((downgraded c hdr).version = c.version ∨
      (c.hasReceived = false ∧ c.version = 1 ∧ verOf hdr = 0 ∧ typeOf hdr ≠ 10 ∧ (downgraded c hdr).version = 0)) ∧
    (downgraded c hdr).hasReceived = true ∧ (downgraded c hdr).state = c.state := by
  by_cases h : c.hasReceived = true
  · rw [downgraded_seen c hdr h]
    exact ⟨Or.inl rfl, h, rfl⟩
  · have h' : c.hasReceived = false := Bool.eq_false_iff.2 h
    by_cases hd : c.version = 1 ∧ verOf hdr = 0 ∧ typeOf hdr ≠ 10
    · rw [downgraded_down c hdr h' hd.1 hd.2.1 hd.2.2]
      exact ⟨Or.inr ⟨h', hd.1, hd.2.1, hd.2.2, rfl⟩, rfl, rfl⟩
    · rw [downgraded_keep c hdr hd]
      exact ⟨Or.inl rfl, rfl, rfl⟩

theorem downgraded_state (c : Conn) (hdr : List Nat) : (downgraded c hdr).state = c.state :=
  (downgraded_conn c hdr).2.2

/-! ## the ways through `rtr_receive_pdu`

  Every statement about the outcome of a call (which version the socket speaks afterwards, what was
  consumed, what was reported, when a PDU is delivered) is a reading of these leaves.  The converse statements,
  about a stream that holds the header or the announced PDU, do not exclude leaves: they compute the call from
  `receivePdu_of_header` and `recvStage3_of_payload` above. -/

theorem recvAllLoop_stop (len : Nat) (endTime : Int) : ∀ (fuel : Nat) (n : Net) (acc : List Nat),
    0 ≤ (recvAllLoop len endTime fuel n acc).1 → (recvAllLoop len endTime fuel n acc).2.2.2 = false := by
  intro fuel
  induction fuel with
  | zero => intro n acc _; rfl
  | succ fuel ih =>
    intro n acc
    unfold recvAllLoop
    by_cases hlt : acc.length < len
    · rw [if_pos hlt]
      rcases trRecv n (len - acc.length) (endTime - n.now) with ⟨rc, got, n', stop⟩
      simp only
      by_cases hneg : rc < 0
      · rw [if_pos hneg]
        intro h
        exact absurd h (Int.not_le.2 hneg)
      · rw [if_neg hneg]
        exact ih n' (acc ++ got)
    · rw [if_neg hlt]
      intro _
      rfl

theorem recvAll_stop {n : Net} {len : Nat} {t : Int} {rc : Int} {got : List Nat} {m : Net} {stop : Bool}
    (h : recvAll n len t = (rc, got, m, stop)) (hrc : 0 ≤ rc) : stop = false := by
  have := recvAllLoop_stop len (n.now + t) (len + 1) n [] (by rw [← recvAll, h]; exact hrc)
  rwa [← recvAll, h] at this

/-- the ways through `rtr_receive_pdu` once the header `hdr` is there, on a socket that is not shut down:
    the result triple of each, with the `tr_recv_all` call for the payload and the branch taken.
    To read a property of the result off `p : HdrPath c n own hdr (receivePdu …)` (from `receivePdu_path`):
    `generalize receivePdu … = out at p hr` with every hypothesis `hr` that mentions the result, then `cases p`.
    With the result rewritten to a concrete triple beforehand `cases` fails at `payloadFault`, whose result is an
    application of `recvTransportError` and not a triple. -/
inductive HdrPath (c : Conn) (n : Net) (own : Nat) (hdr : List Nat) : RecvRes × Conn × Net → Prop
  | lenSmall (hl : lenOf hdr < 8) : HdrPath c n own hdr (failFatal c n own hdr txtCorrupt)
  | lenBig (hl : lenOf hdr > Gen.RTR_MAX_PDU_LEN) : HdrPath c n own hdr (failFatal c n own hdr txtTooBig)
  | version (h8 : 8 ≤ lenOf hdr) (hm : lenOf hdr ≤ Gen.RTR_MAX_PDU_LEN)
      (hv : verOf hdr ≠ (downgraded c hdr).version ∧ typeOf hdr ≠ 10) :
      HdrPath c n own hdr (.rc (-1), downgraded c hdr, (sendErrorPdu (downgraded c hdr) n hdr 8 []).2)
  | payloadFault (hh : HdrPassed c hdr) {rc2 : Int} {body : List Nat} {n2 : Net} {stop2 : Bool}
      (h2 : recvAll n (lenOf hdr - 8) Gen.RTR_RECV_TIMEOUT = (rc2, body, n2, stop2)) (hneg : rc2 < 0) :
      HdrPath c n own hdr (recvTransportError (applyStop (downgraded c hdr) stop2) n2 own rc2)
  | sizeCheck (hh : HdrPassed c hdr) {rc2 : Int} {body : List Nat} {n2 : Net}
      (h2 : recvAll n (lenOf hdr - 8) Gen.RTR_RECV_TIMEOUT = (rc2, body, n2, false)) (hrc : 0 ≤ rc2)
      (hcs : checkSize (hdr ++ body) = false) :
      HdrPath c n own hdr (failFatal (downgraded c hdr) n2 own hdr txtCorrupt)
  | delivered (hh : HdrPassed c hdr) {rc2 : Int} {body : List Nat} {n2 : Net}
      (h2 : recvAll n (lenOf hdr - 8) Gen.RTR_RECV_TIMEOUT = (rc2, body, n2, false)) (hrc : 0 ≤ rc2)
      (hcs : checkSize (hdr ++ body) = true) :
      HdrPath c n own hdr (.ok (hdr ++ body), downgraded c hdr, n2)

theorem recvStage2_path (c : Conn) (n : Net) (own : Nat) (hdr : List Nat) (hs : c.state ≠ .shutdown) :
    HdrPath c n own hdr (recvStage2 c n own hdr) := by
  by_cases h1 : lenOf hdr < 8
  · rw [recvStage2_lenSmall c n own h1]
    exact .lenSmall h1
  by_cases h2 : lenOf hdr > Gen.RTR_MAX_PDU_LEN
  · rw [recvStage2_lenBig c n own h2]
    exact .lenBig h2
  by_cases h3 : verOf hdr ≠ (downgraded c hdr).version ∧ typeOf hdr ≠ 10
  · rw [recvStage2_version n own (by omega) (by omega) h3]
    exact .version (by omega) (by omega) h3
  have hh : HdrPassed c hdr := ⟨by omega, by omega, h3⟩
  rw [recvStage2_of_passed n own hh]
  unfold recvStage3
  simp only
  rw [if_neg (fun h => hs ((downgraded_state c hdr).symm.trans h.2)), payloadRecv_eq]
  rcases h2 : recvAll n (lenOf hdr - 8) Gen.RTR_RECV_TIMEOUT with ⟨rc2, body, n2, stop2⟩
  simp only
  by_cases hneg : rc2 < 0
  · rw [if_pos hneg]
    exact .payloadFault hh h2 hneg
  rw [if_neg hneg]
  obtain rfl := recvAll_stop h2 (by omega)
  cases hcs : checkSize (hdr ++ body) with
  | false => exact .sizeCheck hh h2 (by omega) hcs
  | true => exact .delivered hh h2 (by omega) hcs

theorem receivePdu_path (c : Conn) (n : Net) (own : Nat) (t : Int) :
    (c.state = .shutdown ∧ receivePdu c n own t = (.rc (-1), c, n)) ∨
    (c.state ≠ .shutdown ∧ ∃ rc hdr n1 stop, recvAll n 8 t = (rc, hdr, n1, stop) ∧
      ((rc < 0 ∧ receivePdu c n own t = recvTransportError (applyStop c stop) n1 own rc) ∨
       (0 ≤ rc ∧ HdrPath c n1 own hdr (receivePdu c n own t)))) := by
  rw [receivePdu_eq]
  by_cases hs : c.state = .shutdown
  · rw [if_pos hs]
    exact Or.inl ⟨hs, rfl⟩
  · rw [if_neg hs]
    rcases h1 : recvAll n 8 t with ⟨rc, hdr, n1, stop⟩
    refine Or.inr ⟨hs, rc, hdr, n1, stop, rfl, ?_⟩
    simp only
    by_cases hneg : rc < 0
    · rw [if_pos hneg]
      exact Or.inl ⟨hneg, rfl⟩
    · rw [if_neg hneg]
      obtain rfl := recvAll_stop h1 (by omega)
      exact Or.inr ⟨by omega, recvStage2_path c n1 own hdr hs⟩

theorem failFatal_conn (c : Conn) (n : Net) (own : Nat) (hdr txt : List Nat) :
    ConnSame (c, n) (failFatal c n own hdr txt).2 :=
  failFatal_steps connSame_sendRel c n own hdr txt

theorem recvTransportError_rc (c : Conn) (n : Net) (own : Nat) (code : Int) (raw : List Nat) :
    (recvTransportError c n own code).1 ≠ .ok raw := by
  rw [recvTransportError_eq]
  exact fun h => nomatch h

theorem receivePdu_conn (c : Conn) (n : Net) (own : Nat) (t : Int) :
    ((receivePdu c n own t).2.1.version = c.version ∨
      (c.hasReceived = false ∧ c.version = 1 ∧ (receivePdu c n own t).2.1.version = 0)) ∧
    (∀ raw, (receivePdu c n own t).1 = .ok raw →
      (∃ body, raw = (recvAll n 8 t).2.1 ++ body) ∧
      (verOf (recvAll n 8 t).2.1 = (receivePdu c n own t).2.1.version ∨ typeOf (recvAll n 8 t).2.1 = 10) ∧
      checkSize raw = true ∧ (receivePdu c n own t).2.1.hasReceived = true) := by
  rcases receivePdu_path c n own t with ⟨_, e⟩ | ⟨_, rc, hdr, n1, stop, h1, ⟨_, e⟩ | ⟨_, p⟩⟩
  · rw [e]
    exact ⟨Or.inl rfl, fun raw h => nomatch h⟩
  · rw [e]
    have a := applyStop_steps connSame_sendRel c n1 stop
    have b := recvTransportError_steps connSame_sendRel (applyStop c stop) n1 own rc
    exact ⟨Or.inl (b.version.trans a.version), fun raw h => absurd h (recvTransportError_rc _ n1 own rc raw)⟩
  · rw [h1]
    have d := downgraded_conn c hdr
    have dv : (downgraded c hdr).version = c.version ∨
        (c.hasReceived = false ∧ c.version = 1 ∧ (downgraded c hdr).version = 0) :=
      d.1.elim Or.inl fun h => Or.inr ⟨h.1, h.2.1, h.2.2.2.2⟩
    generalize receivePdu c n own t = r at p
    cases p with
    | lenSmall _ => exact ⟨Or.inl (failFatal_conn c n1 own hdr _).version, fun raw h => nomatch h⟩
    | lenBig _ => exact ⟨Or.inl (failFatal_conn c n1 own hdr _).version, fun raw h => nomatch h⟩
    | version _ _ _ => exact ⟨dv, fun raw h => nomatch h⟩
    | @payloadFault _ rc2 body n2 stop2 _ _ =>
      have a := applyStop_steps connSame_sendRel (downgraded c hdr) n2 stop2
      have b := recvTransportError_steps connSame_sendRel (applyStop (downgraded c hdr) stop2) n2 own rc2
      rw [b.1, a.1]
      exact ⟨dv, fun raw h => absurd h (recvTransportError_rc _ n2 own rc2 raw)⟩
    | sizeCheck _ _ _ _ =>
      rw [(failFatal_conn (downgraded c hdr) _ own hdr _).version]
      exact ⟨dv, fun raw h => nomatch h⟩
    | delivered hh _ _ hcs =>
      refine ⟨dv, fun raw h => ?_⟩
      cases h
      refine ⟨⟨_, rfl⟩, ?_, hcs, d.2.1⟩
      by_cases h10 : typeOf hdr = 10
      · exact Or.inr h10
      · exact Or.inl (Decidable.byContradiction fun hv' => hh.version ⟨hv', h10⟩)

end Rtr.P
