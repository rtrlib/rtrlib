/-
  CLinkIo: what the translated `tr_send_all` and `tr_recv_all` (rtrlib/transport/transport.c; loops as fuel-recursive
  auxiliaries, external calls through `C.World`) do - for EVERY world (clock readings, transport answers) and all arguments.

  Specification (mathematical integers, no fuel): `ioLoop` / `ioAll`
      read the clock once: deadline = clock₀ + timeout
      while total < len:  read the clock (reading k+1 before the k-th call)
                          call the transport with (pdu + total, len - total, deadline - now)
                          a negative answer is returned at once; otherwise total += answer
      return total
  defined by recursion on the list of (clock reading, answer) pairs the world will supply; it yields the return value and
  the trace: the list of calls (`IoCall`: address, length, timeout, and the answer given).

  The translated functions are this specification under the side conditions listed at `tr_send_all_eq` (`RunOk` bundles
  them, `runOk_of_world` derives them from conditions on the world alone).  What the checks rely on is stated about the
  translated functions: contiguous, non-overlapping pieces (`tr_send_all_chunks`); one deadline, fixed by the first clock
  reading and never re-armed (`*_timeouts`); a non-negative return value of `tr_recv_all` is exactly `len`
  (`tr_recv_all_never_short`); a transport answering 0 for ever gives no result (`*_zero_spins`).  Inputs the side
  conditions exclude are evaluated in RtrProofs/CLinkIoOutside.lean.

  Robustness: both functions are instances of one notion, `IsXfer` (RtrProofs/CLinkXfer.lean: the text of the prologue
  and of one round, over a byte counter of either width); the inductions are done once, about any `IsXfer`
  (`ioLoop_link`, `IsXfer.eq`, `IsXfer.zero_spins`). What is proved of each generated function is that its text is that
  round (`send_isXfer`, `recv_isXfer`), and that does not navigate the generated term: one unfolding, comparisons to
  number facts (`io_unfold`), every `if` that is left decided by `omega` or `bv_omega` (`io_decide_ifs`). The type of the
  byte counter, and any new variable that lives across the loop, appears in the statements of these two instances only
  (not in the theorems about the functions).
-/
import RtrProofs.CLink
import RtrProofs.CLinkXfer

namespace Rtr.CLink
open Rtr Rtr.Gen

/-! ## specification -/

/-- one transport call as the specification sees it: what was handed over, and what the transport answered -/
structure IoCall where
  buf : Nat
  len : Nat
  /-- timeout handed over (signed) -/
  tmo : Int
  /-- the transport's answer: a byte count, or a negative error code -/
  ans : Int
deriving DecidableEq, Repr

/-- the loop. `steps`: for every call still to come, the clock reading taken just before it and the transport's answer;
    `total`: bytes done so far. Result: the return value and the calls made, `none` if `steps` ends before the loop does. -/
def ioLoop (pdu len : Nat) (deadline : Int) : List (Int × Int) → Nat → Option (Int × List IoCall)
  | [], total => if len ≤ total then some ((total : Int), []) else none
  | (now, a) :: rest, total =>
    if len ≤ total then some ((total : Int), [])
    else if a < 0 then some (a, [⟨pdu + total, len - total, deadline - now, a⟩])
    else (ioLoop pdu len deadline rest (total + a.toNat)).map
      fun r => (r.1, ⟨pdu + total, len - total, deadline - now, a⟩ :: r.2)

/-- the whole function: the deadline is the first clock reading plus `timeout` -/
def ioAll (pdu len : Nat) (clock0 timeout : Int) (steps : List (Int × Int)) : Option (Int × List IoCall) :=
  ioLoop pdu len (clock0 + timeout) steps 0

/-- bytes the transport took/delivered in a trace -/
def got (tr : List IoCall) : Nat := (tr.map fun c => c.ans.toNat).sum

@[simp] theorem got_nil : got [] = 0 := rfl
@[simp] theorem got_cons (c : IoCall) (tr : List IoCall) : got (c :: tr) = c.ans.toNat + got tr := by
  simp [got]
theorem got_append (a b : List IoCall) : got (a ++ b) = got a + got b := by
  simp [got]

/-! ### properties of the specification -/

theorem ioLoop_done {pdu len : Nat} {dl : Int} {total : Nat} (h : len ≤ total) (steps : List (Int × Int)) :
    ioLoop pdu len dl steps total = some ((total : Int), []) := by
  cases steps with
  | nil => simp [ioLoop, h]
  | cons s rest => obtain ⟨now, a⟩ := s; simp [ioLoop, h]

/-- Induction over finished runs. A run that finishes ends at `len` without a call, or with a call that is answered
    negatively, or makes a call that is answered non-negatively and goes on, from the new count, as a finished run. -/
theorem ioLoop_ind {pdu len : Nat} {dl : Int} {motive : List (Int × Int) → Nat → Int → List IoCall → Prop}
    (done : ∀ steps total, len ≤ total → motive steps total (total : Int) [])
    (fail : ∀ now a rest total, total < len → a < 0 →
      motive ((now, a) :: rest) total a [⟨pdu + total, len - total, dl - now, a⟩])
    (more : ∀ now a rest total rc tr, total < len → 0 ≤ a →
      ioLoop pdu len dl rest (total + a.toNat) = some (rc, tr) → motive rest (total + a.toNat) rc tr →
      motive ((now, a) :: rest) total rc (⟨pdu + total, len - total, dl - now, a⟩ :: tr)) :
    ∀ steps total rc tr, ioLoop pdu len dl steps total = some (rc, tr) → motive steps total rc tr := by
  intro steps total
  fun_induction ioLoop pdu len dl steps total
  case case1 total h =>
    intro rc tr hr
    cases hr
    exact done [] total h
  case case2 =>
    intro rc tr hr
    cases hr
  case case3 now a rest total h =>
    intro rc tr hr
    cases hr
    exact done _ total h
  case case4 now a rest total h ha =>
    intro rc tr hr
    cases hr
    exact fail now a rest total (Nat.lt_of_not_le h) ha
  case case5 now a rest total h ha ih =>
    intro rc tr hr
    obtain ⟨⟨rc', tr'⟩, h1, h2⟩ := Option.map_eq_some_iff.mp hr
    cases h2
    exact more now a rest total rc' tr' (Nat.lt_of_not_le h) (Int.not_lt.mp ha) h1 (ih rc' tr' h1)

/-- more supplied steps do not change a result -/
theorem ioLoop_append {pdu len : Nat} {dl : Int} (more : List (Int × Int)) :
    ∀ (steps : List (Int × Int)) (total : Nat) (r : Int × List IoCall),
      ioLoop pdu len dl steps total = some r → ioLoop pdu len dl (steps ++ more) total = some r := by
  intro steps total r
  refine ioLoop_ind (motive := fun steps total rc tr => ioLoop pdu len dl (steps ++ more) total = some (rc, tr))
    ?_ ?_ ?_ steps total r.1 r.2
  · intro steps total h
    exact ioLoop_done h _
  · intro now a rest total h ha
    simp only [List.cons_append, ioLoop, if_neg (Nat.not_le_of_lt h), if_pos ha]
  · intro now a rest total rc tr h ha _ ih
    simp only [List.cons_append, ioLoop, if_neg (Nat.not_le_of_lt h), if_neg (Int.not_lt.mpr ha), ih, Option.map_some]

/-- a finished run call by call, and how it ends -/
theorem ioLoop_run {pdu len : Nat} {dl : Int} :
    ∀ (steps : List (Int × Int)) (total : Nat) (rc : Int) (tr : List IoCall),
      ioLoop pdu len dl steps total = some (rc, tr) →
      (∀ k (hk : k < tr.length), ∃ hk' : k < steps.length,
        total + got (tr.take k) < len ∧
        tr[k] = ⟨pdu + (total + got (tr.take k)), len - (total + got (tr.take k)), dl - steps[k].1, steps[k].2⟩) ∧
      ((rc = ((total + got tr : Nat) : Int) ∧ len ≤ total + got tr ∧ ∀ c ∈ tr, 0 ≤ c.ans) ∨
       (rc < 0 ∧ ∃ tr₀ c, tr = tr₀ ++ [c] ∧ c.ans = rc ∧ ∀ c' ∈ tr₀, 0 ≤ c'.ans)) := by
  refine ioLoop_ind ?_ ?_ ?_
  · intro steps total h
    exact ⟨fun k hk => absurd hk (Nat.not_lt_zero k), Or.inl ⟨by simp, by simpa using h, by simp⟩⟩
  · intro now a rest total h ha
    refine ⟨fun k hk => ?_, Or.inr ⟨ha, [], _, rfl, rfl, by simp⟩⟩
    have : k = 0 := by simpa using hk
    subst this
    exact ⟨by simp, by simpa using h, by simp⟩
  · intro now a rest total rc tr h ha _ ih
    obtain ⟨ih1, ih2⟩ := ih
    refine ⟨fun k hk => ?_, ?_⟩
    · cases k with
      | zero => exact ⟨by simp, by simpa using h, by simp⟩
      | succ k =>
        obtain ⟨hk', h2, h3⟩ := ih1 k (by simpa using hk)
        refine ⟨by simpa using hk', ?_, ?_⟩
        · simp only [List.take_succ_cons, got_cons]
          omega
        · simp only [List.getElem_cons_succ, List.take_succ_cons, got_cons, h3, Nat.add_assoc]
    · -- the call made here was answered non-negatively
      have hmem : ∀ (l : List IoCall), (∀ c ∈ l, 0 ≤ c.ans) →
          ∀ c ∈ (⟨pdu + total, len - total, dl - now, a⟩ : IoCall) :: l, 0 ≤ c.ans := by
        intro l hl c hc
        rcases List.mem_cons.mp hc with rfl | hc
        · exact ha
        · exact hl c hc
      rcases ih2 with ⟨e1, e2, e3⟩ | ⟨e1, tr₀, c, e2, e3, e4⟩
      · refine Or.inl ⟨?_, ?_, hmem _ e3⟩
        · simp only [e1, got_cons]
          omega
        · simp only [got_cons]
          omega
      · exact Or.inr ⟨e1, _ :: tr₀, c, by simp [e2], e3, hmem _ e4⟩

/-- under the transport contract the count never passes `len`: the last call was made below `len` and was answered
    with at most what it asked for -/
theorem ioLoop_got_le {pdu len : Nat} {dl : Int} (steps : List (Int × Int)) (total : Nat) (rc : Int) (tr : List IoCall)
    (h : ioLoop pdu len dl steps total = some (rc, tr)) (hc : ∀ c ∈ tr, c.ans ≤ c.len) (hle : total ≤ len) :
    total + got tr ≤ len := by
  rcases tr.eq_nil_or_concat with rfl | ⟨tr₀, c, rfl⟩
  · simpa using hle
  · obtain ⟨_, h1, h2⟩ := (ioLoop_run _ _ _ _ h).1 tr₀.length (by simp)
    have h3 := hc c (by simp)
    simp only [List.concat_eq_append, List.take_left', List.getElem_concat_length] at h1 h2
    rw [h2] at h3
    simp only at h3
    rw [List.concat_eq_append, got_append, got_cons, got_nil, h2]
    simp only
    omega

theorem ioLoop_terminates {pdu len : Nat} {dl : Int} :
    ∀ (steps : List (Int × Int)) (total : Nat), (∀ s ∈ steps, s.2 ≠ 0) → len ≤ total + steps.length →
      ∃ r, ioLoop pdu len dl steps total = some r := by
  intro steps
  induction steps with
  | nil => intro total _ h; exact ⟨_, ioLoop_done (by simpa using h) _⟩
  | cons s rest ih =>
    obtain ⟨now, a⟩ := s
    intro total hz h
    simp only [ioLoop]
    split
    · exact ⟨_, rfl⟩
    · split
      · exact ⟨_, rfl⟩
      · rename_i ha
        have h0 : a ≠ 0 := hz (now, a) (List.mem_cons_self)
        obtain ⟨r, hr⟩ := ih (total + a.toNat) (fun s hs => hz s (List.mem_cons_of_mem _ hs))
          (by simp only [List.length_cons] at h; omega)
        exact ⟨_, by rw [hr]; rfl⟩

/-! ## world side -/

/-- the next `n` (clock reading, answer) pairs of a world whose next reading is number `c` and next answer number `i` -/
def stepsFrom (clock : Nat → BitVec 64) (io : Nat → BitVec 32) : Nat → Nat → Nat → List (Int × Int)
  | 0, _, _ => []
  | n + 1, c, i => ((clock c).toInt, (io i).toInt) :: stepsFrom clock io n (c + 1) (i + 1)

/-- a call as `C.extIo` records it -/
def enc (c : IoCall) : Nat × BitVec 64 × BitVec 64 := (c.buf, BitVec.ofNat 64 c.len, BitVec.ofInt 64 c.tmo)

/-- the world after the loop made the calls `tr`: one clock reading and one answer consumed per call -/
def after (w : C.World) (tr : List IoCall) : C.World :=
  { w with nclock := w.nclock + tr.length, nio := w.nio + tr.length, calls := w.calls ++ tr.map enc }

/-- side conditions on one call: the transport answered at most what it was asked for, and the timeout
    `end_time - cur_time` is representable in `time_t` -/
def CallOk (c : IoCall) : Prop := c.ans ≤ c.len ∧ -9223372036854775808 ≤ c.tmo ∧ c.tmo < 9223372036854775808

theorem after_nil (w : C.World) : after w [] = w := by
  simp [after]

theorem after_after (w : C.World) (a b : List IoCall) : after (after w a) b = after w (a ++ b) := by
  simp only [after, List.length_append, List.map_append, List.append_assoc, Nat.add_assoc]

/-- the world as `C.extTime` and `C.extIo` leave it after one round of the loop -/
theorem world_after_one (w : C.World) (c : IoCall) (x : Nat × BitVec 64 × BitVec 64) (hx : x = enc c) :
    ({ clock := w.clock, io := w.io, nclock := w.nclock + 1, nio := w.nio + 1, calls := w.calls ++ [x] } : C.World)
      = after w [c] := by
  subst hx
  rfl

/-! ### numbers behind the bit-vector operations of the loop -/

theorem zext32_toNat (x : BitVec 32) : (BitVec.setWidth 64 x).toNat = x.toNat :=
  zext64_toNat x

theorem add_toNat_of_nonneg {w : Nat} (x y : BitVec w) (hy : 0 ≤ y.toInt) (h : x.toNat + y.toInt.toNat < 2 ^ w) :
    (x + y).toNat = x.toNat + y.toInt.toNat := by
  have e : y.toInt.toNat = y.toNat := by
    rw [BitVec.toInt_eq_toNat_cond] at hy ⊢
    split at hy <;> omega
  rw [e] at h ⊢
  rw [BitVec.toNat_add, Nat.mod_eq_of_lt h]

theorem ssub_ok (x y : BitVec 64) (h1 : -9223372036854775808 ≤ x.toInt - y.toInt) (h2 : x.toInt - y.toInt < 9223372036854775808) :
    x.ssubOverflow y = false :=
  (ssubOverflow_eq_false_iff x y).2 ⟨h1, h2⟩

theorem ofInt_sub_toInt (x y : BitVec 64) : BitVec.ofInt 64 (x.toInt - y.toInt) = x - y := by
  rw [← BitVec.toInt_inj, BitVec.toInt_ofInt, BitVec.toInt_sub]

theorem ofNat_sub_toNat (x y : BitVec 64) (h : y.toNat ≤ x.toNat) : BitVec.ofNat 64 (x.toNat - y.toNat) = x - y := by
  apply BitVec.eq_of_toNat_eq
  rw [BitVec.toNat_ofNat, BitVec.toNat_sub_of_le (BitVec.le_def.mpr h)]
  have := x.isLt; omega

theorem ofInt32_natCast_toNat (x : BitVec 32) : BitVec.ofInt 32 (x.toNat : Int) = x :=
  ofInt_natCast_toNat x
theorem ofInt32_natCast_toNat64 (x : BitVec 64) : BitVec.ofInt 32 (x.toNat : Int) = BitVec.setWidth 32 x := by
  rw [BitVec.ofInt_natCast, BitVec.ofNat_toNat]

-- `io_unfold` lists the comparison lemmas of both counter widths, so at every call some are not used
set_option linter.unusedSimpArgs false

/-- the argument triple handed to the transport is the specification's call: remaining length and remaining time are
    differences of 64-bit values that do not wrap -/
theorem enc_call (buf : Nat) (x y a b : BitVec 64) (ans : Int) (h : y.toNat ≤ x.toNat) :
    (buf, x - y, a - b) = enc ⟨buf, x.toNat - y.toNat, a.toInt - b.toInt, ans⟩ := by
  simp only [enc, ofInt_sub_toInt, ofNat_sub_toNat x y h]

/-! ### the translated loops: one round, and the induction -/

/-- one unfolding of a translated loop, conditions as propositions about numbers -/
macro "io_unfold" loop:ident "with" h:term : tactic => `(tactic|
  simp only [$loop:ident, C.extTime, C.extIo, BitVec.ult_eq_decide, BitVec.ule_eq_decide, BitVec.slt_eq_decide,
    BitVec.sle_eq_decide, zext32_toNat, BitVec.toInt_zero, BitVec.toNat_zero, BitVec.reduceToInt, BitVec.reduceToNat,
    BitVec.toNat_ofNat, Nat.zero_mod, $h:term,
    Bool.not_false, Bool.not_true, Bool.and_true, Bool.true_and, Bool.and_eq_true, Bool.not_eq_true', Bool.not_eq_eq_eq_not,
    decide_eq_true_eq, decide_eq_false_iff_not, if_true, if_false, eq_self])

/-- decide every remaining `if` by linear arithmetic from the facts in the context -/
macro "io_decide_ifs" : tactic => `(tactic|
  repeat' (split <;> try (exfalso; first | omega | bv_omega)))

/-- closes `x = enc c` for the triple `x` the translated text hands to the transport: components compared, the
    bit-vector differences by `bv_omega` (`enc_call` is this fact as a lemma).  Only `io_loop_link` calls it. -/
macro "io_enc" : tactic => `(tactic|
  (simp only [enc, ofInt_sub_toInt, Prod.mk.injEq, true_and, and_true]; try bv_omega))

set_option hygiene false in
/-- the induction over a translated loop written as one script: by cases of the specification, one unfolding per case.
    No proof calls this, and `some_after_one`, `some_after_cons`, `add32_toNat`, `add64_sext_toNat`, which it names, are
    not defined; `ioLoop_link` is this induction as a theorem about any `IsXfer`. -/
local macro "io_loop_link" loop:ident : tactic => `(tactic| (
  intro n
  induction n with
  | zero =>
    intro fuel w total rc tr hf hinv hs hok
    obtain ⟨f, rfl⟩ : ∃ f, fuel = f + 1 := ⟨fuel - 1, by omega⟩
    have hle : len.toNat ≤ total.toNat := by
      simp only [stepsFrom, ioLoop] at hs; split at hs <;> first | assumption | cases hs
    rw [ioLoop_done hle] at hs
    simp only [Option.some.injEq, Prod.mk.injEq] at hs
    obtain ⟨rfl, rfl⟩ := hs
    io_unfold $loop with true_and
    io_decide_ifs
    simp only [ofInt32_natCast_toNat, ofInt32_natCast_toNat64, after_nil]
  | succ n ih =>
    intro fuel w total rc tr hf hinv hs hok
    obtain ⟨f, rfl⟩ : ∃ f, fuel = f + 1 := ⟨fuel - 1, by omega⟩
    rcases Nat.lt_or_ge total.toNat len.toNat with hlt | hle
    · have hnle : ¬ len.toNat ≤ total.toNat := by omega
      have hg : pdu + total.toNat ≤ msize := by omega
      simp only [stepsFrom, ioLoop, hnle, if_false] at hs
      split at hs
      · rename_i hneg
        simp only [Option.some.injEq, Prod.mk.injEq] at hs
        obtain ⟨rfl, rfl⟩ := hs
        have hc := hok _ (List.mem_singleton.mpr rfl)
        have hso := ssub_ok end_time (w.clock w.nclock) hc.2.1 hc.2.2
        io_unfold $loop with hso
        io_decide_ifs
        rw [BitVec.ofInt_toInt]
        refine some_after_one _ _ _ _ ?_
        io_enc
      · rename_i hneg
        simp only [Option.map_eq_some_iff, Prod.mk.injEq] at hs
        obtain ⟨⟨rc', tr'⟩, hs', rfl, rfl⟩ := hs
        have hc := hok _ List.mem_cons_self
        have hso := ssub_ok end_time (w.clock w.nclock) hc.2.1 hc.2.2
        have h0 : 0 ≤ (w.io w.nio).toInt := Int.not_lt.mp hneg
        have hsum : total.toNat + (w.io w.nio).toInt.toNat ≤ len.toNat := by
          have := hc.1; simp only at this; omega
        have h64 := len.isLt
        io_unfold $loop with hso
        io_decide_ifs
        refine (ih _ _ _ rc' tr' (by omega) ?_ ?_ (fun c hc' => hok c (List.mem_cons_of_mem _ hc'))).trans
          (some_after_cons _ _ _ _ _ ?_)
        · first
            | rw [add32_toNat _ _ h0 (by omega)]; exact hsum
            | rw [add64_sext_toNat _ _ h0 (by omega)]; exact hsum
        · first
            | rw [add32_toNat _ _ h0 (by omega)]; exact hs'
            | rw [add64_sext_toNat _ _ h0 (by omega)]; exact hs'
        · io_enc
    · rw [ioLoop_done hle] at hs
      simp only [Option.some.injEq, Prod.mk.injEq] at hs
      obtain ⟨rfl, rfl⟩ := hs
      io_unfold $loop with true_and
      io_decide_ifs
      simp only [ofInt32_natCast_toNat, ofInt32_natCast_toNat64, after_nil]))

/-- The loop of a transfer function (`IsXfer`: the text of a round over a counter `K`) is the specification `ioLoop`,
    for every supply of steps on which that finishes with calls that are `CallOk`, provided the object has `len` bytes
    and the counter's type holds `len`. -/
theorem ioLoop_link {α : Type} {K : Counter α} {L : BitVec 64 → Nat → C.World → α → Option (BitVec 32 × C.World)}
    {F : C.World → Option (BitVec 32 × C.World)} {msize pdu : Nat} {len timeout : BitVec 64}
    (h : IsXfer K L F msize pdu len timeout) (hptr : pdu + len.toNat ≤ msize) (hlen : len.toNat < K.bound)
    (e : BitVec 64) :
    ∀ (n fuel : Nat) (w : C.World) (t : α) (rc : Int) (tr : List IoCall), n < fuel →
      ioLoop pdu len.toNat e.toInt (stepsFrom w.clock w.io n w.nclock w.nio) (K.val t) = some (rc, tr) →
      (∀ c ∈ tr, CallOk c) → L e fuel w t = some (BitVec.ofInt 32 rc, after w tr) := by
  -- a round below `len` whose call is `CallOk`: the guards hold, the world afterwards is `after w [c]`
  have hstep : ∀ f w t (c : IoCall), K.val t < len.toNat →
      c = ⟨pdu + K.val t, len.toNat - K.val t, e.toInt - (w.clock w.nclock).toInt, (w.io w.nio).toInt⟩ → CallOk c →
      L e (f + 1) w t =
        if c.ans < 0 then some (BitVec.ofInt 32 c.ans, after w [c]) else L e f (after w [c]) (K.add t (w.io w.nio)) := by
    intro f w t c hlt hc hok
    subst hc
    have hw := world_after_one w _ _ (enc_call (pdu + K.val t) len (K.cnt t) e (w.clock w.nclock) (w.io w.nio).toInt
      (by rw [h.val_cnt]; omega))
    rw [h.val_cnt] at hw
    rw [h.round, if_pos hlt, if_pos ⟨by omega, ssub_ok e (w.clock w.nclock) hok.2.1 hok.2.2⟩, hw, BitVec.ofInt_toInt]
  intro n fuel w t rc tr hf hs hok
  -- by induction over the finished run of the specification, for every world that supplies its steps
  refine ioLoop_ind (motive := fun steps total rc tr => ∀ n fuel w t, steps = stepsFrom w.clock w.io n w.nclock w.nio →
      K.val t = total → n < fuel → (∀ c ∈ tr, CallOk c) → L e fuel w t = some (BitVec.ofInt 32 rc, after w tr))
    ?_ ?_ ?_ _ _ rc tr hs n fuel w t rfl rfl hf hok
  · intro steps total hle n fuel w t _ ht hf _
    obtain ⟨f, rfl⟩ := Nat.exists_eq_add_one_of_ne_zero (Nat.ne_of_gt (Nat.zero_lt_of_lt hf))
    subst ht
    rw [after_nil, h.round, if_neg (Nat.not_lt.mpr hle), h.ret_val]
  · intro now a rest total hlt ha n fuel w t hst ht hf hok
    obtain ⟨f, rfl⟩ := Nat.exists_eq_add_one_of_ne_zero (Nat.ne_of_gt (Nat.zero_lt_of_lt hf))
    cases n with
    | zero => cases hst
    | succ n =>
      simp only [stepsFrom, List.cons.injEq, Prod.mk.injEq] at hst
      obtain ⟨⟨rfl, rfl⟩, _⟩ := hst
      subst ht
      rw [hstep f w t _ hlt rfl (hok _ (List.mem_singleton.mpr rfl)), if_pos ha]
  · intro now a rest total rc tr hlt ha _ ih n fuel w t hst ht hf hok
    obtain ⟨f, rfl⟩ := Nat.exists_eq_add_one_of_ne_zero (Nat.ne_of_gt (Nat.zero_lt_of_lt hf))
    cases n with
    | zero => cases hst
    | succ n =>
      simp only [stepsFrom, List.cons.injEq, Prod.mk.injEq] at hst
      obtain ⟨⟨rfl, rfl⟩, rfl⟩ := hst
      subst ht
      have hc := hok _ List.mem_cons_self
      have hans := hc.1
      simp only at hans
      rw [hstep f w t _ hlt rfl hc, if_neg (Int.not_lt.mpr ha)]
      exact (ih n f (after w [_]) _ rfl (h.val_add t (w.io w.nio) ha (by omega)) (Nat.lt_of_succ_lt_succ hf)
        (fun c hc' => hok c (List.mem_cons_of_mem _ hc'))).trans (by rw [after_after]; rfl)

/-! ## the whole functions -/

theorem sadd_ok (x y : BitVec 64) (h1 : -9223372036854775808 ≤ x.toInt + y.toInt) (h2 : x.toInt + y.toInt < 9223372036854775808) :
    x.saddOverflow y = false :=
  (saddOverflow_eq_false_iff x y).2 ⟨h1, h2⟩

theorem toInt_add_range (x y : BitVec 64) (h1 : -9223372036854775808 ≤ x.toInt + y.toInt)
    (h2 : x.toInt + y.toInt < 9223372036854775808) : (x + y).toInt = x.toInt + y.toInt :=
  BitVec.toInt_add_of_not_saddOverflow (by rw [sadd_ok x y h1 h2]; decide)

/-- the deadline `clock₀ + timeout` is representable -/
def DeadlineOk (c0 t : Int) : Prop := -9223372036854775808 ≤ c0 + t ∧ c0 + t < 9223372036854775808

/-- the world after a run: one clock reading for the deadline, then one reading and one transport call per entry -/
def afterAll (w : C.World) (tr : List IoCall) : C.World :=
  { w with nclock := w.nclock + 1 + tr.length, nio := w.nio + tr.length, calls := w.calls ++ tr.map enc }

theorem after_first (w : C.World) (tr : List IoCall) :
    after { clock := w.clock, io := w.io, nclock := w.nclock + 1, nio := w.nio, calls := w.calls } tr = afterAll w tr := rfl

theorem fuel_ok {n : Nat} (h : n ≤ 18446744073709551616) : n < C.FUEL := by
  unfold C.FUEL; omega

set_option hygiene false in
/-- from the loop to the function, as a script: the first clock reading fixes the deadline.  No proof calls this;
    `IsXfer.eq` is this step as a theorem. -/
local macro "io_all_link" f:ident loopeq:term : tactic => `(tactic| (
  have ha1 := sadd_ok (w.clock w.nclock) timeout hdl.1 hdl.2
  have ha2 := sadd_ok timeout (w.clock w.nclock) (by have := hdl.1; omega) (by have := hdl.2; omega)
  have he1 := toInt_add_range (w.clock w.nclock) timeout hdl.1 hdl.2
  have he2 := toInt_add_range timeout (w.clock w.nclock) (by have := hdl.1; omega) (by have := hdl.2; omega)
  simp only [$f:ident, C.extTime, ha1, ha2, Bool.not_false, if_true]
  refine ($loopeq n C.FUEL _ _ rc tr (fuel_ok hn) (by simp) ?_ hok).trans ?_
  · simp only [ioAll] at hspec
    first
      | rw [he1]; exact hspec
      | rw [he2, Int.add_comm]; exact hspec
  · rw [after_first]))

/-- a transfer function is the specification `ioAll`: the first clock reading fixes the deadline
    (the side conditions are explained at `tr_send_all_eq`) -/
theorem IsXfer.eq {α : Type} {K : Counter α} {L : BitVec 64 → Nat → C.World → α → Option (BitVec 32 × C.World)}
    {F : C.World → Option (BitVec 32 × C.World)} {msize pdu : Nat} {len timeout : BitVec 64}
    (h : IsXfer K L F msize pdu len timeout) (w : C.World) (n : Nat) (rc : Int) (tr : List IoCall)
    (hn : n ≤ 18446744073709551616) (hptr : pdu + len.toNat ≤ msize) (hlen : len.toNat < K.bound)
    (hdl : DeadlineOk (w.clock w.nclock).toInt timeout.toInt)
    (hspec : ioAll pdu len.toNat (w.clock w.nclock).toInt timeout.toInt
      (stepsFrom w.clock w.io n (w.nclock + 1) w.nio) = some (rc, tr))
    (hok : ∀ c ∈ tr, CallOk c) : F w = some (BitVec.ofInt 32 rc, afterAll w tr) := by
  rw [h.start, if_pos (sadd_ok (w.clock w.nclock) timeout hdl.1 hdl.2)]
  refine (ioLoop_link h hptr hlen _ n C.FUEL _ _ rc tr (fuel_ok hn) ?_ hok).trans ?_
  · rw [toInt_add_range (w.clock w.nclock) timeout hdl.1 hdl.2, h.val_zero]
    exact hspec
  · rw [after_first]

/-- `tr_send_all` is a transfer function over an `unsigned int` counter. Of the generated text only its normal form is
    used (`io_unfold`); where that is not literally the round of `IsXfer`, the `if`s are decided one against the other. -/
theorem send_isXfer (mem : Nat → BitVec 8) (msize : Nat) (socket : C.S_tr_socket) (pdu : Nat) (len timeout : BitVec 64) :
    IsXfer ⟨BitVec.toNat, BitVec.setWidth 64, (· + ·), id, 0#32, 4294967296⟩
      (fun e f w t => C.tr_send_all.loop1 f w mem msize e len pdu socket timeout t)
      (fun w => C.tr_send_all w mem msize socket pdu len timeout) msize pdu len timeout where
  start := by
    intro w
    io_unfold C.tr_send_all with true_and
  out_of_fuel := fun _ _ _ => rfl
  round := by
    intro e f w t
    io_unfold C.tr_send_all.loop1 with true_and
    all_goals io_decide_ifs
    all_goals rfl
  val_zero := rfl
  val_cnt := zext32_toNat
  val_lt := fun t => t.isLt
  val_add := fun t a h0 h => add_toNat_of_nonneg t a h0 h
  ret_val := fun t => (ofInt32_natCast_toNat t).symm

/-- `tr_recv_all` is a transfer function over a `size_t` counter: the `int` answer is sign-extended before it is added,
    the count truncated to `int` at the end -/
theorem recv_isXfer (mem : Nat → BitVec 8) (msize : Nat) (socket : C.S_tr_socket) (pdu : Nat) (len timeout : BitVec 64) :
    IsXfer ⟨BitVec.toNat, id, fun t a => t + BitVec.signExtend 64 a, BitVec.setWidth 32, 0#64, 18446744073709551616⟩
      (fun e f w t => C.tr_recv_all.loop1 f w mem msize e len pdu socket timeout t)
      (fun w => C.tr_recv_all w mem msize socket pdu len timeout) msize pdu len timeout where
  start := by
    intro w
    io_unfold C.tr_recv_all with true_and
  out_of_fuel := fun _ _ _ => rfl
  round := by
    intro e f w t
    io_unfold C.tr_recv_all.loop1 with true_and
    all_goals io_decide_ifs
    all_goals rfl
  val_zero := rfl
  val_cnt := fun _ => rfl
  val_lt := fun t => t.isLt
  val_add := by
    intro t a h0 h
    rw [← BitVec.toInt_signExtend_of_le (v := 64) (by decide)] at h0 h ⊢
    exact add_toNat_of_nonneg t _ h0 h
  ret_val := fun t => (ofInt32_natCast_toNat64 t).symm

/-- `tr_send_all` as translated = the specification. Side conditions, each necessary for the reason given:
    * `hn`     the `n` supplied steps suffice for the specification to finish (`hspec`) and `n ≤ 2^64` (the fuel of the
               translated loop is 2^64+1). With a transport that never answers 0, `n = len` always suffices
               (`ioAll_terminates_of_progress`); a 0 answer makes no progress and costs one more round - a transport that
               answers 0 forever gives no result at all (`tr_send_all_zero_spins`)
    * `hptr`   `pdu + len ≤ msize`: the object has `len` bytes, so every `pdu + total` stays inside it
    * `hlen`   `len < 2^32` (tr_send_all only): the counter `total_send` is an `unsigned int` compared with a `size_t`;
               for `len ≥ 2^32` it wraps and the buffer is offered again from its start (CLinkIoOutside.lean)
    * `hdl`    `end_time + timeout` does not overflow `time_t` (signed overflow is undefined)
    * `hok`    for every call made: the answer is at most the length asked for (otherwise the count passes `len` and is
               returned as such - and could wrap the 32-bit counter), and `end_time - cur_time` does not overflow -/
theorem tr_send_all_eq (w : C.World) (mem : Nat → BitVec 8) (msize : Nat) (socket : C.S_tr_socket) (pdu : Nat)
    (len timeout : BitVec 64) (n : Nat) (rc : Int) (tr : List IoCall)
    (hn : n ≤ 18446744073709551616)
    (hptr : pdu + len.toNat ≤ msize)
    (hlen : len.toNat < 4294967296)
    (hdl : DeadlineOk (w.clock w.nclock).toInt timeout.toInt)
    (hspec : ioAll pdu len.toNat (w.clock w.nclock).toInt timeout.toInt
      (stepsFrom w.clock w.io n (w.nclock + 1) w.nio) = some (rc, tr))
    (hok : ∀ c ∈ tr, CallOk c) :
    C.tr_send_all w mem msize socket pdu len timeout = some (BitVec.ofInt 32 rc, afterAll w tr) :=
  (send_isXfer mem msize socket pdu len timeout).eq w n rc tr hn hptr hlen hdl hspec hok

/-- `tr_recv_all` as translated = the specification; no bound on `len` is needed (the counter is a `size_t`) -/
theorem tr_recv_all_eq (w : C.World) (mem : Nat → BitVec 8) (msize : Nat) (socket : C.S_tr_socket) (pdu : Nat)
    (len timeout : BitVec 64) (n : Nat) (rc : Int) (tr : List IoCall)
    (hn : n ≤ 18446744073709551616)
    (hptr : pdu + len.toNat ≤ msize)
    (hdl : DeadlineOk (w.clock w.nclock).toInt timeout.toInt)
    (hspec : ioAll pdu len.toNat (w.clock w.nclock).toInt timeout.toInt
      (stepsFrom w.clock w.io n (w.nclock + 1) w.nio) = some (rc, tr))
    (hok : ∀ c ∈ tr, CallOk c) :
    C.tr_recv_all w mem msize socket pdu len timeout = some (BitVec.ofInt 32 rc, afterAll w tr) :=
  (recv_isXfer mem msize socket pdu len timeout).eq w n rc tr hn hptr len.isLt hdl hspec hok

/-! ## the trace in closed form, in terms of the world -/

/-- bytes answered by the first `k` transport calls of a run that starts at answer number `i` -/
def sumAns (io : Nat → BitVec 32) (i : Nat) : Nat → Nat
  | 0 => 0
  | k + 1 => sumAns io i k + (io (i + k)).toInt.toNat

theorem stepsFrom_length (clock : Nat → BitVec 64) (io : Nat → BitVec 32) :
    ∀ (n c i : Nat), (stepsFrom clock io n c i).length = n := by
  intro n
  induction n with
  | zero => intro c i; rfl
  | succ n ih => intro c i; simp [stepsFrom, ih]

theorem stepsFrom_getElem (clock : Nat → BitVec 64) (io : Nat → BitVec 32) :
    ∀ (n c i k : Nat) (h : k < (stepsFrom clock io n c i).length),
      (stepsFrom clock io n c i)[k] = ((clock (c + k)).toInt, (io (i + k)).toInt) := by
  intro n
  induction n with
  | zero => intro c i k h; simp [stepsFrom] at h
  | succ n ih =>
    intro c i k h
    cases k with
    | zero => simp [stepsFrom]
    | succ k =>
      simp only [stepsFrom, List.getElem_cons_succ]
      rw [ih]; simp only [Nat.add_assoc, Nat.add_comm 1 k]

theorem got_take_eq_sumAns (io : Nat → BitVec 32) (i : Nat) (tr : List IoCall)
    (h : ∀ k (hk : k < tr.length), tr[k].ans = (io (i + k)).toInt) :
    ∀ k, k ≤ tr.length → got (tr.take k) = sumAns io i k := by
  intro k
  induction k with
  | zero => intro _; simp [sumAns]
  | succ k ih =>
    intro hk
    rw [List.take_succ_eq_append_getElem (by omega), got_append, ih (by omega)]
    simp [sumAns, h k (by omega)]

/-- the `k`-th call of a run on world `w`, as the specification describes it -/
def specCall (w : C.World) (pdu : Nat) (len timeout : BitVec 64) (k : Nat) : IoCall :=
  { buf := pdu + sumAns w.io w.nio k
    len := len.toNat - sumAns w.io w.nio k
    tmo := (w.clock w.nclock).toInt + timeout.toInt - (w.clock (w.nclock + 1 + k)).toInt
    ans := (w.io (w.nio + k)).toInt }

theorem ioAll_trace_getElem {w : C.World} {pdu : Nat} {len timeout : BitVec 64} {n : Nat} {rc : Int} {tr : List IoCall}
    (hspec : ioAll pdu len.toNat (w.clock w.nclock).toInt timeout.toInt
      (stepsFrom w.clock w.io n (w.nclock + 1) w.nio) = some (rc, tr)) :
    ∀ k (hk : k < tr.length), tr[k] = specCall w pdu len timeout k ∧ sumAns w.io w.nio k < len.toNat := by
  have hpt := (ioLoop_run _ _ _ _ hspec).1
  have hans : ∀ k (hk : k < tr.length), tr[k].ans = (w.io (w.nio + k)).toInt := by
    intro k hk
    obtain ⟨hk', _, h2⟩ := hpt k hk
    rw [h2, stepsFrom_getElem]
  intro k hk
  obtain ⟨hk', h1, h2⟩ := hpt k hk
  rw [got_take_eq_sumAns w.io w.nio tr hans k (by omega), Nat.zero_add] at h1 h2
  refine ⟨?_, h1⟩
  rw [h2, stepsFrom_getElem]
  rfl

theorem ioAll_trace_eq {w : C.World} {pdu : Nat} {len timeout : BitVec 64} {n : Nat} {rc : Int} {tr : List IoCall}
    (hspec : ioAll pdu len.toNat (w.clock w.nclock).toInt timeout.toInt
      (stepsFrom w.clock w.io n (w.nclock + 1) w.nio) = some (rc, tr)) :
    tr = (List.range tr.length).map (specCall w pdu len timeout) := by
  apply List.ext_getElem (by simp)
  intro k h1 h2
  rw [(ioAll_trace_getElem hspec k h1).1]
  simp

theorem ioAll_trace_ans {w : C.World} {pdu : Nat} {len timeout : BitVec 64} {n : Nat} {rc : Int} {tr : List IoCall}
    (hspec : ioAll pdu len.toNat (w.clock w.nclock).toInt timeout.toInt
      (stepsFrom w.clock w.io n (w.nclock + 1) w.nio) = some (rc, tr)) (k : Nat) (hk : k < tr.length) :
    tr[k].ans = (w.io (w.nio + k)).toInt := by
  rw [(ioAll_trace_getElem hspec k hk).1]
  rfl

theorem ioAll_got {w : C.World} {pdu : Nat} {len timeout : BitVec 64} {n : Nat} {rc : Int} {tr : List IoCall}
    (hspec : ioAll pdu len.toNat (w.clock w.nclock).toInt timeout.toInt
      (stepsFrom w.clock w.io n (w.nclock + 1) w.nio) = some (rc, tr)) :
    got tr = sumAns w.io w.nio tr.length := by
  have h := got_take_eq_sumAns w.io w.nio tr (ioAll_trace_ans hspec) tr.length (Nat.le_refl _)
  rwa [List.take_length] at h

theorem ioAll_end {w : C.World} {pdu : Nat} {len timeout : BitVec 64} {n : Nat} {rc : Int} {tr : List IoCall}
    (hspec : ioAll pdu len.toNat (w.clock w.nclock).toInt timeout.toInt
      (stepsFrom w.clock w.io n (w.nclock + 1) w.nio) = some (rc, tr)) :
    (rc = (sumAns w.io w.nio tr.length : Nat) ∧ len.toNat ≤ sumAns w.io w.nio tr.length ∧
        ∀ k, k < tr.length → 0 ≤ (w.io (w.nio + k)).toInt) ∨
    (rc < 0 ∧ 0 < tr.length ∧ rc = (w.io (w.nio + (tr.length - 1))).toInt ∧
        ∀ k, k + 1 < tr.length → 0 ≤ (w.io (w.nio + k)).toInt) := by
  have hans := ioAll_trace_ans hspec
  have hgot := ioAll_got hspec
  rcases (ioLoop_run _ _ _ _ hspec).2 with ⟨e1, e2, e3⟩ | ⟨e1, tr₀, c, e2, e3, e4⟩
  · left
    rw [Nat.zero_add, hgot] at e1 e2
    refine ⟨e1, e2, ?_⟩
    intro k hk
    rw [← hans k hk]; exact e3 _ (List.getElem_mem hk)
  · right
    have hl : tr.length = tr₀.length + 1 := by rw [e2]; simp
    refine ⟨e1, by omega, ?_, ?_⟩
    · rw [← hans (tr.length - 1) (by omega), ← e3]
      simp [e2]
    · intro k hk
      have hk0 : k < tr₀.length := by omega
      rw [← hans k (by omega)]
      have : tr[k]'(by omega) = tr₀[k] := by simp [e2, List.getElem_append_left hk0]
      rw [this]; exact e4 _ (List.getElem_mem hk0)

/-! ## the side conditions, bundled; sufficient conditions on the world -/

/-- the side conditions of one run on world `w`, bundled (each is explained at `tr_send_all_eq`) -/
structure RunOk (w : C.World) (msize pdu : Nat) (len timeout : BitVec 64) (n : Nat) (rc : Int) (tr : List IoCall) :
    Prop where
  fuel : n ≤ 18446744073709551616
  ptr : pdu + len.toNat ≤ msize
  deadline : DeadlineOk (w.clock w.nclock).toInt timeout.toInt
  spec : ioAll pdu len.toNat (w.clock w.nclock).toInt timeout.toInt
    (stepsFrom w.clock w.io n (w.nclock + 1) w.nio) = some (rc, tr)
  calls : ∀ c ∈ tr, CallOk c

/-- clock readings `0 … n` of the run are non-negative and below 2^62 -/
def ClockBounded (w : C.World) (n : Nat) : Prop :=
  ∀ k, k ≤ n → 0 ≤ (w.clock (w.nclock + k)).toInt ∧ (w.clock (w.nclock + k)).toInt < 4611686018427387904

def TimeoutBounded (t : BitVec 64) : Prop := -4611686018427387904 ≤ t.toInt ∧ t.toInt < 4611686018427387904

theorem time_ok_of_bounded {w : C.World} {pdu : Nat} {len timeout : BitVec 64} {n : Nat} {rc : Int} {tr : List IoCall}
    (hc : ClockBounded w n) (ht : TimeoutBounded timeout)
    (hspec : ioAll pdu len.toNat (w.clock w.nclock).toInt timeout.toInt
      (stepsFrom w.clock w.io n (w.nclock + 1) w.nio) = some (rc, tr)) :
    DeadlineOk (w.clock w.nclock).toInt timeout.toInt ∧
      ∀ c ∈ tr, -9223372036854775808 ≤ c.tmo ∧ c.tmo < 9223372036854775808 := by
  have h0 := hc 0 (Nat.zero_le _)
  rw [Nat.add_zero] at h0
  obtain ⟨t1, t2⟩ := ht
  refine ⟨⟨by omega, by omega⟩, ?_⟩
  intro c hmem
  obtain ⟨k, hk, rfl⟩ := List.mem_iff_getElem.mp hmem
  obtain ⟨hk', _⟩ := (ioLoop_run _ _ _ _ hspec).1 k hk
  rw [stepsFrom_length] at hk'
  rw [(ioAll_trace_getElem hspec k hk).1]
  have hk1 := hc (1 + k) (by omega)
  rw [← Nat.add_assoc] at hk1
  simp only [specCall]
  omega

theorem ioAll_terminates_of_progress (w : C.World) (pdu : Nat) (len timeout : BitVec 64)
    (hprog : ∀ k, k < len.toNat → w.io (w.nio + k) ≠ 0#32) :
    ∃ rc tr, ioAll pdu len.toNat (w.clock w.nclock).toInt timeout.toInt
      (stepsFrom w.clock w.io len.toNat (w.nclock + 1) w.nio) = some (rc, tr) := by
  have := ioLoop_terminates (pdu := pdu) (len := len.toNat) (dl := (w.clock w.nclock).toInt + timeout.toInt)
    (stepsFrom w.clock w.io len.toNat (w.nclock + 1) w.nio) 0 ?_ (by rw [stepsFrom_length]; omega)
  · obtain ⟨⟨rc, tr⟩, h⟩ := this; exact ⟨rc, tr, h⟩
  · intro s hs
    obtain ⟨k, hk, rfl⟩ := List.mem_iff_getElem.mp hs
    rw [stepsFrom_getElem]
    rw [stepsFrom_length] at hk
    intro h0
    apply hprog k hk
    apply BitVec.toInt_inj.mp
    simpa using h0

theorem runOk_of_world (w : C.World) (msize pdu : Nat) (len timeout : BitVec 64)
    (hptr : pdu + len.toNat ≤ msize) (hc : ClockBounded w len.toNat) (ht : TimeoutBounded timeout)
    (hprog : ∀ k, k < len.toNat → w.io (w.nio + k) ≠ 0#32)
    (hcontract : ∀ k, k < len.toNat → sumAns w.io w.nio k < len.toNat →
      (w.io (w.nio + k)).toInt ≤ ((len.toNat - sumAns w.io w.nio k : Nat) : Int)) :
    ∃ rc tr, RunOk w msize pdu len timeout len.toNat rc tr := by
  obtain ⟨rc, tr, hspec⟩ := ioAll_terminates_of_progress w pdu len timeout hprog
  obtain ⟨hd, htm⟩ := time_ok_of_bounded hc ht hspec
  refine ⟨rc, tr, ⟨by have := len.isLt; omega, hptr, hd, hspec, ?_⟩⟩
  intro c hmem
  refine ⟨?_, htm c hmem⟩
  obtain ⟨k, hk, rfl⟩ := List.mem_iff_getElem.mp hmem
  obtain ⟨hk', _⟩ := (ioLoop_run _ _ _ _ hspec).1 k hk
  rw [stepsFrom_length] at hk'
  obtain ⟨e, hlt⟩ := ioAll_trace_getElem hspec k hk
  rw [e]
  exact hcontract k hk' hlt

/-! ## what the checks rely on, about the translated functions -/

section corollaries
variable {w : C.World} {msize pdu : Nat} {len timeout : BitVec 64} {n : Nat} {rc : Int} {tr : List IoCall}

theorem tr_send_all_of_runOk (h : RunOk w msize pdu len timeout n rc tr) (hlen : len.toNat < 4294967296)
    (mem : Nat → BitVec 8) (socket : C.S_tr_socket) :
    C.tr_send_all w mem msize socket pdu len timeout = some (BitVec.ofInt 32 rc, afterAll w tr) :=
  tr_send_all_eq w mem msize socket pdu len timeout n rc tr h.fuel h.ptr hlen h.deadline h.spec h.calls

theorem tr_recv_all_of_runOk (h : RunOk w msize pdu len timeout n rc tr)
    (mem : Nat → BitVec 8) (socket : C.S_tr_socket) :
    C.tr_recv_all w mem msize socket pdu len timeout = some (BitVec.ofInt 32 rc, afterAll w tr) :=
  tr_recv_all_eq w mem msize socket pdu len timeout n rc tr h.fuel h.ptr h.deadline h.spec h.calls

theorem RunOk.calls_eq (h : RunOk w msize pdu len timeout n rc tr) :
    (afterAll w tr).calls = w.calls ++ (List.range tr.length).map fun k => enc (specCall w pdu len timeout k) := by
  simp only [afterAll]
  conv => lhs; rw [ioAll_trace_eq h.spec]
  rw [List.map_map]; rfl

theorem RunOk.sum_le (h : RunOk w msize pdu len timeout n rc tr) : sumAns w.io w.nio tr.length ≤ len.toNat := by
  have hgot := ioAll_got h.spec
  have := ioLoop_got_le _ _ _ _ h.spec (fun c hc => (h.calls c hc).1) (Nat.zero_le _)
  omega

/-- how a run ends: complete (all answers non-negative, summing to exactly `len`, which is returned) or failed (the
    last answer is the only negative one, and it is returned) -/
theorem RunOk.result (h : RunOk w msize pdu len timeout n rc tr) :
    (rc = (len.toNat : Int) ∧ BitVec.ofInt 32 rc = BitVec.setWidth 32 len ∧ sumAns w.io w.nio tr.length = len.toNat ∧
        ∀ k, k < tr.length → 0 ≤ (w.io (w.nio + k)).toInt) ∨
    (rc < 0 ∧ 0 < tr.length ∧ BitVec.ofInt 32 rc = w.io (w.nio + (tr.length - 1)) ∧
        (BitVec.ofInt 32 rc).toInt = rc ∧ ∀ k, k + 1 < tr.length → 0 ≤ (w.io (w.nio + k)).toInt) := by
  rcases ioAll_end h.spec with ⟨e1, e2, e3⟩ | ⟨e1, e2, e3, e4⟩
  · left
    have hs := h.sum_le
    have hsum : sumAns w.io w.nio tr.length = len.toNat := by omega
    rw [hsum] at e1
    refine ⟨e1, ?_, hsum, e3⟩
    rw [e1, BitVec.ofInt_natCast, BitVec.ofNat_toNat]
  · right
    refine ⟨e1, e2, ?_, ?_, e4⟩
    · rw [e3, BitVec.ofInt_toInt]
    · rw [e3, BitVec.ofInt_toInt]

/-- `tr_send_all` hands the buffer to the transport in contiguous, non-overlapping pieces: the `k`-th call gets the
    address `pdu + (sum of the previous answers)` and the length `len - that sum` (> 0); if all answers are non-negative
    they add up to exactly `len` and `(int)len` is returned - every byte was handed over exactly once, however the
    transport split the writes; otherwise the first negative answer is returned and it was the last call. -/
theorem tr_send_all_chunks (h : RunOk w msize pdu len timeout n rc tr) (hlen : len.toNat < 4294967296)
    (mem : Nat → BitVec 8) (socket : C.S_tr_socket) :
    ∃ r w', C.tr_send_all w mem msize socket pdu len timeout = some (r, w') ∧
      w'.nio = w.nio + tr.length ∧
      w'.calls = w.calls ++ (List.range tr.length).map (fun k => enc (specCall w pdu len timeout k)) ∧
      (∀ k, k < tr.length →
        (specCall w pdu len timeout k).buf = pdu + sumAns w.io w.nio k ∧
        (specCall w pdu len timeout k).len = len.toNat - sumAns w.io w.nio k ∧
        sumAns w.io w.nio k < len.toNat ∧
        sumAns w.io w.nio (k + 1) = sumAns w.io w.nio k + (w.io (w.nio + k)).toInt.toNat ∧
        sumAns w.io w.nio (k + 1) ≤ len.toNat) ∧
      ((r = BitVec.setWidth 32 len ∧ sumAns w.io w.nio tr.length = len.toNat ∧
          ∀ k, k < tr.length → 0 ≤ (w.io (w.nio + k)).toInt) ∨
       (r.toInt < 0 ∧ 0 < tr.length ∧ r = w.io (w.nio + (tr.length - 1)) ∧
          ∀ k, k + 1 < tr.length → 0 ≤ (w.io (w.nio + k)).toInt)) := by
  refine ⟨_, _, tr_send_all_of_runOk h hlen mem socket, rfl, h.calls_eq, ?_, ?_⟩
  · intro k hk
    refine ⟨rfl, rfl, (ioAll_trace_getElem h.spec k hk).2, rfl, ?_⟩
    have hc := (h.calls _ (List.getElem_mem hk)).1
    have hlt := (ioAll_trace_getElem h.spec k hk).2
    rw [(ioAll_trace_getElem h.spec k hk).1] at hc
    simp only [specCall, sumAns] at hc ⊢
    omega
  · rcases h.result with ⟨_, e2, e3, e4⟩ | ⟨e1, e2, e3, e4, e5⟩
    · exact Or.inl ⟨e2, e3, e4⟩
    · exact Or.inr ⟨by rw [e4]; exact e1, e2, e3, e5⟩

/-- the timeout of the `k`-th call, as the signed number the transport receives, is `clock₀ + timeout - clock_{k+1}`:
    the deadline is fixed by the FIRST clock reading and never re-armed -/
theorem RunOk.timeout_eq (h : RunOk w msize pdu len timeout n rc tr) (k : Nat) (hk : k < tr.length) :
    (enc (specCall w pdu len timeout k)).2.2.toInt
      = (w.clock w.nclock).toInt + timeout.toInt - (w.clock (w.nclock + 1 + k)).toInt := by
  have hc := (h.calls _ (List.getElem_mem hk)).2
  rw [(ioAll_trace_getElem h.spec k hk).1] at hc
  simp only [enc]
  rw [BitVec.toInt_ofInt_eq_self (by decide) (by simpa using hc.1) (by simpa using hc.2)]
  rfl

/-- consequences for every call of a run: the time left is `timeout` minus the time elapsed since the first reading;
    once the clock has reached the deadline the timeout handed over is ≤ 0; with a monotone clock no call gets more than
    `timeout`, and later calls get no more than earlier ones -/
theorem RunOk.timeouts (h : RunOk w msize pdu len timeout n rc tr) (k : Nat) (hk : k < tr.length) :
    let tmo := fun j => (enc (specCall w pdu len timeout j)).2.2.toInt
    let clk := fun j => (w.clock (w.nclock + j)).toInt
    tmo k = timeout.toInt - (clk (1 + k) - clk 0) ∧
    (clk 0 + timeout.toInt ≤ clk (1 + k) → tmo k ≤ 0) ∧
    (clk 0 ≤ clk (1 + k) → tmo k ≤ timeout.toInt) ∧
    (∀ j, j < k → clk (1 + j) ≤ clk (1 + k) → tmo k ≤ tmo j) := by
  intro tmo clk
  have e := h.timeout_eq k hk
  have hk' : tmo k = clk 0 + timeout.toInt - clk (1 + k) := by
    simp only [tmo, clk, e, Nat.add_zero, Nat.add_assoc]
  refine ⟨by omega, by omega, by omega, ?_⟩
  intro j hj hmono
  have ej := h.timeout_eq j (by omega)
  have hj' : tmo j = clk 0 + timeout.toInt - clk (1 + j) := by
    simp only [tmo, clk, ej, Nat.add_zero, Nat.add_assoc]
  omega

theorem tr_send_all_timeouts (h : RunOk w msize pdu len timeout n rc tr) (hlen : len.toNat < 4294967296)
    (mem : Nat → BitVec 8) (socket : C.S_tr_socket) :
    ∃ r w', C.tr_send_all w mem msize socket pdu len timeout = some (r, w') ∧
      w'.nclock = w.nclock + 1 + tr.length ∧
      w'.calls = w.calls ++ (List.range tr.length).map (fun k => enc (specCall w pdu len timeout k)) ∧
      ∀ k, k < tr.length →
        (enc (specCall w pdu len timeout k)).2.2.toInt
          = (w.clock w.nclock).toInt + timeout.toInt - (w.clock (w.nclock + 1 + k)).toInt :=
  ⟨_, _, tr_send_all_of_runOk h hlen mem socket, rfl, h.calls_eq, h.timeout_eq⟩

theorem tr_recv_all_timeouts (h : RunOk w msize pdu len timeout n rc tr)
    (mem : Nat → BitVec 8) (socket : C.S_tr_socket) :
    ∃ r w', C.tr_recv_all w mem msize socket pdu len timeout = some (r, w') ∧
      w'.nclock = w.nclock + 1 + tr.length ∧
      w'.calls = w.calls ++ (List.range tr.length).map (fun k => enc (specCall w pdu len timeout k)) ∧
      ∀ k, k < tr.length →
        (enc (specCall w pdu len timeout k)).2.2.toInt
          = (w.clock w.nclock).toInt + timeout.toInt - (w.clock (w.nclock + 1 + k)).toInt :=
  ⟨_, _, tr_recv_all_of_runOk h mem socket, rfl, h.calls_eq, h.timeout_eq⟩

/-- `tr_recv_all` never returns after a short read: a non-negative return value is exactly `len`, and then the answers
    of the transport add up to `len` (for `len < 2^31`, where `(int)len` keeps the value; in general the value returned
    by a complete read is `len` truncated to 32 bits) -/
theorem tr_recv_all_never_short (h : RunOk w msize pdu len timeout n rc tr)
    (mem : Nat → BitVec 8) (socket : C.S_tr_socket) :
    ∃ r w', C.tr_recv_all w mem msize socket pdu len timeout = some (r, w') ∧
      ((r = BitVec.setWidth 32 len ∧ sumAns w.io w.nio (w'.nio - w.nio) = len.toNat) ∨
       (r.toInt < 0 ∧ 0 < w'.nio - w.nio ∧ r = w.io (w'.nio - 1))) ∧
      (len.toNat < 2147483648 → 0 ≤ r.toInt →
        r.toInt = len.toNat ∧ sumAns w.io w.nio (w'.nio - w.nio) = len.toNat) := by
  refine ⟨_, _, tr_recv_all_of_runOk h mem socket, ?_, ?_⟩
  · have e : (afterAll w tr).nio - w.nio = tr.length := by simp [afterAll]
    rw [e]
    rcases h.result with ⟨_, e2, e3, _⟩ | ⟨e1, e2, e3, e4, _⟩
    · exact Or.inl ⟨e2, e3⟩
    · refine Or.inr ⟨by rw [e4]; exact e1, e2, ?_⟩
      rw [e3]; congr 1; simp only [afterAll]; omega
  · intro hl hr
    have e : (afterAll w tr).nio - w.nio = tr.length := by simp [afterAll]
    rw [e]
    rcases h.result with ⟨e1, _, e3, _⟩ | ⟨e1, _, _, e4, _⟩
    · refine ⟨?_, e3⟩
      rw [e1, BitVec.toInt_ofInt_eq_self (by decide) (by simp <;> omega) (by simp <;> omega)]
    · omega

end corollaries

/-- the equation from conditions on the world and the arguments alone: object of `len` bytes, `len < 2^32`, clock
    readings in `[0, 2^62)`, timeout in `[-2^62, 2^62)`, a transport that never answers 0 and never more than the
    length it is asked for (`len - (sum of the previous answers)`) -/
theorem tr_send_all_of_world (w : C.World) (mem : Nat → BitVec 8) (msize : Nat) (socket : C.S_tr_socket) (pdu : Nat)
    (len timeout : BitVec 64) (hptr : pdu + len.toNat ≤ msize) (hlen : len.toNat < 4294967296)
    (hc : ClockBounded w len.toNat) (ht : TimeoutBounded timeout)
    (hprog : ∀ k, k < len.toNat → w.io (w.nio + k) ≠ 0#32)
    (hcontract : ∀ k, k < len.toNat → sumAns w.io w.nio k < len.toNat →
      (w.io (w.nio + k)).toInt ≤ ((len.toNat - sumAns w.io w.nio k : Nat) : Int)) :
    ∃ rc tr, RunOk w msize pdu len timeout len.toNat rc tr ∧
      C.tr_send_all w mem msize socket pdu len timeout = some (BitVec.ofInt 32 rc, afterAll w tr) := by
  obtain ⟨rc, tr, h⟩ := runOk_of_world w msize pdu len timeout hptr hc ht hprog hcontract
  exact ⟨rc, tr, h, tr_send_all_of_runOk h hlen mem socket⟩

theorem tr_recv_all_of_world (w : C.World) (mem : Nat → BitVec 8) (msize : Nat) (socket : C.S_tr_socket) (pdu : Nat)
    (len timeout : BitVec 64) (hptr : pdu + len.toNat ≤ msize)
    (hc : ClockBounded w len.toNat) (ht : TimeoutBounded timeout)
    (hprog : ∀ k, k < len.toNat → w.io (w.nio + k) ≠ 0#32)
    (hcontract : ∀ k, k < len.toNat → sumAns w.io w.nio k < len.toNat →
      (w.io (w.nio + k)).toInt ≤ ((len.toNat - sumAns w.io w.nio k : Nat) : Int)) :
    ∃ rc tr, RunOk w msize pdu len timeout len.toNat rc tr ∧
      C.tr_recv_all w mem msize socket pdu len timeout = some (BitVec.ofInt 32 rc, afterAll w tr) := by
  obtain ⟨rc, tr, h⟩ := runOk_of_world w msize pdu len timeout hptr hc ht hprog hcontract
  exact ⟨rc, tr, h, tr_recv_all_of_runOk h mem socket⟩

/-! ## a transport that answers 0 for ever -/

/-- only `io_spin` names this -/
theorem sext_zero : BitVec.signExtend 64 0#32 = 0#64 := by decide

set_option hygiene false in
/-- the induction on the fuel for a transport that answers 0, as a script.  No proof calls this;
    `IsXfer.loop_zero_spins` is this induction as a theorem. -/
local macro "io_spin" loop:ident : tactic => `(tactic| (
  intro fuel
  induction fuel with
  | zero => intro w total _ _; rfl
  | succ f ih =>
    intro w total hz hlt
    have hz0 : w.io w.nio = 0#32 := by simpa using hz 0
    have hz' : ∀ k, w.io (w.nio + 1 + k) = 0#32 := by
      intro k; rw [Nat.add_assoc]; exact hz (1 + k)
    io_unfold $loop with hz0
    simp only [BitVec.add_zero, sext_zero, BitVec.toInt_zero, Int.lt_irrefl, Int.le_refl, if_false, if_true]
    io_decide_ifs
    all_goals first | rfl | exact ih _ _ hz' hlt))

/-- a transport that answers 0 makes no progress: the loop calls it again and again with the same buffer and length
    (each round reads the clock, so the timeouts handed over keep falling) and never returns by itself -
    the loop has no result, whatever the fuel -/
theorem IsXfer.loop_zero_spins {α : Type} {K : Counter α}
    {L : BitVec 64 → Nat → C.World → α → Option (BitVec 32 × C.World)} {F : C.World → Option (BitVec 32 × C.World)}
    {msize pdu : Nat} {len timeout : BitVec 64} (h : IsXfer K L F msize pdu len timeout) (e : BitVec 64) :
    ∀ (fuel : Nat) (w : C.World) (t : α), (∀ k, w.io (w.nio + k) = 0#32) → K.val t < len.toNat → L e fuel w t = none := by
  intro fuel
  induction fuel with
  | zero =>
    intro w t _ _
    exact h.out_of_fuel e w t
  | succ f ih =>
    intro w t hz hlt
    have hz0 : w.io w.nio = 0#32 := hz 0
    rw [h.round, if_pos hlt, hz0]
    -- where the guards fail there is no result either
    refine ite_cases_lhs (fun _ => ?_) (fun _ => rfl)
    rw [if_neg (by decide)]
    refine ih _ _ (fun k => ?_) ?_
    · rw [Nat.add_assoc]
      exact hz (1 + k)
    · rw [h.val_add t 0#32 (by decide) (by simpa using h.val_lt t)]
      simpa using hlt

theorem IsXfer.zero_spins {α : Type} {K : Counter α}
    {L : BitVec 64 → Nat → C.World → α → Option (BitVec 32 × C.World)} {F : C.World → Option (BitVec 32 × C.World)}
    {msize pdu : Nat} {len timeout : BitVec 64} (h : IsXfer K L F msize pdu len timeout) (w : C.World)
    (hz : ∀ k, w.io (w.nio + k) = 0#32) (hlen : 0 < len.toNat) : F w = none := by
  rw [h.start]
  refine ite_cases_lhs (fun _ => ?_) (fun _ => rfl)
  exact h.loop_zero_spins _ _ _ _ hz (by rw [h.val_zero]; exact hlen)

theorem tr_send_all_zero_spins (w : C.World) (mem : Nat → BitVec 8) (msize : Nat) (socket : C.S_tr_socket) (pdu : Nat)
    (len timeout : BitVec 64) (hz : ∀ k, w.io (w.nio + k) = 0#32) (hlen : 0 < len.toNat) :
    C.tr_send_all w mem msize socket pdu len timeout = none :=
  (send_isXfer mem msize socket pdu len timeout).zero_spins w hz hlen

theorem tr_recv_all_zero_spins (w : C.World) (mem : Nat → BitVec 8) (msize : Nat) (socket : C.S_tr_socket) (pdu : Nat)
    (len timeout : BitVec 64) (hz : ∀ k, w.io (w.nio + k) = 0#32) (hlen : 0 < len.toNat) :
    C.tr_recv_all w mem msize socket pdu len timeout = none :=
  (recv_isXfer mem msize socket pdu len timeout).zero_spins w hz hlen

/-! ## non-vacuity: the translated functions run on concrete worlds (kernel evaluation, full fuel) -/

/-- what can be compared of a result: return value, clock readings and transport calls consumed, and the calls
    (address, length, timeout as a signed number) -/
structure Obs where
  rc : Int
  nclock : Nat
  nio : Nat
  calls : List (Nat × Nat × Int)
deriving DecidableEq, Repr

def obs (r : Option (BitVec 32 × C.World)) : Option Obs :=
  r.map fun p => ⟨p.1.toInt, p.2.nclock, p.2.nio, p.2.calls.map fun c => (c.1, c.2.1.toNat, c.2.2.toInt)⟩

/-- a world from a list of clock readings and a list of transport answers (0 beyond the lists) -/
def mkWorld (clock : List Nat) (io : List Int) : C.World :=
  { clock := fun i => BitVec.ofNat 64 (clock.getD i 0), io := fun i => BitVec.ofInt 32 (io.getD i 0) }

def noMem : Nat → BitVec 8 := fun _ => 0

/-- answers 3, 5, 4 for 12 bytes; clock 100 (deadline 160), then 100, 130, 161: three calls, contiguous pieces,
    timeouts 60, 30, -1 (the deadline has passed and is not re-armed), return 12 -/
example : obs (C.tr_send_all (mkWorld [100, 100, 130, 161] [3, 5, 4]) noMem 1012 ⟨()⟩ 1000 12 60)
    = some ⟨12, 4, 3, [(1000, 12, 60), (1003, 9, 30), (1008, 4, -1)]⟩ := by decide +kernel
example : obs (C.tr_recv_all (mkWorld [100, 100, 130, 161] [3, 5, 4]) noMem 1012 ⟨()⟩ 1000 12 60)
    = some ⟨12, 4, 3, [(1000, 12, 60), (1003, 9, 30), (1008, 4, -1)]⟩ := by decide +kernel

/-- a negative answer (-2 = TR_WOULDBLOCK) in the middle is returned at once; the third answer is never asked for -/
example : obs (C.tr_send_all (mkWorld [100, 100, 130, 161] [3, -2, 4]) noMem 1012 ⟨()⟩ 1000 12 60)
    = some ⟨-2, 3, 2, [(1000, 12, 60), (1003, 9, 30)]⟩ := by decide +kernel
example : obs (C.tr_recv_all (mkWorld [100, 100, 130, 161] [3, -2, 4]) noMem 1012 ⟨()⟩ 1000 12 60)
    = some ⟨-2, 3, 2, [(1000, 12, 60), (1003, 9, 30)]⟩ := by decide +kernel

/-- a world in the middle of its history: earlier calls stay, numbering continues -/
example : obs (C.tr_recv_all { mkWorld [7, 7, 100, 100, 130] [9, 3, 9] with nclock := 2, nio := 1, calls := [(5, 6#64, 7#64)] }
      noMem 1012 ⟨()⟩ 1000 12 60)
    = some ⟨12, 5, 3, [(5, 6, 7), (1000, 12, 60), (1003, 9, 30)]⟩ := by decide +kernel

/-- answers 0: the same piece is offered again, the timeout keeps falling -/
example : obs (C.tr_recv_all (mkWorld [100, 100, 130, 161, 170] [0, 0, 0, 12]) noMem 1012 ⟨()⟩ 1000 12 60)
    = some ⟨12, 5, 4, [(1000, 12, 60), (1000, 12, 30), (1000, 12, -1), (1000, 12, -10)]⟩ := by decide +kernel

/-- the pointer guard: an object shorter than `len` is not touched beyond its end - no result -/
example : obs (C.tr_recv_all (mkWorld [100, 100, 130] [3, 5, 4]) noMem 1002 ⟨()⟩ 1000 12 60) = none := by decide +kernel

instance : DecidablePred CallOk := fun c => by unfold CallOk; infer_instance
instance (c0 t : Int) : Decidable (DeadlineOk c0 t) := by unfold DeadlineOk; infer_instance

/-- the hypotheses of the theorems are satisfiable: a concrete run with its trace -/
theorem runOk_example : RunOk (mkWorld [100, 100, 130, 161] [3, 5, 4]) 1012 1000 12 60 3 12
    [⟨1000, 12, 60, 3⟩, ⟨1003, 9, 30, 5⟩, ⟨1008, 4, -1, 4⟩] :=
  ⟨by decide, by decide, by decide, by decide, by decide⟩

theorem runOk_example_neg : RunOk (mkWorld [100, 100, 130, 161] [3, -2, 4]) 1012 1000 12 60 3 (-2)
    [⟨1000, 12, 60, 3⟩, ⟨1003, 9, 30, -2⟩] :=
  ⟨by decide, by decide, by decide, by decide, by decide⟩

/-- and the theorem yields the evaluated result -/
example : C.tr_send_all (mkWorld [100, 100, 130, 161] [3, 5, 4]) noMem 1012 ⟨()⟩ 1000 12 60
    = some (12#32, afterAll (mkWorld [100, 100, 130, 161] [3, 5, 4]) [⟨1000, 12, 60, 3⟩, ⟨1003, 9, 30, 5⟩, ⟨1008, 4, -1, 4⟩]) :=
  tr_send_all_of_runOk runOk_example (by decide) noMem ⟨()⟩

/-! ### outside the hypotheses (more in RtrProofs/CLinkIoOutside.lean: examples pinned to the current source) -/

/-- a clock reading so far from the deadline that `end_time - cur_time` overflows `time_t`: undefined - no result -/
example : obs (C.tr_recv_all (mkWorld [9223372036854775000, 9223372036854775808] [3]) noMem 1012 ⟨()⟩ 1000 12 60)
    = none := by decide +kernel

end Rtr.CLink
