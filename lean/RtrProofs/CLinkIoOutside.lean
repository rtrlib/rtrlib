/-
  CLinkIoOutside: what the translated `tr_send_all` / `tr_recv_all` do on inputs that the side conditions of
  RtrProofs/CLinkIo.lean exclude - kernel evaluation of the translated functions on concrete worlds.

  These examples are PINNED TO THE CURRENT SOURCE: they document behaviour nobody relies on, and a change of the C text
  that repairs it (a `size_t` counter in tr_send_all, a loop test written `len - total > 0`, a wider return type) makes
  them fail although every theorem of CLinkIo still holds. A failure here is a change of behaviour outside the
  transport contract, not a broken link.
-/
import RtrProofs.CLinkIo

namespace Rtr.CLink
open Rtr Rtr.Gen

/-- an answer larger than asked for (20 for 12): the count passes `len` and is returned - the caller that asked for 12
    bytes is told 20 -/
example : obs (C.tr_recv_all (mkWorld [100, 100] [20]) noMem 1012 ⟨()⟩ 1000 12 60)
    = some ⟨20, 2, 1, [(1000, 12, 60)]⟩ := by decide +kernel

/-- `tr_send_all`, `len = 2^32`: the `unsigned int` counter wraps to 0 when everything has been handed over
    (2^31-1, 2^31-1, 2), the loop goes on and offers the whole buffer again from its start (4th call); only a negative
    answer ends it -/
example : obs (C.tr_send_all (mkWorld [100, 100, 100, 100, 100] [2147483647, 2147483647, 2, -1]) noMem 4294968296 ⟨()⟩
      1000 4294967296 60)
    = some ⟨-1, 5, 4, [(1000, 4294967296, 60), (2147484647, 2147483649, 60), (4294968294, 2, 60), (1000, 4294967296, 60)]⟩ := by
  decide +kernel

/-- the same input is handled by `tr_recv_all` (`size_t` counter): three calls; but the return type is `int`:
    the count 2^32 is returned as 0 -/
example : obs (C.tr_recv_all (mkWorld [100, 100, 100, 100, 100] [2147483647, 2147483647, 2, -1]) noMem 4294968296 ⟨()⟩
      1000 4294967296 60)
    = some ⟨0, 4, 3, [(1000, 4294967296, 60), (2147484647, 2147483649, 60), (4294968294, 2, 60)]⟩ := by
  decide +kernel

/-- `len = 2^31`: a complete transfer is reported as `INT_MIN`, a negative value (error) -/
example : obs (C.tr_recv_all (mkWorld [100, 100, 100] [2147483647, 1]) noMem 2147484648 ⟨()⟩ 1000 2147483648 60)
    = some ⟨-2147483648, 3, 2, [(1000, 2147483648, 60), (2147484647, 1, 60)]⟩ := by decide +kernel

end Rtr.CLink
