/-
  CLinkFsmModel: the state machine of the hand-written model (RtrModel/Rtr.lean: `P.fsmStep`, `P.purgeOutdated`, `P.stop`) IS
  the control skeleton of the translated C code (RtrProofs/CLinkFsm.lean) with the model's sub-operations in the place of the
  external calls.

  The specification of the skeleton (`fsmIterSpec`, `purgeSpec`, `stopSpec`) is written once, over any monad with the four
  primitives of `FsmOps`.  CLinkFsm.lean runs it over a world and proves it equal to the translated C functions.  This file
  runs the SAME programs over the model's state (`ModelM`): reading the socket gives the record the model state stands for
  (`view`), an assignment writes the model's field, an external call is the model's sub-operation of that name (`modelCall`:
  `tr_open` = `P.trOpen`, `rtr_send_serial_query` = `P.sendSerialQuery`, `rtr_sync` = `P.sync fuel`,
  `rtr_change_socket_state` = `P.St.change`, `sleep` = `P.doSleep`, the two `src_remove` = the two halves of `P.Tbl.purge`,
  the clock = `now` (never failing), the cancellation switches and the thread calls = nothing).

  The three theorems `*_eq_skeleton` say that these runs ARE `P.fsmStep` (under `InRange`: the model computes with unbounded
  integers, the C code with `time_t` / `unsigned int` / `int`; the times are in [0, 2^62), the intervals below 2^32, the
  scripted results of `tr_open` are `int`s), `P.purgeOutdated` (under its own bounds) and `P.stop` (thread recorded as
  running).  So the branch structure, the order of the sub-operations, the arguments (`sleep(retry_interval)` of the
  socket as the state change left it) and the field assignments of the model's `fsmStep` are those of the C text as clang
  parsed it - not a transcription checked by sampling.

  What this does not say: that the model's sub-operations are what the C callees do (that is the business of the other
  ties), and nothing about a failing clock or about `last_update + expire_interval` overflowing (the model has neither).
-/
import RtrProofs.CLinkFsm
import RtrModel.Rtr
import RtrProofs.Progress

namespace Rtr.CLink
open Rtr Rtr.Gen

/-! ## the model state as a socket record -/

def toSState : FsmState → P.SState
  | .connecting => .connecting | .established => .established | .reset => .reset | .sync => .sync
  | .fastReconnect => .fastReconnect | .errorNoDataAvail => .errNoData | .errorNoIncrUpdateAvail => .errNoIncr
  | .errorFatal => .errFatal | .errorTransport => .errTransport | .shutdown => .shutdown | .closed => .closed

def ofSState : P.SState → FsmState
  | .connecting => .connecting | .established => .established | .reset => .reset | .sync => .sync
  | .fastReconnect => .fastReconnect | .errNoData => .errorNoDataAvail | .errNoIncr => .errorNoIncrUpdateAvail
  | .errFatal => .errorFatal | .errTransport => .errorTransport | .shutdown => .shutdown | .closed => .closed

theorem ofSState_code (x : P.SState) : P.SState.ofCode (ofSState x).code = some x := by cases x <;> rfl

def ivCode : P.IvMode → Nat
  | .ignoreAny => 0 | .acceptAny => 1 | .defaultMinMax => 2 | .ignoreOnFailure => 3

/-- the socket record a model state stands for -/
def view (st : P.St) : Sock :=
  { refresh_interval := BitVec.ofNat 32 st.tm.refresh
    last_update := BitVec.ofInt 64 st.ss.lastUpdate
    expire_interval := BitVec.ofNat 32 st.tm.expire
    retry_interval := BitVec.ofNat 32 st.tm.retry
    iv_mode := BitVec.ofNat 32 (ivCode st.tm.ivMode)
    state := BitVec.ofNat 32 (ofSState st.c.state).code
    session_id := BitVec.ofNat 32 st.ss.session
    request_session_id := st.ss.reqSession
    serial_number := BitVec.ofNat 32 st.ss.serial
    thread_id := if st.n.threaded then 1#64 else 0#64
    version := BitVec.ofNat 32 st.c.version
    has_received_pdus := st.c.hasReceived
    is_resetting := st.ss.isResetting }

/-- an assignment of the state machine, on the model state -/
def Assign.applyModel : Assign → P.St → P.St
  | .hasReceivedPdus v, st => { st with c := { st.c with hasReceived := v } }
  | .requestSessionId v, st => { st with ss := { st.ss with reqSession := v } }
  | .serialNumber v, st => { st with ss := { st.ss with serial := v.toNat } }
  | .lastUpdate v, st => { st with ss := { st.ss with lastUpdate := v.toInt } }
  | .isResetting v, st => { st with ss := { st.ss with isResetting := v } }
  | .threadId v, st => { st with n := { st.n with threaded := v != 0#64 } }
  | .state v, st => { st with c := { st.c with state := toSState v } }

/-- a C return code of a model operation that succeeds or fails -/
def rcOf (ok : Bool) : BitVec 64 := if ok then 0#64 else BitVec.ofInt 64 (-1)

/-- the external calls, as the model's sub-operations: return value, auxiliary value, state afterwards -/
def modelCall (fuel : Nat) : XOp → P.St → BitVec 64 × BitVec 64 × P.St
  | .open, st => (BitVec.ofInt 64 (P.trOpen st).1, 0#64, (P.trOpen st).2)
  | .close, st => (0#64, 0#64, P.trClose st)
  | .serialQuery, st => (rcOf (P.sendSerialQuery st).1, 0#64, (P.sendSerialQuery st).2)
  | .resetQuery, st => (rcOf (P.sendResetQuery st).1, 0#64, (P.sendResetQuery st).2)
  | .sync, st => (rcOf (P.sync fuel st).1, 0#64, (P.sync fuel st).2)
  | .waitForSync, st => (rcOf (P.waitForSync st).1, 0#64, (P.waitForSync st).2)
  | .changeState s, st => (0#64, 0#64, st.change (toSState s))
  | .sleep k, st => (0#64, 0#64, P.doSleep st k.toNat)
  | .pfxSrcRemove, st => (0#64, 0#64, { st with t := { st.t with pt := P.ptSrcRemove st.t.pt 0 } })
  | .spkiSrcRemove, st => (0#64, 0#64, { st with t := { st.t with kt := P.ktSrcRemove st.t.kt 0 } })
  | .cancelState _, st => (0#64, 0#64, st)
  | .time, st => (0#64, BitVec.ofInt 64 st.n.now, st)
  | .threadCancel, st => (0#64, 0#64, st)
  | .threadJoin, st => (0#64, 0#64, st)

/-- the state machine over the model: fuel of `P.sync`, model state -/
def ModelM (α : Type) := Nat → P.St → Option (α × P.St)

namespace ModelM
protected def pure {α} (a : α) : ModelM α := fun _ st => some (a, st)
protected def bind {α β} (m : ModelM α) (f : α → ModelM β) : ModelM β := fun fuel st =>
  match m fuel st with
  | none => none
  | some (a, st') => f a fuel st'
instance : Monad ModelM := { pure := ModelM.pure, bind := ModelM.bind }

instance : FsmOps ModelM where
  sock := fun _ st => some (view st, st)
  assign l := fun _ st => some ((), l.foldl (fun st a => a.applyModel st) st)
  ask op := fun fuel st =>
    some ({ rc := (modelCall fuel op st).1, aux := (modelCall fuel op st).2.1, st := view (modelCall fuel op st).2.2 },
          (modelCall fuel op st).2.2)
  undefined := fun _ _ => none
end ModelM

/-- the model's unbounded numbers are within what the C types hold -/
structure InRange (st : P.St) : Prop where
  lastUpdate_nonneg : 0 ≤ st.ss.lastUpdate
  lastUpdate_lt : st.ss.lastUpdate < 2 ^ 62
  now_nonneg : 0 ≤ st.n.now
  now_lt : st.n.now < 2 ^ 62
  expire_lt : st.tm.expire < 2 ^ 32
  retry_lt : st.tm.retry < 2 ^ 32
  open_int : ∀ rc ∈ st.n.openQ, -2 ^ 31 ≤ rc ∧ rc < 2 ^ 31

theorem time_toInt {a : Int} (h0 : 0 ≤ a) (h1 : a < 2 ^ 63) : (BitVec.ofInt 64 a).toInt = a :=
  BitVec.toInt_ofInt_eq_self (by decide) (by omega) (by omega)

theorem time_eq_zero {a : Int} (h0 : 0 ≤ a) (h1 : a < 2 ^ 63) : BitVec.ofInt 64 a = 0#64 ↔ a = 0 := by
  constructor
  · intro e
    have := time_toInt h0 h1
    rw [e] at this
    simpa using this.symm
  · intro e; rw [e]; rfl

theorem interval_toInt {e : Nat} (h : e < 2 ^ 32) : (BitVec.setWidth 64 (BitVec.ofNat 32 e)).toInt = (e : Int) := by
  rw [zext32_64_toInt, lit_toNat e h]

/-- the purge condition of the C text, on times and intervals in range, is the model's -/
theorem purge_condition {lu now : Int} {e : Nat} (hl0 : 0 ≤ lu) (hl1 : lu < 2 ^ 62) (hn0 : 0 ≤ now) (hn1 : now < 2 ^ 63)
    (he : e < 2 ^ 32) :
    BitVec.saddOverflow (BitVec.ofInt 64 lu) (BitVec.setWidth 64 (BitVec.ofNat 32 e)) = false ∧
    (BitVec.ofInt 64 lu + BitVec.setWidth 64 (BitVec.ofNat 32 e)).slt (BitVec.ofInt 64 now) = decide (lu + e < now) := by
  have h1 := time_toInt hl0 (by omega : lu < 2 ^ 63)
  have h2 := interval_toInt he
  have hov : BitVec.saddOverflow (BitVec.ofInt 64 lu) (BitVec.setWidth 64 (BitVec.ofNat 32 e)) = false := by
    rw [saddOverflow_eq_false_iff, h1, h2]
    omega
  refine ⟨hov, ?_⟩
  rw [BitVec.slt_eq_decide, BitVec.toInt_add_of_not_saddOverflow (by simp [hov]), h1, h2, time_toInt hn0 hn1]


/-! ## the skeleton over the model is the model -/

theorem mbind_apply {α β} (m : ModelM α) (f : α → ModelM β) (fuel st) :
    (m >>= f) fuel st = ModelM.bind m f fuel st := rfl
theorem mpure_apply {α} (a : α) (fuel st) : (pure a : ModelM α) fuel st = some (a, st) := rfl
theorem msock_apply (fuel st) : (sock : ModelM Sock) fuel st = some (view st, st) := rfl
theorem massign_apply (l fuel st) :
    (assign l : ModelM Unit) fuel st = some ((), l.foldl (fun st a => a.applyModel st) st) := rfl
theorem mask_apply (op : XOp) (fuel st) :
    (ask op : ModelM Ans) fuel st =
      some ({ rc := (modelCall fuel op st).1, aux := (modelCall fuel op st).2.1, st := view (modelCall fuel op st).2.2 },
            (modelCall fuel op st).2.2) := rfl
theorem mundefined_apply {α} (fuel st) : (undefined : ModelM α) fuel st = none := rfl
theorem mite_apply {α} (c : Prop) [Decidable c] (a b : ModelM α) (fuel st) :
    (if c then a else b) fuel st = if c then a fuel st else b fuel st :=
  apply_ite (fun m : ModelM α => m fuel st) c a b

/-- Running the skeleton from its head (`simp ↓` rules, as for `Script`): the first step is the model's sub-operation. -/
@[simp ↓] theorem msock_bind {α} (f : Sock → ModelM α) (fuel st) : (sock >>= f) fuel st = f (view st) fuel st := rfl

@[simp ↓] theorem massign_bind {α} (l) (f : Unit → ModelM α) (fuel st) :
    (assign l >>= f) fuel st = f () fuel (l.foldl (fun st a => a.applyModel st) st) := rfl

@[simp ↓] theorem mask_bind {α} (op) (f : Ans → ModelM α) (fuel st) :
    (ask op >>= f) fuel st =
      f { rc := (modelCall fuel op st).1, aux := (modelCall fuel op st).2.1, st := view (modelCall fuel op st).2.2 } fuel
        (modelCall fuel op st).2.2 := rfl

@[simp ↓] theorem mcall_bind {α} (op) (f : Unit → ModelM α) (fuel st) :
    (call op >>= f) fuel st = f () fuel (modelCall fuel op st).2.2 := rfl

@[simp ↓] theorem mcallRc_bind {α} (op) (f : BitVec 32 → ModelM α) (fuel st) :
    (callRc op >>= f) fuel st = f (BitVec.setWidth 32 (modelCall fuel op st).1) fuel (modelCall fuel op st).2.2 := rfl

theorem zero_ne_minusOne : (0#32 = minusOne) = False := by decide

/-- unfold the skeleton over the model, with the given facts -/
local syntax "model_simp" "[" Lean.Parser.Tactic.simpLemma,* "]" : tactic
local macro_rules
  | `(tactic| model_simp [$ts,*]) => `(tactic|
      simp [mbind_apply, mpure_apply, msock_apply, massign_apply, mask_apply, mundefined_apply, mite_apply, ModelM.bind,
        call, callRc, modelCall, Assign.applyModel, C.ExtAns.ret, zero_ne_minusOne, $ts,*])

theorem purgeOutdated_eq_skeleton (fuel : Nat) (st : P.St) (hl0 : 0 ≤ st.ss.lastUpdate) (hl1 : st.ss.lastUpdate < 2 ^ 62)
    (hn0 : 0 ≤ st.n.now) (hn1 : st.n.now < 2 ^ 63) (he : st.tm.expire < 2 ^ 32) :
    (purgeSpec : ModelM Unit) fuel st = some ((), P.purgeOutdated st) := by
  obtain ⟨hov, hslt⟩ := purge_condition hl0 hl1 hn0 hn1 he
  have hz := time_eq_zero hl0 (by omega : st.ss.lastUpdate < 2 ^ 63)
  unfold purgeSpec P.purgeOutdated
  by_cases h0 : st.ss.lastUpdate = 0
  · model_simp [view, hz, h0]
  · by_cases hdue : st.ss.lastUpdate + st.tm.expire < st.n.now
    · model_simp [view, hz, h0, hov, hslt, hdue, P.Tbl.purge]
    · model_simp [view, hz, h0, hov, hslt, hdue]


theorem trOpen_rc (st : P.St) : (P.trOpen st).1 = 0 ∨ (P.trOpen st).1 ∈ st.n.openQ := by
  unfold P.trOpen
  rcases st.n.openQ with _ | ⟨x, q⟩ <;> simp

/-- an `int` result compared with -1, through the 64-bit answer of the world -/
theorem int_ret_eq_minusOne {rc : Int} (h0 : -2 ^ 31 ≤ rc) (h1 : rc < 2 ^ 31) :
    BitVec.setWidth 32 (BitVec.ofInt 64 rc) = 4294967295#32 ↔ rc = -1 := by
  rw [← BitVec.toNat_inj]
  simp only [BitVec.toNat_setWidth, BitVec.toNat_ofInt, BitVec.toNat_ofNat]
  omega

theorem rcOf_success (ok : Bool) : (BitVec.setWidth 32 (rcOf ok) = 0#32) ↔ ok = true := by
  cases ok <;> decide

theorem trOpen_rc_int {st : P.St} (hq : ∀ rc ∈ st.n.openQ, -2 ^ 31 ≤ rc ∧ rc < 2 ^ 31) :
    -2 ^ 31 ≤ (P.trOpen st).1 ∧ (P.trOpen st).1 < 2 ^ 31 := by
  rcases trOpen_rc st with e | e
  · rw [e]; decide
  · exact hq _ e

theorem change_t (st : P.St) (x : P.SState) : (st.change x).t = st.t := rfl

theorem change_threaded (st : P.St) (x : P.SState) : (st.change x).n.threaded = st.n.threaded := by
  show (P.changeState st.c st.n st.t.own x).2.threaded = _
  unfold P.changeState
  split
  · rfl
  · split <;> rfl

/-- the purge check in a state that differs from one in range by flags, state changes and a sleep of less than 2^32 -/
theorem purge_later (fuel : Nat) {st st' : P.St} {k : Nat} (h : InRange st) (hk : k < 2 ^ 32)
    (hlu : st'.ss.lastUpdate = st.ss.lastUpdate) (hex : st'.tm.expire = st.tm.expire) (hnow : st'.n.now = st.n.now + k) :
    (purgeSpec : ModelM Unit) fuel st' = some ((), P.purgeOutdated st') := by
  have h0 := h.now_nonneg
  have h1 := h.now_lt
  apply purgeOutdated_eq_skeleton
  · rw [hlu]
    exact h.lastUpdate_nonneg
  · rw [hlu]
    exact h.lastUpdate_lt
  · omega
  · omega
  · rw [hex]
    exact h.expire_lt

theorem ofCode_view (st : P.St) : FsmState.ofCode (view st).state = some (ofSState st.c.state) :=
  FsmState.ofCode_code _

/-- ONE ITERATION: the skeleton of the translated C loop body, run over the model's state with the model's sub-operations
    as callees, is the model's `fsmStep` (`none` = the thread exits) -/
theorem fsmStep_eq_skeleton (fuel : Nat) (st : P.St) (h : InRange st) :
    (fsmIterSpec : ModelM Iter) fuel st =
      some (match P.fsmStep fuel st with | none => (.exit, st) | some st' => (.again, st')) := by
  have hr := lit_toNat _ h.retry_lt
  unfold fsmIterSpec P.fsmStep
  rw [msock_bind, ofCode_view]
  cases hs : st.c.state
  · have hn63 : st.n.now < 2 ^ 63 := Int.lt_trans h.now_lt (by decide)
    have hp := purgeOutdated_eq_skeleton fuel { st with c := { st.c with hasReceived := false } }
      h.lastUpdate_nonneg h.lastUpdate_lt h.now_nonneg hn63 h.expire_lt
    model_simp [ofSState, hp]
    generalize hX : P.purgeOutdated _ = X
    have hq : ∀ rc ∈ X.n.openQ, -2 ^ 31 ≤ rc ∧ rc < 2 ^ 31 := by
      rw [← hX, P.purgeOutdated_n]; exact h.open_int
    have hrc := trOpen_rc_int hq
    by_cases hopen : (P.trOpen X).1 = -1
    · simp [hopen, toSState]
    · by_cases hreq : (P.trOpen X).2.ss.reqSession = true
      · simp [int_ret_eq_minusOne hrc.1 hrc.2, hopen, hreq, view, toSState]
      · by_cases hsent : (P.sendSerialQuery (P.trOpen X).2).1 = true
        · simp [int_ret_eq_minusOne hrc.1 hrc.2, hopen, hreq, view, rcOf_success, hsent, toSState]
        · simp [int_ret_eq_minusOne hrc.1 hrc.2, hopen, hreq, view, rcOf_success, hsent, toSState]
  · by_cases hwoke : (P.waitForSync st).1 = true
    · by_cases hsent : (P.sendSerialQuery (P.waitForSync st).2).1 = true
      · model_simp [ofSState, toSState, rcOf_success, hwoke, hsent]
      · model_simp [ofSState, toSState, rcOf_success, hwoke, hsent]
    · model_simp [ofSState, toSState, rcOf_success, hwoke]
  · by_cases hsent : (P.sendResetQuery st).1 = true
    · model_simp [ofSState, toSState, rcOf_success, hsent]
    · model_simp [ofSState, toSState, rcOf_success, hsent]
  · by_cases hsync : (P.sync fuel st).1 = true
    · model_simp [ofSState, toSState, rcOf_success, hsync]
    · model_simp [ofSState, toSState, rcOf_success, hsync]
  · model_simp [ofSState, toSState]
  · model_simp [ofSState, toSState, view, P.change_tm, hr]
    rw [purge_later fuel h h.retry_lt]
    · rfl
    · rfl
    · simp [P.doSleep, P.Net.emit, P.change_now]
  · model_simp [ofSState, toSState]
    rw [purge_later fuel h (Nat.two_pow_pos 32)]
    · rfl
    · rfl
    · simp [P.change_now]
  · model_simp [ofSState, toSState, view, errorRetry, P.change_tm, P.trClose, hr]
  · model_simp [ofSState, toSState, view, errorRetry, P.change_tm, P.trClose, hr]
  · model_simp [ofSState]
  · model_simp [ofSState]


/-- `rtr_stop` (thread recorded as running): the skeleton over the model is `P.stop` -/
theorem stop_eq_skeleton (fuel : Nat) (st : P.St) (ht : st.n.threaded = true) :
    (stopSpec : ModelM Unit) fuel st = some ((), P.stop st) := by
  unfold stopSpec P.stop
  model_simp [view, change_threaded, ht, toSState, P.trClose, P.Tbl.purge, P.Net.emit]


/-! ## non-vacuity -/

example : InRange {} := by
  constructor <;> simp

/-- a state with data, a session and scripted `tr_open` results -/
def sampleSt : P.St :=
  { c := { state := .connecting }, ss := { session := 7, serial := 42, reqSession := false, lastUpdate := 100 },
    tm := { refresh := 300, retry := 30, expire := 600 }, n := { openQ := [0, -1], now := 1000 } }

example : InRange sampleSt := by
  constructor <;> simp [sampleSt]

/-- ... on which the skeleton over the model and the model agree by evaluation, too: expired data are purged and the
    state after `tr_open` is RESET -/
example : ((fsmIterSpec : ModelM Iter) 10 sampleSt).map (fun r => (r.1, r.2.c.state, r.2.ss.reqSession, r.2.ss.lastUpdate))
    = some (.again, .reset, true, 0) := by decide
example : (P.fsmStep 10 sampleSt).map (fun r => (r.c.state, r.ss.reqSession, r.ss.lastUpdate)) = some (.reset, true, 0) := by
  decide

end Rtr.CLink
