/-
  CLinkIntervals: the three interval functions of rtrlib/rtr/packets.c as translated from the C text compute, for ALL
  inputs, what the hand-written models of RtrModel/Intervals.lean compute - so the C17 theorems, proved about the models,
  hold of the C text as translated.  That is why this file of RtrProofs imports a property file (RtrProps/C17.lean):
  `c_check_interval_option_in_range` and `c_eod_intervals_in_range` at its end carry C17's theorems over.

  Reading of the C values:
    uint32_t                      `BitVec 32`  <->  `UInt32`      (`u32Of` = `UInt32.ofBitVec`, `UInt32.toBitVec`)
    int (modes, return codes)     `BitVec 32`  <->  `Int`         (`BitVec.toInt`, `intOf` = `BitVec.ofInt 32`)
    enum rtr_interval_type        `BitVec 32`, unsigned for clang (all enumerators >= 0): `ivTypeOf` = `IvType.ofCode` of
                                  its value
    struct rtr_socket             `C.S_rtr_socket` --`sockOf`--> `Intervals.Sock`; the fields `Sock` does not have
                                  (state, session_id, request_session_id, serial_number, thread_id, is_resetting) and the
                                  non-timer fields it has are all left untouched by the three functions: `SameButTimers`

  The proofs of `apply_interval_value_eq'` and `rtr_check_interval_option_eq'` do not follow the shape of the generated
  terms (`rtr_check_interval_range_eq` splits the `if`s of the normalised goal): they split on the model's finite cases (interval type,
  range verdict, the two modes that matter), which turns every comparison in the C text into one between closed terms
  or into one the case's hypotheses refute; `simp` decides those and what is left holds by evaluation.
-/
import RtrProofs.CLink
import RtrModel.Intervals
import RtrProofs.Intervals
import RtrProps.C17

namespace Rtr.CLink
open Rtr Rtr.Gen Rtr.Intervals

-- the normalising simp sets list more than the current C text needs (so that harmless rewrites of it still go through)
set_option linter.unusedSimpArgs false

/-- the model's view of a C `uint32_t` -/
abbrev u32Of (x : BitVec 32) : UInt32 := UInt32.ofBitVec x

/-- the C `int` (two's complement, 32 bits) holding a model return / enum code -/
abbrev intOf (c : Int) : BitVec 32 := BitVec.ofInt 32 c

/-- the model's reading of a C `enum rtr_interval_type` value (an `unsigned int`: all enumerators are
    non-negative) -/
def ivTypeOf (t : BitVec 32) : IvType := IvType.ofCode (t.toNat : Int)

/-- the part of `struct rtr_socket` the interval model talks about -/
def sockOf (s : C.S_rtr_socket) : Sock :=
  { refresh := u32Of s.refresh_interval
    expire := u32Of s.expire_interval
    retry := u32Of s.retry_interval
    ivMode := s.iv_mode.toInt
    version := s.version.toNat
    hasReceivedPdus := s.has_received_pdus
    lastUpdate := s.last_update.toInt }

/-- frame condition: `s'` differs from `s` at most in the three timers (every other field of the translated
    `struct rtr_socket`, whatever fields it has, is the same) -/
def SameButTimers (s s' : C.S_rtr_socket) : Prop :=
  s' = { s with refresh_interval := s'.refresh_interval, expire_interval := s'.expire_interval,
                retry_interval := s'.retry_interval }

/-- the C socket `s` with the three timers of the model socket `m` -/
def withTimers (s : C.S_rtr_socket) (m : Sock) : C.S_rtr_socket :=
  { s with refresh_interval := m.refresh.toBitVec, expire_interval := m.expire.toBitVec,
           retry_interval := m.retry.toBitVec }

theorem SameButTimers.fields {s s' : C.S_rtr_socket} (h : SameButTimers s s') :
    s'.last_update = s.last_update ∧ s'.iv_mode = s.iv_mode ∧ s'.state = s.state ∧
    s'.session_id = s.session_id ∧ s'.request_session_id = s.request_session_id ∧
    s'.serial_number = s.serial_number ∧ s'.thread_id = s.thread_id ∧ s'.version = s.version ∧
    s'.has_received_pdus = s.has_received_pdus ∧ s'.is_resetting = s.is_resetting := by
  unfold SameButTimers at h
  rw [h]
  simp

theorem sameButTimers_withTimers (s : C.S_rtr_socket) (m : Sock) : SameButTimers s (withTimers s m) := rfl

@[simp] theorem withTimers_sockOf (s : C.S_rtr_socket) : withTimers s (sockOf s) = s := rfl

@[simp] theorem withTimers_withTimers (s : C.S_rtr_socket) (m m' : Sock) :
    withTimers (withTimers s m) m' = withTimers s m' := rfl

@[simp] theorem withTimers_iv_mode (s : C.S_rtr_socket) (m : Sock) : (withTimers s m).iv_mode = s.iv_mode := rfl

theorem sockOf_withTimers_apply (s : C.S_rtr_socket) (v : UInt32) (t : IvType) :
    sockOf (withTimers s (applyIntervalValue (sockOf s) v t)) = applyIntervalValue (sockOf s) v t := by
  cases t <;> rfl

/-! ### normalisation: the model's comparisons in the vocabulary of the C text -/

/-- `uint16_t minimum = c; ... (uint32_t)minimum`: the generated code truncates to 16 bits and zero-extends,
    which is the model's `u16` - for every constant `c`, not only those that fit -/
theorem u16_eq (c : Nat) : u16 c = u32Of (BitVec.setWidth 32 (BitVec.ofNat 16 c)) := by
  apply UInt32.toNat_inj.mp
  simp [u16]

theorem u32_eq (c : Nat) : u32 c = u32Of (BitVec.ofNat 32 c) := rfl

theorem int32_toInt_eq_iff (m : BitVec 32) (c : Int) (h : -2147483648 ≤ c ∧ c < 2147483648) :
    m.toInt = c ↔ m = BitVec.ofInt 32 c := by
  have hc : (BitVec.ofInt 32 c).toInt = c := by
    rw [BitVec.toInt_ofInt]; simp only [Int.bmod_def]; omega
  rw [← BitVec.toInt_inj, hc]

theorem eq_ofInt_of_natCast (t : BitVec 32) (c : Int) (h : (t.toNat : Int) = c) : t = BitVec.ofInt 32 c :=
  h ▸ (ofInt_natCast_toNat t).symm

/-- the four readings of an `enum rtr_interval_type` value, with what each says about the C value: a valid reading
    fixes it; the invalid one rules out every constant that has a valid reading -/
theorem ivTypeOf_cases (t : BitVec 32) :
    (ivTypeOf t = .invalid ∧ ∀ c, ivTypeOf c ≠ .invalid → ¬ t = c) ∨
    (ivTypeOf t = .expiration ∧ t = intOf RTR_INTERVAL_TYPE_EXPIRATION) ∨
    (ivTypeOf t = .refresh ∧ t = intOf RTR_INTERVAL_TYPE_REFRESH) ∨
    (ivTypeOf t = .retry ∧ t = intOf RTR_INTERVAL_TYPE_RETRY) := by
  have ht : ivTypeOf t = IvType.ofCode t.toNat := rfl
  unfold IvType.ofCode at ht
  split at ht
  · exact .inr (.inl ⟨ht, eq_ofInt_of_natCast _ _ ‹_›⟩)
  · split at ht
    · exact .inr (.inr (.inl ⟨ht, eq_ofInt_of_natCast _ _ ‹_›⟩))
    · split at ht
      · exact .inr (.inr (.inr ⟨ht, eq_ofInt_of_natCast _ _ ‹_›⟩))
      · exact .inl ⟨ht, fun c hc e => hc (e ▸ ht)⟩

theorem rtr_check_interval_range_eq (i lo hi : BitVec 32) :
    C.rtr_check_interval_range i lo hi =
      some (intOf (checkIntervalRange (u32Of i) (u32Of lo) (u32Of hi)).code) := by
  unfold C.rtr_check_interval_range checkIntervalRange
  simp only [BitVec.ult_eq_decide, BitVec.ule_eq_decide, UInt32.lt_iff_toNat_lt, UInt32.le_iff_toNat_le, gt_iff_lt,
    ge_iff_le, UInt32.toNat_ofBitVec, decide_eq_true_eq, Bool.not_eq_true', decide_eq_false_iff_not, Nat.not_lt,
    Nat.not_le, Bool.and_eq_true, Bool.or_eq_true, Bool.not_eq_eq_eq_not, Bool.not_true, Bool.not_false]
  repeat' split
  all_goals first | rfl | decide | omega | (simp_all <;> omega)

theorem apply_interval_value_eq' (s : C.S_rtr_socket) (interval type_ : BitVec 32) :
    C.apply_interval_value s interval type_ =
      some (withTimers s (applyIntervalValue (sockOf s) (u32Of interval) (ivTypeOf type_))) := by
  unfold C.apply_interval_value
  rcases ivTypeOf_cases type_ with ⟨ht, hne⟩ | ⟨ht, rfl⟩ | ⟨ht, rfl⟩ | ⟨ht, rfl⟩
  · simp (disch := decide) only [ht, beq_iff_eq, hne, ↓reduceIte]
    rfl
  all_goals
    simp (config := { decide := true }) only [ht, ↓reduceIte]
    rfl

/-- `apply_interval_value` as translated is always defined, does to the socket what the model does, and leaves every
    field other than the three timers untouched -/
theorem apply_interval_value_eq (s : C.S_rtr_socket) (interval type_ : BitVec 32) :
    ∃ s', C.apply_interval_value s interval type_ = some s' ∧
      sockOf s' = applyIntervalValue (sockOf s) (u32Of interval) (ivTypeOf type_) ∧
      SameButTimers s s' :=
  ⟨_, apply_interval_value_eq' s interval type_,
    sockOf_withTimers_apply s _ _, sameButTimers_withTimers s _⟩

/-- the call writes at most one timer, and its code survives the passage through a C `int` -/
theorem cio_shape (m : Sock) (mode : Int) (x : UInt32) (t : IvType) :
    ∃ v c, checkIntervalOption m mode x t = (applyIntervalValue m v t, c) ∧ (intOf c).toInt = c := by
  cases t
  · exact ⟨_, _, cio_of_bounds m mode x .expiration _ _ m.expire rfl rfl, by decide⟩
  · exact ⟨_, _, cio_of_bounds m mode x .refresh _ _ m.refresh rfl rfl, by decide⟩
  · exact ⟨_, _, cio_of_bounds m mode x .retry _ _ m.retry rfl rfl, by decide⟩
  · exact ⟨0, RTR_ERROR, rfl, by decide⟩

theorem rtr_check_interval_option_eq' (s : C.S_rtr_socket) (mode interval type_ : BitVec 32) :
    C.rtr_check_interval_option s mode interval type_ =
      some (intOf (checkIntervalOption (sockOf s) mode.toInt (u32Of interval) (ivTypeOf type_)).2,
            withTimers s (checkIntervalOption (sockOf s) mode.toInt (u32Of interval) (ivTypeOf type_)).1) := by
  unfold C.rtr_check_interval_option checkIntervalOption
  simp only [rtr_check_interval_range_eq, apply_interval_value_eq']
  rcases ivTypeOf_cases type_ with ⟨ht, hne⟩ | ⟨ht, rfl⟩ | ⟨ht, rfl⟩ | ⟨ht, rfl⟩
  · -- no case label of the switch matches
    simp (disch := decide) only [ht, bounds, beq_iff_eq, hne, ↓reduceIte]
    rfl
  all_goals
    -- one case label matches; the bounds of the C text are the model's
    simp (config := { decide := true }) only [ht, bounds, u16_eq, u32_eq, RTR_EXPIRATION_MIN, RTR_EXPIRATION_MAX,
      RTR_REFRESH_MIN, RTR_REFRESH_MAX, RTR_RETRY_MIN, RTR_RETRY_MAX, BitVec.reduceSetWidth, BitVec.reduceOfNat,
      ↓reduceIte]
    generalize checkIntervalRange (u32Of interval) _ _ = r
    by_cases h1 : mode.toInt = RTR_INTERVAL_MODE_ACCEPT_ANY
    · obtain rfl := (int32_toInt_eq_iff mode _ (by decide)).mp h1
      simp (config := { decide := true }) only [Bool.or_eq_true, beq_iff_eq, or_true, ↓reduceIte]
      rfl
    · by_cases h2 : mode.toInt = RTR_INTERVAL_MODE_DEFAULT_MIN_MAX
      · obtain rfl := (int32_toInt_eq_iff mode _ (by decide)).mp h2
        cases r
        all_goals rfl
      · -- any other mode: no constant the C text compares `interval_mode` with can be one of the two
        have hmode (c : BitVec 32)
            (hc : c.toInt = RTR_INTERVAL_MODE_ACCEPT_ANY ∨ c.toInt = RTR_INTERVAL_MODE_DEFAULT_MIN_MAX) :
            ¬ mode = c := by
          rintro rfl
          exact hc.elim h1 h2
        cases r
        all_goals
          simp (config := { decide := true }) (disch := decide) only [h1, h2, hmode, beq_iff_eq, Bool.or_eq_true,
            or_false, false_or, ↓reduceIte]
          rfl

/-- `rtr_check_interval_option` as translated is always defined; its return value and its effect on the socket are the
    model's; every field other than the three timers is untouched.  (`uint16_t minimum`: see `u16_eq`.) -/
theorem rtr_check_interval_option_eq (s : C.S_rtr_socket) (mode interval type_ : BitVec 32) :
    ∃ rc s', C.rtr_check_interval_option s mode interval type_ = some (rc, s') ∧
      (sockOf s', rc.toInt) = checkIntervalOption (sockOf s) mode.toInt (u32Of interval) (ivTypeOf type_) ∧
      SameButTimers s s' := by
  refine ⟨_, _, rtr_check_interval_option_eq' s mode interval type_, ?_, sameButTimers_withTimers s _⟩
  obtain ⟨v, c, h, hc⟩ := cio_shape (sockOf s) mode.toInt (u32Of interval) (ivTypeOf type_)
  rw [h, sockOf_withTimers_apply, hc]

/-! ### transfer of C17 theorems to the C text as translated -/

theorem checkIntervalOption_in_range (m : Sock) (mode : Int) (x : UInt32) (t : IvType)
    (hs : m.InRange) (hm : mode ≠ RTR_INTERVAL_MODE_ACCEPT_ANY) :
    (checkIntervalOption m mode x t).1.InRange := by
  have hb := C17.bounds_are_rfc8210
  cases t
  · rw [cio_expiration]
    exact ⟨hs.1, optVal_in_range _ x _ _ _ hm hb.2.2.2.2.1 hb.2.2.2.2.2.1 (by decide) hs.2.1, hs.2.2⟩
  · rw [cio_refresh]
    exact ⟨optVal_in_range _ x _ _ _ hm hb.1 hb.2.1 (by decide) hs.1, hs.2.1, hs.2.2⟩
  · rw [cio_retry]
    exact ⟨hs.1, hs.2.1, optVal_in_range _ x _ _ _ hm hb.2.2.1 hb.2.2.2.1 (by decide) hs.2.2⟩
  · exact hs

/-- **C17 on the C text, per call.**  `rtr_check_interval_option` as translated, called with any mode integer other
    than ACCEPT_ANY, any 32-bit interval and any type value (valid or not) on a socket whose three timers are within
    the RFC 8210 ranges: it is defined, the timers are within the ranges afterwards, and nothing else in the socket
    changed.  (`Rtr.C17.in_range_unless_accept_any` is this, three times in a row: `c_eod_intervals_in_range`.) -/
theorem c_check_interval_option_in_range (s : C.S_rtr_socket) (mode interval type_ : BitVec 32)
    (hs : (sockOf s).InRange) (hm : mode.toInt ≠ RTR_INTERVAL_MODE_ACCEPT_ANY) :
    ∃ rc s', C.rtr_check_interval_option s mode interval type_ = some (rc, s') ∧
      (sockOf s').InRange ∧ SameButTimers s s' := by
  obtain ⟨rc, s', h, hmodel, hframe⟩ := rtr_check_interval_option_eq s mode interval type_
  refine ⟨rc, s', h, ?_, hframe⟩
  have := checkIntervalOption_in_range (sockOf s) mode.toInt (u32Of interval) (ivTypeOf type_) hs hm
  rw [← hmodel] at this
  exact this

theorem sockOf_withTimers' (s : C.S_rtr_socket) (m : Sock) :
    sockOf (withTimers s m) = { sockOf s with refresh := m.refresh, expire := m.expire, retry := m.retry } := rfl

/-- the interval part of the End-of-Data branch of rtr_sync_receive_and_store_pdus (packets.c; that function has a loop
    and is not translated), composed BY HAND from the translated callee exactly as the C text composes it: guard on the
    PDU version and `iv_mode`, then three calls with `rtr_socket->iv_mode` re-read each time, each followed by
    `if (interv_retval == RTR_ERROR) goto cleanup`.  Result: socket and whether processing continues. -/
def cEodIntervals (s : C.S_rtr_socket) (ver : BitVec 8) (e r y : BitVec 32) : Option (C.S_rtr_socket × Bool) :=
  if ver.toNat = RTR_PROTOCOL_VERSION_1 ∧ s.iv_mode ≠ intOf RTR_INTERVAL_MODE_IGNORE_ANY then
    match C.rtr_check_interval_option s s.iv_mode e (intOf RTR_INTERVAL_TYPE_EXPIRATION) with
    | none => none
    | some (rc1, s1) =>
      if rc1 = intOf RTR_ERROR then some (s1, false) else
      match C.rtr_check_interval_option s1 s1.iv_mode r (intOf RTR_INTERVAL_TYPE_REFRESH) with
      | none => none
      | some (rc2, s2) =>
        if rc2 = intOf RTR_ERROR then some (s2, false) else
        match C.rtr_check_interval_option s2 s2.iv_mode y (intOf RTR_INTERVAL_TYPE_RETRY) with
        | none => none
        | some (rc3, s3) =>
          if rc3 = intOf RTR_ERROR then some (s3, false) else some (s3, true)
  else some (s, true)

theorem c_eod_intervals_eq (s : C.S_rtr_socket) (ver : BitVec 8) (e r y : BitVec 32) :
    cEodIntervals s ver e r y =
      some (withTimers s (eodIntervals (sockOf s) ver.toNat (u32Of e) (u32Of r) (u32Of y)).1,
            (eodIntervals (sockOf s) ver.toNat (u32Of e) (u32Of r) (u32Of y)).2) := by
  have t1 : ivTypeOf (intOf RTR_INTERVAL_TYPE_EXPIRATION) = .expiration := by decide
  have t2 : ivTypeOf (intOf RTR_INTERVAL_TYPE_REFRESH) = .refresh := by decide
  have t3 : ivTypeOf (intOf RTR_INTERVAL_TYPE_RETRY) = .retry := by decide
  have ne : ¬ intOf RTR_SUCCESS = intOf RTR_ERROR := by decide
  have hmode : s.iv_mode ≠ intOf RTR_INTERVAL_MODE_IGNORE_ANY ↔ (sockOf s).ivMode ≠ RTR_INTERVAL_MODE_IGNORE_ANY := by
    show _ ↔ s.iv_mode.toInt ≠ _
    rw [ne_eq, ne_eq, int32_toInt_eq_iff _ _ (by decide)]
  rw [eodIntervals_eq]
  unfold cEodIntervals
  simp only [hmode]
  by_cases hc : ver.toNat = RTR_PROTOCOL_VERSION_1 ∧ (sockOf s).ivMode ≠ RTR_INTERVAL_MODE_IGNORE_ANY
  · simp only [if_pos hc, rtr_check_interval_option_eq', t1, t2, t3, cio_expiration, cio_refresh, cio_retry,
      withTimers_iv_mode, withTimers_withTimers, sockOf_withTimers', ne, if_false]
    rfl
  · simp only [if_neg hc]
    rfl

/-- **`Rtr.C17.in_range_unless_accept_any` on the C text.**  For every `iv_mode` other than ACCEPT_ANY, every version
    byte and all 32-bit values sent: the End-of-Data interval handling, run on the translated
    `rtr_check_interval_option`, is defined, leaves the three timers of a socket that was in range in range, and
    changes nothing else in the socket. -/
theorem c_eod_intervals_in_range (s : C.S_rtr_socket) (ver : BitVec 8) (e r y : BitVec 32)
    (hs : (sockOf s).InRange) (hm : s.iv_mode.toInt ≠ RTR_INTERVAL_MODE_ACCEPT_ANY) :
    ∃ s' ok, cEodIntervals s ver e r y = some (s', ok) ∧ (sockOf s').InRange ∧ SameButTimers s s' :=
  ⟨_, _, c_eod_intervals_eq s ver e r y,
    C17.in_range_unless_accept_any (sockOf s) ver.toNat (u32Of e) (u32Of r) (u32Of y) hs hm,
    sameButTimers_withTimers s _⟩

end Rtr.CLink
