/-
  CLinkFsm: the socket state machine of rtrlib/rtr/rtr.c as translated: `C.rtr_purge_outdated_records`,
  `C.rtr_fsm_start.loop1.step` (ONE iteration of the `while (1)` of rtr_fsm_start), `C.rtr_fsm_start`, `C.rtr_stop`.

  In the translation of THESE functions every callee (tr_open, tr_close, rtr_send_serial_query, rtr_send_reset_query,
  rtr_sync, rtr_wait_for_sync, rtr_change_socket_state, sleep, pfx_table_src_remove, spki_table_src_remove,
  pthread_setcancelstate, pthread_cancel, pthread_join, lrtr_get_monotonic_time) is an external call through
  `C.XWorld C.S_rtr_socket`: the world's next answer is (return value, auxiliary value = the time, socket afterwards), the
  call is appended to the trace with its scalar arguments and the socket at that moment.  That holds also for the callees
  that are translated and linked on their own (rtr_sync, rtr_wait_for_sync and the two query senders: RtrProofs/CLinkSync.lean):
  they are not composed into this caller, so no theorem here says what the state machine does WITH `rtr_sync` - only what
  it does for every possible answer of it.  The translated functions are the CONTROL SKELETON of the state machine as
  written in C, over arbitrary behaviour of the callees; the trace is the observable.

  The specifications `purgeSpec`, `fsmIterSpec`, `stopSpec` are small programs in do-notation over four primitives
  (`FsmOps`), written once for any monad with these primitives.  `Script` runs them on a world's answers and gives an
  `Outcome` - or nothing where the C text has no defined behaviour; RtrProofs/CLinkFsmModel.lean runs the same programs over
  the state of the hand-written model.  Everything is total except the purge check (`purgeDefined`: unless the clock call
  failed, `last_update + expire_interval` must not overflow `time_t`).

  Robustness: each state is a lemma of its own (`fsm_connecting`, ...: what an iteration in that state does, read off the
  C text); its proof does not navigate the generated term: it unfolds the loop body, rewrites the tests of the state value
  by the value (`beq_of_eq`), and splits on the conditions of the STATEMENT (result of the purge check, return values,
  `request_session_id`).  `rtr_fsm_step_eq` runs the specification against these closed forms, state by state.
-/
import RtrProofs.CLink
import RtrModel.Generated.Constants

namespace Rtr.CLink
open Rtr Rtr.Gen

/-! ## specification -/

abbrev Sock := C.S_rtr_socket
abbrev Ans := C.ExtAns Sock
abbrev XW := C.XWorld Sock

/-- `enum rtr_socket_state` -/
inductive FsmState
  | connecting | established | reset | sync | fastReconnect
  | errorNoDataAvail | errorNoIncrUpdateAvail | errorFatal | errorTransport
  | shutdown | closed
deriving DecidableEq, Repr

def FsmState.code : FsmState → Nat
  | .connecting => 0 | .established => 1 | .reset => 2 | .sync => 3 | .fastReconnect => 4
  | .errorNoDataAvail => 5 | .errorNoIncrUpdateAvail => 6 | .errorFatal => 7 | .errorTransport => 8
  | .shutdown => 9 | .closed => 10

/-- the state a value of the `state` field stands for (`none`: outside the enumeration) -/
def FsmState.ofCode (v : BitVec 32) : Option FsmState :=
  match v.toNat with
  | 0 => some .connecting | 1 => some .established | 2 => some .reset | 3 => some .sync
  | 4 => some .fastReconnect | 5 => some .errorNoDataAvail | 6 => some .errorNoIncrUpdateAvail
  | 7 => some .errorFatal | 8 => some .errorTransport | 9 => some .shutdown | 10 => some .closed
  | _ => none

/-- all states, in the order of the enumeration -/
def FsmState.all : List FsmState :=
  [.connecting, .established, .reset, .sync, .fastReconnect, .errorNoDataAvail, .errorNoIncrUpdateAvail, .errorFatal,
   .errorTransport, .shutdown, .closed]

/-- the codes are the enumerators of the source tree (RtrModel/Generated/Constants.lean, regenerated from it) -/
theorem FsmState.code_eq_enum :
    FsmState.all.map (fun st => (st.code : Int)) =
      [RTR_CONNECTING, RTR_ESTABLISHED, RTR_RESET, RTR_SYNC, RTR_FAST_RECONNECT, RTR_ERROR_NO_DATA_AVAIL,
       RTR_ERROR_NO_INCR_UPDATE_AVAIL, RTR_ERROR_FATAL, RTR_ERROR_TRANSPORT, RTR_SHUTDOWN, RTR_CLOSED] := by decide

theorem FsmState.ofCode_code (st : FsmState) : FsmState.ofCode (BitVec.ofNat 32 st.code) = some st := by
  cases st <;> rfl

/-- the external calls of the state machine -/
inductive XOp
  | open | close
  | serialQuery | resetQuery | sync | waitForSync
  | changeState (s : FsmState)
  | sleep (seconds : BitVec 32)
  | pfxSrcRemove | spkiSrcRemove
  | cancelState (enable : Bool)
  | time
  | threadCancel | threadJoin
deriving DecidableEq, Repr

def XOp.name : XOp → String
  | .open => "tr_open" | .close => "tr_close"
  | .serialQuery => "rtr_send_serial_query" | .resetQuery => "rtr_send_reset_query"
  | .sync => "rtr_sync" | .waitForSync => "rtr_wait_for_sync"
  | .changeState _ => "rtr_change_socket_state"
  | .sleep _ => "sleep"
  | .pfxSrcRemove => "pfx_table_src_remove" | .spkiSrcRemove => "spki_table_src_remove"
  | .cancelState _ => "pthread_setcancelstate"
  | .time => "lrtr_get_monotonic_time"
  | .threadCancel => "pthread_cancel" | .threadJoin => "pthread_join"

/-- the scalar arguments the world records (PTHREAD_CANCEL_ENABLE = 0, PTHREAD_CANCEL_DISABLE = 1) -/
def XOp.args : XOp → List (BitVec 64)
  | .changeState s => [BitVec.ofNat 64 s.code]
  | .sleep secs => [secs.setWidth 64]
  | .cancelState enable => [if enable then 0#64 else 1#64]
  | _ => []

/-- the callees whose effect on the socket record the state machine sees -/
def XOp.handsBackSocket : XOp → Bool
  | .serialQuery | .resetQuery | .sync | .waitForSync | .changeState _ => true
  | _ => false

def XOp.record (c : XOp × Sock) : String × List (BitVec 64) × Sock := (c.1.name, c.1.args, c.2)

/-- a C `int` return value -/
def _root_.Rtr.Gen.C.ExtAns.ret (a : Ans) : BitVec 32 := a.rc.setWidth 32

/-- -1: `RTR_ERROR`, `TR_ERROR`, failure of `lrtr_get_monotonic_time` -/
abbrev minusOne : BitVec 32 := 4294967295#32
/-- 0: `RTR_SUCCESS` -/
abbrev success : BitVec 32 := 0#32

theorem ret_codes_eq_enum : minusOne.toInt = RTR_ERROR ∧ minusOne.toInt = TR_ERROR ∧ success.toInt = RTR_SUCCESS := by decide

/-- an assignment to a field of the socket made by the state machine itself -/
inductive Assign
  | hasReceivedPdus (v : Bool)
  | requestSessionId (v : Bool)
  | serialNumber (v : BitVec 32)
  | lastUpdate (v : BitVec 64)
  | isResetting (v : Bool)
  | threadId (v : BitVec 64)
  | state (v : FsmState)
deriving DecidableEq, Repr

def Assign.apply : Assign → Sock → Sock
  | .hasReceivedPdus v, s => { s with has_received_pdus := v }
  | .requestSessionId v, s => { s with request_session_id := v }
  | .serialNumber v, s => { s with serial_number := v }
  | .lastUpdate v, s => { s with last_update := v }
  | .isResetting v, s => { s with is_resetting := v }
  | .threadId v, s => { s with thread_id := v }
  | .state v, s => { s with state := BitVec.ofNat 32 v.code }

/-- the assignments, first to last -/
def assignAll (l : List Assign) (s : Sock) : Sock := l.foldl (fun s a => a.apply s) s

/-- what the state machine is written in: read the socket, assign fields, perform an external call; `undefined` where the
    C text has no defined behaviour.  The instance `Script` below answers the calls from a world (this is what the translated
    C functions are compared with); RtrProofs/CLinkFsmModel.lean answers them with the sub-operations of the hand-written
    model. -/
class FsmOps (m : Type → Type) where
  sock : m Sock
  assign : List Assign → m Unit
  /-- an external call and its answer (return value, auxiliary value = the time, socket as the callee left it) -/
  ask : XOp → m Ans
  /-- the C text has no defined behaviour here -/
  undefined {α : Type} : m α

export FsmOps (sock assign ask undefined)

section spec
variable {m : Type → Type} [Monad m] [FsmOps m]

/-- an external call whose result is not looked at -/
def call (op : XOp) : m Unit := do
  let _ ← ask op
  pure ()

/-- an external call returning an `int` -/
def callRc (op : XOp) : m (BitVec 32) := do
  let a ← ask op
  pure a.ret

/-- `rtr_purge_outdated_records` -/
def purgeSpec : m Unit := do
  let s ← sock
  if s.last_update = 0#64 then
    pure ()                                       -- holds no data: no call at all
  else
    let t ← ask .time                             -- lrtr_get_monotonic_time(&cur_time)
    let clockFailed : Bool := t.ret == minusOne
    if !clockFailed && BitVec.saddOverflow s.last_update (s.expire_interval.setWidth 64) then
      undefined                                   -- last_update + expire_interval overflows time_t
    else if clockFailed || (s.last_update + s.expire_interval.setWidth 64).slt t.aux then
      call .pfxSrcRemove
      call .spkiSrcRemove
      assign [.requestSessionId true, .serialNumber 0#32, .lastUpdate 0#64, .isResetting true]
    else
      pure ()

/-- what an iteration of the loop decides -/
inductive Iter | again | exit
deriving DecidableEq, Repr

/-- the two error states: close, reconnect after a cancellable sleep of retry_interval -/
def errorRetry : m Iter := do
  call .close
  call (.changeState .connecting)
  call (.cancelState true)
  let s ← sock                                    -- as rtr_change_socket_state left it
  call (.sleep s.retry_interval)
  call (.cancelState false)
  pure .again

/-- one iteration of the `while (1)` of `rtr_fsm_start` -/
def fsmIterSpec : m Iter := do
  let s ← sock
  match FsmState.ofCode s.state with
  | some .connecting =>
    assign [.hasReceivedPdus false]
    purgeSpec
    let opened ← callRc .open
    let s ← sock
    if opened == minusOne then
      call (.changeState .errorTransport)
    else if s.request_session_id then
      call (.changeState .reset)
    else
      let sent ← callRc .serialQuery
      if sent == success then call (.changeState .sync) else call (.changeState .errorFatal)
    pure .again
  | some .reset =>
    let sent ← callRc .resetQuery
    if sent == success then call (.changeState .sync) else pure ()
    pure .again
  | some .sync =>
    let synced ← callRc .sync
    if synced == success then call (.changeState .established) else pure ()
    pure .again
  | some .established =>
    call (.cancelState true)
    let woke ← callRc .waitForSync
    call (.cancelState false)
    if woke == success then
      let sent ← callRc .serialQuery
      if sent == success then call (.changeState .sync) else pure ()
    else pure ()
    pure .again
  | some .fastReconnect =>
    call .close
    call (.changeState .connecting)
    pure .again
  | some .errorNoDataAvail =>
    assign [.requestSessionId true, .serialNumber 0#32]
    call (.changeState .reset)
    let s ← sock
    call (.sleep s.retry_interval)
    purgeSpec
    pure .again
  | some .errorNoIncrUpdateAvail =>
    assign [.requestSessionId true, .serialNumber 0#32]
    call (.changeState .reset)
    purgeSpec
    pure .again
  | some .errorTransport => errorRetry
  | some .errorFatal => errorRetry
  | some .shutdown => pure .exit
  | some .closed => pure .again                   -- no branch of the loop: it goes round without a call
  | none => pure .again                           -- likewise for a value outside the enumeration

/-- `rtr_stop` -/
def stopSpec : m Unit := do
  call (.changeState .shutdown)
  let s ← sock
  if s.thread_id != 0#64 then
    call .threadCancel
    call .threadJoin
    call .close
    assign [.requestSessionId true, .serialNumber 0#32, .lastUpdate 0#64]
    call .pfxSrcRemove
    call .spkiSrcRemove
    assign [.threadId 0#64, .state .closed]
  else
    pure ()

end spec

/-! ## the specification over a world -/

/-- what a piece of the state machine did -/
structure Outcome (α : Type) where
  val : α
  sock : Sock
  /-- index of the first answer of the world not consumed -/
  next : Nat
  /-- the external calls made, in order, each with the socket at the moment of the call -/
  ops : List (XOp × Sock)

/-- a piece of the state machine over a world: given the world's answers (`ext i` = answer to the i-th external call), the
    index of the next answer and the socket, it yields the calls made and the socket afterwards - or nothing where the C text
    is undefined -/
def Script (α : Type) := (Nat → Ans) → Nat → Sock → Option (Outcome α)

namespace Script
protected def pure {α} (a : α) : Script α := fun _ n s => some ⟨a, s, n, []⟩
protected def bind {α β} (m : Script α) (f : α → Script β) : Script β := fun ext n s =>
  match m ext n s with
  | none => none
  | some o =>
    match f o.val ext o.next o.sock with
    | none => none
    | some o' => some ⟨o'.val, o'.sock, o'.next, o.ops ++ o'.ops⟩
instance : Monad Script := { pure := Script.pure, bind := Script.bind }

/-- the answer to an external call is the world's next one; the socket afterwards is the callee's for the callees that hand
    it back; the call is noted with the socket at that moment -/
instance : FsmOps Script where
  sock := fun _ n s => some ⟨s, s, n, []⟩
  assign l := fun _ n s => some ⟨(), assignAll l s, n, []⟩
  ask op := fun ext n s => some ⟨ext n, if op.handsBackSocket then (ext n).st else s, n + 1, [(op, s)]⟩
  undefined := fun _ _ _ => none

def run {α} (m : Script α) (w : XW) (s : Sock) : Option (Outcome α) := m w.ext w.n s
end Script

def Outcome.world {α} (o : Outcome α) (w : XW) : XW :=
  { ext := w.ext, n := o.next, trace := w.trace ++ o.ops.map XOp.record }

abbrev purgeScript : Script Unit := purgeSpec
abbrev fsmIterScript : Script Iter := fsmIterSpec
abbrev stopScript : Script Unit := stopSpec

/-- what a purge resets -/
def purgeFields (s : Sock) : Sock :=
  { s with request_session_id := true, serial_number := 0#32, last_update := 0#64, is_resetting := true }

/-! ## running a script -/

theorem bind_apply {α β} (m : Script α) (f : α → Script β) (ext n s) :
    (m >>= f) ext n s = Script.bind m f ext n s := rfl
theorem pure_apply {α} (a : α) (ext n s) : (pure a : Script α) ext n s = some ⟨a, s, n, []⟩ := rfl

theorem sock_apply (ext n s) : (sock : Script Sock) ext n s = some ⟨s, s, n, []⟩ := rfl
theorem assign_apply (l ext n s) : (assign l : Script Unit) ext n s = some ⟨(), assignAll l s, n, []⟩ := rfl
theorem ask_apply (op : XOp) (ext n s) :
    (ask op : Script Ans) ext n s = some ⟨ext n, if op.handsBackSocket then (ext n).st else s, n + 1, [(op, s)]⟩ := rfl
theorem undefined_apply {α} (ext n s) : (undefined : Script α) ext n s = none := rfl

theorem ite_apply_script {α} (c : Prop) [Decidable c] (a b : Script α) (ext n s) :
    (if c then a else b) ext n s = if c then a ext n s else b ext n s :=
  apply_ite (fun m : Script α => m ext n s) c a b

theorem ret_fold (a : Ans) : BitVec.setWidth 32 a.rc = a.ret := rfl

/-- Running a script from its head.  `simp ↓` rules: `simp` meets them at `(x >>= f) ext n s` before it descends into the
    continuation `f`, so a script of k steps is evaluated in k steps, each with the world's answer put in. -/
@[simp ↓ low] theorem bind_run {α β} (m : Script α) (f : α → Script β) (ext n s) :
    (m >>= f) ext n s =
      match m ext n s with
      | none => none
      | some o =>
        match f o.val ext o.next o.sock with
        | none => none
        | some o' => some ⟨o'.val, o'.sock, o'.next, o.ops ++ o'.ops⟩ := rfl

@[simp ↓] theorem sock_bind {α} (f : Sock → Script α) (ext n s) : (sock >>= f) ext n s = f s ext n s := by
  simp only [bind_run, sock_apply]
  cases f s ext n s <;> rfl

/-- unfold scripts and external calls, with the given facts -/
local syntax "script_simp" "[" Lean.Parser.Tactic.simpLemma,* "]" : tactic
local macro_rules
  | `(tactic| script_simp [$ts,*]) => `(tactic|
      simp [Script.run, bind_apply, pure_apply, sock_apply, assign_apply, ask_apply, undefined_apply, ite_apply_script,
        Script.bind, call, callRc, assignAll, Assign.apply, C.xcall, Outcome.world, XOp.record, XOp.name, XOp.args, XOp.handsBackSocket, FsmState.code, ret_fold, $ts,*])

/-- the result of an iteration in the shape the translated loop body returns it -/
def stepResult (w : XW) (o : Outcome Iter) : C.Step (Nat × Sock × XW) (XW × Sock) :=
  match o.val with
  | .again => .next (o.world w, o.sock)
  | .exit => .done (C.NULL, o.sock, o.world w)

theorem beq_of_eq {v a : BitVec 32} (h : v = a) (b : BitVec 32) : (v == b) = (a == b) := by rw [h]

/-- `script_simp` with the purge link theorem and the step results.  No proof calls this; the state lemmas use
    `spec_simp`. -/
local syntax "state_simp" "[" Lean.Parser.Tactic.simpLemma,* "]" : tactic
local macro_rules
  | `(tactic| state_simp [$ts,*]) => `(tactic|
      script_simp [rtr_purge_outdated_records_eq, stepResult, errorRetry, $ts,*])

/-! ### the values of the state field -/

/-- the split of `ofCode_cases` with the state values as the literals that the closed forms `fsm_*` take as hypotheses -/
theorem state_cases (v : BitVec 32) :
    v = 0#32 ∨ v = 1#32 ∨ v = 2#32 ∨ v = 3#32 ∨ v = 4#32 ∨ v = 5#32 ∨ v = 6#32 ∨ v = 7#32 ∨ v = 8#32 ∨ v = 9#32 ∨
      v = 10#32 ∨ 10 < v.toNat := by
  simp only [← BitVec.toNat_inj, BitVec.toNat_ofNat, Nat.reducePow, Nat.reduceMod]
  omega

/-- what `ofCode` says of a value: the state whose code it is, or that it lies outside the enumeration -/
theorem ofCode_cases (v : BitVec 32) :
    match FsmState.ofCode v with
    | some st => v = BitVec.ofNat 32 st.code
    | none => 10 < v.toNat := by
  unfold FsmState.ofCode
  generalize hn : v.toNat = n
  match n, hn with
  | 0, hn | 1, hn | 2, hn | 3, hn | 4, hn | 5, hn | 6, hn | 7, hn | 8, hn | 9, hn | 10, hn => exact BitVec.eq_of_toNat_eq hn
  | n + 11, _ => exact Nat.le_add_left 11 n

theorem ne_lit_of_ge {v : BitVec 32} {b : Nat} (hv : b ≤ v.toNat) (k : Nat) (hk : k < b) : v ≠ BitVec.ofNat 32 k := by
  intro e
  rw [e, BitVec.toNat_ofNat] at hv
  have := Nat.mod_le k (2 ^ 32)
  omega

/-! ## link, and what the skeleton guarantees (stated about the translated functions) -/

/-- the world after the given calls (each with the socket handed over) have been answered.  The other link files spell
    the same notion with untyped calls: CLinkSync `xrecs w calls` (`worldAfter w ops = xrecs w (ops.map XOp.record)`, and
    `C.ExtAns.ret` is its `xret`), CLinkRecv `push` and `Calls` -/
def worldAfter (w : XW) (calls : List (XOp × Sock)) : XW :=
  { ext := w.ext, n := w.n + calls.length, trace := w.trace ++ calls.map XOp.record }

/-- the purge condition, given the world's answer to the clock reading: the clock failed, or
    last_update + expire_interval < now (signed 64-bit comparison) -/
def purgeDue (s : Sock) (clock : Ans) : Bool :=
  clock.ret == minusOne || (s.last_update + s.expire_interval.setWidth 64).slt clock.aux

/-- THE definedness condition of the purge check: unless the clock failed (then the sum is not evaluated),
    `last_update + expire_interval` must not overflow `time_t` (signed 64-bit) -/
def purgeDefined (s : Sock) (clock : Ans) : Prop :=
  clock.ret = minusOne ∨ BitVec.saddOverflow s.last_update (s.expire_interval.setWidth 64) = false

instance (s : Sock) (clock : Ans) : Decidable (purgeDefined s clock) := by unfold purgeDefined; infer_instance

/-- the possible outcomes of the purge specification -/
theorem purgeSpec_cases (ext : Nat → Ans) (n : Nat) (s : Sock) :
    purgeScript ext n s =
      if s.last_update = 0#64 then some ⟨(), s, n, []⟩
      else if ¬ purgeDefined s (ext n) then none
      else if purgeDue s (ext n) then
        some ⟨(), purgeFields s, n + 3, [(.time, s), (.pfxSrcRemove, s), (.spkiSrcRemove, s)]⟩
      else some ⟨(), s, n + 1, [(.time, s)]⟩ := by
  unfold purgeScript purgeSpec purgeDefined purgeDue
  by_cases h0 : s.last_update = 0#64
  · script_simp [h0]
  · by_cases hc : (ext n).ret = 4294967295#32
    · script_simp [h0, hc, purgeFields]
    · by_cases hov : s.last_update.saddOverflow (BitVec.setWidth 64 s.expire_interval)
      · script_simp [h0, hc, hov]
      · by_cases hexp : (s.last_update + BitVec.setWidth 64 s.expire_interval).slt (ext n).aux
        · script_simp [h0, hc, hov, hexp, purgeFields]
        · script_simp [h0, hc, hov, hexp]

/-- the possible outcomes of the purge check, read off the C text -/
theorem purge_cases (w : XW) (s : Sock) :
    C.rtr_purge_outdated_records w s =
      if s.last_update = 0#64 then some (s, w)
      else if ¬ purgeDefined s (w.ext w.n) then none
      else if purgeDue s (w.ext w.n) then
        some (purgeFields s, worldAfter w [(.time, s), (.pfxSrcRemove, s), (.spkiSrcRemove, s)])
      else some (s, worldAfter w [(.time, s)]) := by
  unfold C.rtr_purge_outdated_records purgeDefined purgeDue
  by_cases h0 : s.last_update = 0#64
  · simp [h0]
  · by_cases hc : (w.ext w.n).ret = 4294967295#32
    · script_simp [h0, hc, worldAfter, purgeFields]
    · by_cases hov : s.last_update.saddOverflow (BitVec.setWidth 64 s.expire_interval)
      · script_simp [h0, hc, hov]
      · by_cases hexp : (s.last_update + BitVec.setWidth 64 s.expire_interval).slt (w.ext w.n).aux
        · script_simp [h0, hc, hov, hexp, worldAfter, purgeFields]
        · script_simp [h0, hc, hov, hexp, worldAfter]

theorem rtr_purge_outdated_records_eq (w : XW) (s : Sock) :
    C.rtr_purge_outdated_records w s = (purgeScript.run w s).map fun o => (o.sock, o.world w) := by
  rw [purge_cases, Script.run, purgeSpec_cases]
  by_cases h0 : s.last_update = 0#64
  · simp [h0, Outcome.world]
  · by_cases hdef : purgeDefined s (w.ext w.n)
    · by_cases hdue : purgeDue s (w.ext w.n) = true
      · simp [h0, hdef, hdue, Outcome.world, worldAfter]
      · simp [h0, hdef, hdue, Outcome.world, worldAfter]
    · simp [h0, hdef]

/-- no data held: nothing happens, not even a clock reading -/
theorem purge_no_data (w : XW) (s : Sock) (h0 : s.last_update = 0#64) :
    C.rtr_purge_outdated_records w s = some (s, w) := by
  rw [purge_cases, if_pos h0]

/-- data held and the purge condition holds: clock reading, both `src_remove` calls, the four fields reset -/
theorem purge_expired (w : XW) (s : Sock) (h0 : s.last_update ≠ 0#64) (hdef : purgeDefined s (w.ext w.n))
    (hdue : purgeDue s (w.ext w.n) = true) :
    C.rtr_purge_outdated_records w s =
      some ({ s with request_session_id := true, serial_number := 0#32, last_update := 0#64, is_resetting := true },
            worldAfter w [(.time, s), (.pfxSrcRemove, s), (.spkiSrcRemove, s)]) := by
  rw [purge_cases, if_neg h0, if_neg (not_not_intro hdef), if_pos hdue]
  rfl

/-- data held and the purge condition does not hold: the clock reading is the only call, the socket is unchanged -/
theorem purge_fresh (w : XW) (s : Sock) (h0 : s.last_update ≠ 0#64) (hdef : purgeDefined s (w.ext w.n))
    (hdue : purgeDue s (w.ext w.n) = false) :
    C.rtr_purge_outdated_records w s = some (s, worldAfter w [(.time, s)]) := by
  rw [purge_cases, if_neg h0, if_neg (not_not_intro hdef), if_neg (by simp [hdue])]

/-- the only undefined case -/
theorem purge_undefined_iff (w : XW) (s : Sock) :
    C.rtr_purge_outdated_records w s = none ↔ s.last_update ≠ 0#64 ∧ ¬ purgeDefined s (w.ext w.n) := by
  rw [purge_cases]
  by_cases h0 : s.last_update = 0#64
  · simp [h0]
  · by_cases hdef : purgeDefined s (w.ext w.n)
    · by_cases hdue : purgeDue s (w.ext w.n) = true <;> simp [h0, hdef, hdue]
    · simp [h0, hdef]

theorem worldAfter_nil (w : XW) : worldAfter w [] = w := by
  simp [worldAfter]

theorem worldAfter_append (w : XW) (a b : List (XOp × Sock)) : worldAfter (worldAfter w a) b = worldAfter w (a ++ b) := by
  simp [worldAfter, Nat.add_assoc]

theorem outcome_world_eq {α} (o : Outcome α) (w : XW) (h : o.next = w.n + o.ops.length) : o.world w = worldAfter w o.ops := by
  simp [Outcome.world, worldAfter, h]

/-- a purge check that returns: the world afterwards is the world after its calls - none, the clock reading, or the
    clock reading and the two removals -; the socket is unchanged or purged -/
theorem purge_calls {w : XW} {s s1 : Sock} {w1 : XW} (hp : C.rtr_purge_outdated_records w s = some (s1, w1)) :
    ∃ calls, w1 = worldAfter w calls ∧
      (∀ c ∈ calls, c = (.time, s) ∨ c = (.pfxSrcRemove, s) ∨ c = (.spkiSrcRemove, s)) ∧ (s1 = s ∨ s1 = purgeFields s) := by
  rw [purge_cases] at hp
  split at hp
  · obtain ⟨rfl, rfl⟩ := Prod.mk.inj (Option.some.inj hp)
    exact ⟨[], (worldAfter_nil w).symm, by simp, Or.inl rfl⟩
  · split at hp
    · exact absurd hp (by simp)
    · split at hp
      · obtain ⟨rfl, rfl⟩ := Prod.mk.inj (Option.some.inj hp)
        exact ⟨_, rfl, by simp, Or.inr rfl⟩
      · obtain ⟨rfl, rfl⟩ := Prod.mk.inj (Option.some.inj hp)
        exact ⟨_, rfl, by simp, Or.inl rfl⟩

/-- the body of the state lemmas and of the cases of `rtr_fsm_step_eq` / `rtr_stop_eq`: the specification side unfolded,
    the call counts added up -/
local syntax "spec_simp" "[" Lean.Parser.Tactic.simpLemma,* "]" : tactic
local macro_rules
  | `(tactic| spec_simp [$ts,*]) => `(tactic|
      script_simp [stepResult, errorRetry, worldAfter, Nat.add_assoc, $ts,*])

/-- CONNECTING (C07, C13, C05): an iteration clears `has_received_pdus`, runs the purge check on that socket, and only then -
    in the world and with the socket the purge check left - calls `tr_open`; the rest is decided by the result of
    `tr_open`, the socket's `request_session_id` AFTER the purge check and the result of the Serial Query -/
theorem fsm_connecting (w : XW) (s : Sock) (h : s.state = 0#32) :
    C.rtr_fsm_start.loop1.step w s =
      match C.rtr_purge_outdated_records w { s with has_received_pdus := false } with
      | none => none
      | some (s1, w1) =>
        let opened := w1.ext w1.n
        let q := w1.ext (w1.n + 1)
        some (.next (
          if opened.ret = minusOne then
            (worldAfter w1 [(.open, s1), (.changeState .errorTransport, s1)], q.st)
          else if s1.request_session_id then
            (worldAfter w1 [(.open, s1), (.changeState .reset, s1)], q.st)
          else
            (worldAfter w1 [(.open, s1), (.serialQuery, s1),
                            (.changeState (if q.ret = success then .sync else .errorFatal), q.st)],
             (w1.ext (w1.n + 2)).st))) := by
  unfold C.rtr_fsm_start.loop1.step
  rcases hp : C.rtr_purge_outdated_records w { s with has_received_pdus := false } with _ | ⟨s1, w1⟩
  · spec_simp [beq_of_eq h, hp]
  · by_cases hopen : (w1.ext w1.n).ret = 4294967295#32
    · spec_simp [beq_of_eq h, hp, hopen]
    · by_cases hreq : s1.request_session_id = true
      · spec_simp [beq_of_eq h, hp, hopen, hreq]
      · by_cases hsent : (w1.ext (w1.n + 1)).ret = 0#32
        all_goals spec_simp [beq_of_eq h, hp, hopen, hreq, hsent]

/-- C07, C13: whatever an iteration in CONNECTING returns, it first cleared `has_received_pdus` and ran the purge check
    (`purgeCalls`: nothing, the clock reading, or the clock reading and the two removals - see `purge_expired`,
    `purge_fresh`, `purge_no_data`), and the FIRST call after those is `tr_open`, with the socket the purge check left -/
theorem fsm_connecting_purges_first (w : XW) (s : Sock) (r) (h : s.state = 0#32)
    (hr : C.rtr_fsm_start.loop1.step w s = some r) :
    ∃ s1 w1 purgeCalls rest s2,
      C.rtr_purge_outdated_records w { s with has_received_pdus := false } = some (s1, w1) ∧
      w1 = worldAfter w purgeCalls ∧
      (∀ c ∈ purgeCalls, c = (.time, { s with has_received_pdus := false }) ∨
          c = (.pfxSrcRemove, { s with has_received_pdus := false }) ∨
          c = (.spkiSrcRemove, { s with has_received_pdus := false })) ∧
      s1.has_received_pdus = false ∧
      r = .next (worldAfter w (purgeCalls ++ (.open, s1) :: rest), s2) := by
  rw [fsm_connecting w s h] at hr
  rcases hp : C.rtr_purge_outdated_records w { s with has_received_pdus := false } with _ | ⟨s1, w1⟩
  · simp [hp] at hr
  · simp only [hp, Option.some.injEq] at hr
    obtain ⟨purgeCalls, e2, hcalls, hs1⟩ := purge_calls hp
    have hrest : ∃ rest s2, r = .next (worldAfter w1 ((.open, s1) :: rest), s2) := by
      subst hr
      split
      · exact ⟨_, _, rfl⟩
      · split
        · exact ⟨_, _, rfl⟩
        · exact ⟨_, _, rfl⟩
    obtain ⟨rest, s2, rfl⟩ := hrest
    refine ⟨s1, w1, purgeCalls, rest, s2, rfl, e2, hcalls, ?_, ?_⟩
    · rcases hs1 with rfl | rfl <;> rfl
    · rw [e2, worldAfter_append]

/-- C05: after a successful `tr_open` the query is chosen by `request_session_id` as the purge check left it:
    `true`: the only further call is `rtr_change_socket_state(RESET)` - no Serial Query is sent;
    `false`: `rtr_send_serial_query`, then the change to SYNC if it succeeded, to ERROR_FATAL if not -/
theorem fsm_connecting_query_choice (w : XW) (s s1 : Sock) (w1 : XW) (h : s.state = 0#32)
    (hp : C.rtr_purge_outdated_records w { s with has_received_pdus := false } = some (s1, w1))
    (hopen : (w1.ext w1.n).ret ≠ minusOne) :
    (s1.request_session_id = true →
      C.rtr_fsm_start.loop1.step w s =
        some (.next (worldAfter w1 [(.open, s1), (.changeState .reset, s1)], (w1.ext (w1.n + 1)).st))) ∧
    (s1.request_session_id = false →
      C.rtr_fsm_start.loop1.step w s =
        some (.next (worldAfter w1 [(.open, s1), (.serialQuery, s1),
                        (.changeState (if (w1.ext (w1.n + 1)).ret = success then .sync else .errorFatal),
                          (w1.ext (w1.n + 1)).st)],
                     (w1.ext (w1.n + 2)).st))) := by
  rw [fsm_connecting w s h, hp]
  constructor <;> intro hreq <;> simp [hopen, hreq]

/-- a failed `tr_open`: the only further call is the change to ERROR_TRANSPORT -/
theorem fsm_connecting_open_fails (w : XW) (s s1 : Sock) (w1 : XW) (h : s.state = 0#32)
    (hp : C.rtr_purge_outdated_records w { s with has_received_pdus := false } = some (s1, w1))
    (hopen : (w1.ext w1.n).ret = minusOne) :
    C.rtr_fsm_start.loop1.step w s =
      some (.next (worldAfter w1 [(.open, s1), (.changeState .errorTransport, s1)], (w1.ext (w1.n + 1)).st)) := by
  rw [fsm_connecting w s h, hp]
  simp [hopen]

/-- C05: RESET sends a Reset Query; SYNC is entered only if that succeeded (otherwise the socket is as the callee left it) -/
theorem fsm_reset_query (w : XW) (s : Sock) (h : s.state = 2#32) :
    C.rtr_fsm_start.loop1.step w s =
      some (.next (
        if (w.ext w.n).ret = success then
          (worldAfter w [(.resetQuery, s), (.changeState .sync, (w.ext w.n).st)], (w.ext (w.n + 1)).st)
        else (worldAfter w [(.resetQuery, s)], (w.ext w.n).st))) := by
  unfold C.rtr_fsm_start.loop1.step
  by_cases hsent : (w.ext w.n).ret = 0#32
  all_goals spec_simp [beq_of_eq h, hsent]

/-- SYNC: `rtr_sync`; ESTABLISHED is entered only if it succeeded -/
theorem fsm_sync (w : XW) (s : Sock) (h : s.state = 3#32) :
    C.rtr_fsm_start.loop1.step w s =
      some (.next (
        if (w.ext w.n).ret = success then
          (worldAfter w [(.sync, s), (.changeState .established, (w.ext w.n).st)], (w.ext (w.n + 1)).st)
        else (worldAfter w [(.sync, s)], (w.ext w.n).st))) := by
  unfold C.rtr_fsm_start.loop1.step
  by_cases hsync : (w.ext w.n).ret = 0#32
  all_goals spec_simp [beq_of_eq h, hsync]

/-- ESTABLISHED: the wait (cancellable), then - only if it succeeded - a Serial Query, then - only if that succeeded - SYNC -/
theorem fsm_established (w : XW) (s : Sock) (h : s.state = 1#32) :
    C.rtr_fsm_start.loop1.step w s =
      some (.next (
        let s1 := (w.ext (w.n + 1)).st
        let wait := [(XOp.cancelState true, s), (XOp.waitForSync, s), (XOp.cancelState false, s1)]
        if (w.ext (w.n + 1)).ret = success then
          if (w.ext (w.n + 3)).ret = success then
            (worldAfter w (wait ++ [(.serialQuery, s1), (.changeState .sync, (w.ext (w.n + 3)).st)]), (w.ext (w.n + 4)).st)
          else (worldAfter w (wait ++ [(.serialQuery, s1)]), (w.ext (w.n + 3)).st)
        else (worldAfter w wait, s1))) := by
  unfold C.rtr_fsm_start.loop1.step
  by_cases hwoke : (w.ext (w.n + 1)).ret = 0#32
  · by_cases hsent : (w.ext (w.n + 3)).ret = 0#32
    all_goals spec_simp [beq_of_eq h, hwoke, hsent]
  · spec_simp [beq_of_eq h, hwoke]

/-- C08: an iteration in ERROR_TRANSPORT or ERROR_FATAL performs exactly: `tr_close`, `rtr_change_socket_state(CONNECTING)`,
    cancellation enabled, `sleep(retry_interval)` - of the socket as the state change left it -, cancellation disabled -/
theorem fsm_error_states_retry (w : XW) (s : Sock) (h : s.state = 8#32 ∨ s.state = 7#32) :
    C.rtr_fsm_start.loop1.step w s =
      some (.next (
        let s1 := (w.ext (w.n + 1)).st
        (worldAfter w [(.close, s), (.changeState .connecting, s), (.cancelState true, s1),
                       (.sleep s1.retry_interval, s1), (.cancelState false, s1)], s1))) := by
  unfold C.rtr_fsm_start.loop1.step
  rcases h with h | h
  all_goals spec_simp [beq_of_eq h]

/-- C08, C05: ERROR_NO_DATA_AVAIL: `request_session_id := true`, `serial_number := 0`, change to RESET, `sleep(retry_interval)`
    (of the socket as the state change left it), then the purge check -/
theorem fsm_no_data_retry (w : XW) (s : Sock) (h : s.state = 5#32) :
    C.rtr_fsm_start.loop1.step w s =
      let s0 : Sock := { s with request_session_id := true, serial_number := 0#32 }
      let s1 := (w.ext w.n).st
      (C.rtr_purge_outdated_records (worldAfter w [(.changeState .reset, s0), (.sleep s1.retry_interval, s1)]) s1).map
        fun (s2, w2) => .next (w2, s2) := by
  unfold C.rtr_fsm_start.loop1.step
  spec_simp [beq_of_eq h]
  split
  next hp => simp [hp]
  next s2 w2 hp => simp [hp]

/-- C08, C05: ERROR_NO_INCR_UPDATE_AVAIL: the same without the sleep -/
theorem fsm_no_incr_retry (w : XW) (s : Sock) (h : s.state = 6#32) :
    C.rtr_fsm_start.loop1.step w s =
      let s0 : Sock := { s with request_session_id := true, serial_number := 0#32 }
      let s1 := (w.ext w.n).st
      (C.rtr_purge_outdated_records (worldAfter w [(.changeState .reset, s0)]) s1).map
        fun (s2, w2) => .next (w2, s2) := by
  unfold C.rtr_fsm_start.loop1.step
  spec_simp [beq_of_eq h]
  split
  next hp => simp [hp]
  next s2 w2 hp => simp [hp]

/-- C08: FAST_RECONNECT: `tr_close`, change to CONNECTING, no sleep -/
theorem fsm_fast_reconnect (w : XW) (s : Sock) (h : s.state = 4#32) :
    C.rtr_fsm_start.loop1.step w s =
      some (.next (worldAfter w [(.close, s), (.changeState .connecting, s)], (w.ext (w.n + 1)).st)) := by
  unfold C.rtr_fsm_start.loop1.step
  spec_simp [beq_of_eq h]

/-- SHUTDOWN ends the loop (`pthread_exit`) without a call -/
theorem fsm_shutdown_exits (w : XW) (s : Sock) (h : s.state = 9#32) :
    C.rtr_fsm_start.loop1.step w s = some (.done (C.NULL, s, w)) := by
  unfold C.rtr_fsm_start.loop1.step
  spec_simp [beq_of_eq h]

/-- CLOSED, or a value outside the enumeration: no branch of the loop matches - the iteration returns the world and the socket
    untouched, WITHOUT any call -/
theorem fsm_closed_or_invalid_idles (w : XW) (s : Sock) (h : 10 ≤ s.state.toNat) :
    C.rtr_fsm_start.loop1.step w s = some (.next (w, s)) := by
  unfold C.rtr_fsm_start.loop1.step
  simp [ne_lit_of_ge h]

/-- ... so the translated loop never returns from there: whatever the fuel (the C loop spins) -/
theorem fsm_closed_or_invalid_spins (fuel : Nat) (w : XW) (s : Sock) (h : 10 ≤ s.state.toNat) :
    C.rtr_fsm_start.loop1 fuel w s = none := by
  induction fuel with
  | zero => rfl
  | succ k ih => rw [C.rtr_fsm_start.loop1, fsm_closed_or_invalid_idles w s h]; exact ih

/-- ONE ITERATION of the `while (1)` of `rtr_fsm_start`, as translated, is the specification - for every socket and every
    world.  Undefined exactly where a purge check it contains is.  This ties the C text to the specification that
    CLinkFsmModel runs over the model; to USE what an iteration does, take the closed forms it is proved from, one per
    state: `fsm_connecting` … `fsm_closed_or_invalid_idles` (the right-hand side here can only be evaluated with the
    script lemmas of this file) -/
theorem rtr_fsm_step_eq (w : XW) (s : Sock) :
    C.rtr_fsm_start.loop1.step w s = (fsmIterScript.run w s).map (stepResult w) := by
  unfold fsmIterScript fsmIterSpec
  rw [Script.run, sock_bind]
  -- the specification branches on `ofCode s.state`; each state's closed form is `fsm_*`
  have h := ofCode_cases s.state
  rcases hc : FsmState.ofCode s.state with _ | st
  · rw [hc] at h
    rw [fsm_closed_or_invalid_idles w s (Nat.le_of_lt h)]
    spec_simp []
  rw [hc] at h
  cases st
  · rw [fsm_connecting w s h, rtr_purge_outdated_records_eq]
    rcases hp : purgeScript w.ext w.n { s with has_received_pdus := false } with _ | o
    · spec_simp [hp]
    · by_cases hopen : (w.ext o.next).ret = 4294967295#32
      · spec_simp [hp, hopen]
      · by_cases hreq : o.sock.request_session_id = true
        · spec_simp [hp, hopen, hreq]
        · by_cases hsent : (w.ext (o.next + 1)).ret = 0#32
          all_goals spec_simp [hp, hopen, hreq, hsent]
  · rw [fsm_established w s h]
    by_cases hwoke : (w.ext (w.n + 1)).ret = 0#32
    · by_cases hsent : (w.ext (w.n + 3)).ret = 0#32
      all_goals spec_simp [hwoke, hsent]
    · spec_simp [hwoke]
  · rw [fsm_reset_query w s h]
    by_cases hsent : (w.ext w.n).ret = 0#32
    all_goals spec_simp [hsent]
  · rw [fsm_sync w s h]
    by_cases hsync : (w.ext w.n).ret = 0#32
    all_goals spec_simp [hsync]
  · rw [fsm_fast_reconnect w s h]
    spec_simp []
  · rw [fsm_no_data_retry w s h]
    simp only [rtr_purge_outdated_records_eq]
    rcases hp : purgeScript w.ext (w.n + 2) (w.ext w.n).st with _ | o
    all_goals spec_simp [hp]
  · rw [fsm_no_incr_retry w s h]
    simp only [rtr_purge_outdated_records_eq]
    rcases hp : purgeScript w.ext (w.n + 1) (w.ext w.n).st with _ | o
    all_goals spec_simp [hp]
  · rw [fsm_error_states_retry w s (Or.inr h)]
    spec_simp []
  · rw [fsm_error_states_retry w s (Or.inl h)]
    spec_simp []
  · rw [fsm_shutdown_exits w s h]
    spec_simp []
  · rw [fsm_closed_or_invalid_idles w s (by rw [h]; decide)]
    spec_simp []

/-- C08: the machine cannot go round without going through the transport, the clock or a callee: every iteration in one of
    the states CONNECTING .. ERROR_TRANSPORT that asks for another iteration has made at least one external call
    (SHUTDOWN ends the loop: `fsm_shutdown_exits`; CLOSED and values outside the enumeration DO go round without a call:
    `fsm_closed_or_invalid_idles`) -/
theorem fsm_every_iteration_calls_out (w w' : XW) (s s' : Sock) (hs : s.state.toNat < 10)
    (hr : C.rtr_fsm_start.loop1.step w s = some (.next (w', s'))) :
    ∃ c calls, w' = worldAfter w (c :: calls) := by
  have key : ∀ {c calls x}, some (.next (worldAfter w (c :: calls), x)) = some (C.Step.next (ρ := Nat × Sock × XW) (w', s')) →
      ∃ c calls, w' = worldAfter w (c :: calls) :=
    fun e => ⟨_, _, (Prod.mk.inj (C.Step.next.inj (Option.some.inj e))).1.symm⟩
  rcases state_cases s.state with h | h | h | h | h | h | h | h | h | h | h | h
  · obtain ⟨s1, w1, purgeCalls, rest, s2, _, _, _, _, e⟩ := fsm_connecting_purges_first w s _ h hr
    simp only [C.Step.next.injEq, Prod.mk.injEq] at e
    rcases purgeCalls with _ | ⟨c, cs⟩
    · exact ⟨_, _, e.1⟩
    · exact ⟨c, cs ++ (.open, s1) :: rest, e.1⟩
  · rw [fsm_established w s h] at hr
    split at hr
    · split at hr <;> exact key hr
    · exact key hr
  · rw [fsm_reset_query w s h] at hr
    split at hr <;> exact key hr
  · rw [fsm_sync w s h] at hr
    split at hr <;> exact key hr
  · rw [fsm_fast_reconnect w s h] at hr
    exact key hr
  · rw [fsm_no_data_retry w s h] at hr
    simp only [Option.map_eq_some_iff] at hr
    obtain ⟨⟨s2, w2⟩, hp, e⟩ := hr
    simp only [C.Step.next.injEq, Prod.mk.injEq] at e
    obtain ⟨calls, e2, _, _⟩ := purge_calls hp
    rw [worldAfter_append] at e2
    exact ⟨_, _, e.1.symm.trans e2⟩
  · rw [fsm_no_incr_retry w s h] at hr
    simp only [Option.map_eq_some_iff] at hr
    obtain ⟨⟨s2, w2⟩, hp, e⟩ := hr
    simp only [C.Step.next.injEq, Prod.mk.injEq] at e
    obtain ⟨calls, e2, _, _⟩ := purge_calls hp
    rw [worldAfter_append] at e2
    exact ⟨_, _, e.1.symm.trans e2⟩
  · rw [fsm_error_states_retry w s (Or.inr h)] at hr
    exact key hr
  · rw [fsm_error_states_retry w s (Or.inl h)] at hr
    exact key hr
  · rw [fsm_shutdown_exits w s h] at hr
    simp at hr
  · rw [h] at hs
    exact absurd hs (by decide)
  · omega

/-- ... in particular it has consumed at least one answer of the world, and the trace has grown -/
theorem fsm_every_iteration_consumes (w w' : XW) (s s' : Sock) (hs : s.state.toNat < 10)
    (hr : C.rtr_fsm_start.loop1.step w s = some (.next (w', s'))) :
    w.n < w'.n ∧ w.trace.length < w'.trace.length := by
  obtain ⟨c, calls, e⟩ := fsm_every_iteration_calls_out w w' s s' hs hr
  subst e
  simp [worldAfter]

/-- C07: `rtr_stop` of a socket whose thread runs (`thread_id ≠ 0` after the state change): change to SHUTDOWN, `pthread_cancel`,
    `pthread_join`, `tr_close` - all with the socket as the state change left it -, THEN `request_session_id := true`,
    `serial_number := 0`, `last_update := 0`, and with that socket both `src_remove` calls; it ends with `thread_id = 0` and
    state CLOSED.  (The socket recorded at `pthread_cancel` / `pthread_join` is the one before the resets: the resets come
    after the join.) -/
theorem stop_purges (w : XW) (s : Sock) (ht : (w.ext w.n).st.thread_id ≠ 0#64) :
    C.rtr_stop w s =
      let s1 := (w.ext w.n).st
      let s2 : Sock := { s1 with request_session_id := true, serial_number := 0#32, last_update := 0#64 }
      some ({ s2 with thread_id := 0#64, state := 10#32 },
            worldAfter w [(.changeState .shutdown, s), (.threadCancel, s1), (.threadJoin, s1), (.close, s1),
                          (.pfxSrcRemove, s2), (.spkiSrcRemove, s2)]) := by
  unfold C.rtr_stop
  spec_simp [ht]

/-- `rtr_stop` of a socket that is not running: only the state change happens -/
theorem stop_not_running (w : XW) (s : Sock) (ht : (w.ext w.n).st.thread_id = 0#64) :
    C.rtr_stop w s = some ((w.ext w.n).st, worldAfter w [(.changeState .shutdown, s)]) := by
  unfold C.rtr_stop
  spec_simp [ht]

/-- `rtr_stop` as translated is the specification; it is total -/
theorem rtr_stop_eq (w : XW) (s : Sock) :
    C.rtr_stop w s = (stopScript.run w s).map fun o => (o.sock, o.world w) := by
  unfold stopScript stopSpec
  by_cases ht : (w.ext w.n).st.thread_id = 0#64
  · rw [stop_not_running w s ht]
    spec_simp [ht]
  · rw [stop_purges w s ht]
    spec_simp [ht]

/-- where an iteration is undefined: exactly where the purge check it contains is (CONNECTING: at the start;
    ERROR_NO_DATA_AVAIL: after the state change and the sleep; ERROR_NO_INCR_UPDATE_AVAIL: after the state change) -/
theorem fsm_step_undefined_iff (w : XW) (s : Sock) :
    C.rtr_fsm_start.loop1.step w s = none ↔
      (s.state = 0#32 ∧ s.last_update ≠ 0#64 ∧ ¬ purgeDefined s (w.ext w.n)) ∨
      (s.state = 5#32 ∧ (w.ext w.n).st.last_update ≠ 0#64 ∧ ¬ purgeDefined (w.ext w.n).st (w.ext (w.n + 2))) ∨
      (s.state = 6#32 ∧ (w.ext w.n).st.last_update ≠ 0#64 ∧ ¬ purgeDefined (w.ext w.n).st (w.ext (w.n + 1))) := by
  rcases state_cases s.state with h | h | h | h | h | h | h | h | h | h | h | h
  · rw [fsm_connecting w s h]
    have hu := purge_undefined_iff w { s with has_received_pdus := false }
    rcases hp : C.rtr_purge_outdated_records w { s with has_received_pdus := false } with _ | ⟨s1, w1⟩
    · rw [hp] at hu
      simpa [h, purgeDefined] using hu
    · rw [hp] at hu
      simpa [h, purgeDefined] using hu
  · simp [fsm_established w s h, h]
  · simp [fsm_reset_query w s h, h]
  · simp [fsm_sync w s h, h]
  · simp [fsm_fast_reconnect w s h, h]
  · simp [fsm_no_data_retry w s h, h, purge_undefined_iff, worldAfter]
  · simp [fsm_no_incr_retry w s h, h, purge_undefined_iff, worldAfter]
  · simp [fsm_error_states_retry w s (Or.inr h), h]
  · simp [fsm_error_states_retry w s (Or.inl h), h]
  · simp [fsm_shutdown_exits w s h, h]
  · simp [fsm_closed_or_invalid_idles w s (by rw [h]; decide), h]
  · simp [fsm_closed_or_invalid_idles w s (Nat.le_of_lt h), ne_lit_of_ge (Nat.le_of_lt h)]

/-- `rtr_fsm_start`: nothing if the socket is already shut down; otherwise cancellation is disabled, the state set to
    CONNECTING, and the loop entered -/
theorem rtr_fsm_start_eq (w : XW) (s : Sock) :
    C.rtr_fsm_start w s =
      if s.state = 9#32 then some (C.NULL, s, w)
      else C.rtr_fsm_start.loop1 C.FUEL (worldAfter w [(.cancelState false, s)]) { s with state := 0#32 } := by
  unfold C.rtr_fsm_start
  by_cases h : s.state = 9#32
  · simp [h]
  · simp [h, C.xcall, worldAfter, XOp.record, XOp.name, XOp.args]

/-! ## the translated functions run (kernel evaluation; non-vacuity) -/

/-- a world that gives the listed answers, in order -/
def mkXWorld (answers : List Ans) : XW := { ext := fun i => answers.getD i { rc := 0#64, aux := 0#64, st := C.S_rtr_socket.zero } }

/-- an answer: return value, auxiliary value, socket handed back -/
def ans (rc : Int) (st : Sock := C.S_rtr_socket.zero) (aux : Nat := 0) : Ans :=
  { rc := BitVec.ofInt 64 rc, aux := BitVec.ofNat 64 aux, st := st }

/-- a socket with session, in the given state -/
def sockIn (state : Nat) (lastUpdate : Nat := 100) (requestSession : Bool := false) : Sock :=
  { C.S_rtr_socket.zero with
      state := BitVec.ofNat 32 state, last_update := BitVec.ofNat 64 lastUpdate, expire_interval := 600#32,
      retry_interval := 30#32, refresh_interval := 300#32, session_id := 7#32, serial_number := 42#32, version := 1#32,
      request_session_id := requestSession, thread_id := 5#64 }

/-- what one looks at: does the loop go on, the calls (name, arguments), answers consumed, the socket afterwards -/
def obsStep (r : Option (C.Step (Nat × Sock × XW) (XW × Sock))) : Option (Bool × List (String × List (BitVec 64)) × Nat × Sock) :=
  r.map fun
    | .next (w, s) => (true, w.trace.map (fun c => (c.1, c.2.1)), w.n, s)
    | .done (_, s, w) => (false, w.trace.map (fun c => (c.1, c.2.1)), w.n, s)

def obsSockWorld (r : Option (Sock × XW)) : Option (List (String × List (BitVec 64)) × Nat × Sock) :=
  r.map fun (s, w) => (w.trace.map (fun c => (c.1, c.2.1)), w.n, s)

/-- CONNECTING, data of time 100, expire interval 600, clock 1000: expired - clock, both removals, `tr_open`, and RESET
    (not a Serial Query, although the socket had a session) -/
example : obsStep (C.rtr_fsm_start.loop1.step
      (mkXWorld [ans 0 (aux := 1000), ans 0, ans 0, ans 0, ans 0 (sockIn 2 0 true)]) (sockIn 0))
    = some (true, [("lrtr_get_monotonic_time", []), ("pfx_table_src_remove", []), ("spki_table_src_remove", []),
                   ("tr_open", []), ("rtr_change_socket_state", [2#64])], 5, sockIn 2 0 true) := by decide +kernel

/-- ... and `tr_open` (the 4th call) saw the purged socket: `request_session_id` set, serial 0, `last_update` 0 -/
example : ((C.rtr_fsm_start.loop1.step
      (mkXWorld [ans 0 (aux := 1000), ans 0, ans 0, ans 0, ans 0 (sockIn 2 0 true)]) (sockIn 0)).map fun
        | .next (w, _) => w.trace.map fun c => (c.1, c.2.2.request_session_id, c.2.2.serial_number, c.2.2.last_update)
        | .done _ => [])
    = some [("lrtr_get_monotonic_time", false, 42#32, 100#64), ("pfx_table_src_remove", false, 42#32, 100#64),
            ("spki_table_src_remove", false, 42#32, 100#64), ("tr_open", true, 0#32, 0#64),
            ("rtr_change_socket_state", true, 0#32, 0#64)] := by decide +kernel

/-- the same socket, clock 500: fresh - the clock reading is the only call of the purge check; then `tr_open`, a Serial
    Query, SYNC -/
example : obsStep (C.rtr_fsm_start.loop1.step
      (mkXWorld [ans 0 (aux := 500), ans 0, ans 0 (sockIn 0), ans 0 (sockIn 3)]) (sockIn 0))
    = some (true, [("lrtr_get_monotonic_time", []), ("tr_open", []), ("rtr_send_serial_query", []),
                   ("rtr_change_socket_state", [3#64])], 4, sockIn 3) := by decide +kernel

/-- the Serial Query fails: ERROR_FATAL -/
example : obsStep (C.rtr_fsm_start.loop1.step
      (mkXWorld [ans 0 (aux := 500), ans 0, ans (-1) (sockIn 0), ans 0 (sockIn 7)]) (sockIn 0))
    = some (true, [("lrtr_get_monotonic_time", []), ("tr_open", []), ("rtr_send_serial_query", []),
                   ("rtr_change_socket_state", [7#64])], 4, sockIn 7) := by decide +kernel

/-- the boundary: last_update + expire_interval = now is NOT expired (strict comparison) -/
example : obsSockWorld (C.rtr_purge_outdated_records (mkXWorld [ans 0 (aux := 700)]) (sockIn 0))
    = some ([("lrtr_get_monotonic_time", [])], 1, sockIn 0) := by decide +kernel
example : obsSockWorld (C.rtr_purge_outdated_records (mkXWorld [ans 0 (aux := 701)]) (sockIn 0))
    = some ([("lrtr_get_monotonic_time", []), ("pfx_table_src_remove", []), ("spki_table_src_remove", [])], 3,
            { sockIn 0 0 true with serial_number := 0#32, is_resetting := true }) := by decide +kernel

/-- a failing clock purges -/
example : obsSockWorld (C.rtr_purge_outdated_records (mkXWorld [ans (-1) (aux := 0)]) (sockIn 0))
    = some ([("lrtr_get_monotonic_time", []), ("pfx_table_src_remove", []), ("spki_table_src_remove", [])], 3,
            { sockIn 0 0 true with serial_number := 0#32, is_resetting := true }) := by decide +kernel

/-- no data: no call -/
example : obsSockWorld (C.rtr_purge_outdated_records (mkXWorld []) (sockIn 0 0)) = some ([], 0, sockIn 0 0) := by decide +kernel

/-- the undefined case: last_update = 2^63 - 1 (the sum overflows `time_t`) - unless the clock fails -/
example : obsSockWorld (C.rtr_purge_outdated_records (mkXWorld [ans 0 (aux := 1000)]) (sockIn 0 (2 ^ 63 - 1))) = none := by decide +kernel
example : (obsSockWorld (C.rtr_purge_outdated_records (mkXWorld [ans (-1)]) (sockIn 0 (2 ^ 63 - 1)))).isSome = true := by decide +kernel
example : ¬ purgeDefined (sockIn 0 (2 ^ 63 - 1)) (ans 0 (aux := 1000)) := by decide +kernel
example : purgeDefined (sockIn 0) (ans 0 (aux := 1000)) ∧ purgeDue (sockIn 0) (ans 0 (aux := 1000)) = true := by decide +kernel

/-- ERROR_TRANSPORT: close, CONNECTING, cancellable sleep of the retry interval the state change left (77, not 30) -/
example : obsStep (C.rtr_fsm_start.loop1.step
      (mkXWorld [ans 0, ans 0 { sockIn 0 with retry_interval := 77#32 }]) (sockIn 8))
    = some (true, [("tr_close", []), ("rtr_change_socket_state", [0#64]), ("pthread_setcancelstate", [0#64]),
                   ("sleep", [77#64]), ("pthread_setcancelstate", [1#64])], 5,
            { sockIn 0 with retry_interval := 77#32 }) := by decide +kernel

/-- ERROR_NO_DATA_AVAIL: RESET, sleep, purge check (here: expired) -/
example : obsStep (C.rtr_fsm_start.loop1.step
      (mkXWorld [ans 0 (sockIn 2), ans 0, ans 0 (aux := 1000)]) (sockIn 5))
    = some (true, [("rtr_change_socket_state", [2#64]), ("sleep", [30#64]), ("lrtr_get_monotonic_time", []),
                   ("pfx_table_src_remove", []), ("spki_table_src_remove", [])], 5,
            { sockIn 2 0 true with serial_number := 0#32, is_resetting := true }) := by decide +kernel

/-- SHUTDOWN leaves the loop; CLOSED and 11 go round without a call -/
example : obsStep (C.rtr_fsm_start.loop1.step (mkXWorld []) (sockIn 9)) = some (false, [], 0, sockIn 9) := by decide +kernel
example : obsStep (C.rtr_fsm_start.loop1.step (mkXWorld []) (sockIn 10)) = some (true, [], 0, sockIn 10) := by decide +kernel
example : obsStep (C.rtr_fsm_start.loop1.step (mkXWorld []) (sockIn 11)) = some (true, [], 0, sockIn 11) := by decide +kernel

/-- `rtr_stop` of a running socket: the sockets recorded at the calls show the order (resets after the join) -/
example : ((C.rtr_stop (mkXWorld [ans 0 (sockIn 9)]) (sockIn 1)).map fun r =>
      (r.2.trace.map fun c => (c.1, c.2.2.last_update, c.2.2.request_session_id), r.1.state, r.1.thread_id, r.1.last_update))
    = some ([("rtr_change_socket_state", 100#64, false), ("pthread_cancel", 100#64, false),
             ("pthread_join", 100#64, false), ("tr_close", 100#64, false),
             ("pfx_table_src_remove", 0#64, true), ("spki_table_src_remove", 0#64, true)],
            10#32, 0#64, 0#64) := by decide +kernel

/-- ... of a socket that is not running: only the state change -/
example : obsSockWorld (C.rtr_stop (mkXWorld [ans 0 { sockIn 9 with thread_id := 0#64 }]) (sockIn 1))
    = some ([("rtr_change_socket_state", [9#64])], 1, { sockIn 9 with thread_id := 0#64 }) := by decide +kernel

/-- the whole translated `rtr_fsm_start` with its full fuel: CONNECTING (no data: no purge call) - RESET - SYNC -
    ESTABLISHED - the wait is interrupted by a shutdown - exit -/
example : (C.rtr_fsm_start
      (mkXWorld [ans 0, ans 0, ans 0 (sockIn 2 0 true), ans 0 (sockIn 2 0 true), ans 0 (sockIn 3 0 true), ans 0 (sockIn 3 50),
                 ans 0 (sockIn 1 50), ans 0, ans (-1) (sockIn 9 50), ans 0]) (sockIn 10 0 true)).map
      (fun (_, s, w) => (w.trace.map (fun c => (c.1, c.2.1)), w.n, s))
    = some ([("pthread_setcancelstate", [1#64]), ("tr_open", []), ("rtr_change_socket_state", [2#64]),
             ("rtr_send_reset_query", []), ("rtr_change_socket_state", [3#64]), ("rtr_sync", []),
             ("rtr_change_socket_state", [1#64]), ("pthread_setcancelstate", [0#64]), ("rtr_wait_for_sync", []),
             ("pthread_setcancelstate", [1#64])], 10, sockIn 9 50) := by decide +kernel

end Rtr.CLink
