/-
  CLinkPdu: the memory-mode translations of `rtr_get_pdu_type` and `rtr_pdu_check_size` (rtrlib/rtr/packets.c,
  translated by tools/gen_cfuns.py into RtrModel/Generated/CFuns.lean on every run) against the hand-written model
  `Rtr.P.checkSize` (RtrModel/Rtr.lean) and its specification `Rtr.P.KnownSize` (RtrProofs/CheckSize.lean).

  What has to be bridged: when the C function runs (`rtr_receive_pdu`), the 8-byte header of the receive buffer is
  in host byte order (a local copy was converted by `rtr_pdu_header_to_host_byte_order` and copied back: the 16-bit field at
  offset 2 and the 32-bit length at offset 4 are byte-swapped), everything behind the header is still in network
  byte order; the model reads the raw network-order bytes throughout. `hostHeader raw` is that buffer (on the
  little-endian host the translator's `load32` models).

  The generated term is walked once, in `rtr_pdu_check_size_of_reads` (arbitrary memory, size, pointer: the C text as a
  function of the five values it reads, each used only behind the bounds guard of its read), without navigating it: it is
  normalised with simp sets (loads ↦ numbers), the type value is split, each branch is compared with the model's.  Memory
  independence, memory safety and functional correctness (`rtr_pdu_check_size_eq`: on `hostHeader raw`, the object being
  exactly the `lenOf raw` received bytes, the C text returns `checkSize raw`) are instances of that theorem.  That the
  translated header conversion produces such a buffer - so that `hostHeader` is not a trusted definition - is proved in
  RtrProofs/CLinkRecvModel.lean, behind the link of the conversion.
-/
import RtrProofs.CLink
import RtrModel.Rtr
import RtrProofs.CheckSize

namespace Rtr.CLink
open Rtr Rtr.Gen Rtr.P

/-! ## byte lists as memory -/

def Bytes (l : List Nat) : Prop := ∀ x ∈ l, x < 256

theorem getD_lt_of_bytes {l : List Nat} (h : Bytes l) (a : Nat) : l.getD a 0 < 256 := by
  rw [List.getD_eq_getElem?_getD]
  by_cases ha : a < l.length
  · rw [List.getElem?_eq_getElem ha]; exact h _ (List.getElem_mem ha)
  · rw [List.getElem?_eq_none (by omega)]; decide

theorem memOfList_toNat {l : List Nat} (h : Bytes l) (a : Nat) : (C.memOfList l a).toNat = l.getD a 0 := by
  unfold C.memOfList
  exact lit_toNat _ (getD_lt_of_bytes h a)

/-- `ntohl(*(uint32_t *)(buf + a))` is the model's `be32 buf a` -/
theorem bswap32_load32_memOfList {l : List Nat} (h : Bytes l) (a : Nat) :
    (C.bswap32 (C.load32 (C.memOfList l) a)).toNat = be32 l a := by
  rw [bswap32_load32_toNat]; simp only [memOfList_toNat h]; rfl

/-- a 32-bit field never exceeds 32 bits (so a 64-bit sum of a few of them cannot wrap) -/
theorem be32_lt {l : List Nat} (h : Bytes l) (a : Nat) : be32 l a < 4294967296 := by
  have := getD_lt_of_bytes h a; have := getD_lt_of_bytes h (a+1)
  have := getD_lt_of_bytes h (a+2); have := getD_lt_of_bytes h (a+3)
  unfold be32; omega

/-! ## comparisons of widened values with literals, as numbers -/

theorem beq64_toNat (x y : BitVec 64) : (x == y) = (x.toNat == y.toNat) := by
  rw [Bool.eq_iff_iff]; simp [BitVec.toNat_inj]

theorem bne_toNat {w : Nat} (x y : BitVec w) : (x != y) = (x.toNat != y.toNat) := by
  rw [Bool.eq_iff_iff]; simp [BitVec.toNat_inj]

theorem zext32_beq_lit64 (k : Nat) (x : BitVec 32) (hk : k < 18446744073709551616) :
    (BitVec.setWidth 64 x == BitVec.ofNat 64 k) = (x.toNat == k) :=
  zext_beq_lit x k (by decide) hk

theorem lit64_beq_zext32 (k : Nat) (x : BitVec 32) (hk : k < 18446744073709551616) :
    (BitVec.ofNat 64 k == BitVec.setWidth 64 x) = (x.toNat == k) := by
  rw [BEq.comm, zext32_beq_lit64 k x hk]

/-- a bound on an address survives adding an offset, in a form `simp` can rewrite with; no proof uses it -/
theorem le_add_lit (a b k : Nat) (h : a ≤ b) : (a ≤ k + b) = True := by simp; omega

/-! ## the receive buffer at the time of the size check -/

/-- the receive buffer when `rtr_pdu_check_size` runs: `rtr_pdu_header_to_host_byte_order` has swapped the 16-bit
    field at offset 2 and the 32-bit length at offset 4 in place (little-endian host); bytes 0, 1 and everything
    behind the header are as received -/
def hostHeader (raw : List Nat) : List Nat :=
  match raw with
  | b0 :: b1 :: b2 :: b3 :: b4 :: b5 :: b6 :: b7 :: rest => b0 :: b1 :: b3 :: b2 :: b7 :: b6 :: b5 :: b4 :: rest
  | _ => raw

theorem hostHeader_length (raw : List Nat) : (hostHeader raw).length = raw.length := by
  unfold hostHeader; split <;> simp

theorem hostHeader_bytes {raw : List Nat} (h : Bytes raw) : Bytes (hostHeader raw) := by
  unfold hostHeader; split
  · intro x hx; apply h; simp only [List.mem_cons] at hx ⊢
    rcases hx with e | e | e | e | e | e | e | e | e <;> simp [e]
  · exact h

theorem hostHeader_getD_ge (raw : List Nat) (i : Nat) (h : 8 ≤ i) : (hostHeader raw).getD i 0 = raw.getD i 0 := by
  unfold hostHeader; split
  · obtain ⟨j, rfl⟩ : ∃ j, i = j + 8 := ⟨i - 8, by omega⟩
    rfl
  · rfl

theorem hostHeader_getD_0 (raw : List Nat) : (hostHeader raw).getD 0 0 = raw.getD 0 0 := by
  unfold hostHeader; split <;> rfl
theorem hostHeader_getD_1 (raw : List Nat) : (hostHeader raw).getD 1 0 = raw.getD 1 0 := by
  unfold hostHeader; split <;> rfl

theorem cons_of_succ_le {α : Type} {l : List α} {n : Nat} (h : n + 1 ≤ l.length) :
    ∃ a r, l = a :: r ∧ n ≤ r.length := by
  cases l with
  | nil => exact absurd h (Nat.not_succ_le_zero n)
  | cons a r => exact ⟨a, r, rfl, Nat.le_of_succ_le_succ h⟩

/-- `pdu->len` (a plain host-order load after the header conversion) is the model's `lenOf` -/
theorem hostHeader_len {raw : List Nat} (hb : Bytes raw) (h : 8 ≤ raw.length) :
    (C.load32 (C.memOfList (hostHeader raw)) 4).toNat = lenOf raw := by
  rw [load32_toNat]
  simp only [memOfList_toNat (hostHeader_bytes hb)]
  -- with the eight header bytes named, both sides evaluate to the same polynomial
  obtain ⟨b0, r0, rfl, h0⟩ := cons_of_succ_le h
  obtain ⟨b1, r1, rfl, h1⟩ := cons_of_succ_le h0
  obtain ⟨b2, r2, rfl, h2⟩ := cons_of_succ_le h1
  obtain ⟨b3, r3, rfl, h3⟩ := cons_of_succ_le h2
  obtain ⟨b4, r4, rfl, h4⟩ := cons_of_succ_le h3
  obtain ⟨b5, r5, rfl, h5⟩ := cons_of_succ_le h4
  obtain ⟨b6, r6, rfl, h6⟩ := cons_of_succ_le h5
  obtain ⟨b7, r7, rfl, _⟩ := cons_of_succ_le h6
  rfl

theorem load32_hostHeader_ge (raw : List Nat) (a : Nat) (h : 8 ≤ a) :
    C.load32 (C.memOfList (hostHeader raw)) a = C.load32 (C.memOfList raw) a := by
  unfold C.load32 C.memOfList
  rw [hostHeader_getD_ge raw a h, hostHeader_getD_ge raw (a+1) (by omega), hostHeader_getD_ge raw (a+2) (by omega),
    hostHeader_getD_ge raw (a+3) (by omega)]

/-! ## `rtr_get_pdu_type` (its link `rtr_get_pdu_type_eq` is in CLink.lean) -/

theorem rtr_get_pdu_type_none (mem : Nat → BitVec 8) (msize : Nat) (h : msize < 2) :
    C.rtr_get_pdu_type mem msize 0 = none := by
  rw [rtr_get_pdu_type_eq]; simp only [Nat.zero_add]; rw [if_neg (by omega)]

/-! ## `rtr_pdu_check_size` as a function of the values it reads, and memory independence (arbitrary memory, object size
and pointer) -/

theorem ite_some_bool (b : Bool) : (if b = true then some true else some false) = some b := by
  cases b <;> rfl

theorem ite_not_some_bool (b : Bool) : (if (!b) = true then some false else some true) = some b := by
  cases b <;> rfl

-- the two simp sets also hold lemmas for equivalent spellings of the C tests (`k == x` / `x == k`, `==` / `!=`, `<` / `<=`)
set_option linter.unusedSimpArgs false in
/-- The C text of `rtr_pdu_check_size` reads at most five values: the type and version bytes, the length field and,
    for an Error Report, the two nested lengths. Each hypothesis gives one of them a name, and only where its bounds
    guard holds; the result - including whether there is one - is the stated function of these names. So every read
    lies behind its guard, the 64-bit sum `min_size` does not wrap (each addend is below 2^32), and the function is
    the model's `checkSize` with the guards made explicit.
    To go on from the right-hand side, `generalize` the type value and `match` on it, as `rtr_pdu_check_size_eq_of_reads`
    does: a `match` on a literal is selected by unfolding (`show`), not by `simp`. -/
theorem rtr_pdu_check_size_of_reads (mem : Nat → BitVec 8) (msize pdu type ver len encLen txtLen : Nat)
    (htype : pdu + 2 ≤ msize → (mem (pdu + 1)).toNat = type)
    (hver : pdu + 2 ≤ msize → (mem pdu).toNat = ver)
    (hlen : pdu + 8 ≤ msize → (C.load32 mem (pdu + 4)).toNat = len)
    (henc : pdu + 12 ≤ msize → (C.bswap32 (C.load32 mem (pdu + 8))).toNat = encLen)
    (htxt : pdu + 12 + encLen + 4 ≤ msize → (C.bswap32 (C.load32 mem (pdu + 12 + encLen))).toNat = txtLen) :
    C.rtr_pdu_check_size mem msize pdu =
      let fixed (size : Nat) : Option Bool := if pdu + 8 ≤ msize then some (len == size) else none
      if pdu + 2 ≤ msize then
        match type with
        | 0 => fixed sizeof_pdu_serial_notify
        | 1 => fixed sizeof_pdu_serial_query
        | 2 => fixed sizeof_pdu_reset_query
        | 3 => fixed sizeof_pdu_cache_response
        | 4 => fixed sizeof_pdu_ipv4
        | 6 => fixed sizeof_pdu_ipv6
        | 7 =>
          if ver = 0 ∨ ver = 1 then
            fixed (if ver = 0 then sizeof_pdu_end_of_data_v0 else sizeof_pdu_end_of_data_v1)
          else some false
        | 8 => fixed sizeof_pdu_header
        | 9 => fixed sizeof_pdu_router_key
        | 10 =>
          if pdu + 8 ≤ msize then
            if len < 4 + sizeof_pdu_error then some false
            else if pdu + 12 ≤ msize then
              if len < 4 + sizeof_pdu_error + encLen then some false
              else if pdu + 12 + encLen + 4 ≤ msize then some (len == 4 + sizeof_pdu_error + encLen + txtLen)
              else none
            else none
          else none
        | _ => some false
      else none := by
  by_cases g2 : pdu + 2 ≤ msize
  · unfold C.rtr_pdu_check_size
    rw [rtr_get_pdu_type_at mem msize pdu g2]
    -- loads, widenings and comparisons ↦ numbers. Plain `simp only`: with a custom discharger, with `+contextual` and
    -- in `split`, simp runs without cache and is exponential in the depth of the `if … else if …` chain
    simp only [if_pos g2, C.load8, C.b2i, ite_one_zero_bne, Nat.add_assoc pdu, Nat.reduceAdd, BitVec.reduceAdd,
      sext8_beq_lit, lit64_beq_zext32, zext32_beq_lit64, zext8_beq_lit, Nat.reduceLT, htype g2, hver g2]
    -- what is left of the 64-bit arithmetic (`min_size`) and its comparisons; the `retval` bookkeeping
    simp only [beq64_toNat, bne_toNat, BitVec.ult_eq_decide, BitVec.ule_eq_decide, BitVec.toNat_add, zext64_toNat,
      BitVec.toNat_ofNat, Nat.reducePow, Nat.reduceMod, Bool.not_true, Bool.not_false, Bool.false_eq_true, if_true,
      if_false, ite_self, decide_eq_true_eq, ite_some_bool]
    -- one case per PDU type; `↓reduceIte` walks the chain of type tests without entering the other branches
    match type with
    | 7 =>
      simp only [↓reduceIte, Nat.reduceBEq, Bool.false_eq_true]
      have g1 : pdu + 1 ≤ msize := by omega
      by_cases g8 : pdu + 8 ≤ msize
      · rw [hlen g8]
        match ver with
        | 0 => simp [g1, g8, sizeof_pdu_end_of_data_v0]
        | 1 => simp [g1, g8, sizeof_pdu_end_of_data_v1]
        | v + 2 => simp [g1, g8]
      · match ver with
        | 0 => simp [g1, g8]
        | 1 => simp [g1, g8]
        | v + 2 => simp [g1, g8]
    | 10 =>
      simp only [↓reduceIte, Nat.reduceBEq, Bool.false_eq_true, sizeof_pdu_error, Nat.reduceAdd]
      simp only [Nat.add_assoc pdu] at htxt
      by_cases g8 : pdu + 8 ≤ msize
      · simp only [g8, if_true, hlen g8]
        by_cases a : len < 16
        · simp only [a, if_true]
        · by_cases g12 : pdu + 12 ≤ msize
          · have he : encLen < 4294967296 := henc g12 ▸ BitVec.isLt _
            simp only [a, g12, if_true, if_false, henc g12]
            rw [Nat.mod_eq_of_lt (a := 16 + encLen) (by omega)]
            by_cases b : len < 16 + encLen
            · simp only [b, if_true]
            · by_cases gt : pdu + (12 + encLen + 4) ≤ msize
              · have ht : txtLen < 4294967296 := htxt gt ▸ BitVec.isLt _
                have gt' : pdu + (12 + encLen) ≤ msize := by omega
                simp only [b, gt, gt', decide_true, Bool.and_true, if_true, if_false, htxt gt]
                rw [Nat.mod_eq_of_lt (a := 16 + encLen + txtLen) (by omega)]
                exact ite_not_some_bool _
              · simp only [b, gt, decide_false, Bool.and_false, Bool.false_eq_true, if_false]
          · simp only [a, g12, if_false]
      · simp only [g8, if_false]
    | 5 | k + 11 =>
      simp only [↓reduceIte, Nat.reduceBEq, Nat.reduceBeqDiff, Bool.false_eq_true]
    | 0 | 1 | 2 | 3 | 4 | 6 | 8 | 9 =>
      simp only [↓reduceIte, Nat.reduceBEq, Bool.false_eq_true]
      apply ite_congr rfl
      · intro g8
        rw [hlen g8]
        rfl
      · intro _
        rfl
  · have ety : C.rtr_get_pdu_type mem msize pdu = none := by
      rw [rtr_get_pdu_type_eq, if_neg g2]
    unfold C.rtr_pdu_check_size
    rw [ety, if_neg g2]

/-- the result of `rtr_pdu_check_size` - including whether it is defined - depends only on the bytes of the object:
    every load in the C text lies behind a bounds guard that holds before the loaded value is used -/
theorem rtr_pdu_check_size_mem_indep (mem mem' : Nat → BitVec 8) (msize pdu : Nat)
    (h : ∀ a, a < msize → mem a = mem' a) :
    C.rtr_pdu_check_size mem msize pdu = C.rtr_pdu_check_size mem' msize pdu := by
  -- both memories are read as `mem'` reads
  rw [rtr_pdu_check_size_of_reads mem' msize pdu _ _ _ _ _ (fun _ => rfl) (fun _ => rfl) (fun _ => rfl) (fun _ => rfl)
    (fun _ => rfl)]
  apply rtr_pdu_check_size_of_reads mem
  · intro g
    rw [h (pdu + 1) (by omega)]
  · intro g
    rw [h pdu (by omega)]
  · intro g
    rw [load32_agree h (pdu + 4) (by omega)]
  · intro g
    rw [load32_agree h (pdu + 8) (by omega)]
  · intro g
    rw [load32_agree h _ g]

/-! ## `rtr_pdu_check_size`: functional correctness on the received bytes -/

/-- `mem` is the receive buffer of the received bytes `raw` at the time of the size check: version and type bytes
    and everything behind the 8-byte header as received, the length field readable with a plain (host-order) load.
    Nothing is said about bytes 2 and 3 (`rtr_pdu_convert_header_byte_order` swaps them for every type but
    ROUTER_KEY, whose bytes 2, 3 are two one-byte fields): the size check does not look at them. -/
structure HostView (raw : List Nat) (mem : Nat → BitVec 8) : Prop where
  ver : mem 0 = C.memOfList raw 0
  type : mem 1 = C.memOfList raw 1
  len : (C.load32 mem 4).toNat = lenOf raw
  rest : ∀ a, 8 ≤ a → mem a = C.memOfList raw a

theorem hostHeader_view {raw : List Nat} (hb : Bytes raw) (h : 8 ≤ raw.length) :
    HostView raw (C.memOfList (hostHeader raw)) where
  ver := by unfold C.memOfList; rw [hostHeader_getD_0]
  type := by unfold C.memOfList; rw [hostHeader_getD_1]
  len := hostHeader_len hb h
  rest := by intro a ha; unfold C.memOfList; rw [hostHeader_getD_ge raw a ha]

/-- functional correctness at any address of an object that holds at least the `lenOf raw` bytes: the hypotheses say
    that the reads of the C text see what the model reads in `raw` -/
theorem rtr_pdu_check_size_eq_of_reads (raw : List Nat) (mem : Nat → BitVec 8) (msize pdu : Nat)
    (hver : (mem pdu).toNat = verOf raw) (hty : (mem (pdu + 1)).toNat = typeOf raw)
    (hlen : (C.load32 mem (pdu + 4)).toNat = lenOf raw)
    (hbe : ∀ a, 8 ≤ a → a + 4 ≤ lenOf raw → (C.bswap32 (C.load32 mem (pdu + a))).toNat = be32 raw a)
    (h8 : 8 ≤ lenOf raw) (hm : pdu + lenOf raw ≤ msize) :
    C.rtr_pdu_check_size mem msize pdu = some (checkSize raw) := by
  -- the two nested lengths are named by what the memory holds; they are those of `raw` where the model reads them
  rw [rtr_pdu_check_size_of_reads mem msize pdu (typeOf raw) (verOf raw) (lenOf raw) _ _ (fun _ => hty) (fun _ => hver)
    (fun _ => hlen) (fun _ => rfl) (fun _ => rfl)]
  -- the object has the `lenOf raw` bytes of the length field, so every guard of the C text holds where the model reads
  have g2 : pdu + 2 ≤ msize := by omega
  have g8 : pdu + 8 ≤ msize := by omega
  rw [if_pos g2]
  unfold checkSize
  generalize typeOf raw = t
  match t with
  | 7 =>
    simp only [if_pos g8]
    generalize verOf raw = v
    match v with
    | 0 => simp
    | 1 => simp
    | v + 2 => simp
  | 10 =>
    -- `show` selects the branch of both `match`es by unfolding (simp would reduce the literal match step by step)
    show (if pdu + 8 ≤ msize then _ else none) = some (if lenOf raw < 4 + sizeof_pdu_error then false else _)
    simp only [if_pos g8, sizeof_pdu_error, Nat.reduceAdd]
    by_cases a : lenOf raw < 16
    · simp only [a, if_true]
    · have g12 : pdu + 12 ≤ msize := by omega
      rw [hbe 8 (by omega) (by omega)]
      by_cases b : lenOf raw < 16 + be32 raw 8
      · simp only [a, b, g12, if_true, if_false]
      · have gt : pdu + (12 + be32 raw 8) + 4 ≤ msize := by omega
        rw [Nat.add_assoc pdu 12, hbe (12 + be32 raw 8) (by omega) (by omega)]
        simp only [a, b, g12, gt, if_true, if_false]
  | 5 | k + 11 => rfl
  | 0 | 1 | 2 | 3 | 4 | 6 | 8 | 9 => exact if_pos g8

theorem rtr_pdu_check_size_eq_view (raw : List Nat) (hb : ∀ x ∈ raw, x < 256) (mem : Nat → BitVec 8)
    (hv : HostView raw mem) (h8 : 8 ≤ lenOf raw) :
    C.rtr_pdu_check_size mem (lenOf raw) 0 = some (checkSize raw) := by
  refine rtr_pdu_check_size_eq_of_reads raw mem (lenOf raw) 0 ?_ ?_ ?_ ?_ h8 (by omega)
  · rw [hv.ver, memOfList_toNat hb]
    rfl
  · rw [Nat.zero_add, hv.type, memOfList_toNat hb]
    rfl
  · rw [Nat.zero_add]
    exact hv.len
  · intro a ha _
    rw [load32_shift mem (C.memOfList raw) 0 a (fun k _ => by rw [Nat.zero_add]; exact hv.rest _ (by omega)),
      bswap32_load32_memOfList hb]

/-- FUNCTIONAL CORRECTNESS on the receive buffer `hostHeader raw` of a PDU whose length field says `n` bytes, exactly
    those `n` bytes belonging to the object. (Only `8 ≤ raw.length` is used of `lenOf raw ≤ raw.length`: bytes the
    list does not have read as 0 in `memOfList` and in the model alike.) -/
theorem rtr_pdu_check_size_eq (raw : List Nat) (hb : ∀ x ∈ raw, x < 256) (h8 : 8 ≤ lenOf raw)
    (hl : lenOf raw ≤ raw.length) :
    C.rtr_pdu_check_size (C.memOfList (hostHeader raw)) (lenOf raw) 0 = some (checkSize raw) :=
  rtr_pdu_check_size_eq_view raw hb _ (hostHeader_view hb (by omega)) h8

/-- MEMORY SAFETY. Under the same hypotheses the C text never leaves its defined fragment: no read outside the first
    `lenOf raw` bytes of the buffer (nor any other undefined step), whatever the content - in particular for every
    nested length of an Error Report, including values near 2^32. -/
theorem rtr_pdu_check_size_safe (raw : List Nat) (hb : ∀ x ∈ raw, x < 256) (h8 : 8 ≤ lenOf raw)
    (hl : lenOf raw ≤ raw.length) :
    C.rtr_pdu_check_size (C.memOfList (hostHeader raw)) (lenOf raw) 0 ≠ none := by
  rw [rtr_pdu_check_size_eq raw hb h8 hl]; exact Option.some_ne_none _

/-- ... and whatever lies in memory behind the received bytes: any memory that holds the buffer in its first
    `lenOf raw` bytes gives the model's answer. -/
theorem rtr_pdu_check_size_eq_of_agree (raw : List Nat) (hb : ∀ x ∈ raw, x < 256) (h8 : 8 ≤ lenOf raw)
    (hl : lenOf raw ≤ raw.length) (mem : Nat → BitVec 8)
    (hm : ∀ a, a < lenOf raw → mem a = C.memOfList (hostHeader raw) a) :
    C.rtr_pdu_check_size mem (lenOf raw) 0 = some (checkSize raw) := by
  rw [rtr_pdu_check_size_mem_indep mem _ _ 0 hm]; exact rtr_pdu_check_size_eq raw hb h8 hl

/-- the C text accepts exactly the PDUs of known type whose length field is what the type requires -/
theorem rtr_pdu_check_size_true_iff (raw : List Nat) (hb : ∀ x ∈ raw, x < 256) (h8 : 8 ≤ lenOf raw)
    (hl : lenOf raw ≤ raw.length) :
    C.rtr_pdu_check_size (C.memOfList (hostHeader raw)) (lenOf raw) 0 = some true ↔ KnownSize raw := by
  rw [rtr_pdu_check_size_eq raw hb h8 hl, Option.some.injEq]; exact checkSize_spec raw

/-! ## concrete instances (the hypotheses are satisfiable; the generated text runs in the kernel) -/

/-- an Error Report whose nested length is 0xFFFFFFFF: a 32-bit `min_size` would wrap to 15 and read past the buffer;
    the C text (64-bit accumulator) rejects it without reading anything behind the 16 received bytes -/
example : let raw := [1,10,0,0, 0,0,0,16, 255,255,255,255, 0,0,0,0]
    ((∀ x ∈ raw, x < 256) ∧ 8 ≤ lenOf raw ∧ lenOf raw ≤ raw.length) ∧
      C.rtr_pdu_check_size (C.memOfList (hostHeader raw)) 16 0 = some false ∧ checkSize raw = false := by decide +kernel
/-- the smallest well-formed Error Report, through both translated steps -/
example : (C.rtr_pdu_header_to_host_byte_order (C.memOfList [1,10,0,0, 0,0,0,16, 0,0,0,0, 0,0,0,0]) 16 0).bind
    (fun mem' => C.rtr_pdu_check_size mem' 16 0) = some true := by decide +kernel
/-- a type byte ≥ 0x80 becomes a negative `enum pdu_type` (sign extension of `char`) and is rejected -/
example : C.rtr_get_pdu_type (C.memOfList [1,0x8A,0,0, 0,0,0,8]) 8 0 = some 0xFFFFFF8A#32 ∧
    C.rtr_pdu_check_size (C.memOfList (hostHeader [1,0x8A,0,0, 0,0,0,8])) 8 0 = some false := by decide +kernel

end Rtr.CLink
