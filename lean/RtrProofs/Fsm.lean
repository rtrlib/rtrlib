/-
  Fsm: invariants of the state machine (`fsmStep`, model of rtr_fsm_start) — protocol version
  (C13), session/serial carried by queries (C05), tables and records of other sockets along every
  run; what `rtr_purge_outdated_records` and a restart do (read by C05, C07 and C13).
-/
import RtrProofs.SyncAtomic
import RtrProofs.Receive

namespace Rtr.P

theorem verLe_stepRel : StepRel fun (a b : Conn × Net) => b.1.version ≤ a.1.version :=
  { refl := fun _ => Nat.le_refl _
    trans := fun h1 h2 => Nat.le_trans h2 h1
    emit := fun _ _ _ => Nat.le_refl _
    send := fun _ _ _ => Nat.le_refl _
    state := fun _ _ _ => Nat.le_refl _
    lowers := fun _ _ _ _ h => h
    recvs := fun _ _ _ _ => Nat.le_refl _
    opn := fun st => by
      obtain ⟨tr, e⟩ := trOpen_eq st
      rw [e]
      exact Nat.le_refl _
    sleep := fun _ _ _ => Nat.le_refl _ }

/-! ## one step of the state machine -/

theorem change_state_eq (st : St) (s : SState) (h : st.c.state ≠ .shutdown) : (st.change s).c.state = s := by
  unfold St.change
  rw [changeState_alive st.c st.n st.t.own s h]

def SameData (st st' : St) : Prop := st'.ss = st.ss ∧ st'.t = st.t ∧ st'.tm = st.tm

theorem SameData.trans {a b c : St} (h1 : SameData a b) (h2 : SameData b c) : SameData a c :=
  ⟨h2.1.trans h1.1, h2.2.1.trans h1.2.1, h2.2.2.trans h1.2.2⟩

theorem change_sameData (st : St) (s : SState) : SameData st (st.change s) := by
  unfold St.change
  generalize changeState st.c st.n st.t.own s = r
  exact ⟨rfl, rfl, rfl⟩

theorem sendQuery_sameData (st : St) (bytes : List Nat) : SameData st (sendQuery st bytes).2 := by
  unfold sendQuery
  generalize sendPdu st.c st.n bytes = r
  obtain ⟨ok, n⟩ := r
  simp only
  split <;> exact ⟨rfl, rfl, rfl⟩

theorem sendSerialQuery_sameData (st : St) : SameData st (sendSerialQuery st).2 :=
  sendQuery_sameData st (serialQueryBytes st.c.version st.ss.session st.ss.serial)

theorem sendResetQuery_sameData (st : St) : SameData st (sendResetQuery st).2 :=
  sendQuery_sameData st (resetQueryBytes st.c.version)

theorem waitForSync_sameData (st : St) : SameData st (waitForSync st).2 := by
  unfold waitForSync
  simp only
  split <;> exact ⟨rfl, rfl, rfl⟩

theorem trOpen_frame (st : St) :
    (trOpen st).2.ss = st.ss ∧ (trOpen st).2.t = st.t ∧ (trOpen st).2.tm = st.tm ∧ (trOpen st).2.c = st.c := by
  obtain ⟨tr, e⟩ := trOpen_eq st
  rw [e]
  exact ⟨rfl, rfl, rfl, rfl⟩

theorem doSleep_sameData (st : St) (k : Nat) : SameData st (doSleep st k) := ⟨rfl, rfl, rfl⟩

theorem trOpen_sameData (st : St) : SameData st (trOpen st).2 :=
  ⟨(trOpen_frame st).1, (trOpen_frame st).2.1, (trOpen_frame st).2.2.1⟩

/-- `rtr_purge_outdated_records`: nothing, or — data older than the expire interval — this socket's
    records are removed and a new session is requested -/
theorem purgeOutdated_spec (st : St) :
    (purgeOutdated st).c = st.c ∧ (purgeOutdated st).tm = st.tm ∧ (purgeOutdated st).n = st.n ∧
    ((purgeOutdated st = st ∧ ¬ (st.ss.lastUpdate ≠ 0 ∧ st.ss.lastUpdate + st.tm.expire < st.n.now)) ∨
     (st.ss.lastUpdate ≠ 0 ∧ st.ss.lastUpdate + st.tm.expire < st.n.now ∧
      (purgeOutdated st).t = st.t.purge ∧ (purgeOutdated st).ss.reqSession = true ∧
      (purgeOutdated st).ss.lastUpdate = 0 ∧ (purgeOutdated st).ss.serial = 0)) := by
  unfold purgeOutdated
  by_cases h0 : st.ss.lastUpdate = 0
  · simp [h0]
  · by_cases h1 : st.ss.lastUpdate + st.tm.expire < st.n.now
    · simp [h0, h1]
    · simp [h0, h1]

theorem purgeOutdated_c (st : St) : (purgeOutdated st).c = st.c := (purgeOutdated_spec st).1
theorem purgeOutdated_tm (st : St) : (purgeOutdated st).tm = st.tm := (purgeOutdated_spec st).2.1
theorem purgeOutdated_n (st : St) : (purgeOutdated st).n = st.n := (purgeOutdated_spec st).2.2.1

/-! ### the branches of `fsmStep` as separate functions -/

def clearReceived (st : St) : St := { st with c := { st.c with hasReceived := false } }

/-- the state in which CONNECTING calls `tr_open`: the first-PDU flag cleared, then the purge check
    (`C07.atOpen` is this state) -/
abbrev St.atOpen (st : St) : St := purgeOutdated (clearReceived st)
def requestReset (st : St) : St := { st with ss := { st.ss with reqSession := true, serial := 0 } }

def stepConnecting (st : St) : St :=
  match trOpen (purgeOutdated (clearReceived st)) with
  | (rc, st) =>
    if rc = -1 then st.change .errTransport
    else if st.ss.reqSession then st.change .reset
    else
      match sendSerialQuery st with
      | (ok, st) => if ok then st.change .sync else st.change .errFatal

def stepReset (st : St) : St :=
  match sendResetQuery st with
  | (ok, st) => if ok then st.change .sync else st

def stepSync (fuel : Nat) (st : St) : St :=
  if (syncG fuel st).1 then (syncG fuel st).2.1.change .established else (syncG fuel st).2.1

def stepEstablished (st : St) : St :=
  match waitForSync st with
  | (ok, st) =>
    if ok then
      match sendSerialQuery st with
      | (ok2, st) => if ok2 then st.change .sync else st
    else st

def stepErrNoData (st : St) : St :=
  purgeOutdated (doSleep ((requestReset st).change .reset) ((requestReset st).change .reset).tm.retry)
def stepErrNoIncr (st : St) : St := purgeOutdated ((requestReset st).change .reset)
def stepErrClose (st : St) : St := doSleep ((trClose st).change .connecting) ((trClose st).change .connecting).tm.retry

/-- CONNECTING after `tr_open` has returned `rc` -/
def stepConnected (rc : Int) (st : St) : St :=
  if rc = -1 then st.change .errTransport
  else if st.ss.reqSession then st.change .reset
  else
    match sendSerialQuery st with
    | (ok, st) => if ok then st.change .sync else st.change .errFatal

theorem stepConnecting_eq (st : St) :
    stepConnecting st =
      stepConnected (trOpen st.atOpen).1 (trOpen st.atOpen).2 := by
  unfold stepConnecting St.atOpen
  generalize trOpen (purgeOutdated (clearReceived st)) = ro
  obtain ⟨rc, st2⟩ := ro
  rfl

theorem stepConnected_reset (rc : Int) (st : St) (hr : st.ss.reqSession = true) :
    stepConnected rc st = if rc = -1 then st.change .errTransport else st.change .reset := by
  unfold stepConnected
  rw [hr, if_pos rfl]

/-- after a query: SYNC if it was sent, else the state the failed send has left -/
def thenSync (r : Bool × St) : St := if r.1 then r.2.change .sync else r.2

theorem stepReset_eq (st : St) : stepReset st = thenSync (sendResetQuery st) := by
  unfold stepReset
  generalize sendResetQuery st = r
  obtain ⟨ok, st2⟩ := r
  rfl

theorem stepEstablished_eq (st : St) :
    stepEstablished st =
      if (waitForSync st).1 then thenSync (sendSerialQuery (waitForSync st).2) else (waitForSync st).2 := by
  unfold stepEstablished
  generalize waitForSync st = w
  obtain ⟨ok, st2⟩ := w
  simp only
  generalize sendSerialQuery st2 = r
  obtain ⟨ok2, st3⟩ := r
  rfl

theorem fsmStep_eq (fuel : Nat) (st : St) :
    fsmStep fuel st =
      match st.c.state with
      | .connecting => some (stepConnecting st)
      | .reset => some (stepReset st)
      | .sync => some (stepSync fuel st)
      | .established => some (stepEstablished st)
      | .fastReconnect => some ((trClose st).change .connecting)
      | .errNoData => some (stepErrNoData st)
      | .errNoIncr => some (stepErrNoIncr st)
      | .errTransport => some (stepErrClose st)
      | .errFatal => some (stepErrClose st)
      | .shutdown => none
      | .closed => some st := by
  unfold fsmStep stepConnecting stepReset stepSync stepEstablished stepErrNoData stepErrNoIncr stepErrClose sync
    clearReceived requestReset
  -- what is left says that `some` may be moved out of the branches
  cases st.c.state <;> simp only [apply_ite some]

/-! ## the iterations that leave session part, tables and intervals alone -/

theorem stepConnected_sameData (rc : Int) (st : St) : SameData st (stepConnected rc st) := by
  unfold stepConnected
  split
  · exact change_sameData st _
  · split
    · exact change_sameData st _
    · have s := sendSerialQuery_sameData st
      generalize sendSerialQuery st = rs at s
      obtain ⟨ok, st3⟩ := rs
      simp only at s ⊢
      split <;> exact s.trans (change_sameData st3 _)

theorem stepConnecting_sameData (st : St) : SameData st.atOpen (stepConnecting st) := by
  rw [stepConnecting_eq]
  exact (trOpen_sameData _).trans (stepConnected_sameData _ _)

theorem thenSync_sameData (r : Bool × St) : SameData r.2 (thenSync r) := by
  unfold thenSync
  split
  · exact change_sameData r.2 _
  · exact ⟨rfl, rfl, rfl⟩

theorem stepReset_sameData (st : St) : SameData st (stepReset st) := by
  rw [stepReset_eq]
  exact (sendResetQuery_sameData st).trans (thenSync_sameData _)

theorem stepEstablished_sameData (st : St) : SameData st (stepEstablished st) := by
  rw [stepEstablished_eq]
  split
  · exact ((waitForSync_sameData st).trans (sendSerialQuery_sameData _)).trans (thenSync_sameData _)
  · exact waitForSync_sameData st

theorem stepErrClose_sameData (st : St) : SameData st (stepErrClose st) :=
  (change_sameData (trClose st) .connecting).trans (doSleep_sameData _ _)

/-! ## one iteration as a sequence of primitive steps -/

section steps
variable {R : Conn × Net → Conn × Net → Prop} (hR : StepRel R)
include hR

theorem doSleep_steps (st : St) (k : Nat) : R (st.c, st.n) ((doSleep st k).c, (doSleep st k).n) :=
  hR.trans (hR.sleep st.c st.n k) (hR.emit _ _ _)

omit hR in
theorem stepConnected_steps (hS : SendRel R) (rc : Int) (st : St) :
    R (st.c, st.n) ((stepConnected rc st).c, (stepConnected rc st).n) := by
  unfold stepConnected
  split
  · exact change_steps hS st _
  · split
    · exact change_steps hS st _
    · have s := sendSerialQuery_steps hS st
      generalize sendSerialQuery st = rs at s
      obtain ⟨ok, st3⟩ := rs
      simp only at s ⊢
      split <;> exact hS.trans s (change_steps hS st3 _)

theorem stepConnecting_steps (st : St) : R (st.c, st.n) ((stepConnecting st).c, (stepConnecting st).n) := by
  rw [stepConnecting_eq]
  refine hR.trans (hR.trans ?_ (hR.opn _)) (stepConnected_steps hR.toSendRel _ _)
  rw [purgeOutdated_c, purgeOutdated_n]
  -- clearing the first-PDU flag is the other write that `Lowers` covers; the version stays
  exact hR.lowers st.c st.n st.c.version false (Nat.le_refl _)

omit hR in
theorem thenSync_steps (hS : SendRel R) (r : Bool × St) : R (r.2.c, r.2.n) ((thenSync r).c, (thenSync r).n) := by
  unfold thenSync
  split
  · exact change_steps hS r.2 _
  · exact hS.refl _

theorem stepReset_steps (st : St) : R (st.c, st.n) ((stepReset st).c, (stepReset st).n) := by
  rw [stepReset_eq]
  exact hR.trans (sendResetQuery_steps hR.toSendRel st) (thenSync_steps hR.toSendRel _)

theorem stepSync_steps (fuel : Nat) (st : St) : R (st.c, st.n) ((stepSync fuel st).c, (stepSync fuel st).n) := by
  unfold stepSync
  have s := syncG_steps hR.toSendRel hR.lowers hR.recvs fuel st
  split
  · exact hR.trans s (change_steps hR.toSendRel _ _)
  · exact s

theorem stepEstablished_steps (st : St) : R (st.c, st.n) ((stepEstablished st).c, (stepEstablished st).n) := by
  rw [stepEstablished_eq]
  have w := waitForSync_steps hR.toSendRel hR.lowers hR.recvs st
  split
  · exact hR.trans (hR.trans w (sendSerialQuery_steps hR.toSendRel _)) (thenSync_steps hR.toSendRel _)
  · exact w

theorem stepErrNoIncr_steps (st : St) : R (st.c, st.n) ((stepErrNoIncr st).c, (stepErrNoIncr st).n) := by
  unfold stepErrNoIncr
  rw [purgeOutdated_c, purgeOutdated_n]
  exact change_steps hR.toSendRel (requestReset st) .reset

theorem stepErrNoData_steps (st : St) : R (st.c, st.n) ((stepErrNoData st).c, (stepErrNoData st).n) := by
  unfold stepErrNoData
  rw [purgeOutdated_c, purgeOutdated_n]
  exact hR.trans (change_steps hR.toSendRel (requestReset st) .reset) (doSleep_steps hR _ _)

theorem fastReconnect_steps (st : St) :
    R (st.c, st.n) (((trClose st).change .connecting).c, ((trClose st).change .connecting).n) :=
  hR.trans (trClose_steps hR.toSendRel st) (change_steps hR.toSendRel (trClose st) .connecting)

theorem stepErrClose_steps (st : St) : R (st.c, st.n) ((stepErrClose st).c, (stepErrClose st).n) :=
  hR.trans (fastReconnect_steps hR st) (doSleep_steps hR _ _)

theorem fsmStep_steps (fuel : Nat) (st st' : St) (h : fsmStep fuel st = some st') : R (st.c, st.n) (st'.c, st'.n) := by
  rw [fsmStep_eq] at h
  cases hs : st.c.state <;> rw [hs] at h <;> simp only [Option.some.injEq] at h
  · subst h; exact stepConnecting_steps hR st
  · subst h; exact stepEstablished_steps hR st
  · subst h; exact stepReset_steps hR st
  · subst h; exact stepSync_steps hR fuel st
  · subst h; exact fastReconnect_steps hR st
  · subst h; exact stepErrNoData_steps hR st
  · subst h; exact stepErrNoIncr_steps hR st
  · subst h; exact stepErrClose_steps hR st
  · subst h; exact stepErrClose_steps hR st
  · cases h
  · subst h; exact hR.refl _

theorem fsmRun_steps : ∀ (steps fuel : Nat) (st : St), R (st.c, st.n) ((fsmRun steps fuel st).c, (fsmRun steps fuel st).n) := by
  intro steps
  induction steps with
  | zero => intro fuel st; exact hR.emit _ _ _
  | succ steps ih =>
    intro fuel st
    simp only [fsmRun]
    cases h : fsmStep fuel st with
    | none => exact hR.refl _
    | some st' => exact hR.trans (fsmStep_steps hR fuel st st' h) (ih fuel st')

end steps

/-! ## what one iteration does to session part, tables and intervals -/

/-- the data of `st` after `rtr_purge_outdated_records` -/
def Purged (st st' : St) : Prop :=
  SameData st st' ∨
  (st'.t = st.t.purge ∧ st'.ss.reqSession = true ∧ st'.ss.lastUpdate = 0 ∧ st'.ss.serial = 0 ∧ st'.tm = st.tm)

theorem SameData.refl (st : St) : SameData st st := ⟨rfl, rfl, rfl⟩

theorem purgeOutdated_purged (st : St) : Purged st (purgeOutdated st) := by
  have p := purgeOutdated_spec st
  rcases p.2.2.2 with ⟨e, _⟩ | ⟨_, _, ht, hr, hl, hs⟩
  · rw [e]
    exact Or.inl (SameData.refl st)
  · exact Or.inr ⟨ht, hr, hl, hs, p.2.1⟩

theorem SameData.purged {a b c : St} (h1 : SameData a b) (h2 : Purged b c) : Purged a c := by
  rcases h2 with h | ⟨ht, hr, hl, hs, htm⟩
  · exact Or.inl (h1.trans h)
  · exact Or.inr ⟨by rw [ht, h1.2.1], hr, hl, hs, htm.trans h1.2.2⟩

theorem Purged.sameData {a b c : St} (h1 : Purged a b) (h2 : SameData b c) : Purged a c := by
  rcases h1 with h | ⟨ht, hr, hl, hs, htm⟩
  · exact Or.inl (h.trans h2)
  · exact Or.inr ⟨by rw [h2.2.1, ht], by rw [h2.1]; exact hr, by rw [h2.1]; exact hl, by rw [h2.1]; exact hs,
      h2.2.2.trans htm⟩

theorem Purged.ofReset {a b : St} (h : Purged (requestReset a) b) :
    b.ss.reqSession = true ∧ b.ss.serial = 0 ∧ b.tm = a.tm := by
  rcases h with h | ⟨_, hr, _, hs, htm⟩
  · rw [h.1, h.2.2]
    exact ⟨rfl, rfl, rfl⟩
  · exact ⟨hr, hs, htm⟩

/-- **what one iteration does to session part, tables and intervals**: the purge check and nothing
    else; or a new session is requested, then the purge check (the two error states that answer a cache
    without data); or what `rtr_sync` did -/
theorem fsmStep_data (fuel : Nat) (st st' : St) (h : fsmStep fuel st = some st') :
    Purged st st' ∨
    ((st.c.state = .errNoData ∨ st.c.state = .errNoIncr) ∧ Purged (requestReset st) st') ∨
    (st.c.state = .sync ∧ SameData (syncG fuel st).2.1 st') := by
  rw [fsmStep_eq] at h
  cases hs : st.c.state <;> rw [hs] at h <;> simp only [Option.some.injEq] at h
  · subst h; exact Or.inl ((purgeOutdated_purged (clearReceived st)).sameData (stepConnecting_sameData st))
  · subst h; exact Or.inl (Or.inl (stepEstablished_sameData st))
  · subst h; exact Or.inl (Or.inl (stepReset_sameData st))
  · subst h
    refine Or.inr (Or.inr ⟨rfl, ?_⟩)
    unfold stepSync
    split
    · exact change_sameData _ _
    · exact SameData.refl _
  · subst h; exact Or.inl (Or.inl (change_sameData (trClose st) .connecting))
  · subst h
    exact Or.inr (Or.inl ⟨Or.inl rfl,
      ((change_sameData (requestReset st) .reset).trans (doSleep_sameData _ _)).purged (purgeOutdated_purged _)⟩)
  · subst h
    exact Or.inr (Or.inl ⟨Or.inr rfl, (change_sameData (requestReset st) .reset).purged (purgeOutdated_purged _)⟩)
  · subst h; exact Or.inl (Or.inl (stepErrClose_sameData st))
  · subst h; exact Or.inl (Or.inl (stepErrClose_sameData st))
  · cases h
  · subst h; exact Or.inl (Or.inl (SameData.refl st))


theorem Purged.elim {st st' : St} (h : Purged st st') :
    (st'.ss = st.ss ∧ st'.t = st.t) ∨
    (NoOwn st'.t ∧ OthersSame st.t st'.t ∧ (TblOK st.t → TblOK st'.t) ∧ st'.ss.reqSession = true ∧
      st'.ss.lastUpdate = 0) := by
  rcases h with h | ⟨ht, hr, hl, _, _⟩
  · exact Or.inl ⟨h.1, h.2.1⟩
  · rw [ht]
    exact Or.inr ⟨(purge_noOwn st.t).1, (purge_noOwn st.t).2.1, (purge_noOwn st.t).2.2, hr, hl⟩

theorem nextQuery_none {ss : Sess} (h : ss.reqSession = true) : nextQuery ss = none := by
  unfold nextQuery
  rw [if_pos h]

theorem fsmStep_tbl (fuel : Nat) (st st' : St) (h : fsmStep fuel st = some st') (ht : TblOK st.t) :
    TblOK st'.t ∧ OthersSame st.t st'.t := by
  rcases fsmStep_data fuel st st' h with p | ⟨_, p⟩ | ⟨_, e⟩
  · rcases p.elim with ⟨_, e⟩ | ⟨_, ho, hk, _⟩
    · rw [e]
      exact ⟨ht, OthersSame.refl _⟩
    · exact ⟨hk ht, ho⟩
  · rcases p.elim with ⟨_, e⟩ | ⟨_, ho, hk, _⟩
    · rw [e]
      exact ⟨ht, OthersSame.refl _⟩
    · exact ⟨hk ht, ho⟩
  · rw [e.2.1]
    exact ⟨(syncG_spec fuel st ht).tblok, (syncG_spec fuel st ht).others⟩

/-- C05: a successful synchronisation ends with an End of Data of the Cache Response's session (the
    established one, if there was one); the next query is the Serial Query with its session and serial -/
theorem syncG_nextQuery (fuel : Nat) (st : St) (ht : TblOK st.t) (hok : (syncG fuel st).1 = true) :
    ∃ cr b, (syncG fuel st).2.2 = some (cr, b) ∧ be16 cr 2 = be16 b.eod 2 ∧
      (st.ss.reqSession = false → be16 cr 2 = st.ss.session) ∧
      nextQuery (syncG fuel st).2.1.ss = some (be16 b.eod 2, be32 b.eod 8) := by
  obtain ⟨cr, b, hg, h1, h2, h3, _, _, _, _, h8, h9, _⟩ := (syncG_spec fuel st ht).success hok
  refine ⟨cr, b, hg, by rw [h2, h3], h1, ?_⟩
  unfold nextQuery
  rw [h9]
  simp only [Bool.false_eq_true, if_false]
  rw [h8, ← h3]

/-! ## runs -/

inductive Reach (fuel : Nat) : St → St → Prop where
  | refl (st : St) : Reach fuel st st
  | step {st st1 st2 : St} : Reach fuel st st1 → fsmStep fuel st1 = some st2 → Reach fuel st st2

/-- C13: along every run the version is never raised, whatever the tables hold -/
theorem reach_version_le (fuel : Nat) {st st' : St} (h : Reach fuel st st') : st'.c.version ≤ st.c.version := by
  induction h with
  | refl => exact Nat.le_refl _
  | step _ hs ih => exact Nat.le_trans (fsmStep_steps verLe_stepRel fuel _ _ hs) ih

theorem reach_inv (fuel : Nat) {st st' : St} (h : Reach fuel st st') (ht : TblOK st.t) :
    st'.c.version ≤ st.c.version ∧ TblOK st'.t ∧ OthersSame st.t st'.t := by
  refine ⟨reach_version_le fuel h, ?_⟩
  induction h with
  | refl => exact ⟨ht, OthersSame.refl _⟩
  | step _ hs ih =>
    obtain ⟨k1, k2⟩ := fsmStep_tbl fuel _ _ hs ih.1
    exact ⟨k1, ih.2.trans k2⟩

theorem Reach.prepend {fuel : Nat} {z a b : St} (hz : fsmStep fuel z = some a) (rab : Reach fuel a b) : Reach fuel z b := by
  induction rab with
  | refl => exact Reach.step (Reach.refl z) hz
  | step _ hs ih => exact Reach.step ih hs

/-- `fsmRun` only visits reachable states (its last act, when the step budget is used up, is a trace line) -/
theorem fsmRun_reach : ∀ (steps fuel : Nat) (st : St), ∃ st', Reach fuel st st' ∧
    (fsmRun steps fuel st).c = st'.c ∧ (fsmRun steps fuel st).ss = st'.ss ∧ (fsmRun steps fuel st).t = st'.t ∧
    (fsmRun steps fuel st).tm = st'.tm := by
  intro steps
  induction steps with
  | zero => intro fuel st; exact ⟨st, Reach.refl st, rfl, rfl, rfl, rfl⟩
  | succ steps ih =>
    intro fuel st
    simp only [fsmRun]
    cases h : fsmStep fuel st with
    | none => exact ⟨st, Reach.refl st, rfl, rfl, rfl, rfl⟩
    | some st1 =>
      simp only
      obtain ⟨st', r, e⟩ := ih fuel st1
      exact ⟨st', r.prepend h, e⟩

/-! ## stop on a running thread, restart -/

/-- the state in which `rtr_fsm_start` enters its loop: CONNECTING by direct assignment (no state callback) -/
def startState (st : St) : St := { st with c := { st.c with state := .connecting }, n := { st.n with threaded := true } }

theorem fsmStart_first (steps fuel : Nat) (st : St) (hs : st.c.state ≠ .shutdown) :
    fsmStart (steps + 1) fuel st = fsmRun steps fuel (stepConnecting (startState st)) := by
  unfold fsmStart
  rw [if_neg hs]
  -- the record that `fsmStart` writes out is `startState st`
  show fsmRun (steps + 1) fuel (startState st) = _
  simp only [fsmRun]
  rw [fsmStep_eq]
  rfl

/-- the first iteration of a run does not look at the first-PDU flag an earlier run has left -/
theorem stepConnecting_forgets (st : St) (b : Bool) :
    stepConnecting { st with c := { st.c with hasReceived := b } } = stepConnecting st := by
  unfold stepConnecting clearReceived
  rfl

theorem stopFinish_ss (st : St) : (stopFinish st).ss.reqSession = true ∧ (stopFinish st).ss.lastUpdate = 0 ∧
    (stopFinish st).ss.serial = 0 := ⟨rfl, rfl, rfl⟩

theorem stopFinish_tbl (st : St) : (stopFinish st).t = st.t.purge := rfl

/-- first iteration after `rtr_stop` + `rtr_start`: open, then RESET (which sends the Reset Query) -/
theorem restart_step (s : St) (hr : s.ss.reqSession = true) (h0 : s.ss.lastUpdate = 0) :
    stepConnecting (startState s) =
      (if (trOpen (clearReceived (startState s))).1 = -1 then (trOpen (clearReceived (startState s))).2.change .errTransport
       else (trOpen (clearReceived (startState s))).2.change .reset) := by
  have hp : (startState s).atOpen = clearReceived (startState s) := by
    unfold St.atOpen purgeOutdated
    have : (clearReceived (startState s)).ss.lastUpdate = 0 := h0
    rw [if_pos this]
  rw [stepConnecting_eq, hp]
  refine stepConnected_reset _ _ ?_
  rw [(trOpen_frame _).1]
  exact hr

end Rtr.P
