/-
  Converge: the convergence half of C08 on the model, on top of the table of iterations (ConvergeIter.lean; the
  prefixes `cv` / `cvm`: see ConvergeWire.lean): which query a socket sends next, the ways to SYNC as lists of
  events, scenarios that end in the good answer, a reactive cache.  Final statements: RtrProps/C08b.lean, C08c.lean.

  How a scenario is proved.  The last event, `.answer`, carries the tables it leaves, and these are only
  known once `cv_reset_tables` / `cv_items_tables` have been applied to the socket in which the answer
  arrives; so a scenario is not one list handed to `cv_path`.  Write the iterations before the answer
  as a list `es` (refusals, error states, reconnects; `CvEv.ok` of each is mostly `rfl`), start from
  `CvRep.of_st`, and hand `es` and the answer to `cv_path_reload` (answer to a Reset Query) or
  `cv_path_items` (increment).  What they ask of the socket `cvPath es _` holds by `rfl`, by
  `cvPath_keeps`, or — a request for a new session that an expiry makes — by `cv_connectReset_req`;
  the time that passed is `cvSleep es retry` (`cvPath_now`).  They give the run up to SYNC, the last
  step (`CvRun.snoc` joins them) and `CvDone`.  When intermediate states have to be shown, take the
  steps one by one with `cv_ev_step` and finish with `cv_done_reset` / `cv_done_items`.
-/
import RtrProofs.ConvergeIter

namespace Rtr.P

/-! ## which query the socket will send -/

/-- the socket will send a Reset Query: ERROR_NO_DATA_AVAIL and ERROR_NO_INCR_UPDATE_AVAIL request a
    new session themselves; otherwise a new session is requested already, or the data will have
    expired when the socket connects (after the retry sleep of ERROR_TRANSPORT / ERROR_FATAL) -/
def cvSendsReset (st : St) : Prop :=
  match st.c.state with
  | .errNoData => True
  | .errNoIncr => True
  | .reset => st.ss.reqSession = true
  | .connecting => st.ss.reqSession = true ∨ cvExpired st st.n.now
  | .fastReconnect => st.ss.reqSession = true ∨ cvExpired st st.n.now
  | .errTransport => st.ss.reqSession = true ∨ cvExpired st (st.n.now + st.tm.retry)
  | .errFatal => st.ss.reqSession = true ∨ cvExpired st (st.n.now + st.tm.retry)
  | _ => False

/-- the states from which the next PDU the socket sees is the first of a connection -/
def cvReconnects : SState → Bool
  | .errTransport => true
  | .errFatal => true
  | .fastReconnect => true
  | .connecting => true
  | _ => false

/-- the cache may answer in version `ver`: the version the socket speaks, or version 0 to a socket
    that speaks version 1 and will see the answer as the first PDU of a connection (live downgrade) -/
def CvVerFrom (st : St) (ver : Nat) : Prop :=
  ver = st.c.version ∨ (st.c.version = 1 ∧ ver = 0 ∧ (st.c.hasReceived = false ∨ cvReconnects st.c.state = true))

theorem CvVerFrom.weaken {st : St} {ver : Nat} (h : CvVerFrom st ver) : ver = st.c.version ∨ (st.c.version = 1 ∧ ver = 0) :=
  h.imp id (fun h => ⟨h.1, h.2.1⟩)

theorem CvVerFrom.cvVer {st : St} {ver : Nat} (h : CvVerFrom st ver) (hn : cvReconnects st.c.state = false) : CvVer st.c ver := by
  rcases h with h | ⟨h1, h2, h3 | h3⟩
  · exact Or.inl h
  · exact Or.inr ⟨h3, h1, h2⟩
  · rw [hn] at h3
    cases h3

/-- the socket will send a Serial Query: it has a session, and its data will not have expired when
    it connects -/
def cvSendsSerial (st : St) : Prop :=
  match st.c.state with
  | .connecting => st.ss.reqSession = false ∧ ¬ cvExpired st st.n.now
  | .fastReconnect => st.ss.reqSession = false ∧ ¬ cvExpired st st.n.now
  | .errTransport => st.ss.reqSession = false ∧ ¬ cvExpired st (st.n.now + st.tm.retry)
  | .errFatal => st.ss.reqSession = false ∧ ¬ cvExpired st (st.n.now + st.tm.retry)
  | _ => False

theorem cvSendsSerial_req {st : St} (h : cvSendsSerial st) : st.ss.reqSession = false := by
  unfold cvSendsSerial at h
  cases hs : st.c.state <;> rw [hs] at h <;> simp only at h <;> exact h.1

/-- the socket has arrived in SYNC after `k` iterations and `d` seconds -/
structure CvAtSync (fuel ver k d : Nat) (st st1 : St) : Prop where
  run : CvRun fuel k st st1
  state : st1.c.state = .sync
  mid : CvMid d st st1
  ver : CvVer st1.c ver

/-- the socket after the synchronisation and the change to ESTABLISHED, as seen from the first state `st` of a run
    that took `d` seconds to reach SYNC.  The other forms of "the socket has converged" are read off this one with
    the table clause added: `C08b.ConvergedOnReset`, `C08c.Reloaded`, `CvmConverged`; `CvmUpdated` / `CvmConvergedAt`
    are the same seen from ESTABLISHED, with the time `w` at which the wait ended in place of `st.n.now + d`.
    `ConvergedOnReset` and `CvmConverged` have the bounds of their theorems built in; for a scenario with other bounds
    use `CvDone` itself or `C08c.Reloaded` (from `CvDone` by `C08c.reloaded_of_done`). -/
structure CvDone (st st' : St) (ver sess serial : Nat) (iv : CvIvals) (d : Nat) (rest : List Nat) : Prop where
  state : st'.c.state = .established
  version : st'.c.version = ver
  tblok : TblOK st'.t
  ss : st'.ss = { session := sess, serial := serial, reqSession := false, lastUpdate := st.n.now + d, isResetting := false }
  tm : st'.tm = applyEodIntervals st.tm (cvEndOfData ver sess serial iv)
  now : st'.n.now = st.n.now + d
  tape : CvTape st'.n rest
  send : NoFail st.n.sendQ → NoFail st'.n.sendQ

section
variable {st st' : St} {ver sess serial : Nat} {iv : CvIvals} {d : Nat} {rest : List Nat}
  (done : CvDone st st' ver sess serial iv d rest)
include done

theorem CvDone.session_eq : st'.ss.session = sess := by rw [done.ss]
theorem CvDone.serial_eq : st'.ss.serial = serial := by rw [done.ss]
theorem CvDone.no_request : st'.ss.reqSession = false := by rw [done.ss]
theorem CvDone.update_time : st'.ss.lastUpdate = st'.n.now := by rw [done.ss, done.now]

end

theorem CvDone.time_le {st st' : St} {ver sess serial : Nat} {iv : CvIvals} {d : Nat} {rest : List Nat}
    (done : CvDone st st' ver sess serial iv d rest) (hd : d = 0 ∨ d = st.tm.retry) :
    (st'.n.now = st.n.now ∨ st'.n.now = st.n.now + st.tm.retry) ∧ st.n.now ≤ st'.n.now ∧
    st'.n.now ≤ st.n.now + st.tm.retry := by
  rw [done.now]
  rcases hd with h | h
  · rw [h]
    exact ⟨Or.inl (Int.add_zero _), by omega, by omega⟩
  · rw [h]
    exact ⟨Or.inr rfl, by omega, Int.le_refl _⟩

/-! ## the last iteration, seen from the start state -/

theorem CvRep.done {st st' : St} {a1 : CvAbs} {ver sess serial : Nat} {iv : CvIvals} {items : List CvItem} {pt' : List Rec}
    {kt' : List KeyRec} {rest : List Nat} (r : CvRep st' ((CvEv.answer ver sess serial iv items pt' kt').next a1) rest) {d : Nat}
    (hnow : a1.now = st.n.now + d) (htm : a1.tm = st.tm) (np : pt'.Nodup) (nk : kt'.Nodup) :
    CvDone st st' ver sess serial iv d rest ∧ st'.t = ⟨pt', kt', none⟩ := by
  refine ⟨⟨by rw [r.c]; rfl, by rw [r.c]; rfl, by rw [r.t]; exact ⟨rfl, np, nk⟩, ?_, ?_, ?_, r.tape, fun _ => r.send⟩, r.t⟩
  · rw [r.ss, ← hnow]; rfl
  · rw [r.tm, ← htm]; rfl
  · rw [r.now, ← hnow]; rfl

/-- **SYNC with a Reset Query sent → ESTABLISHED** on the good answer.  `st1` is the socket `a1` in SYNC;
    `a1` is what iterations without a successful exchange have made of `st` in `d` seconds. -/
theorem cv_done_reset (fuel ver d : Nat) (st st1 : St) (o : Bool) (a1 : CvAbs) (sess serial : Nat) (iv : CvIvals)
    (recs : List Rec) (keys : List KeyRec) (rest : List Nat)
    (r1 : CvRep st1 a1 (cvAnswer ver sess serial iv (cvResetItems recs keys) ++ rest)) (k : CvKeeps (st.abs o) a1)
    (hnow : a1.now = st.n.now + d) (hs : a1.c.state = .sync) (hver : CvVer a1.c ver) (hr : a1.ss.reqSession = true)
    (hv : ver ≤ 1) (ht : TblOK st.t) (hi : st.ss.lastUpdate = 0 → NoOwn st.t) (hsess : sess < 65536)
    (hserial : serial < 4294967296) (hrok : ∀ r ∈ recs, cvRecOK r) (hkok : ∀ k ∈ keys, cvKeyOK k) (hrn : recs.Nodup)
    (hkn : keys.Nodup) (hfuel : recs.length + keys.length < fuel) :
    ∃ st', fsmStep fuel st1 = some st' ∧ CvDone st st' ver sess serial iv d rest ∧
      (∀ x, x ∈ st'.t.pt ↔ (x ∈ recs ∨ (x ∈ st.t.pt ∧ x.src ≠ 0))) ∧
      (∀ x, x ∈ st'.t.kt ↔ (x ∈ keys ∨ (x ∈ st.t.kt ∧ x.src ≠ 0))) := by
  obtain ⟨pt', kt', ap, mp, mk, hitems⟩ := cv_reset_tables a1.t a1.ss (k.tblok ht) (k.inv hi) hr recs keys hrok hkok hrn hkn
  obtain ⟨st', h, r⟩ := cv_ev_step fuel (.answer ver sess serial iv (cvResetItems recs keys) pt' kt') r1
    ⟨hs, hver, hv, (k.tblok ht).1, hsess, hserial, Or.inl hr, hitems, ap.pt, ap.kt, by
      unfold cvResetItems; rw [List.length_append, List.length_map, List.length_map]; exact hfuel⟩
  obtain ⟨hdone, htbl⟩ := r.done (st := st) hnow k.tm ap.np ap.nk
  refine ⟨st', h, hdone, ?_, ?_⟩
  · rw [htbl]
    exact cv_reloaded_mem k.others.1 mp
  · rw [htbl]
    exact cv_reloaded_mem k.others.2 mk

/-- **SYNC with the Serial Query sent → ESTABLISHED** on the good incremental answer; session part and
    tables of `a1` are those of `st` -/
theorem cv_done_items (fuel ver d : Nat) (st st1 : St) (a1 : CvAbs) (serial : Nat) (iv : CvIvals) (items : List CvItem)
    (rest : List Nat) (r1 : CvRep st1 a1 (cvAnswer ver st.ss.session serial iv items ++ rest))
    (hss : a1.ss = st.ss) (htb : a1.t = st.t) (htm : a1.tm = st.tm) (hnow : a1.now = st.n.now + d)
    (hs : a1.c.state = .sync) (hver : CvVer a1.c ver)
    (hreq : st.ss.reqSession = false) (hres : st.ss.isResetting = false) (hv : ver ≤ 1)
    (ht : TblOK st.t) (hsess : st.ss.session < 65536) (hserial : serial < 4294967296)
    (hok : ∀ i ∈ items, i.OK)
    (hnp : ((cvPfxOps items).map Prod.snd).Nodup) (hnk : ((cvKeyOps items).map Prod.snd).Nodup)
    (hcp : ∀ op ∈ cvPfxOps items, (op.1 = true ↔ op.2 ∉ st.t.pt))
    (hck : ∀ op ∈ cvKeyOps items, (op.1 = true ↔ op.2 ∉ st.t.kt))
    (hfuel : items.length < fuel) :
    ∃ st', fsmStep fuel st1 = some st' ∧ CvDone st st' ver st.ss.session serial iv d rest ∧
      (∀ x, x ∈ st'.t.pt ↔ ((true, x) ∈ cvPfxOps items ∨ (x ∈ st.t.pt ∧ (false, x) ∉ cvPfxOps items))) ∧
      (∀ x, x ∈ st'.t.kt ↔ ((true, x) ∈ cvKeyOps items ∨ (x ∈ st.t.kt ∧ (false, x) ∉ cvKeyOps items))) := by
  rw [← hss] at hreq hres
  rw [← htb] at ht hcp hck
  obtain ⟨pt', kt', ap, mp, mk⟩ := cv_items_tables a1.t a1.ss ht hreq hres items hnp hnk hcp hck
  rw [htb] at mp mk
  obtain ⟨st', h, r⟩ := cv_ev_step fuel (.answer ver st.ss.session serial iv items pt' kt') r1
    ⟨hs, hver, hv, ht.1, hsess, hserial, Or.inr (by rw [hss]), hok, ap.pt, ap.kt, hfuel⟩
  obtain ⟨hdone, htbl⟩ := r.done (st := st) hnow htm ap.np ap.nk
  refine ⟨st', h, hdone, ?_, ?_⟩
  · rw [htbl]
    exact mp
  · rw [htbl]
    exact mk

/-! ## scenarios that end in the good answer -/

/-- **iterations without a successful synchronisation, then the good answer to a Reset Query.**  `es` are the
    iterations before the last one; the time that passes is that of the retry sleeps among them. -/
theorem cv_path_reload (fuel ver : Nat) (st : St) (o : Bool) (es : List CvEv) (sess serial : Nat) (iv : CvIvals)
    (recs : List Rec) (keys : List KeyRec) (rest : List Nat) (hq : (es.all fun e => !e.isAnswer) = true)
    (r : CvRep st (st.abs o) (cvPathBytes es (st.abs o) (cvAnswer ver sess serial iv (cvResetItems recs keys) ++ rest)))
    (ok : cvPathOk fuel es (st.abs o)) (hs : (cvPath es (st.abs o)).c.state = .sync)
    (hver : CvVer (cvPath es (st.abs o)).c ver) (hr : (cvPath es (st.abs o)).ss.reqSession = true)
    (hv : ver ≤ 1) (ht : TblOK st.t) (hi : st.ss.lastUpdate = 0 → NoOwn st.t) (hsess : sess < 65536)
    (hserial : serial < 4294967296) (hrok : ∀ r ∈ recs, cvRecOK r) (hkok : ∀ k ∈ keys, cvKeyOK k) (hrn : recs.Nodup)
    (hkn : keys.Nodup) (hfuel : recs.length + keys.length < fuel) :
    ∃ st1 st', CvRun fuel es.length st st1 ∧ fsmStep fuel st1 = some st' ∧
      CvDone st st' ver sess serial iv (cvSleep es st.tm.retry) rest ∧
      (∀ x, x ∈ st'.t.pt ↔ (x ∈ recs ∨ (x ∈ st.t.pt ∧ x.src ≠ 0))) ∧
      (∀ x, x ∈ st'.t.kt ↔ (x ∈ keys ∨ (x ∈ st.t.kt ∧ x.src ≠ 0))) := by
  obtain ⟨st1, run, r1⟩ := cv_path fuel es r ok
  obtain ⟨st', h, done⟩ := cv_done_reset fuel ver (cvSleep es st.tm.retry) st st1 o _ sess serial iv recs keys rest r1
    (cvPath_keeps es _ hq) (cvPath_now es _ hq) hs hver hr hv ht hi hsess hserial hrok hkok hrn hkn hfuel
  exact ⟨st1, st', run, h, done⟩

/-- **… then the good incremental answer**: the iterations leave session part and tables as they are -/
theorem cv_path_items (fuel ver : Nat) (st : St) (o : Bool) (es : List CvEv) (serial : Nat) (iv : CvIvals) (items : List CvItem)
    (rest : List Nat) (hq : (es.all fun e => !e.isAnswer) = true)
    (r : CvRep st (st.abs o) (cvPathBytes es (st.abs o) (cvAnswer ver st.ss.session serial iv items ++ rest)))
    (ok : cvPathOk fuel es (st.abs o)) (hs : (cvPath es (st.abs o)).c.state = .sync)
    (hver : CvVer (cvPath es (st.abs o)).c ver) (hss : (cvPath es (st.abs o)).ss = st.ss)
    (htb : (cvPath es (st.abs o)).t = st.t)
    (hreq : st.ss.reqSession = false) (hres : st.ss.isResetting = false) (hv : ver ≤ 1)
    (ht : TblOK st.t) (hsess : st.ss.session < 65536) (hserial : serial < 4294967296)
    (hok : ∀ i ∈ items, i.OK)
    (hnp : ((cvPfxOps items).map Prod.snd).Nodup) (hnk : ((cvKeyOps items).map Prod.snd).Nodup)
    (hcp : ∀ op ∈ cvPfxOps items, (op.1 = true ↔ op.2 ∉ st.t.pt))
    (hck : ∀ op ∈ cvKeyOps items, (op.1 = true ↔ op.2 ∉ st.t.kt))
    (hfuel : items.length < fuel) :
    ∃ st1 st', CvRun fuel es.length st st1 ∧ fsmStep fuel st1 = some st' ∧
      CvDone st st' ver st.ss.session serial iv (cvSleep es st.tm.retry) rest ∧
      (∀ x, x ∈ st'.t.pt ↔ ((true, x) ∈ cvPfxOps items ∨ (x ∈ st.t.pt ∧ (false, x) ∉ cvPfxOps items))) ∧
      (∀ x, x ∈ st'.t.kt ↔ ((true, x) ∈ cvKeyOps items ∨ (x ∈ st.t.kt ∧ (false, x) ∉ cvKeyOps items))) := by
  obtain ⟨st1, run, r1⟩ := cv_path fuel es r ok
  obtain ⟨st', h, done⟩ := cv_done_items fuel ver (cvSleep es st.tm.retry) st st1 _ serial iv items rest r1 hss htb
    (cvPath_keeps es _ hq).tm (cvPath_now es _ hq) hs hver hreq hres hv ht hsess hserial hok hnp hnk hcp hck hfuel
  exact ⟨st1, st', run, h, done⟩

/-! ## a refused exchange, then the reload -/

/-- **SYNC, the cache answers Cache Reset, then — to the Reset Query — the data set**: SYNC →
    ERROR_NO_INCR_UPDATE_AVAIL → RESET → SYNC → ESTABLISHED, no time passes.  `st1` is the socket `a1` in SYNC,
    `d` seconds after `st`. -/
theorem cv_cacheReset_reload (fuel d : Nat) (st st1 : St) (o : Bool) (a1 : CvAbs) (ver sess serial : Nat) (iv : CvIvals)
    (recs : List Rec) (keys : List KeyRec) (rest : List Nat)
    (r1 : CvRep st1 a1 (cvmCacheReset ver ++ (cvAnswer ver sess serial iv (cvResetItems recs keys) ++ rest)))
    (hver : a1.c.version = ver) (k : CvKeeps (st.abs o) a1) (hnow : a1.now = st.n.now + d) (hs : a1.c.state = .sync)
    (hv : ver ≤ 1) (ht : TblOK st.t) (hi : st.ss.lastUpdate = 0 → NoOwn st.t) (hsess : sess < 65536)
    (hserial : serial < 4294967296) (hrok : ∀ r ∈ recs, cvRecOK r) (hkok : ∀ k ∈ keys, cvKeyOK k) (hrn : recs.Nodup)
    (hkn : keys.Nodup) (hfuel : recs.length + keys.length < fuel) :
    ∃ s1 s2 s3 st', fsmStep fuel st1 = some s1 ∧ s1.c.state = .errNoIncr ∧ fsmStep fuel s1 = some s2 ∧ s2.c.state = .reset ∧
      fsmStep fuel s2 = some s3 ∧ s3.c.state = .sync ∧ fsmStep fuel s3 = some st' ∧
      CvDone st st' ver sess serial iv d rest ∧
      (∀ x, x ∈ st'.t.pt ↔ (x ∈ recs ∨ (x ∈ st.t.pt ∧ x.src ≠ 0))) ∧
      (∀ x, x ∈ st'.t.kt ↔ (x ∈ keys ∨ (x ∈ st.t.kt ∧ x.src ≠ 0))) := by
  subst hver
  obtain ⟨s1, h1, r2⟩ := cv_ev_step fuel .cacheReset r1 ⟨hs, by omega⟩
  obtain ⟨s2, h2, r3⟩ := cv_ev_step fuel .errNoIncr r2 rfl
  obtain ⟨s3, h3, r4⟩ := cv_ev_step fuel .sendReset r3 rfl
  obtain ⟨st', h4, hdone, mp, mk⟩ := cv_done_reset fuel a1.c.version d st s3 o _ sess serial iv recs keys rest r4
    (k.trans (cvPath_keeps [.cacheReset, .errNoIncr, .sendReset] a1 rfl)) hnow rfl (Or.inl rfl) rfl hv ht hi hsess hserial
    hrok hkok hrn hkn hfuel
  exact ⟨s1, s2, s3, st', h1, by rw [r2.c]; rfl, h2, by rw [r3.c]; rfl, h3, by rw [r4.c]; rfl, h4, hdone, mp, mk⟩

/-! ## SYNC after the wait in ESTABLISHED -/

/-- the state after the update, as seen from the ESTABLISHED state `st` -/
structure CvmUpdated (st st' : St) (ver serial : Nat) (iv : CvIvals) (items : List CvItem) (w : Int) (rest : List Nat) : Prop where
  state : st'.c.state = .established
  version : st'.c.version = ver
  tblok : TblOK st'.t
  ss : st'.ss = { session := st.ss.session, serial := serial, reqSession := false, lastUpdate := w, isResetting := false }
  tm : st'.tm = applyEodIntervals st.tm (cvEndOfData ver st.ss.session serial iv)
  now : st'.n.now = w
  tape : CvTape st'.n rest
  send : NoFail st.n.sendQ → NoFail st'.n.sendQ
  pt : ∀ x, x ∈ st'.t.pt ↔ ((true, x) ∈ cvPfxOps items ∨ (x ∈ st.t.pt ∧ (false, x) ∉ cvPfxOps items))
  kt : ∀ x, x ∈ st'.t.kt ↔ ((true, x) ∈ cvKeyOps items ∨ (x ∈ st.t.kt ∧ (false, x) ∉ cvKeyOps items))

section
variable {st st' : St} {ver serial : Nat} {iv : CvIvals} {items : List CvItem} {w : Int} {rest : List Nat}
  (u : CvmUpdated st st' ver serial iv items w rest)
include u

theorem CvmUpdated.session_eq : st'.ss.session = st.ss.session := by rw [u.ss]
theorem CvmUpdated.serial_eq : st'.ss.serial = serial := by rw [u.ss]
theorem CvmUpdated.no_request : st'.ss.reqSession = false := by rw [u.ss]
theorem CvmUpdated.update_time : st'.ss.lastUpdate = w := by rw [u.ss]

end

/-- SYNC with the Serial Query sent from ESTABLISHED (`st`) → ESTABLISHED on the good incremental answer.
    `st1` is the socket `a1` in SYNC, at the clock `a1.now` at which the wait ended. -/
theorem cv_polled_update (fuel : Nat) (st st1 : St) (a1 : CvAbs) (serial : Nat) (iv : CvIvals) (items : List CvItem)
    (rest : List Nat) (r1 : CvRep st1 a1 (cvAnswer st.c.version st.ss.session serial iv items ++ rest))
    (hc : a1.c.state = .sync) (hv1 : a1.c.version = st.c.version) (hss : a1.ss = st.ss) (htb : a1.t = st.t)
    (htm : a1.tm = st.tm)
    (hr : st.ss.reqSession = false) (hres : st.ss.isResetting = false) (hv : st.c.version ≤ 1)
    (ht : TblOK st.t) (hsess : st.ss.session < 65536) (hserial : serial < 4294967296) (hok : ∀ i ∈ items, i.OK)
    (hnp : ((cvPfxOps items).map Prod.snd).Nodup) (hnk : ((cvKeyOps items).map Prod.snd).Nodup)
    (hcp : ∀ op ∈ cvPfxOps items, (op.1 = true ↔ op.2 ∉ st.t.pt))
    (hck : ∀ op ∈ cvKeyOps items, (op.1 = true ↔ op.2 ∉ st.t.kt))
    (hfuel : items.length < fuel) :
    ∃ st', fsmStep fuel st1 = some st' ∧ CvmUpdated st st' st.c.version serial iv items a1.now rest := by
  -- `cv_done_items` counts the time from a state in whole seconds; the wait ends at an arbitrary clock, so
  -- it is applied with `st1` itself as the start and no time passing
  have ess : st1.ss = st.ss := r1.ss.trans hss
  have et : st1.t = st.t := r1.t.trans htb
  have etm : st1.tm = st.tm := r1.tm.trans htm
  rw [← ess] at hr hres hsess r1
  rw [← et] at ht hcp hck
  obtain ⟨st', hstep, hdone, mp, mk⟩ := cv_done_items fuel st.c.version 0 st1 st1 a1 serial iv items rest r1 r1.ss.symm r1.t.symm
    r1.tm.symm (by rw [r1.now]; exact (Int.add_zero _).symm) hc (Or.inl hv1.symm) hr hres hv ht hsess hserial hok hnp hnk hcp hck
    hfuel
  rw [et] at mp mk
  refine ⟨st', hstep, ⟨hdone.state, hdone.version, hdone.tblok, ?_, ?_, ?_, hdone.tape, fun _ => hdone.send r1.send, mp, mk⟩⟩
  · rw [hdone.ss, r1.now, ess]
    simp
  · rw [hdone.tm, etm, ess]
  · rw [hdone.now, r1.now]
    simp

/-! ## the ways to SYNC -/

/-- `es` are iterations without an exchange (nothing is taken from the tape) that lead the socket `a` to SYNC -/
structure CvToSync (fuel : Nat) (a : CvAbs) (es : List CvEv) : Prop where
  quiet : (es.all fun e => !e.isAnswer) = true
  ok : cvPathOk fuel es a
  bytes : ∀ rest, cvPathBytes es a rest = rest
  state : (cvPath es a).c.state = .sync

/-- **from every state of the recovery path to SYNC with a Reset Query sent**: at most 3 iterations,
    0 or `retry_interval` seconds -/
theorem cv_toSync_reset (fuel ver : Nat) (st : St) (hsr : cvSendsReset st) (hver : CvVerFrom st ver) :
    ∃ es, es.length ≤ 3 ∧ (cvSleep es st.tm.retry = 0 ∨ cvSleep es st.tm.retry = st.tm.retry) ∧
      CvToSync fuel (st.abs true) es ∧
      (cvPath es (st.abs true)).ss.reqSession = true ∧ CvVer (cvPath es (st.abs true)).c ver := by
  unfold cvSendsReset at hsr
  -- the socket that connects has the session part and intervals of `st`: its expiry is `cvExpired st`
  have hx : ∀ a : CvAbs, a.ss = st.ss → a.tm = st.tm → st.ss.reqSession = true ∨ cvExpired st a.now →
      a.ss.reqSession = true ∨ a.expired :=
    fun a hss htm h => h.imp (fun hr => by rw [hss]; exact hr) (a.expired_iff st hss htm).2
  -- in the four states where `cvSendsReset` is `False` the goal is closed; the seven left come in the
  -- order of the constructors of `SState`
  cases hs : st.c.state <;> rw [hs] at hsr <;> simp only at hsr
  · -- CONNECTING
    exact ⟨[.connectReset, .sendReset], by decide, Or.inl rfl,
      ⟨rfl, ⟨⟨hs, rfl, hx (st.abs true) rfl rfl hsr⟩, rfl, trivial⟩, fun _ => rfl, rfl⟩,
      cv_connectReset_req (st.abs true) st rfl rfl hsr, (hver.weaken).imp id (fun h => ⟨rfl, h⟩)⟩
  · -- RESET
    exact ⟨[.sendReset], by decide, Or.inl rfl, ⟨rfl, ⟨hs, trivial⟩, fun _ => rfl, rfl⟩, hsr, hver.cvVer (by rw [hs]; rfl)⟩
  · -- FAST_RECONNECT
    exact ⟨[.closeFast, .connectReset, .sendReset], by decide, Or.inl rfl,
      ⟨rfl, ⟨hs, ⟨rfl, rfl, hx (cvPath [.closeFast] (st.abs true)) rfl rfl hsr⟩, rfl, trivial⟩, fun _ => rfl, rfl⟩,
      cv_connectReset_req (cvPath [.closeFast] (st.abs true)) st rfl rfl hsr, (hver.weaken).imp id (fun h => ⟨rfl, h⟩)⟩
  · -- ERROR_NO_DATA_AVAIL
    exact ⟨[.errNoData, .sendReset], by decide, Or.inr rfl, ⟨rfl, ⟨hs, rfl, trivial⟩, fun _ => rfl, rfl⟩, rfl,
      hver.cvVer (by rw [hs]; rfl)⟩
  · -- ERROR_NO_INCR_UPDATE_AVAIL
    exact ⟨[.errNoIncr, .sendReset], by decide, Or.inl rfl, ⟨rfl, ⟨hs, rfl, trivial⟩, fun _ => rfl, rfl⟩, rfl,
      hver.cvVer (by rw [hs]; rfl)⟩
  · -- ERROR_FATAL
    exact ⟨[.closeErr, .connectReset, .sendReset], by decide, Or.inr rfl,
      ⟨rfl, ⟨Or.inr hs, ⟨rfl, rfl, hx (cvPath [.closeErr] (st.abs true)) rfl rfl hsr⟩, rfl, trivial⟩, fun _ => rfl, rfl⟩,
      cv_connectReset_req (cvPath [.closeErr] (st.abs true)) st rfl rfl hsr, (hver.weaken).imp id (fun h => ⟨rfl, h⟩)⟩
  · -- ERROR_TRANSPORT
    exact ⟨[.closeErr, .connectReset, .sendReset], by decide, Or.inr rfl,
      ⟨rfl, ⟨Or.inl hs, ⟨rfl, rfl, hx (cvPath [.closeErr] (st.abs true)) rfl rfl hsr⟩, rfl, trivial⟩, fun _ => rfl, rfl⟩,
      cv_connectReset_req (cvPath [.closeErr] (st.abs true)) st rfl rfl hsr, (hver.weaken).imp id (fun h => ⟨rfl, h⟩)⟩

/-- **from ERROR_TRANSPORT / ERROR_FATAL / FAST_RECONNECT / CONNECTING to SYNC with a Serial Query
    sent**: at most 2 iterations, 0 or `retry_interval` seconds; session part and tables unchanged -/
theorem cv_toSync_serial (fuel ver : Nat) (st : St) (hss : cvSendsSerial st)
    (hver : ver = st.c.version ∨ (st.c.version = 1 ∧ ver = 0)) :
    ∃ es, es.length ≤ 2 ∧ (cvSleep es st.tm.retry = 0 ∨ cvSleep es st.tm.retry = st.tm.retry) ∧
      CvToSync fuel (st.abs true) es ∧
      (cvPath es (st.abs true)).ss = st.ss ∧ (cvPath es (st.abs true)).t = st.t ∧ CvVer (cvPath es (st.abs true)).c ver := by
  unfold cvSendsSerial at hss
  have hx : ∀ a : CvAbs, a.ss = st.ss → a.tm = st.tm → st.ss.reqSession = false ∧ ¬ cvExpired st a.now →
      a.ss.reqSession = false ∧ ¬ a.expired :=
    fun a hs htm h => ⟨by rw [hs]; exact h.1, fun he => h.2 ((a.expired_iff st hs htm).1 he)⟩
  -- the four states where `cvSendsSerial` is not `False`, in the order of the constructors of `SState`
  cases hs : st.c.state <;> rw [hs] at hss <;> simp only at hss
  · -- CONNECTING
    exact ⟨[.connectSerial], by decide, Or.inl rfl, ⟨rfl, ⟨⟨hs, rfl, hx (st.abs true) rfl rfl hss⟩, trivial⟩, fun _ => rfl, rfl⟩,
      rfl, rfl, hver.imp id (fun h => ⟨rfl, h⟩)⟩
  · -- FAST_RECONNECT
    exact ⟨[.closeFast, .connectSerial], by decide, Or.inl rfl,
      ⟨rfl, ⟨hs, ⟨rfl, rfl, hx (cvPath [.closeFast] (st.abs true)) rfl rfl hss⟩, trivial⟩, fun _ => rfl, rfl⟩, rfl, rfl,
      hver.imp id (fun h => ⟨rfl, h⟩)⟩
  · -- ERROR_FATAL
    exact ⟨[.closeErr, .connectSerial], by decide, Or.inr rfl,
      ⟨rfl, ⟨Or.inr hs, ⟨rfl, rfl, hx (cvPath [.closeErr] (st.abs true)) rfl rfl hss⟩, trivial⟩, fun _ => rfl, rfl⟩, rfl, rfl,
      hver.imp id (fun h => ⟨rfl, h⟩)⟩
  · -- ERROR_TRANSPORT
    exact ⟨[.closeErr, .connectSerial], by decide, Or.inr rfl,
      ⟨rfl, ⟨Or.inl hs, ⟨rfl, rfl, hx (cvPath [.closeErr] (st.abs true)) rfl rfl hss⟩, trivial⟩, fun _ => rfl, rfl⟩, rfl, rfl,
      hver.imp id (fun h => ⟨rfl, h⟩)⟩

/-! ## the two error states that lead to RESET, for every socket

  These are the ERROR_NO_DATA_AVAIL and ERROR_NO_INCR_UPDATE_AVAIL rows of `cv_toSync_reset` once more, said
  of states (`CvAtSync`, `CvMid`) instead of sockets without environment: they ask nothing of the tape,
  the open script or the tables, only that the Reset Query can be sent. -/

theorem CvAt.mid {st st' : St} {a' : CvAbs} (h : CvAt st.n st' a') (k : CvKeeps (st.abs false) a') {d : Nat}
    (hnow : a'.now = st.n.now + d) (hrcv : a'.c.hasReceived = st.c.hasReceived ∨ a'.c.hasReceived = false) : CvMid d st st' := by
  have et := h.t
  have hl : st'.ss.lastUpdate = a'.ss.lastUpdate := congrArg Sess.lastUpdate h.ss
  refine ⟨(congrArg Conn.version h.c).trans k.ver, ?_, h.tm.trans k.tm, h.net_eq hnow, ?_, ?_, ?_⟩
  · rw [h.c]
    exact hrcv
  · rw [et]
    exact k.tblok
  · rw [et]
    exact k.others
  · rw [et, hl]
    exact k.inv

/-- ERROR_NO_INCR_UPDATE_AVAIL → RESET → SYNC: two iterations, no time -/
theorem cvm_from_noIncr (fuel ver : Nat) (st : St) (hs : st.c.state = .errNoIncr) (hq : NoFail st.n.sendQ)
    (hver : CvVer st.c ver) : ∃ st1, CvAtSync fuel ver 2 0 st st1 ∧ st1.ss.reqSession = true := by
  obtain ⟨s1, h1, a1⟩ := cv_ev_quiet fuel .errNoIncr (CvAt.start st false st.n.now rfl (fun h => nomatch h)) hq rfl hs
  obtain ⟨s2, h2, a2⟩ := cv_ev_quiet fuel .sendReset a1 hq rfl rfl
  have k := cvPath_keeps [.errNoIncr, .sendReset] (st.abs false) rfl
  exact ⟨s2, ⟨.cons h1 (.one h2), by rw [a2.c]; rfl, a2.mid k (Int.add_zero _).symm (Or.inl rfl), by rw [a2.c]; exact hver⟩,
    by rw [a2.ss]; rfl⟩

/-- ERROR_NO_DATA_AVAIL → (sleep) RESET → SYNC: two iterations, one retry interval -/
theorem cvm_from_noData (fuel ver : Nat) (st : St) (hs : st.c.state = .errNoData) (hq : NoFail st.n.sendQ)
    (hver : CvVer st.c ver) : ∃ st1, CvAtSync fuel ver 2 st.tm.retry st st1 ∧ st1.ss.reqSession = true := by
  obtain ⟨s1, h1, a1⟩ := cv_ev_quiet fuel .errNoData (CvAt.start st false st.n.now rfl (fun h => nomatch h)) hq rfl hs
  obtain ⟨s2, h2, a2⟩ := cv_ev_quiet fuel .sendReset a1 hq rfl rfl
  have k := cvPath_keeps [.errNoData, .sendReset] (st.abs false) rfl
  exact ⟨s2, ⟨.cons h1 (.one h2), by rw [a2.c]; rfl, a2.mid k rfl (Or.inl rfl), by rw [a2.c]; exact hver⟩,
    by rw [a2.ss]; rfl⟩

/-! ## a reactive cache -/

/-- a cache: protocol version, session, current serial, intervals, current data set, and the
    increments it can still serve (`diff n` = the announcements / withdrawals that lead from serial
    `n` to the current serial, if it still knows serial `n`) -/
structure CvmCache where
  ver : Nat
  sess : Nat
  serial : Nat
  iv : CvIvals
  recs : List Rec
  keys : List KeyRec
  diff : Nat → Option (List CvItem)

/-- the answer to a Reset Query: the whole data set -/
def CvmCache.resetAnswer (C : CvmCache) : List Nat := cvAnswer C.ver C.sess C.serial C.iv (cvResetItems C.recs C.keys)

/-- the increment served for a Serial Query `(session, serial)`: only for the cache's own session and a
    serial it still knows -/
def CvmCache.incr (C : CvmCache) (q : Nat × Nat) : Option (List CvItem) := if q.1 = C.sess then C.diff q.2 else none

/-- **the reactive cache**: Reset Query (`none`) ↦ the whole data set; Serial Query with the cache's
    session and a known serial ↦ the increment; any other Serial Query ↦ Cache Reset -/
def CvmCache.reply (C : CvmCache) : Option (Nat × Nat) → List Nat
  | none => C.resetAnswer
  | some q => match C.incr q with
    | some items => cvAnswer C.ver C.sess C.serial C.iv items
    | none => cvmCacheReset C.ver

/-- what the cache sends to a socket whose first query is `q`: its reply to `q`, and — if that was a
    Cache Reset, after which the socket's next query is a Reset Query — its reply to that -/
def CvmCache.script (C : CvmCache) : Option (Nat × Nat) → List Nat
  | none => C.reply none
  | some q => match C.incr q with
    | some _ => C.reply (some q)
    | none => C.reply (some q) ++ C.reply none

theorem CvmCache.script_served {C : CvmCache} {sess sn : Nat} {items : List CvItem} (h : C.incr (sess, sn) = some items) :
    sess = C.sess ∧ C.script (some (sess, sn)) = cvAnswer C.ver sess C.serial C.iv items := by
  have hs : sess = C.sess := by
    unfold CvmCache.incr at h
    by_cases e : sess = C.sess
    · exact e
    · rw [if_neg e] at h
      cases h
  refine ⟨hs, ?_⟩
  unfold CvmCache.script CvmCache.reply
  simp only [h]
  rw [hs]

theorem CvmCache.script_refused {C : CvmCache} {q : Nat × Nat} (h : C.incr q = none) :
    C.script (some q) = cvmCacheReset C.ver ++ C.resetAnswer := by
  unfold CvmCache.script CvmCache.reply
  simp only [h]

/-- the increment the cache serves is an increment of what the socket holds: acceptable, every
    record named once, announcements of absent and withdrawals of present records, and the socket's
    records afterwards are the cache's data set -/
structure CvmIncOK (st : St) (C : CvmCache) (items : List CvItem) : Prop where
  ok : ∀ i ∈ items, i.OK
  np : ((cvPfxOps items).map Prod.snd).Nodup
  nk : ((cvKeyOps items).map Prod.snd).Nodup
  cp : ∀ op ∈ cvPfxOps items, (op.1 = true ↔ op.2 ∉ st.t.pt)
  ck : ∀ op ∈ cvKeyOps items, (op.1 = true ↔ op.2 ∉ st.t.kt)
  /-- every record of the cache's data set is announced or was there and is not withdrawn -/
  pt1 : ∀ x ∈ C.recs, ((true, x) ∈ cvPfxOps items ∨ (x ∈ st.t.pt ∧ (false, x) ∉ cvPfxOps items))
  /-- every announced record is in the cache's data set -/
  pt2 : ∀ op ∈ cvPfxOps items, op.1 = true → op.2 ∈ C.recs
  /-- every record of this socket that is not withdrawn is in the cache's data set -/
  pt3 : ∀ x ∈ st.t.pt, x.src = 0 → (false, x) ∉ cvPfxOps items → x ∈ C.recs
  kt1 : ∀ x ∈ C.keys, ((true, x) ∈ cvKeyOps items ∨ (x ∈ st.t.kt ∧ (false, x) ∉ cvKeyOps items))
  kt2 : ∀ op ∈ cvKeyOps items, op.1 = true → op.2 ∈ C.keys
  kt3 : ∀ x ∈ st.t.kt, x.src = 0 → (false, x) ∉ cvKeyOps items → x ∈ C.keys

theorem CvmIncOK.pt {st : St} {C : CvmCache} {items : List CvItem} (h : CvmIncOK st C items) (x : Rec) (hx : x.src = 0) :
    ((true, x) ∈ cvPfxOps items ∨ (x ∈ st.t.pt ∧ (false, x) ∉ cvPfxOps items)) ↔ x ∈ C.recs := by
  constructor
  · rintro (h1 | ⟨h1, h2⟩)
    · exact h.pt2 _ h1 rfl
    · exact h.pt3 x h1 hx h2
  · exact h.pt1 x

theorem CvmIncOK.kt {st : St} {C : CvmCache} {items : List CvItem} (h : CvmIncOK st C items) (x : KeyRec) (hx : x.src = 0) :
    ((true, x) ∈ cvKeyOps items ∨ (x ∈ st.t.kt ∧ (false, x) ∉ cvKeyOps items)) ↔ x ∈ C.keys := by
  constructor
  · rintro (h1 | ⟨h1, h2⟩)
    · exact h.kt2 _ h1 rfl
    · exact h.kt3 x h1 hx h2
  · exact h.kt1 x

/-- the socket has converged on the cache: ESTABLISHED after at most `kmax` iterations and at most
    one retry interval, holding exactly the cache's data set, session and serial -/
def CvmConverged (fuel kmax : Nat) (st : St) (C : CvmCache) (rest : List Nat) : Prop :=
  ∃ k st', k ≤ kmax ∧ CvRun fuel k st st' ∧ st'.c.state = .established ∧
    (∀ x : Rec, x.src = 0 → (x ∈ st'.t.pt ↔ x ∈ C.recs)) ∧
    (∀ x : KeyRec, x.src = 0 → (x ∈ st'.t.kt ↔ x ∈ C.keys)) ∧
    OthersSame st.t st'.t ∧ TblOK st'.t ∧
    st'.ss.session = C.sess ∧ st'.ss.serial = C.serial ∧ st'.ss.reqSession = false ∧ st'.ss.lastUpdate = st'.n.now ∧
    st'.c.version = C.ver ∧ st.n.now ≤ st'.n.now ∧ st'.n.now ≤ st.n.now + st.tm.retry ∧
    FaultFree st'.n.tape ∧ tapeBytes st'.n.tape = rest

theorem CvmConverged.mono {fuel k1 k2 : Nat} {st : St} {C : CvmCache} {rest : List Nat} (h : k1 ≤ k2)
    (c : CvmConverged fuel k1 st C rest) : CvmConverged fuel k2 st C rest := by
  obtain ⟨k, st', hk, r⟩ := c
  exact ⟨k, st', Nat.le_trans hk h, r⟩

theorem cvm_converged_of_done (fuel k kmax d : Nat) (st st' : St) (C : CvmCache) (rest : List Nat) (hk : k ≤ kmax)
    (hd : d = 0 ∨ d = st.tm.retry) (run : CvRun fuel k st st')
    (done : CvDone st st' C.ver C.sess C.serial C.iv d rest)
    (tables : (∀ x : Rec, x.src = 0 → (x ∈ st'.t.pt ↔ x ∈ C.recs)) ∧
      (∀ x : KeyRec, x.src = 0 → (x ∈ st'.t.kt ↔ x ∈ C.keys)) ∧ OthersSame st.t st'.t) :
    CvmConverged fuel kmax st C rest := by
  obtain ⟨op, ok, oo⟩ := tables
  exact ⟨k, st', hk, run, done.state, op, ok, oo, done.tblok,
    done.session_eq, done.serial_eq, done.no_request, done.update_time, done.version, (done.time_le hd).2.1, (done.time_le hd).2.2,
    done.tape.ff, done.tape.eq⟩

theorem cvm_ops_src (items : List CvItem) (hok : ∀ i ∈ items, i.OK) :
    (∀ op ∈ cvPfxOps items, op.2.src = 0) ∧ (∀ op ∈ cvKeyOps items, op.2.src = 0) := by
  refine ⟨fun op hop => ?_, fun op hop => ?_⟩
  · unfold cvPfxOps cvOps4 cvOps6 at hop
    rcases List.mem_append.1 hop with h | h
    · obtain ⟨i, hi, e⟩ := List.mem_filterMap.1 h
      cases i with
      | pfx a r =>
        have hr : cvRecOK r := hok _ hi
        simp only at e
        split at e
        · cases e
        · simp only [Option.some.injEq] at e; subst e; exact hr.1
      | key a k => cases e
    · obtain ⟨i, hi, e⟩ := List.mem_filterMap.1 h
      cases i with
      | pfx a r =>
        have hr : cvRecOK r := hok _ hi
        simp only at e
        split at e
        · simp only [Option.some.injEq] at e; subst e; exact hr.1
        · cases e
      | key a k => cases e
  · unfold cvKeyOps at hop
    obtain ⟨i, hi, e⟩ := List.mem_filterMap.1 hop
    cases i with
    | pfx a r => cases e
    | key a k =>
      have hk : cvKeyOK k := hok _ hi
      simp only [Option.some.injEq] at e; subst e; exact hk.1

theorem cvm_incr_tables {st : St} {C : CvmCache} {items : List CvItem} {t' : Tbl} (io : CvmIncOK st C items)
    (mp : ∀ x, x ∈ t'.pt ↔ ((true, x) ∈ cvPfxOps items ∨ (x ∈ st.t.pt ∧ (false, x) ∉ cvPfxOps items)))
    (mk : ∀ x, x ∈ t'.kt ↔ ((true, x) ∈ cvKeyOps items ∨ (x ∈ st.t.kt ∧ (false, x) ∉ cvKeyOps items))) :
    (∀ x : Rec, x.src = 0 → (x ∈ t'.pt ↔ x ∈ C.recs)) ∧ (∀ x : KeyRec, x.src = 0 → (x ∈ t'.kt ↔ x ∈ C.keys)) ∧
    OthersSame st.t t' := by
  obtain ⟨sp, sk⟩ := cvm_ops_src items io.ok
  refine ⟨fun x hx => ?_, fun x hx => ?_, fun x hx => ?_, fun x hx => ?_⟩
  · rw [mp x]
    exact io.pt x hx
  · rw [mk x]
    exact io.kt x hx
  · rw [mp x]
    have h1 : (true, x) ∉ cvPfxOps items := fun h => hx (sp _ h)
    have h2 : (false, x) ∉ cvPfxOps items := fun h => hx (sp _ h)
    simp [h1, h2]
  · rw [mk x]
    have h1 : (true, x) ∉ cvKeyOps items := fun h => hx (sk _ h)
    have h2 : (false, x) ∉ cvKeyOps items := fun h => hx (sk _ h)
    simp [h1, h2]

/-- the socket is ESTABLISHED again at time `w` with exactly the cache's data set, after at most
    `kmax` iterations -/
def CvmConvergedAt (fuel kmax : Nat) (st : St) (C : CvmCache) (w : Int) (rest : List Nat) : Prop :=
  ∃ k st', k ≤ kmax ∧ CvRun fuel k st st' ∧ st'.c.state = .established ∧
    (∀ x : Rec, x.src = 0 → (x ∈ st'.t.pt ↔ x ∈ C.recs)) ∧
    (∀ x : KeyRec, x.src = 0 → (x ∈ st'.t.kt ↔ x ∈ C.keys)) ∧
    OthersSame st.t st'.t ∧ TblOK st'.t ∧
    st'.ss.session = C.sess ∧ st'.ss.serial = C.serial ∧ st'.ss.reqSession = false ∧ st'.ss.lastUpdate = w ∧
    st'.c.version = C.ver ∧ st'.n.now = w ∧ FaultFree st'.n.tape ∧ tapeBytes st'.n.tape = rest

end Rtr.P
