/-
  The clock of the scripted environment never goes backwards: instances of the step theorems of
  FsmLift.lean for `NowEq` (across everything that only sends or writes trace lines) and `NowLe` (across
  receiving and sleeping as well).  The first part states the step theorems for relations on the
  environment alone; Progress.lean uses them too.  The size of the script (`envSize`) is defined here
  because one induction over `tr_recv` (`trRecvGo_spec`) says both what the call does to the clock and what
  it does to that size.  (What the call reads is a second induction, `trRecvGo_chunk_spec` of Tape.lean.)
-/
import RtrProofs.Fsm

namespace Rtr.P

/-! ## relations on the environment across the operations -/

section emit
variable {R : Net → Net → Prop} (hR : EmitRel R)
include hR

theorem changeState_rel (c : Conn) (n : Net) (own : Nat) (s : SState) : R n (changeState c n own s).2 :=
  changeState_steps hR.sendRel c n own s

theorem sendAllLoop_rel : ∀ (fuel : Nat) (n : Net) (rest : List Nat) (total : Nat),
    R n (sendAllLoop fuel n rest total).2 :=
  sendAllLoop_steps hR.sendRel {}

theorem sendErrorFromHost_rel (c : Conn) (n : Net) (raw : List Nat) (k code : Nat) (text : List Nat) :
    R n (sendErrorFromHost c n raw k code text).2 :=
  sendErrorFromHost_steps hR.sendRel c n raw k code text

theorem recvTransportError_rel (c : Conn) (n : Net) (own : Nat) (code : Int) :
    R n (recvTransportError c n own code).2.2 :=
  recvTransportError_steps hR.sendRel c n own code

theorem sendSerialQuery_rel (st : St) : R st.n (sendSerialQuery st).2.n :=
  sendSerialQuery_steps hR.sendRel st

theorem sendResetQuery_rel (st : St) : R st.n (sendResetQuery st).2.n :=
  sendResetQuery_steps hR.sendRel st

theorem change_rel (st : St) (s : SState) : R st.n (st.change s).n :=
  change_steps hR.sendRel st s

end emit

theorem cleanup_n (r : Bool × St) : (cleanup r).2.n = r.2.n := rfl
theorem cleanup_ok (r : Bool × St) : (cleanup r).1 = r.1 := rfl

/-! ## relations on the environment across receiving and across the state machine -/

section recv
variable {R : Net → Net → Prop} (hR : RecvRel R)
include hR

theorem recvAllLoop_rel (len : Nat) (endTime : Int) : ∀ (fuel : Nat) (n : Net) (acc : List Nat),
    R n (recvAllLoop len endTime fuel n acc).2.2.1 :=
  recvAllLoop_steps hR.sendRel hR.recvs {} len endTime

theorem recvStage2_rel (c : Conn) (n : Net) (own : Nat) (hdr : List Nat) : R n (recvStage2 c n own hdr).2.2 :=
  recvStage2_steps hR.sendRel hR.lowers hR.recvs c n own hdr

/-- the part of one iteration of `syncFirst` after its `rtr_receive_pdu` -/
theorem syncFirst_succ_rel (fuel : Nat) (st : St) :
    R (receivePdu st.c st.n st.t.own Gen.RTR_RECV_TIMEOUT).2.2 (syncFirst (fuel + 1) st).2.n :=
  syncFirst_succ_steps hR.sendRel hR.lowers hR.recvs fuel st

/-- the part of `syncG` after `syncFirst` -/
theorem syncG_after_first_rel (fuel : Nat) (st : St) : R (syncFirst fuel st).2.n (syncG fuel st).2.1.n :=
  syncG_after_first_steps hR.sendRel hR.lowers hR.recvs fuel st

end recv

section run
variable {R : Net → Net → Prop} (hR : RunRel R)
include hR

theorem fsmStep_rel (fuel : Nat) (st st' : St) (h : fsmStep fuel st = some st') : R st.n st'.n :=
  fsmStep_steps hR.stepRel fuel st st' h

end run

/-! ## the clock -/

def NowLe (n n' : Net) : Prop := n.now ≤ n'.now

def NowEq (n n' : Net) : Prop := n'.now = n.now

theorem emit_now (n : Net) (l : String) : (n.emit l).now = n.now := rfl

theorem trSend_now (n : Net) (bytes : List Nat) : (trSend n bytes).2.now = n.now := by
  unfold trSend
  simp only
  split <;> rfl

/-! ### one `tr_recv` and the size of the script -/

/-- one tape event counts 1, every byte it still holds counts 1 -/
def evSize : TapeEv → Nat
  | .rx b => b.length + 1
  | _ => 1

def tapeSize : List TapeEv → Nat
  | [] => 0
  | ev :: rest => evSize ev + tapeSize rest

/-- what is left of the script: tape bytes + tape events + send outcomes + open outcomes -/
def envSize (n : Net) : Nat := tapeSize n.tape + n.sendQ.length + n.openQ.length

theorem trRecvGo_spec (n0 : Net) (len : Nat) (timeout : Int) :
    ∀ (tape : List TapeEv) (now : Int),
      (trRecvGo n0 len timeout tape now).2.2.1.sendQ = n0.sendQ ∧
      (trRecvGo n0 len timeout tape now).2.2.1.openQ = n0.openQ ∧
      (trRecvGo n0 len timeout tape now).2.2.1.threaded = n0.threaded ∧
      now ≤ (trRecvGo n0 len timeout tape now).2.2.1.now ∧
      tapeSize (trRecvGo n0 len timeout tape now).2.2.1.tape ≤ tapeSize tape ∧
      (0 < len → tape ≠ [] → tapeSize (trRecvGo n0 len timeout tape now).2.2.1.tape < tapeSize tape) := by
  intro tape
  induction tape with
  | nil => intro now; exact ⟨rfl, rfl, rfl, Int.le_refl _, Nat.le_refl _, fun _ h => absurd rfl h⟩
  | cons ev rest ih =>
    intro now
    cases ev with
    | dt d =>
      simp only [trRecvGo]
      obtain ⟨h1, h2, h3, hn, h4, _⟩ := ih (now + d)
      refine ⟨h1, h2, h3, by omega, ?_, fun _ _ => ?_⟩ <;> simp only [tapeSize, evSize] <;> omega
    | rx b =>
      simp only [trRecvGo, Net.emit]
      refine ⟨trivial, trivial, trivial, Int.le_refl _, ?_⟩
      have hd : (b.drop (min b.length len)).length = b.length - min b.length len := List.length_drop
      by_cases hl : (b.drop (min b.length len)).isEmpty = true
      · rw [if_pos hl]
        simp only [tapeSize, evSize]
        exact ⟨by omega, fun _ _ => by omega⟩
      · rw [if_neg hl]
        have hne : (b.drop (min b.length len)).length ≠ 0 := fun h0 => hl (by
          rw [List.isEmpty_iff_length_eq_zero]; exact h0)
        simp only [tapeSize, evSize, hd]
        refine ⟨by omega, fun hlen _ => ?_⟩
        have : 0 < min b.length len := by
          rw [hd] at hne
          omega
        omega
    | block =>
      refine ⟨rfl, rfl, rfl, ?_, by simp only [trRecvGo, Net.emit, tapeSize, evSize]; omega,
        fun _ _ => by simp only [trRecvGo, Net.emit, tapeSize, evSize]; omega⟩
      simp only [trRecvGo, Net.emit]
      split <;> omega
    | err | intr | closed =>
      exact ⟨rfl, rfl, rfl, Int.le_refl _, by simp only [trRecvGo, Net.emit, tapeSize, evSize]; omega,
        fun _ _ => by simp only [trRecvGo, Net.emit, tapeSize, evSize]; omega⟩

theorem trRecv_now_le (n : Net) (len : Nat) (timeout : Int) : NowLe n (trRecv n len timeout).2.2.1 := by
  obtain ⟨_, _, _, hnow, _⟩ := trRecvGo_spec n len timeout n.tape n.now
  exact hnow

theorem trOpen_now (st : St) : (trOpen st).2.n.now = st.n.now := by
  obtain ⟨tr, e⟩ := trOpen_eq st
  rw [e]

theorem trClose_now (st : St) : (trClose st).n.now = st.n.now := rfl
theorem doSleep_now (st : St) (k : Nat) : (doSleep st k).n.now = st.n.now + k := rfl
theorem purgeOutdated_now (st : St) : (purgeOutdated st).n.now = st.n.now := by rw [purgeOutdated_n]

theorem nowEq_emitRel : EmitRel NowEq :=
  { refl := fun _ => rfl
    trans := fun h1 h2 => by unfold NowEq at *; omega
    emit := fun _ _ => rfl
    send := fun n b => trSend_now n b }

theorem nowLe_runRel : RunRel NowLe :=
  { refl := fun _ => Int.le_refl _
    trans := Int.le_trans
    emit := fun _ _ => Int.le_refl _
    send := fun n b => Int.le_of_eq (trSend_now n b).symm
    recv := trRecv_now_le
    opn := fun st => by unfold NowLe; rw [trOpen_now]; exact Int.le_refl _
    sleep := fun n k => by unfold NowLe; simp only; omega }

theorem nowEq_sendRel : SendRel (onNet NowEq) := nowEq_emitRel.sendRel
theorem nowLe_stepRel : StepRel (onNet NowLe) := nowLe_runRel.stepRel

/-! ### everything that only sends or writes trace lines leaves the clock alone -/

theorem changeState_now (c : Conn) (n : Net) (own : Nat) (s : SState) : (changeState c n own s).2.now = n.now :=
  changeState_steps nowEq_sendRel c n own s
theorem sendAllLoop_now (fuel : Nat) (n : Net) (rest : List Nat) (total : Nat) :
    (sendAllLoop fuel n rest total).2.now = n.now := sendAllLoop_steps nowEq_sendRel {} fuel n rest total
theorem sendAll_now (n : Net) (bytes : List Nat) : (sendAll n bytes).2.now = n.now := sendAllLoop_now _ n bytes 0
theorem sendPdu_now (c : Conn) (n : Net) (bytes : List Nat) : (sendPdu c n bytes).2.now = n.now :=
  sendPdu_steps nowEq_sendRel c n bytes
theorem sendErrorPdu_now (c : Conn) (n : Net) (enc : List Nat) (code : Nat) (text : List Nat) :
    (sendErrorPdu c n enc code text).2.now = n.now := sendErrorPdu_steps nowEq_sendRel c n enc code text
theorem sendErrorFromHost_now (c : Conn) (n : Net) (raw : List Nat) (k code : Nat) (text : List Nat) :
    (sendErrorFromHost c n raw k code text).2.now = n.now := sendErrorFromHost_steps nowEq_sendRel c n raw k code text
theorem recvTransportError_now (c : Conn) (n : Net) (own : Nat) (code : Int) :
    (recvTransportError c n own code).2.2.now = n.now := recvTransportError_steps nowEq_sendRel c n own code
theorem handleErrorPdu_now (c : Conn) (n : Net) (own : Nat) (raw : List Nat) :
    (handleErrorPdu c n own raw).2.now = n.now := handleErrorPdu_steps nowEq_sendRel nowEq_emitRel.lowers c n own raw
theorem handleCacheResponse_now (c : Conn) (ss : Sess) (n : Net) (own : Nat) (raw : List Nat) :
    (handleCacheResponse c ss n own raw).2.2.2.now = n.now := handleCacheResponse_steps nowEq_sendRel c ss n own raw
theorem updatePfx_now (c : Conn) (n : Net) (t : Tbl) (raw : List Nat) : (updatePfx c n t raw).2.2.1.now = n.now :=
  updatePfx_steps nowEq_sendRel c n t raw
theorem updateKey_now (c : Conn) (n : Net) (t : Tbl) (raw : List Nat) : (updateKey c n t raw).2.2.1.now = n.now :=
  updateKey_steps nowEq_sendRel c n t raw
theorem applyPfx_now (ps : List (List Nat)) (c : Conn) (n : Net) (t : Tbl) (done : List (List Nat)) :
    (applyPfx c n t ps done).2.2.1.now = n.now := applyPfx_steps nowEq_sendRel ps c n t done
theorem applyKey_now (ps : List (List Nat)) (c : Conn) (n : Net) (t : Tbl) (done : List (List Nat)) :
    (applyKey c n t ps done).2.2.1.now = n.now := applyKey_steps nowEq_sendRel ps c n t done
theorem applyFail_now (u : Bool) (c : Conn) (n : Net) (t : Tbl) : (applyFail u c n t).n.now = n.now :=
  applyFail_steps nowEq_sendRel u c n t
theorem applyTables_now (c : Conn) (n : Net) (t : Tbl) (resetting : Bool) (v4 v6 keys : List (List Nat)) :
    (applyTables c n t resetting v4 v6 keys).n.now = n.now := applyTables_steps nowEq_sendRel c n t resetting v4 v6 keys
theorem applyBuffered_now (st : St) (eod : List Nat) (v4 v6 keys : List (List Nat)) :
    (applyBuffered st eod v4 v6 keys).2.n.now = st.n.now := applyBuffered_steps nowEq_sendRel st eod v4 v6 keys
theorem cleanup_now (r : Bool × St) : (cleanup r).2.n.now = r.2.n.now := rfl
theorem sendSerialQuery_now (st : St) : (sendSerialQuery st).2.n.now = st.n.now := sendSerialQuery_steps nowEq_sendRel st
theorem sendResetQuery_now (st : St) : (sendResetQuery st).2.n.now = st.n.now := sendResetQuery_steps nowEq_sendRel st
theorem change_now (st : St) (s : SState) : (st.change s).n.now = st.n.now := change_steps nowEq_sendRel st s

/-! ### receiving and sleeping let the clock advance, never go back -/

theorem recvAllLoop_now_le (len : Nat) (endTime : Int) (fuel : Nat) (n : Net) (acc : List Nat) :
    NowLe n (recvAllLoop len endTime fuel n acc).2.2.1 := recvAllLoop_rel nowLe_runRel.toRecvRel len endTime fuel n acc
theorem recvAll_now_le (n : Net) (len : Nat) (timeout : Int) : NowLe n (recvAll n len timeout).2.2.1 :=
  recvAllLoop_now_le _ _ _ n []
theorem recvStage3_now_le (c : Conn) (n : Net) (own : Nat) (hdr : List Nat) : NowLe n (recvStage3 c n own hdr).2.2 :=
  recvStage3_steps nowLe_stepRel.toSendRel nowLe_stepRel.recvs c n own hdr
theorem recvStage2_now_le (c : Conn) (n : Net) (own : Nat) (hdr : List Nat) : NowLe n (recvStage2 c n own hdr).2.2 :=
  recvStage2_rel nowLe_runRel.toRecvRel c n own hdr
theorem receivePdu_now_le (c : Conn) (n : Net) (own : Nat) (t : Int) : NowLe n (receivePdu c n own t).2.2 :=
  receivePdu_steps nowLe_stepRel.toSendRel nowLe_stepRel.lowers nowLe_stepRel.recvs c n own t
theorem recvAndStore_now_le (fuel : Nat) (st : St) (v4 v6 keys : List (List Nat)) :
    st.n.now ≤ (recvAndStore fuel st v4 v6 keys).2.1.n.now :=
  recvAndStore_steps nowLe_stepRel.toSendRel nowLe_stepRel.lowers nowLe_stepRel.recvs fuel st v4 v6 keys
theorem syncFirst_now_le (fuel : Nat) (st : St) : st.n.now ≤ (syncFirst fuel st).2.n.now :=
  syncFirst_steps nowLe_stepRel.toSendRel nowLe_stepRel.lowers nowLe_stepRel.recvs fuel st
/-- **rtr_sync never sets the clock back** -/
theorem syncG_now_le (fuel : Nat) (st : St) : st.n.now ≤ (syncG fuel st).2.1.n.now :=
  syncG_steps nowLe_stepRel.toSendRel nowLe_stepRel.lowers nowLe_stepRel.recvs fuel st
theorem sync_now_le (fuel : Nat) (st : St) : st.n.now ≤ (sync fuel st).2.n.now := syncG_now_le fuel st
theorem waitForSync_now_le (st : St) : st.n.now ≤ (waitForSync st).2.n.now :=
  waitForSync_steps nowLe_stepRel.toSendRel nowLe_stepRel.lowers nowLe_stepRel.recvs st
theorem doSleep_now_le (st : St) (k : Nat) : st.n.now ≤ (doSleep st k).n.now := doSleep_steps nowLe_stepRel st k

/-- **one iteration of the state machine never sets the clock back** -/
theorem fsmStep_now_le {fuel : Nat} {st st' : St} (h : fsmStep fuel st = some st') : st.n.now ≤ st'.n.now :=
  fsmStep_rel nowLe_runRel fuel st st' h

theorem fsmStart_now_le (steps fuel : Nat) (st : St) : st.n.now ≤ (fsmStart steps fuel st).n.now := by
  unfold fsmStart
  split
  · exact Int.le_refl _
  · exact fsmRun_steps nowLe_stepRel steps fuel _

end Rtr.P
