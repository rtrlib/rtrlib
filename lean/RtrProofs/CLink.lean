/-
  CLink: the C functions translated by tools/gen_cfuns.py (RtrModel/Generated/CFuns.lean, regenerated from the
  current source on every run) compute what the hand-written models compute - for every input.

  The theorems of the CLink files close the gap between "the model" and "the C text as clang parsed it"; what remains
  trusted there is the translator's reading of the typed AST (tools/gen_cfuns.py header).

  This file: what all of them share, one normal form for each kind of fact - integers (a widened value or a literal as a
  number, for any widths: the lemmas on 8, 16, 32, 64 bits that the normalising simp sets name are the instances; signed
  overflow guards as bounds on the integer result), decisions (the continuations the translation repeats behind a branch:
  `ite_ite_same`, `ite_opt`), memory (`Nat → BitVec 8`) byte by byte - and the link theorems of the functions that other
  translated functions call.
-/
import RtrModel.Generated.CFuns
import RtrModel.Bits

namespace Rtr.CLink
open Rtr Rtr.Gen

/-! ## integers -/

/-- core's `BitVec.toNat_setWidth_of_le` at the widths the simp sets name -/
theorem zext64_toNat (x : BitVec 32) : (BitVec.setWidth 64 x).toNat = x.toNat :=
  BitVec.toNat_setWidth_of_le (by decide)

@[simp] theorem zext8_toNat (x : BitVec 8) : (BitVec.setWidth 32 x).toNat = x.toNat :=
  BitVec.toNat_setWidth_of_le (by decide)
@[simp] theorem zext16_toNat (x : BitVec 16) : (BitVec.setWidth 32 x).toNat = x.toNat :=
  BitVec.toNat_setWidth_of_le (by decide)

theorem lit_toNat {w : Nat} (k : Nat) (hk : k < 2 ^ w) : (BitVec.ofNat w k).toNat = k := by
  rw [BitVec.toNat_ofNat, Nat.mod_eq_of_lt hk]

theorem zext_toInt {v w : Nat} (x : BitVec v) (h : v < w) : (BitVec.setWidth w x).toInt = (x.toNat : Int) := by
  have h1 : 2 ^ v * 2 ≤ 2 ^ w := by
    rw [← Nat.pow_succ]
    exact Nat.pow_le_pow_right (by decide) h
  have h2 := x.isLt
  rw [BitVec.toInt_eq_toNat_of_lt (by rw [BitVec.toNat_setWidth_of_le (Nat.le_of_lt h)]; omega),
    BitVec.toNat_setWidth_of_le (Nat.le_of_lt h)]

theorem lit_toInt {w : Nat} (k : Nat) (hk : 2 * k < 2 ^ w) : (BitVec.ofNat w k).toInt = (k : Int) := by
  have hm : (BitVec.ofNat w k).toNat = k := lit_toNat k (by omega)
  rw [BitVec.toInt_eq_toNat_of_lt (by omega), hm]

theorem toNat_eq_lit {w : Nat} (x : BitVec w) (k : Nat) (hk : k < 2 ^ w) : x.toNat = k ↔ x = BitVec.ofNat w k := by
  rw [← BitVec.toNat_inj, lit_toNat k hk]

theorem zext_beq_lit {v w : Nat} (x : BitVec v) (k : Nat) (h : v ≤ w) (hk : k < 2 ^ w) :
    (BitVec.setWidth w x == BitVec.ofNat w k) = (x.toNat == k) := by
  rw [Bool.eq_iff_iff, beq_iff_eq, beq_iff_eq, ← toNat_eq_lit _ k hk, BitVec.toNat_setWidth_of_le h]

theorem setWidth_eq_lit {v w : Nat} (x : BitVec v) (k : Nat) (h : v ≤ w) (hk : k < 2 ^ v) :
    (BitVec.setWidth w x = BitVec.ofNat w k) = (x = BitVec.ofNat v k) := by
  apply propext
  rw [← toNat_eq_lit _ k (Nat.lt_of_lt_of_le hk (Nat.pow_le_pow_right (by decide) h)), ← toNat_eq_lit x k hk,
    BitVec.toNat_setWidth_of_le h]

theorem ofInt_natCast_toNat {w : Nat} (x : BitVec w) : BitVec.ofInt w (x.toNat : Int) = x := by
  rw [BitVec.ofInt_natCast, BitVec.ofNat_toNat, BitVec.setWidth_eq]

theorem zext32_64_toInt (x : BitVec 32) : (BitVec.setWidth 64 x).toInt = (x.toNat : Int) := zext_toInt x (by decide)

theorem zext8_toInt (x : BitVec 8) : (BitVec.setWidth 32 x).toInt = (x.toNat : Int) := zext_toInt x (by decide)

theorem lit32_toInt (k : Nat) (hk : k < 2147483648) : (BitVec.ofNat 32 k).toInt = (k : Int) := lit_toInt k (by omega)

theorem slt0_iff (x : BitVec 32) : x.slt 0#32 = true ↔ x.toInt < 0 := by simp [BitVec.slt]
theorem slt0_false_iff (x : BitVec 32) : x.slt 0#32 = false ↔ 0 ≤ x.toInt := by
  rw [← Bool.not_eq_true, slt0_iff]; omega

theorem slt_zext8_lit (x : BitVec 8) (k : Nat) (hk : k < 2147483648) :
    BitVec.slt (BitVec.setWidth 32 x) (BitVec.ofNat 32 k) = decide (x.toNat < k) := by
  simp only [BitVec.slt, zext8_toInt, lit32_toInt k hk]; simp
theorem slt_lit_zext8 (x : BitVec 8) (k : Nat) (hk : k < 2147483648) :
    BitVec.slt (BitVec.ofNat 32 k) (BitVec.setWidth 32 x) = decide (k < x.toNat) := by
  simp only [BitVec.slt, zext8_toInt, lit32_toInt k hk]; simp
theorem sle_zext8_lit (x : BitVec 8) (k : Nat) (hk : k < 2147483648) :
    BitVec.sle (BitVec.setWidth 32 x) (BitVec.ofNat 32 k) = decide (x.toNat ≤ k) := by
  simp only [BitVec.sle, zext8_toInt, lit32_toInt k hk]; simp
theorem sle_lit_zext8 (x : BitVec 8) (k : Nat) (hk : k < 2147483648) :
    BitVec.sle (BitVec.ofNat 32 k) (BitVec.setWidth 32 x) = decide (k ≤ x.toNat) := by
  simp only [BitVec.sle, zext8_toInt, lit32_toInt k hk]; simp
theorem sle_zext8_zext8 (x y : BitVec 8) :
    BitVec.sle (BitVec.setWidth 32 x) (BitVec.setWidth 32 y) = decide (x.toNat ≤ y.toNat) := by
  simp only [BitVec.sle, zext8_toInt]; simp
theorem slt_zext8_zext8 (x y : BitVec 8) :
    BitVec.slt (BitVec.setWidth 32 x) (BitVec.setWidth 32 y) = decide (x.toNat < y.toNat) := by
  simp only [BitVec.slt, zext8_toInt]; simp

theorem zext8_beq_lit (x : BitVec 8) (k : Nat) (hk : k < 4294967296) :
    (BitVec.setWidth 32 x == BitVec.ofNat 32 k) = (x.toNat == k) :=
  zext_beq_lit x k (by decide) hk
theorem zext8_bne_lit (x : BitVec 8) (k : Nat) (hk : k < 4294967296) :
    (BitVec.setWidth 32 x != BitVec.ofNat 32 k) = (x.toNat != k) := by
  simp only [bne, zext8_beq_lit x k hk]

theorem zext8_eq_lit (x : BitVec 8) (k : Nat) (hk : k < 256) :
    (BitVec.setWidth 32 x == BitVec.ofNat 32 k) = decide (x = BitVec.ofNat 8 k) := by
  simp only [Bool.beq_eq_decide_eq, setWidth_eq_lit (w := 32) x k (by decide) hk]

theorem sext8_eq_lit (x : BitVec 8) (k : Nat) (hk : k < 128) :
    (BitVec.signExtend 32 x = BitVec.ofNat 32 k) = (x = BitVec.ofNat 8 k) := by
  rw [← BitVec.toInt_inj, ← BitVec.toInt_inj (x := x), BitVec.toInt_signExtend_of_le (by decide), lit32_toInt k (by omega),
    lit_toInt (w := 8) k (by omega)]

theorem sext8_beq_lit (x : BitVec 8) (k : Nat) (hk : k < 128) :
    (BitVec.signExtend 32 x == BitVec.ofNat 32 k) = (x.toNat == k) := by
  rw [Bool.eq_iff_iff, beq_iff_eq, beq_iff_eq, sext8_eq_lit x k hk, toNat_eq_lit x k (by omega)]

theorem saddOverflow_eq_false_iff {w : Nat} (x y : BitVec w) :
    x.saddOverflow y = false ↔ -(2 ^ (w - 1) : Int) ≤ x.toInt + y.toInt ∧ x.toInt + y.toInt < 2 ^ (w - 1) := by
  simp only [BitVec.saddOverflow, Bool.or_eq_false_iff, decide_eq_false_iff_not]
  omega

theorem ssubOverflow_eq_false_iff {w : Nat} (x y : BitVec w) :
    x.ssubOverflow y = false ↔ -(2 ^ (w - 1) : Int) ≤ x.toInt - y.toInt ∧ x.toInt - y.toInt < 2 ^ (w - 1) := by
  simp only [BitVec.ssubOverflow, Bool.or_eq_false_iff, decide_eq_false_iff_not]
  omega

/-- a C truth value (`c ? 1 : 0`, or a comparison used as an `int`) tested against 0 -/
theorem ite_one_zero_bne (c : Prop) [Decidable c] : ((if c then 1#32 else 0#32) != 0#32) = decide c := by
  by_cases h : c <;> simp [h]

@[simp] theorem or_beq_zero {w : Nat} (x y : BitVec w) : ((x ||| y) == 0#w) = (x == 0#w && y == 0#w) := by
  rw [Bool.eq_iff_iff]; simp

/-! ## decisions -/

theorem ite_cases_lhs {α : Sort _} {c : Prop} [Decidable c] {a b r : α} (h1 : c → a = r) (h2 : ¬c → b = r) :
    (if c then a else b) = r :=
  iteInduction (motive := (· = r)) h1 h2

theorem ite_cond_congr {α : Sort _} {p q : Prop} [Decidable p] [Decidable q] {a b : α} (h : p ↔ q) :
    (if p then a else b) = if q then a else b :=
  ite_congr (propext h) (fun _ => rfl) (fun _ => rfl)

theorem ite_eq_none_iff {α : Type _} {D : Prop} [Decidable D] {x : Option α} (hx : x ≠ none) :
    (if D then x else none) = none ↔ ¬ D := by
  by_cases h : D
  · rw [if_pos h]
    exact ⟨fun e => absurd e hx, fun n => absurd h n⟩
  · rw [if_neg h]
    exact ⟨fun _ => h, fun _ => rfl⟩

/-- `if (p) { if (q) return a; } b`: the translation repeats the code that follows a branch on every path into it;
    two paths that carry the same continuation `b` are one -/
theorem ite_ite_same {α : Sort _} {p q : Prop} [Decidable p] [Decidable q] {a b : α} :
    (if p then (if q then a else b) else b) = if p ∧ q then a else b := by
  by_cases hp : p
  · simp only [hp, if_true, true_and]
  · simp only [hp, if_false, false_and]

/-- `if (c) { v = a; }` (the assignment behind a guard `g`) followed by code behind a guard `g'`: when the assignment changes
    nothing where it is not made (`he`) and its guard holds where it is (`hg`), the two copies of that code are one
    (`g ∧ g'` is the shape `ite_ite_same` leaves).  Applied as a conditional `simp` lemma whose discharger proves both
    hypotheses, e.g. `simp (disch := first | (intro h; rw [memcpy_len0 h]) | omega) only [ite_opt]` (`he`, then `hg`).  Where
    the assignment does change the value, see `Recv.Agrees.downgrade`. -/
theorem ite_opt {α : Sort _} {c g g' : Prop} [Decidable c] [Decidable g] [Decidable g'] {t e z : α} (he : ¬ c → e = t)
    (hg : c → g) : (if c then (if g ∧ g' then t else z) else (if g' then e else z)) = if g' then t else z := by
  by_cases hc : c
  · rw [if_pos hc]
    by_cases h' : g'
    · rw [if_pos ⟨hg hc, h'⟩, if_pos h']
    · rw [if_neg (fun q => h' q.2), if_neg h']
  · rw [if_neg hc, he hc]

/-! ## memory, byte by byte -/

theorem toNat_append8 {w : Nat} (x : BitVec w) (y : BitVec 8) : (x ++ y).toNat = x.toNat * 256 + y.toNat := by
  rw [BitVec.toNat_append, ← Nat.shiftLeft_add_eq_or_of_lt y.isLt, Nat.shiftLeft_eq]

theorem extractLsb'_bytes (a b c d : BitVec 8) :
    BitVec.extractLsb' 0 8 (d ++ c ++ b ++ a) = a ∧ BitVec.extractLsb' 8 8 (d ++ c ++ b ++ a) = b ∧
    BitVec.extractLsb' 16 8 (d ++ c ++ b ++ a) = c ∧ BitVec.extractLsb' 24 8 (d ++ c ++ b ++ a) = d := by
  refine ⟨?_, ?_, ?_, ?_⟩
  · rw [BitVec.extractLsb'_append_eq_of_add_le (by decide)]; simp
  · rw [BitVec.extractLsb'_append_eq_of_le (by decide), BitVec.extractLsb'_append_eq_of_add_le (by decide)]; simp
  · rw [BitVec.extractLsb'_append_eq_of_le (by decide), BitVec.extractLsb'_append_eq_of_le (by decide),
      BitVec.extractLsb'_append_eq_of_add_le (by decide)]; simp
  · rw [BitVec.extractLsb'_append_eq_of_le (by decide), BitVec.extractLsb'_append_eq_of_le (by decide),
      BitVec.extractLsb'_append_eq_of_le (by decide)]; simp

theorem extractLsb'_bytes16 (a b : BitVec 8) :
    BitVec.extractLsb' 0 8 (b ++ a) = a ∧ BitVec.extractLsb' 8 8 (b ++ a) = b := by
  refine ⟨?_, ?_⟩
  · rw [BitVec.extractLsb'_append_eq_of_add_le (by decide)]; simp
  · rw [BitVec.extractLsb'_append_eq_of_le (by decide)]; simp

theorem bswap32_append (a b c d : BitVec 8) : C.bswap32 (d ++ c ++ b ++ a) = a ++ b ++ c ++ d := by
  obtain ⟨h0, h1, h2, h3⟩ := extractLsb'_bytes a b c d
  unfold C.bswap32
  rw [h0, h1, h2, h3]

theorem load32_toNat (mem : Nat → BitVec 8) (a : Nat) :
    (C.load32 mem a).toNat =
      (((mem (a+3)).toNat * 256 + (mem (a+2)).toNat) * 256 + (mem (a+1)).toNat) * 256 + (mem a).toNat := by
  unfold C.load32; simp only [toNat_append8]

theorem bswap32_load32_toNat (mem : Nat → BitVec 8) (a : Nat) :
    (C.bswap32 (C.load32 mem a)).toNat =
      (((mem a).toNat * 256 + (mem (a+1)).toNat) * 256 + (mem (a+2)).toNat) * 256 + (mem (a+3)).toNat := by
  unfold C.load32; rw [bswap32_append]; simp only [toNat_append8]

theorem load32_eq {m m' : Nat → BitVec 8} {a a' : Nat} (h : ∀ k, k < 4 → m (a + k) = m' (a' + k)) :
    C.load32 m a = C.load32 m' a' := by
  unfold C.load32
  rw [h 3 (by omega), h 2 (by omega), h 1 (by omega)]
  have := h 0 (by omega)
  rw [Nat.add_zero, Nat.add_zero] at this
  rw [this]

theorem load32_agree {mem mem' : Nat → BitVec 8} {msize : Nat} (h : ∀ a, a < msize → mem a = mem' a) (a : Nat)
    (ha : a + 4 ≤ msize) : C.load32 mem a = C.load32 mem' a :=
  load32_eq fun k hk => h (a + k) (by omega)

theorem load32_shift (m m' : Nat → BitVec 8) (p a : Nat) (h : ∀ k, k < 4 → m (p + (a + k)) = m' (a + k)) :
    C.load32 m (p + a) = C.load32 m' a :=
  load32_eq fun k hk => by rw [Nat.add_assoc]; exact h k hk

/-! ### stores, copies, fills: the byte at an address outside (`_other`, `_out`) and inside (`_in`, `_at`, `_append`) the range -/

theorem store8_other (m : Nat → BitVec 8) (p : Nat) (v : BitVec 8) (x : Nat) (h : x ≠ p) : C.store8 m p v x = m x := by
  unfold C.store8; rw [if_neg h]

theorem store32_other (m : Nat → BitVec 8) (a : Nat) (v : BitVec 32) (x : Nat) (h : x < a ∨ a + 4 ≤ x) :
    C.store32 m a v x = m x := by
  unfold C.store32
  rw [if_neg (by omega), if_neg (by omega), if_neg (by omega), if_neg (by omega)]

theorem store16_other (m : Nat → BitVec 8) (a : Nat) (v : BitVec 16) (x : Nat) (h : x < a ∨ a + 2 ≤ x) :
    C.store16 m a v x = m x := by
  unfold C.store16
  rw [if_neg (by omega), if_neg (by omega)]

theorem store32_append (m : Nat → BitVec 8) (a : Nat) (b3 b2 b1 b0 : BitVec 8) (x : Nat) :
    C.store32 m a (b3 ++ b2 ++ b1 ++ b0) x =
      if x = a then b0 else if x = a + 1 then b1 else if x = a + 2 then b2 else if x = a + 3 then b3 else m x := by
  obtain ⟨h0, h1, h2, h3⟩ := extractLsb'_bytes b0 b1 b2 b3
  unfold C.store32
  rw [h0, h1, h2, h3]

theorem store16_append (m : Nat → BitVec 8) (a : Nat) (b1 b0 : BitVec 8) (x : Nat) :
    C.store16 m a (b1 ++ b0) x = if x = a then b0 else if x = a + 1 then b1 else m x := by
  obtain ⟨h0, h1⟩ := extractLsb'_bytes16 b0 b1
  unfold C.store16
  rw [h0, h1]

theorem memcpy_in (m : Nat → BitVec 8) (d s n x : Nat) (h : d ≤ x ∧ x < d + n) :
    C.memcpy m d s n x = m (s + (x - d)) := by
  unfold C.memcpy; rw [if_pos h]

theorem memcpy_out (m : Nat → BitVec 8) (d s n x : Nat) (h : x < d ∨ d + n ≤ x) : C.memcpy m d s n x = m x := by
  unfold C.memcpy; rw [if_neg (by omega)]

theorem bytes_of_32 (v : BitVec 32) :
    BitVec.extractLsb' 24 8 v ++ BitVec.extractLsb' 16 8 v ++ BitVec.extractLsb' 8 8 v ++ BitVec.extractLsb' 0 8 v = v := by
  rw [BitVec.extractLsb'_append_extractLsb'_eq_extractLsb' (by rfl),
    BitVec.extractLsb'_append_extractLsb'_eq_extractLsb' (by rfl),
    BitVec.extractLsb'_append_extractLsb'_eq_extractLsb' (by rfl)]
  simp

theorem load32_store32 (m : Nat → BitVec 8) (a : Nat) (v : BitVec 32) : C.load32 (C.store32 m a v) a = v := by
  unfold C.load32 C.store32
  simp
  exact bytes_of_32 v

theorem load32_store32_other (m : Nat → BitVec 8) (a b : Nat) (v : BitVec 32) (h : a + 4 ≤ b ∨ b + 4 ≤ a) :
    C.load32 (C.store32 m a v) b = C.load32 m b :=
  load32_eq fun k hk => store32_other m a v _ (by omega)

theorem bswap32_bswap32 (v : BitVec 32) : C.bswap32 (C.bswap32 v) = v := by
  have h := bytes_of_32 v
  conv => lhs; rw [← h]
  rw [bswap32_append, bswap32_append]
  exact h

theorem bswap16_append (a b : BitVec 8) : C.bswap16 (b ++ a) = a ++ b := by
  obtain ⟨h0, h1⟩ := extractLsb'_bytes16 a b
  unfold C.bswap16; rw [h0, h1]

theorem memcpy_at (m : Nat → BitVec 8) (d s n j : Nat) (h : j < n) : C.memcpy m d s n (d + j) = m (s + j) := by
  rw [memcpy_in _ _ _ _ _ (by omega), Nat.add_sub_cancel_left]

/-- the hypothesis is the negated test of `if (n > 0) memcpy(…)` as `ite_opt` hands it to its discharger -/
theorem memcpy_len0 {n : Nat} (h : ¬ 0 < n) (m : Nat → BitVec 8) (d s : Nat) : C.memcpy m d s n = m := by
  funext x
  exact memcpy_out m d s n x (by omega)

theorem memFill_in (m : Nat → BitVec 8) (d n : Nat) (b : List (BitVec 8)) (x : Nat) (h : d ≤ x ∧ x < d + n) :
    C.memFill m d n b x = b.getD (x - d) 0#8 := by unfold C.memFill; rw [if_pos h]
theorem memFill_out (m : Nat → BitVec 8) (d n : Nat) (b : List (BitVec 8)) (x : Nat) (h : x < d ∨ d + n ≤ x) :
    C.memFill m d n b x = m x := by unfold C.memFill; rw [if_neg (by omega)]

theorem memFill_at (m : Nat → BitVec 8) (d n : Nat) (b : List (BitVec 8)) (i : Nat) (h : i < n) :
    C.memFill m d n b (d + i) = b.getD i 0#8 := by
  rw [memFill_in _ _ _ _ _ (by omega), Nat.add_sub_cancel_left]

theorem memFill_memcpy (m : Nat → BitVec 8) (d s n : Nat) (l : List (BitVec 8)) :
    C.memFill (C.memcpy m d s n) d n l = C.memFill m d n l := by
  funext x
  by_cases h : d ≤ x ∧ x < d + n
  · rw [memFill_in _ _ _ _ _ h, memFill_in _ _ _ _ _ h]
  · rw [memFill_out _ _ _ _ _ (by omega), memFill_out _ _ _ _ _ (by omega), memcpy_out _ _ _ _ _ (by omega)]

/-! ## callees: `rtr_get_pdu_type`, which most translated functions of packets.c call, and `lrtr_convert_long` /
`lrtr_convert_short` (lib/convert_byte_order.c), which the header and the footer conversion call -/

/-- `rtr_get_pdu_type(pdu)` reads the `char`-typed byte at offset 1 - SIGN-extended to the `int`-sized enum: a type
    byte ≥ 0x80 yields a negative `enum pdu_type` - and is defined exactly when the object has that byte -/
theorem rtr_get_pdu_type_eq (mem : Nat → BitVec 8) (msize pdu : Nat) :
    C.rtr_get_pdu_type mem msize pdu =
      if pdu + 2 ≤ msize then some (BitVec.signExtend 32 (mem (pdu + 1))) else none := by
  unfold C.rtr_get_pdu_type C.load8
  by_cases h : pdu + 2 ≤ msize
  · have h1 : pdu + 1 ≤ msize := by omega
    simp [h, h1]
  · simp [h]

theorem rtr_get_pdu_type_at (mem : Nat → BitVec 8) (msize pdu : Nat) (h : pdu + 2 ≤ msize) :
    C.rtr_get_pdu_type mem msize pdu = some (BitVec.signExtend 32 (mem (pdu + 1))) := by
  rw [rtr_get_pdu_type_eq, if_pos h]

/-- on the little-endian host both directions swap the bytes; any other direction value is an assertion failure -/
theorem lrtr_convert_long_eq (tbo v : BitVec 32) :
    C.lrtr_convert_long tbo v = if tbo = 0#32 ∨ tbo = 1#32 then some (C.bswap32 v) else none := by
  unfold C.lrtr_convert_long
  by_cases h0 : tbo = 0#32
  · simp [h0]
  · by_cases h1 : tbo = 1#32
    · simp [h1]
    · simp [h0, h1]

theorem lrtr_convert_short_eq (tbo : BitVec 32) (v : BitVec 16) :
    C.lrtr_convert_short tbo v = if tbo = 0#32 ∨ tbo = 1#32 then some (C.bswap16 v) else none := by
  unfold C.lrtr_convert_short
  by_cases h0 : tbo = 0#32
  · simp [h0]
  · by_cases h1 : tbo = 1#32
    · simp [h1]
    · simp [h0, h1]

/-! ## `lrtr_get_bits` -/

/-- Undefined (assertion) exactly when more than 32 bits are requested.  The proof decides the model's three conditions and
    lets `simp` evaluate both sides, each call with every fact of its case whether the text needs it or not; so it does not
    depend on how the C text computes the mask (mutable variable, ternary, order of the `&`, `>` or `<`). -/
theorem lrtr_get_bits_eq (v : BitVec 32) (f n : BitVec 8) :
    C.lrtr_get_bits v f n = if n.toNat ≤ 32 then some (getBits32 v f.toNat n.toNat) else none := by
  unfold C.lrtr_get_bits getBits32
  simp (disch := decide) only [slt_zext8_lit, slt_lit_zext8, sle_lit_zext8, sle_zext8_lit, zext8_beq_lit, zext8_bne_lit, zext8_toNat]
  have hf := f.isLt
  have hn := n.isLt
  have allOnes : BitVec.allOnes 32 = 4294967295#32 := by decide
  by_cases h1 : n.toNat ≤ 32
  · have h1' : n.toNat < 33 := by omega
    by_cases h0 : n.toNat = 0
    · simp [h1, h1', h0]
    · by_cases hf31 : 31 < f.toNat
      · have : f.toNat > 31 := hf31
        simp [h1, h1', h0, hf31, this]
      · have hf2 : f.toNat < 32 := by omega
        have hf3 : ¬ f.toNat > 31 := by omega
        by_cases h3 : n.toNat = 32
        · simp [h1, h1', h0, hf31, hf2, hf3, h3, allOnes, BitVec.and_comm]
        · have hn2 : n.toNat < 32 := by omega
          simp [h1, h1', h0, hf31, hf2, hf3, h3, hn2, allOnes, BitVec.and_comm]
  · have h1' : ¬ n.toNat < 33 := by omega
    simp [h1, h1']

end Rtr.CLink
