/-
  CLinkMisc: small link theorems (translated C text = model) for the integer hash of the router-key table
  (`tommy_inthash_u32`, tommyhash.h) and the interval-mode accessors.
-/
import RtrProofs.CLink
import RtrModel.Hashlin
import RtrProofs.CLinkIntervals

namespace Rtr.CLink
open Rtr Rtr.Gen

theorem tommy_inthash_u32_eq (k : BitVec 32) :
    C.tommy_inthash_u32 k = some (inthashU32 (UInt32.ofBitVec k)).toBitVec := by
  simp only [C.tommy_inthash_u32, inthashU32, Option.some.injEq]
  simp [UInt32.toBitVec_sub, UInt32.toBitVec_xor, UInt32.toBitVec_shiftLeft, UInt32.toBitVec_shiftRight]

open Rtr.Intervals

theorem rtr_get_interval_mode_eq (s : C.S_rtr_socket) : C.rtr_get_interval_mode s = some (s.iv_mode, s) := by
  simp [C.rtr_get_interval_mode]

theorem rtr_set_interval_mode_eq (s : C.S_rtr_socket) (opt : BitVec 32) :
    C.rtr_set_interval_mode s opt =
      some { s with iv_mode := if opt = 0#32 ∨ opt = 1#32 ∨ opt = 2#32 ∨ opt = 3#32 then opt else s.iv_mode } := by
  unfold C.rtr_set_interval_mode
  by_cases h0 : opt = 0#32
  · simp [h0]
  · by_cases h1 : opt = 1#32
    · simp [h1]
    · by_cases h2 : opt = 2#32
      · simp [h2]
      · by_cases h3 : opt = 3#32
        · simp [h3]
        · simp [h0, h1, h2, h3]

theorem rtr_set_interval_mode_model (s : C.S_rtr_socket) (opt : BitVec 32) :
    ∃ s', C.rtr_set_interval_mode s opt = some s' ∧ sockOf s' = setIntervalMode (sockOf s) opt.toInt := by
  refine ⟨_, rtr_set_interval_mode_eq s opt, ?_⟩
  unfold setIntervalMode sockOf
  simp (disch := decide) only [RTR_INTERVAL_MODE_IGNORE_ANY, RTR_INTERVAL_MODE_ACCEPT_ANY,
    RTR_INTERVAL_MODE_DEFAULT_MIN_MAX, RTR_INTERVAL_MODE_IGNORE_ON_FAILURE, int32_toInt_eq_iff, BitVec.reduceOfInt]
  split <;> simp_all

end Rtr.CLink
