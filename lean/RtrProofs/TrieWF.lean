/-
  TrieWF: the invariant of the prefix trie (`WF`, parametric form `WFp`), its consequence that a node
  at depth `d` has length at least `d` (`depthOK`), and the covering test bit by bit.
-/
import RtrModel.PfxTable

namespace Rtr

def Trie.All (P : NodeC → Prop) : Trie → Prop
  | .nil => True
  | .node c l r => P c ∧ l.All P ∧ r.All P

theorem All_iff {P : NodeC → Prop} (t : Trie) : t.All P ↔ ∀ c ∈ t.nodes, P c := by
  induction t with
  | nil => simp [Trie.All, Trie.nodes]
  | node c l r ihl ihr =>
    simp only [Trie.All, Trie.nodes, List.mem_append, List.mem_cons, ihl, ihr]
    constructor
    · rintro ⟨h0, hl, hr⟩ x (hx | hx | hx)
      · exact hl x hx
      · exact hx ▸ h0
      · exact hr x hx
    · intro h
      exact ⟨h c (Or.inr (Or.inl rfl)), fun x hx => h x (Or.inl hx), fun x hx => h x (Or.inr (Or.inr hx))⟩

def hostZero (w : Nat) (a : Addr) (len : Nat) : Prop := ∀ i, len ≤ i → i < w → bitAt w a i = false

/-- a stored node: length within the family's width, address within the width, host bits zero,
    payload non-empty and without a repeated (asn, max_len, socket) element -/
def NodeOK (w : Nat) (c : NodeC) : Prop :=
  c.len ≤ w ∧ c.addr < 2^w ∧ hostZero w c.addr c.len ∧ c.data ≠ [] ∧ c.data.Nodup

/-- what the invariant asks of a node `c` in the subtree on side `side` of a node `p` at depth `d`:
    bit `d` of its address is the side taken (path property), it is no shorter than `p` (heap
    property on lengths), and its key differs from that of `p` -/
def Below (w : Nat) (p : NodeC) (d : Nat) (side : Bool) (c : NodeC) : Prop :=
  bitAt w c.addr d = side ∧ p.len ≤ c.len ∧ ¬ (c.addr = p.addr ∧ c.len = p.len)

def WF (w : Nat) : Trie → Nat → Prop
  | .nil, _ => True
  | .node c l r, d => NodeOK w c ∧ l.All (Below w c d false) ∧ r.All (Below w c d true) ∧ WF w l (d+1) ∧ WF w r (d+1)

/-- the trie invariant with the condition on a stored node as a parameter.  The mutating
    operations preserve `WFp N w` for every `N` that constrains the payload only to be non-empty
    and duplicate-free (`NodeInv`), and are proved for it once.  `WF` (above) and `WFg` (TrieGen),
    in which the property theorems are stated, are definitions of their own, equivalent to
    `WFp (NodeOK w)` and `WFp NodeOKg`: `WF_iff_WFp` and `WFg_iff_WFp` carry results across. -/
def WFp (N : NodeC → Prop) (w : Nat) : Trie → Nat → Prop
  | .nil, _ => True
  | .node c l r, d => N c ∧ l.All (Below w c d false) ∧ r.All (Below w c d true) ∧ WFp N w l (d+1) ∧ WFp N w r (d+1)

theorem WFp.node {N : NodeC → Prop} {w : Nat} {c : NodeC} {l r : Trie} {d : Nat} (hc : N c)
    (hl : l.All (Below w c d false)) (hr : r.All (Below w c d true))
    (wl : WFp N w l (d+1)) (wr : WFp N w r (d+1)) : WFp N w (.node c l r) d :=
  ⟨hc, hl, hr, wl, wr⟩

theorem WFp.root {N : NodeC → Prop} {w : Nat} {c : NodeC} {l r : Trie} {d : Nat}
    (h : WFp N w (.node c l r) d) : N c := h.1

theorem WFp.belowL {N : NodeC → Prop} {w : Nat} {c : NodeC} {l r : Trie} {d : Nat}
    (h : WFp N w (.node c l r) d) : l.All (Below w c d false) := h.2.1

theorem WFp.belowR {N : NodeC → Prop} {w : Nat} {c : NodeC} {l r : Trie} {d : Nat}
    (h : WFp N w (.node c l r) d) : r.All (Below w c d true) := h.2.2.1

theorem WFp.left {N : NodeC → Prop} {w : Nat} {c : NodeC} {l r : Trie} {d : Nat}
    (h : WFp N w (.node c l r) d) : WFp N w l (d+1) := h.2.2.2.1

theorem WFp.right {N : NodeC → Prop} {w : Nat} {c : NodeC} {l r : Trie} {d : Nat}
    (h : WFp N w (.node c l r) d) : WFp N w r (d+1) := h.2.2.2.2

/-- what the operations need of the node condition -/
structure NodeInv (N : NodeC → Prop) : Prop where
  data : ∀ c, N c → c.data ≠ [] ∧ c.data.Nodup
  set : ∀ c d, N c → d ≠ [] → d.Nodup → N { c with data := d }

theorem nodeInv_NodeOK (w : Nat) : NodeInv (NodeOK w) :=
  ⟨fun _ h => h.2.2.2, fun _ _ h h1 h2 => ⟨h.1, h.2.1, h.2.2.1, h1, h2⟩⟩

theorem WF_iff_WFp (w : Nat) : ∀ (t : Trie) (d : Nat), WF w t d ↔ WFp (NodeOK w) w t d := by
  intro t
  induction t with
  | nil => intro d; exact Iff.rfl
  | node c l r ihl ihr => intro d; simp only [WF, WFp, ihl, ihr]

theorem WFp_mono {N N' : NodeC → Prop} (w : Nat) (h : ∀ c, N c → N' c) : ∀ (t : Trie) (d : Nat),
    WFp N w t d → WFp N' w t d := by
  intro t
  induction t with
  | nil => intros; trivial
  | node c l r ihl ihr => intro d k; exact .node (h c k.root) k.belowL k.belowR (ihl _ k.left) (ihr _ k.right)

theorem WFp_All {N : NodeC → Prop} (w : Nat) : ∀ (t : Trie) (d : Nat), WFp N w t d → t.All N := by
  intro t
  induction t with
  | nil => intros; trivial
  | node c l r ihl ihr => intro d k; exact ⟨k.root, ihl _ k.left, ihr _ k.right⟩

/-- every node of `t` has the first `d` bits given by `pb` (the path from the root) -/
def OnPath (w : Nat) (t : Trie) (d : Nat) (pb : Nat → Bool) : Prop :=
  t.All (fun c => ∀ i, i < d → bitAt w c.addr i = pb i)

theorem bitAt_lt (w : Nat) (a : Addr) (i : Nat) (h : i < w) : bitAt w a i = a.testBit (w - 1 - i) := by
  simp [bitAt, h]

theorem bitAt_ge (w : Nat) (a : Addr) (i : Nat) (h : w ≤ i) : bitAt w a i = false := by
  simp [bitAt]; omega

theorem addr_ext (w : Nat) (a b : Nat) (ha : a < 2^w) (hb : b < 2^w)
    (h : ∀ i, i < w → bitAt w a i = bitAt w b i) : a = b := by
  apply Nat.eq_of_testBit_eq
  intro j
  by_cases hj : j < w
  · have := h (w - 1 - j) (by omega)
    rw [bitAt_lt _ _ _ (by omega), bitAt_lt _ _ _ (by omega)] at this
    have e : w - 1 - (w - 1 - j) = j := by omega
    rw [e] at this; exact this
  · have hj' : w ≤ j := by omega
    have p2 : 2^w ≤ 2^j := Nat.pow_le_pow_right (by omega) hj'
    rw [Nat.testBit_lt_two_pow (Nat.lt_of_lt_of_le ha p2), Nat.testBit_lt_two_pow (Nat.lt_of_lt_of_le hb p2)]

def DepthOK : Trie → Nat → Prop
  | .nil, _ => True
  | .node c l r, d => d ≤ c.len ∧ DepthOK l (d+1) ∧ DepthOK r (d+1)

def ext (pb : Nat → Bool) (d : Nat) (b : Bool) : Nat → Bool := fun i => if i = d then b else pb i

theorem onPath_child (w : Nat) (t : Trie) (d : Nat) (pb : Nat → Bool) (b : Bool)
    (h : OnPath w t d pb) (hb : t.All (fun c => bitAt w c.addr d = b)) : OnPath w t (d+1) (ext pb d b) := by
  unfold OnPath at *
  rw [All_iff] at *
  intro c hc i hi
  unfold ext
  by_cases e : i = d
  · simp [e]; exact hb c hc
  · simp [e]; exact h c hc i (by omega)

theorem All_mono {P Q : NodeC → Prop} (t : Trie) (h : ∀ c, P c → Q c) : t.All P → t.All Q := by
  rw [All_iff, All_iff]; intro hp c hc; exact h c (hp c hc)

theorem key_eq (w : Nat) (a b : NodeC) (ha : NodeOK w a) (hb : NodeOK w b) (d : Nat)
    (hla : a.len = d) (hlb : b.len = d) (h : ∀ i, i < d → bitAt w a.addr i = bitAt w b.addr i) :
    a.addr = b.addr := by
  apply addr_ext w _ _ ha.2.1 hb.2.1
  intro i hi
  by_cases hid : i < d
  · exact h i hid
  · rw [ha.2.2.1 i (by omega) hi, hb.2.2.1 i (by omega) hi]

/-- C01 key lemma: a node at depth `d` of a well-formed trie has `d ≤ len`.  `pb` is the path from
    the root: every node below shares its first `d` bits (`OnPath`).  A child at depth `d+1` with
    `len = d` would have its parent's length and its parent's first `d` bits, hence its parent's
    key (`key_eq`), which `Below` excludes. -/
theorem depthOK (w : Nat) : ∀ (t : Trie) (d : Nat) (pb : Nat → Bool), WF w t d → OnPath w t d pb →
    (∀ c l r, t = .node c l r → d ≤ c.len) → DepthOK t d := by
  intro t d pb h
  replace h := (WF_iff_WFp w t d).1 h
  induction t generalizing d pb with
  | nil => intros; trivial
  | node c l r ihl ihr =>
    intro ⟨pc, pl, pr⟩ hroot
    have hd : d ≤ c.len := hroot c l r rfl
    have child : ∀ (s : Trie) (b : Bool), WFp (NodeOK w) w s (d+1) → s.All (Below w c d b) → OnPath w s d pb →
        (∀ c' l' r', s = .node c' l' r' → d + 1 ≤ c'.len) := by
      intro s b ws hs ps c' l' r' e
      subst e
      obtain ⟨⟨_, hlen, hne⟩, _, _⟩ := hs
      obtain ⟨pc', _, _⟩ := ps
      by_cases h1 : d + 1 ≤ c'.len
      · exact h1
      · exfalso
        have e1 : c'.len = d := by omega
        have e2 : c.len = d := by omega
        apply hne
        refine ⟨key_eq w c' c ws.root h.root d e1 e2 ?_, by omega⟩
        intro i hi; rw [pc' i hi, pc i hi]
    refine ⟨hd, ?_, ?_⟩
    · exact ihl (d+1) (ext pb d false) h.left
        (onPath_child w l d pb false pl (All_mono l (fun _ k => k.1) h.belowL)) (child l false h.left h.belowL pl)
    · exact ihr (d+1) (ext pb d true) h.right
        (onPath_child w r d pb true pr (All_mono r (fun _ k => k.1) h.belowR)) (child r true h.right h.belowR pr)

/-! ## the covering test -/

/-- RFC 6811 covering, bit by bit -/
def Covers (w : Nat) (c : NodeC) (q : Addr) (n : Nat) : Prop :=
  c.len ≤ n ∧ ∀ i, i < c.len → bitAt w c.addr i = bitAt w q i

theorem prefixEq_iff (w : Nat) (a q : Addr) (len : Nat) (hl : len ≤ w) (ha : a < 2^w) (hq : q < 2^w) :
    prefixEq w a q len = true ↔ ∀ i, i < len → bitAt w a i = bitAt w q i := by
  unfold prefixEq
  rw [beq_iff_eq]
  constructor
  · intro h i hi
    rw [bitAt_lt _ _ _ (by omega), bitAt_lt _ _ _ (by omega)]
    have := congrArg (fun x => x.testBit (len - 1 - i)) h
    simp only [Nat.testBit_shiftRight] at this
    have e : w - len + (len - 1 - i) = w - 1 - i := by omega
    rw [e] at this; exact this
  · intro h
    apply Nat.eq_of_testBit_eq
    intro j
    simp only [Nat.testBit_shiftRight]
    by_cases hj : w - len + j < w
    · have := h (len - 1 - j) (by omega)
      rw [bitAt_lt _ _ _ (by omega), bitAt_lt _ _ _ (by omega)] at this
      have e : w - 1 - (len - 1 - j) = w - len + j := by omega
      rw [e] at this; exact this
    · have p2 : 2^w ≤ 2^(w - len + j) := Nat.pow_le_pow_right (by omega) (by omega)
      rw [Nat.testBit_lt_two_pow (Nat.lt_of_lt_of_le ha p2), Nat.testBit_lt_two_pow (Nat.lt_of_lt_of_le hq p2)]

/-- the model's covering condition, as a Bool -/
def covB (w : Nat) (q : Addr) (n : Nat) (c : NodeC) : Bool := decide (c.len ≤ n) && prefixEq w c.addr q c.len

theorem covB_iff (w : Nat) (q : Addr) (n : Nat) (c : NodeC) (hc : NodeOK w c) (hq : q < 2^w) :
    covB w q n c = true ↔ Covers w c q n := by
  unfold covB Covers
  rw [Bool.and_eq_true, decide_eq_true_eq, prefixEq_iff w c.addr q c.len hc.1 hc.2.1 hq]

theorem depthOK_all : ∀ (t : Trie) (d : Nat), DepthOK t d → t.All (fun c => d ≤ c.len) := by
  intro t
  induction t with
  | nil => intros; trivial
  | node c l r ihl ihr =>
    intro d ⟨h0, hl, hr⟩
    exact ⟨h0, All_mono l (fun _ h => by omega) (ihl _ hl), All_mono r (fun _ h => by omega) (ihr _ hr)⟩

theorem WF_nodeOK (w : Nat) (t : Trie) (d : Nat) (h : WF w t d) : t.All (NodeOK w) :=
  WFp_All w t d ((WF_iff_WFp w t d).1 h)

/-- the subtree on the other side of the query bit holds no covering node -/
theorem no_cover_other_side (w : Nat) (q : Addr) (n : Nat) (s : Trie) (c : NodeC) (d : Nat) (b : Bool)
    (hs : s.All (Below w c d b)) (hd : DepthOK s (d+1)) (hq : bitAt w q d ≠ b) :
    ∀ x ∈ s.nodes, ¬ Covers w x q n := by
  intro x hx ⟨_, hc⟩
  have hb := ((All_iff s).1 hs x hx).1
  have hl := (All_iff s).1 (depthOK_all s (d+1) hd) x hx
  exact hq ((hc d (by omega)).symm.trans hb)

theorem hostZero_of_mod (w : Nat) (a : Addr) (len : Nat) (h : a % 2^(w - len) = 0) : hostZero w a len := by
  intro i hli hiw
  rw [bitAt_lt _ _ _ hiw]
  have e : a = 2^(w - len) * (a / 2^(w - len)) := by
    have := Nat.div_add_mod a (2^(w - len))
    rw [h, Nat.add_zero] at this
    exact this.symm
  rw [e, Nat.testBit_two_pow_mul]
  have : ¬ (w - 1 - i ≥ w - len) := by omega
  simp [this]

end Rtr
