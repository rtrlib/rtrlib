/-
  CLinkRecv: `rtr_receive_pdu` (rtrlib/rtr/packets.c) - the function every byte from a cache goes through - as translated
  from clang's typed AST by tools/gen_cfuns.py (RtrModel/Generated/CFuns.lean, `C.rtr_receive_pdu`, regenerated from the
  source on every run), for ALL worlds: every byte stream and every return code of the transport, every answer of the
  other callees, every socket, every initial content of the caller's buffer.

  The translation is a control skeleton over `C.XWorld C.S_rtr_socket` (RtrModel/CSem.lean): `tr_recv_all`,
  `rtr_send_error_pdu_from_network`, `rtr_change_socket_state`, `rtr_pdu_footer_to_host_byte_order` are external calls
  answered by the world and recorded (name, scalar arguments - for the Error Report also the 8 bytes that are echoed, read
  from memory at the time of the call -, socket at the time of the call); `rtr_pdu_header_to_host_byte_order`,
  `rtr_pdu_header_to_network_byte_order`, `rtr_pdu_check_size` are the translated C text, `memcpy` is the primitive
  `C.memcpy` of RtrModel/CSem.lean. A result `none` means the C text left its defined fragment (an access outside the object a pointer points into, overflow, failed assert).

  Caller's contract `Contract msize pdu pdu_len`: the buffer `[pdu, msize)` has at least RTR_MAX_PDU_LEN = 3248 bytes,
  lies below the function's own address-taken objects (`C.STACK`), and `pdu_len ≥ 3248` (the function's own assert).

  `recvModel` is what the function does, written in terms of the world's answers; `receive_pdu_eq_model` links the C text to
  it, up to the function's own stack objects; the `receive_pdu_*` theorems are read off `recvModel_cases`.
  The link walks the C text and `recvModel` side by side, one rule `Agrees.*` per test of the C text in the order of the
  text; what lies behind a test is looked at only when the walk gets there, the leaves are evaluated by `simp`. What the
  walk does not depend on: how many bounds guards stand in front of a test and where (`recv_guards`, CLinkRecvWalk.lean; a read that the text hoists into a local or repeats moves
  its guard); the text of the callees (`rtr_pdu_check_size`, the header conversions: linked on their own); a `goto error`
  written out as the body of the label, an early return; a test of the length field written as the negation of the
  opposite comparison (the two conditions are compared as numbers). What it does depend on: the ORDER and the grouping of
  the tests in the function body, the two tests of the length field included. A rewrite of `rtr_receive_pdu` that keeps its
  behaviour but reorders tests, or splits one into nested tests so that what follows is repeated once more, needs the
  steps of the walk changed with it (the conditions and the leaves stay).
-/
import RtrProofs.CLink
import RtrProofs.CLinkPdu
import RtrProofs.CLinkRecvWalk
set_option linter.unusedSimpArgs false
set_option linter.unusedVariables false

namespace Rtr.CLink.Recv
open Rtr Rtr.Gen Rtr.P Rtr.CLink

/-! ## `rtr_pdu_check_size` at an arbitrary address, in an object larger than the PDU -/

structure HostViewAt (raw : List Nat) (mem : Nat → BitVec 8) (pdu : Nat) : Prop where
  ver : mem pdu = C.memOfList raw 0
  type : mem (pdu + 1) = C.memOfList raw 1
  len : (C.load32 mem (pdu + 4)).toNat = lenOf raw
  rest : ∀ a, 8 ≤ a → a < lenOf raw → mem (pdu + a) = C.memOfList raw a

theorem rtr_get_pdu_type_at (mem : Nat → BitVec 8) (msize pdu : Nat) (h : pdu + 2 ≤ msize) :
    C.rtr_get_pdu_type mem msize pdu = some (BitVec.signExtend 32 (mem (pdu + 1))) :=
  CLink.rtr_get_pdu_type_at mem msize pdu h

theorem rtr_pdu_check_size_eq_at (raw : List Nat) (hb : ∀ x ∈ raw, x < 256) (mem : Nat → BitVec 8) (msize pdu : Nat)
    (hv : HostViewAt raw mem pdu) (h8 : 8 ≤ lenOf raw) (hm : pdu + lenOf raw ≤ msize) :
    C.rtr_pdu_check_size mem msize pdu = some (checkSize raw) := by
  refine rtr_pdu_check_size_eq_of_reads raw mem msize pdu ?_ ?_ hv.len ?_ h8 hm
  · rw [hv.ver, memOfList_toNat hb]
    rfl
  · rw [hv.type, memOfList_toNat hb]
    rfl
  · intro a ha ha4
    rw [load32_shift mem (C.memOfList raw) pdu a (fun k _ => hv.rest _ (by omega) (by omega)),
      bswap32_load32_memOfList hb]

/-! ## memory lemmas -/

/- The first four, and `rtr_get_pdu_type_at` above, are `CLink`'s lemmas of the same names: CLinkErr uses them as
   `Recv.memcpy_out` (its `close_frame`) and `Recv.rtr_get_pdu_type_at`. -/

abbrev Mem := Nat → BitVec 8
abbrev Sock := C.S_rtr_socket
abbrev XW := C.XWorld Sock

theorem memFill_in (m : Mem) (d n : Nat) (b : List (BitVec 8)) (x : Nat) (h : d ≤ x ∧ x < d + n) :
    C.memFill m d n b x = b.getD (x - d) 0#8 :=
  CLink.memFill_in m d n b x h
theorem memFill_out (m : Mem) (d n : Nat) (b : List (BitVec 8)) (x : Nat) (h : x < d ∨ d + n ≤ x) :
    C.memFill m d n b x = m x :=
  CLink.memFill_out m d n b x h
theorem memcpy_in (m : Mem) (d s n x : Nat) (h : d ≤ x ∧ x < d + n) : C.memcpy m d s n x = m (s + (x - d)) :=
  CLink.memcpy_in m d s n x h
theorem memcpy_out (m : Mem) (d s n x : Nat) (h : x < d ∨ d + n ≤ x) : C.memcpy m d s n x = m x :=
  CLink.memcpy_out m d s n x h

/-- what `rtr_pdu_convert_header_byte_order` does to the 8 header bytes at `a` (either direction; little-endian host):
    bytes 4..7 reversed, bytes 2, 3 swapped unless the type byte is 9 (ROUTER_KEY) -/
def hdrSwap (m : Mem) (a : Nat) : Mem := fun x =>
  if x = a + 2 then (if m (a + 1) = 9#8 then m (a + 2) else m (a + 3))
  else if x = a + 3 then (if m (a + 1) = 9#8 then m (a + 3) else m (a + 2))
  else if x = a + 4 then m (a + 7) else if x = a + 5 then m (a + 6)
  else if x = a + 6 then m (a + 5) else if x = a + 7 then m (a + 4) else m x

theorem zext8_bne9 (x : BitVec 8) : (BitVec.setWidth 32 x != 9#32) = !(decide (x = 9#8)) := by
  rw [bne, zext8_eq_lit x 9 (by decide)]

theorem hdrSwap_of_rev (m lo : Mem) (a x : Nat) (hlo : ∀ y, y < a + 4 ∨ a + 8 ≤ y → lo y = hdrSwap m a y) :
    (if x = a + 4 then m (a + 7) else if x = a + 5 then m (a + 6) else if x = a + 6 then m (a + 5)
      else if x = a + 7 then m (a + 4) else lo x) = hdrSwap m a x := by
  by_cases h4 : x = a + 4
  · subst h4
    simp only [hdrSwap, Nat.add_left_cancel_iff, Nat.reduceEqDiff, ↓reduceIte]
  by_cases h5 : x = a + 5
  · subst h5
    simp only [hdrSwap, Nat.add_left_cancel_iff, Nat.reduceEqDiff, ↓reduceIte]
  by_cases h6 : x = a + 6
  · subst h6
    simp only [hdrSwap, Nat.add_left_cancel_iff, Nat.reduceEqDiff, ↓reduceIte]
  by_cases h7 : x = a + 7
  · subst h7
    simp only [hdrSwap, Nat.add_left_cancel_iff, Nat.reduceEqDiff, ↓reduceIte]
  rw [if_neg h4, if_neg h5, if_neg h6, if_neg h7]
  exact hlo x (by omega)

theorem hdrSwap_low (m : Mem) (a y : Nat) (hy : y < a + 4 ∨ a + 8 ≤ y) :
    hdrSwap m a y = if m (a + 1) = 9#8 then m y else if y = a + 2 then m (a + 3) else if y = a + 3 then m (a + 2) else m y := by
  unfold hdrSwap
  by_cases h2 : y = a + 2
  · subst h2
    simp only [↓reduceIte]
  by_cases h3 : y = a + 3
  · subst h3
    simp only [Nat.add_left_cancel_iff, Nat.reduceEqDiff, ↓reduceIte]
  rw [if_neg h2, if_neg h3, if_neg (by omega), if_neg (by omega), if_neg (by omega), if_neg (by omega), if_neg h2, if_neg h3,
    ite_self]

theorem convert_header_eq (m : Mem) (ms a : Nat) (tbo : BitVec 32) (ht : tbo = 0#32 ∨ tbo = 1#32) (h : a + 8 ≤ ms) :
    C.rtr_pdu_convert_header_byte_order m ms a tbo = some (hdrSwap m a) := by
  have g1 : a + 1 + 1 ≤ ms := by omega
  have g2 : a + 2 + 2 ≤ ms := by omega
  have g3 : a + 4 + 4 ≤ ms := by omega
  unfold C.rtr_pdu_convert_header_byte_order
  simp only [g1, g2, g3, decide_true, if_true, lrtr_convert_short_eq, lrtr_convert_long_eq, if_pos ht, C.load8, zext8_bne9]
  by_cases h9 : m (a + 1) = 9#8
  · simp only [h9, decide_true, Bool.not_true, Bool.false_eq_true, if_false]
    congr 1
    funext x
    unfold C.load32
    rw [bswap32_append]
    simp only [store32_append]
    simp only [Nat.add_assoc, Nat.reduceAdd]
    apply hdrSwap_of_rev
    intro y hy
    rw [hdrSwap_low m a y hy, if_pos h9]
  · simp only [h9, decide_false, Bool.not_false, if_true]
    congr 1
    funext x
    unfold C.load32 C.load16
    rw [bswap16_append, bswap32_append]
    simp only [store16_append, store32_append]
    simp only [Nat.add_assoc, Nat.reduceAdd, Nat.add_left_cancel_iff, Nat.reduceEqDiff, ↓reduceIte]
    apply hdrSwap_of_rev
    intro y hy
    rw [hdrSwap_low m a y hy, if_neg h9]

theorem to_host_eq (m : Mem) (ms a : Nat) (h : a + 8 ≤ ms) :
    C.rtr_pdu_header_to_host_byte_order m ms a = some (hdrSwap m a) := by
  unfold C.rtr_pdu_header_to_host_byte_order; rw [convert_header_eq m ms a _ (Or.inr rfl) h]
theorem to_network_eq (m : Mem) (ms a : Nat) (h : a + 8 ≤ ms) :
    C.rtr_pdu_header_to_network_byte_order m ms a = some (hdrSwap m a) := by
  unfold C.rtr_pdu_header_to_network_byte_order; rw [convert_header_eq m ms a _ (Or.inl rfl) h]

theorem hdrSwap_out (m : Mem) (a x : Nat) (h : x < a + 2 ∨ a + 8 ≤ x) : hdrSwap m a x = m x := by
  unfold hdrSwap
  rw [if_neg (by omega), if_neg (by omega), if_neg (by omega), if_neg (by omega), if_neg (by omega), if_neg (by omega)]


/-- where byte `k` of the converted header comes from (`t` = the type byte) -/
def perm (t : BitVec 8) (k : Nat) : Nat :=
  if k = 2 then (if t = 9#8 then 2 else 3) else if k = 3 then (if t = 9#8 then 3 else 2)
  else if k = 4 then 7 else if k = 5 then 6 else if k = 6 then 5 else if k = 7 then 4 else k

theorem hdrSwap_at (m : Mem) (a k : Nat) : hdrSwap m a (a + k) = m (a + perm (m (a + 1)) k) := by
  unfold hdrSwap perm
  simp only [Nat.add_left_cancel_iff]
  -- both sides test k = 2, …, k = 7 in the same order
  by_cases h2 : k = 2
  · rw [if_pos h2, if_pos h2]
    split <;> rfl
  rw [if_neg h2, if_neg h2]
  by_cases h3 : k = 3
  · rw [if_pos h3, if_pos h3]
    split <;> rfl
  rw [if_neg h3, if_neg h3]
  by_cases h4 : k = 4
  · rw [if_pos h4, if_pos h4]
  rw [if_neg h4, if_neg h4]
  by_cases h5 : k = 5
  · rw [if_pos h5, if_pos h5]
  rw [if_neg h5, if_neg h5]
  by_cases h6 : k = 6
  · rw [if_pos h6, if_pos h6]
  rw [if_neg h6, if_neg h6]
  by_cases h7 : k = 7
  · rw [if_pos h7, if_pos h7]
  rw [if_neg h7, if_neg h7]
theorem perm_lt (t : BitVec 8) (k : Nat) (h : k < 8) : perm t k < 8 := by
  have hk : k = 0 ∨ k = 1 ∨ k = 2 ∨ k = 3 ∨ k = 4 ∨ k = 5 ∨ k = 6 ∨ k = 7 := by omega
  rcases hk with rfl | rfl | rfl | rfl | rfl | rfl | rfl | rfl
  all_goals by_cases ht : t = 9#8
  all_goals simp [perm, ht]
theorem perm_big (t : BitVec 8) (k : Nat) (h : 8 ≤ k) : perm t k = k := by
  unfold perm
  rw [if_neg (by omega), if_neg (by omega), if_neg (by omega), if_neg (by omega), if_neg (by omega), if_neg (by omega)]
theorem perm_perm (t : BitVec 8) (k : Nat) : perm t (perm t k) = k := by
  have : k = 0 ∨ k = 1 ∨ k = 2 ∨ k = 3 ∨ k = 4 ∨ k = 5 ∨ k = 6 ∨ k = 7 ∨ 8 ≤ k := by omega
  rcases this with rfl | rfl | rfl | rfl | rfl | rfl | rfl | rfl | h
  · rfl
  · rfl
  · by_cases ht : t = 9#8 <;> simp [perm, ht]
  · by_cases ht : t = 9#8 <;> simp [perm, ht]
  · rfl
  · rfl
  · rfl
  · rfl
  · rw [perm_big t k h, perm_big t k h]
theorem perm_0 (t : BitVec 8) : perm t 0 = 0 := rfl
theorem perm_1 (t : BitVec 8) : perm t 1 = 1 := rfl
theorem perm_4 (t : BitVec 8) : perm t 4 = 7 := rfl
theorem perm_5 (t : BitVec 8) : perm t 5 = 6 := rfl
theorem perm_6 (t : BitVec 8) : perm t 6 = 5 := rfl
theorem perm_7 (t : BitVec 8) : perm t 7 = 4 := rfl

/-! ## numbers -/

theorem rem_toNat (x : BitVec 32) (h : 8 ≤ x.toNat) :
    (BitVec.setWidth 32 (BitVec.setWidth 64 x - 8#64)).toNat = x.toNat - 8 := by
  have := x.isLt
  simp only [BitVec.toNat_setWidth, BitVec.toNat_sub, BitVec.toNat_ofNat]; omega
theorem rem_pos (x : BitVec 32) (h : 8 ≤ x.toNat) :
    (0#32).ult (BitVec.setWidth 32 (BitVec.setWidth 64 x - 8#64)) = decide (8 < x.toNat) := by
  rw [BitVec.ult_eq_decide, rem_toNat x h]; simp only [BitVec.toNat_ofNat, Nat.zero_mod]
  by_cases h' : 8 < x.toNat
  · simp [h']; omega
  · simp [h']; omega
theorem rem_zext (x : BitVec 32) (h : 8 ≤ x.toNat) :
    BitVec.setWidth 64 (BitVec.setWidth 32 (BitVec.setWidth 64 x - 8#64)) = BitVec.ofNat 64 (x.toNat - 8) := by
  apply BitVec.eq_of_toNat_eq
  rw [zext64_toNat, rem_toNat x h, BitVec.toNat_ofNat]
  have := x.isLt
  omega
theorem ofNat64_toNat_sub (x : BitVec 32) : (BitVec.ofNat 64 (x.toNat - 8)).toNat = x.toNat - 8 := by
  have := x.isLt
  rw [BitVec.toNat_ofNat]; omega

theorem neg_ne_lit (x : BitVec 32) (hx : x.slt 0#32 = true) (k : Nat) (hk : k < 2147483648) :
    (x = BitVec.ofNat 32 k) = False := by
  apply eq_false
  intro h
  subst h
  rw [BitVec.slt, lit32_toInt k hk] at hx
  simp at hx
  omega

/-! ## the world -/

/-- the world after one more external call (CLinkSync's `xrec`; its `xrecs w cs` is the `w'` of `Calls w w' cs` below, and
    CLinkFsm's `worldAfter` the same with typed calls) -/
def push (w : XW) (name : String) (args : List (BitVec 64)) (s : Sock) : XW :=
  { w with n := w.n + 1, trace := w.trace ++ [(name, args, s)] }

theorem xcall_eq (w : XW) (name : String) (args : List (BitVec 64)) (s : Sock) :
    C.xcall w name args s = ((w.ext w.n).rc, (w.ext w.n).aux, (w.ext w.n).st, push w name args s) := rfl
theorem xcallBuf_eq (w : XW) (name : String) (args : List (BitVec 64)) (s : Sock) :
    C.xcallBuf w name args s = ((w.ext w.n).rc, (w.ext w.n).aux, (w.ext w.n).st, (w.ext w.n).buf, push w name args s) := rfl

/-! ## the model: what `rtr_receive_pdu` does, in terms of the world's answers -/

/-- byte `i` of an answer (bytes the answer does not have read as 0, as in `C.memFill`) -/
def hdrB (b : List (BitVec 8)) (i : Nat) : BitVec 8 := b.getD i 0#8
/-- the first `n` bytes of an answer -/
def takeD (b : List (BitVec 8)) (n : Nat) : List (BitVec 8) := (List.range n).map (hdrB b)
/-- the big-endian length field of a received header -/
def lenField (b : List (BitVec 8)) : Nat :=
  (((hdrB b 4).toNat * 256 + (hdrB b 5).toNat) * 256 + (hdrB b 6).toNat) * 256 + (hdrB b 7).toNat
/-- the eight header bytes as recorded for an Error Report -/
def echo8 (b : List (BitVec 8)) : List (BitVec 64) := (takeD b 8).map (BitVec.setWidth 64)


abbrev Call := String × List (BitVec 64) × Sock

/- The literals of the C text that the model repeats. Return codes: 4294967295 = −1 (RTR_ERROR, TR_ERROR), 4294967294 = −2
   (TR_WOULDBLOCK), 4294967293 = −3 (TR_INTR), 4294967292 = −4 (TR_CLOSED). Socket states: 7 RTR_ERROR_FATAL,
   8 RTR_ERROR_TRANSPORT, 9 RTR_SHUTDOWN. PDU type 10: ERROR_REPORT. 60 = RTR_RECV_TIMEOUT, 3248 = RTR_MAX_PDU_LEN.
   An Error Report call carries [8, code, text length] and then the eight header bytes: 8 = `sizeof(header)`, the bytes of
   the offending PDU that are echoed; code 0 = CORRUPT_DATA, with the text "corrupt data received, length value in PDU is
   too small" (56 bytes with its NUL) or "PDU too big, max. PDU size is: 3248 bytes" (42 bytes); code 8 =
   UNEXPECTED_PROTOCOL_VERSION, without a text (length 0). -/
def recv1 (timeout : BitVec 64) (s : Sock) : Call := ("tr_recv_all", [8#64, timeout], s)
def recv2 (b : List (BitVec 8)) (s : Sock) : Call := ("tr_recv_all", [BitVec.ofNat 64 (lenField b - 8), 60#64], s)
def reportCall (code txt : BitVec 64) (b : List (BitVec 8)) (s : Sock) : Call :=
  ("rtr_send_error_pdu_from_network", [8#64, code, txt] ++ echo8 b, s)
def stateCall (st : BitVec 64) (s : Sock) : Call := ("rtr_change_socket_state", [st], s)
def footerCall (s : Sock) : Call := ("rtr_pdu_footer_to_host_byte_order", [], s)

structure Out where
  rc : BitVec 32
  sock : Sock
  mem : Mem
  w : XW
  /-- the external calls made, in order. `w.trace` holds the same (`recvModel_calls`); the list is kept beside it so that
      the theorems can speak of the calls of this run without subtracting the caller's earlier trace -/
  calls : List Call

def sendReport (w : XW) (code txt : BitVec 64) (b : List (BitVec 8)) (s : Sock) : XW :=
  push w "rtr_send_error_pdu_from_network" ([8#64, code, txt] ++ echo8 b) s

def changeState (w : XW) (st : BitVec 64) (s : Sock) : XW := push w "rtr_change_socket_state" [st] s

/-- Error Report, then ERROR_FATAL, then RTR_ERROR -/
def reportFatal (w : XW) (cs : List Call) (code txt : BitVec 64) (b : List (BitVec 8)) (s : Sock) (m : Mem) : Out :=
  let w1 := sendReport w code txt b s
  ⟨4294967295#32, (w1.ext w1.n).st, m, changeState w1 7#64 s, cs ++ [reportCall code txt b s, stateCall 7#64 s]⟩

/-- the `error:` label for a negative transport code -/
def transportErr (rc : BitVec 32) (w : XW) (cs : List Call) (s : Sock) (m : Mem) : Out :=
  if rc = 4294967295#32 then ⟨4294967295#32, (w.ext w.n).st, m, changeState w 8#64 s, cs ++ [stateCall 8#64 s]⟩
  else if rc = 4294967294#32 then ⟨4294967294#32, s, m, w, cs⟩
  else if rc = 4294967293#32 then ⟨4294967293#32, s, m, w, cs⟩
  else if rc = 4294967292#32 then ⟨4294967292#32, (w.ext w.n).st, m, changeState w 7#64 s, cs ++ [stateCall 7#64 s]⟩
  else ⟨4294967295#32, (w.ext w.n).st, m, changeState w 7#64 s, cs ++ [stateCall 7#64 s]⟩

/-- live downgrade on the first PDU of a connection, and `has_received_pdus` -/
def downgrade (s : Sock) (b : List (BitVec 8)) : Sock :=
  if s.has_received_pdus then s
  else if s.version = 1#32 ∧ hdrB b 0 = 0#8 ∧ hdrB b 1 ≠ 10#8 then { s with version := 0#32, has_received_pdus := true }
  else { s with has_received_pdus := true }

/-- the received PDU as the model-level byte list: the 8 header bytes, then the payload -/
def rawOf (b b2 : List (BitVec 8)) : List Nat := (takeD b 8 ++ takeD b2 (lenField b - 8)).map BitVec.toNat

/-- size check, then either the footer conversion and RTR_SUCCESS, or an Error Report -/
def finish (w : XW) (cs : List Call) (s : Sock) (m : Mem) (msize pdu : Nat) (b b2 : List (BitVec 8)) : Out :=
  if checkSize (rawOf b b2) then
    ⟨0#32, s, C.memFill m pdu (msize - pdu) (w.ext w.n).buf, push w "rtr_pdu_footer_to_host_byte_order" [] s,
      cs ++ [footerCall s]⟩
  else reportFatal w cs 0#64 56#64 b s m

def recvModel (w : XW) (mem : Mem) (msize : Nat) (s : Sock) (pdu : Nat) (timeout : BitVec 64) : Out :=
  if s.state = 9#32 then ⟨4294967295#32, s, mem, w, []⟩ else
  let b := (w.ext w.n).buf
  let rc1 := BitVec.setWidth 32 (w.ext w.n).rc
  let w1 := push w "tr_recv_all" [8#64, timeout] s
  let m1 := C.memFill mem pdu 8 b
  if rc1.slt 0#32 then transportErr rc1 w1 [recv1 timeout s] s m1
  else if lenField b < 8 then reportFatal w1 [recv1 timeout s] 0#64 56#64 b s m1
  else if 3248 < lenField b then reportFatal w1 [recv1 timeout s] 0#64 42#64 b s m1
  else
    let s1 := downgrade s b
    if BitVec.setWidth 32 (hdrB b 0) ≠ s1.version ∧ hdrB b 1 ≠ 10#8 then
      ⟨4294967295#32, s1, m1, sendReport w1 8#64 0#64 b s1, [recv1 timeout s, reportCall 8#64 0#64 b s1]⟩
    else if lenField b = 8 then finish w1 [recv1 timeout s] s1 m1 msize pdu b []
    else if s1.state = 9#32 then ⟨4294967295#32, s1, m1, w1, [recv1 timeout s]⟩
    else
      let b2 := (w1.ext w1.n).buf
      let rc2 := BitVec.setWidth 32 (w1.ext w1.n).rc
      let w2 := push w1 "tr_recv_all" [BitVec.ofNat 64 (lenField b - 8), 60#64] s1
      let m2 := C.memFill m1 (pdu + 8) (lenField b - 8) b2
      if rc2.slt 0#32 then transportErr rc2 w2 [recv1 timeout s, recv2 b s1] s1 m2
      else finish w2 [recv1 timeout s, recv2 b s1] s1 m2 msize pdu b b2

/-- the translated function returned `o`, up to the function's own stack objects (addresses ≥ `msize`) -/
def Agrees (r : Option (BitVec 32 × Sock × Mem × XW)) (o : Out) (msize : Nat) : Prop :=
  ∃ m', r = some (o.rc, o.sock, m', o.w) ∧ ∀ a, a < msize → m' a = o.mem a

theorem agrees_mk (rc : BitVec 32) (s : Sock) (m' m : Mem) (w : XW) (msize : Nat) {cs : List Call}
    (h : ∀ a, a < msize → m' a = m a) : Agrees (some (rc, s, m', w)) ⟨rc, s, m, w, cs⟩ msize := ⟨m', rfl, h⟩

/-- The link theorem walks the C text and `recvModel` side by side, one rule per test of the C text: a bounds guard that
    the contract makes true, or a test that cannot succeed on this path (`pos`, `neg`); a test that `recvModel` makes too
    (`ite`, `ite_not`). Each rule looks at the head of the term only. -/
theorem Agrees.pos {c : Prop} [Decidable c] {x y : Option (BitVec 32 × Sock × Mem × XW)} {o : Out} {m : Nat} (hc : c)
    (h : Agrees x o m) : Agrees (if c then x else y) o m := by
  rw [if_pos hc]
  exact h

theorem Agrees.neg {c : Prop} [Decidable c] {x y : Option (BitVec 32 × Sock × Mem × XW)} {o : Out} {m : Nat} (hc : ¬ c)
    (h : Agrees y o m) : Agrees (if c then x else y) o m := by
  rw [if_neg hc]
  exact h

theorem Agrees.ite {c c' : Prop} [Decidable c] [Decidable c'] {x y : Option (BitVec 32 × Sock × Mem × XW)} {o1 o2 : Out}
    {m : Nat} (hcc : c ↔ c') (h1 : c' → Agrees x o1 m) (h2 : ¬ c' → Agrees y o2 m) :
    Agrees (if c then x else y) (if c' then o1 else o2) m := by
  by_cases h : c'
  · rw [if_pos h, if_pos (hcc.mpr h)]
    exact h1 h
  · rw [if_neg h, if_neg (fun hc => h (hcc.mp hc))]
    exact h2 h

theorem Agrees.ite_not {c c' : Prop} [Decidable c] [Decidable c'] {x y : Option (BitVec 32 × Sock × Mem × XW)}
    {o1 o2 : Out} {m : Nat} (hcc : c ↔ ¬ c') (h1 : c' → Agrees y o1 m) (h2 : ¬ c' → Agrees x o2 m) :
    Agrees (if c then x else y) (if c' then o1 else o2) m :=
  _root_.ite_not c' o2 o1 ▸ Agrees.ite hcc h2 (fun h => h1 (Decidable.not_not.mp h))

/-- The live downgrade assigns the socket on two of three paths, so the translation repeats everything behind it three
    times, on three socket values. Stated with these values bound (`revert` them in the goal), unification finds the repeated
    code `F` by itself - nothing of the generated text is written down -, and it is left to prove once, for every socket with
    the state of the caller's. `g` is the bounds guard the translation puts in front of the inner test. -/
theorem Agrees.downgrade {F : Sock → Option (BitVec 32 × Sock × Mem × XW)} {G : Sock → Out} {c1 g c2 : Prop}
    [Decidable c1] [Decidable g] [Decidable c2] {s : Sock} {b : List (BitVec 8)} {m : Nat}
    (h1 : c1 ↔ s.has_received_pdus = false) (hg : g)
    (h2 : c2 ↔ (s.version = 1#32 ∧ hdrB b 0 = 0#8 ∧ hdrB b 1 ≠ 10#8))
    (key : ∀ x, x.state = s.state → Agrees (F x) (G x) m) :
    ∀ xA, ({ s with version := 0#32, has_received_pdus := true } : Sock) = xA →
    ∀ xB, ({ s with has_received_pdus := true } : Sock) = xB →
    ∀ d, Recv.downgrade s b = d →
      Agrees (if c1 then (if g then (if c2 then F xA else F xB) else none) else F s) (G d) m := by
  rintro xA rfl xB rfl d rfl
  unfold Recv.downgrade
  rw [if_pos hg]
  cases hr : s.has_received_pdus
  · rw [if_pos (h1.mpr hr), if_neg Bool.false_ne_true]
    by_cases hd : s.version = 1#32 ∧ hdrB b 0 = 0#8 ∧ hdrB b 1 ≠ 10#8
    · rw [if_pos (h2.mpr hd), if_pos hd]
      exact key _ rfl
    · rw [if_neg (fun h => hd (h2.mp h)), if_neg hd]
      exact key _ rfl
  · rw [if_neg (fun h => Bool.noConfusion (h1.mp h ▸ hr)), if_pos rfl]
    exact key _ rfl

/-- the `error:` label for a negative transport code `rc`: of the nine tests of the C text only the four for −1 … −4 can
    succeed; the leaves behind the other five are never reached -/
theorem Agrees.errorLabel {rc : BitVec 32} {w : XW} {cs : List Call} {s : Sock} {m : Mem} {msize : Nat}
    {x1 x2 x3 x4 y1 y2 y3 y4 y5 z : Option (BitVec 32 × Sock × Mem × XW)} (hneg : rc.slt 0#32 = true)
    (h1 : Agrees x1 ⟨4294967295#32, (w.ext w.n).st, m, changeState w 8#64 s, cs ++ [stateCall 8#64 s]⟩ msize)
    (h2 : Agrees x2 ⟨4294967294#32, s, m, w, cs⟩ msize)
    (h3 : Agrees x3 ⟨4294967293#32, s, m, w, cs⟩ msize)
    (h4 : Agrees x4 ⟨4294967292#32, (w.ext w.n).st, m, changeState w 7#64 s, cs ++ [stateCall 7#64 s]⟩ msize)
    (hz : Agrees z ⟨4294967295#32, (w.ext w.n).st, m, changeState w 7#64 s, cs ++ [stateCall 7#64 s]⟩ msize) :
    Agrees (if (rc == 4294967295#32) = true then x1 else if (rc == 4294967294#32) = true then x2
      else if (rc == 4294967293#32) = true then x3 else if (rc == 4294967292#32) = true then x4
      else if (rc == 0#32) = true then y1 else if (rc == 32#32) = true then y2 else if (rc == 5#32) = true then y3
      else if (rc == 4#32) = true then y4 else if (rc == 8#32) = true then y5 else z)
      (transportErr rc w cs s m) msize := by
  have n0 := neg_ne_lit rc hneg
  unfold transportErr
  refine Agrees.ite beq_iff_eq (fun _ => h1) (fun _ => ?_)
  refine Agrees.ite beq_iff_eq (fun _ => h2) (fun _ => ?_)
  refine Agrees.ite beq_iff_eq (fun _ => h3) (fun _ => ?_)
  refine Agrees.ite beq_iff_eq (fun _ => h4) (fun _ => ?_)
  simp (disch := decide) only [beq_iff_eq, n0, if_false]
  exact hz

/-! ## the memory of `rtr_receive_pdu` -/

theorem m1_hdr (mem : Mem) (pdu : Nat) (b : List (BitVec 8)) (i : Nat) (hi : i < 8) :
    C.memFill mem pdu 8 b (pdu + i) = hdrB b i :=
  memFill_at mem pdu 8 b i hi

/-- the host-order copy of the header on the stack: its byte `k` is byte `perm t k` of the header in the buffer (`t` = type) -/
theorem stk_at (m : Mem) (pdu hp k : Nat) (hk : k < 8) :
    hdrSwap (C.memcpy m hp pdu 8) hp (hp + k) = m (pdu + perm (m (pdu + 1)) k) := by
  rw [hdrSwap_at, memcpy_at _ _ _ _ 1 (by decide), memcpy_at _ _ _ _ _ (perm_lt _ _ hk)]

theorem hdr_at (mem : Mem) (pdu hp : Nat) (b : List (BitVec 8)) (k : Nat) (hk : k < 8) :
    hdrSwap (C.memcpy (C.memFill mem pdu 8 b) hp pdu 8) hp (hp + k) = hdrB b (perm (hdrB b 1) k) := by
  rw [stk_at _ _ _ _ hk, m1_hdr _ _ _ 1 (by decide), m1_hdr _ _ _ _ (perm_lt _ _ hk)]

/-- `header.len` of that copy: the four length bytes as received, most significant first -/
theorem hdr_len (mem : Mem) (pdu hp : Nat) (b : List (BitVec 8)) :
    C.load32 (hdrSwap (C.memcpy (C.memFill mem pdu 8 b) hp pdu 8) hp) (hp + 4) =
      hdrB b 4 ++ hdrB b 5 ++ hdrB b 6 ++ hdrB b 7 := by
  unfold C.load32
  rw [show hp + 4 + 3 = hp + 7 by omega, show hp + 4 + 2 = hp + 6 by omega, show hp + 4 + 1 = hp + 5 by omega,
    hdr_at _ _ _ _ 7 (by decide), hdr_at _ _ _ _ 6 (by decide), hdr_at _ _ _ _ 5 (by decide),
    hdr_at _ _ _ _ 4 (by decide), perm_4, perm_5, perm_6, perm_7]

theorem stk_buf (m : Mem) (pdu hp x : Nat) (h : x < hp) : hdrSwap (C.memcpy m hp pdu 8) hp x = m x := by
  rw [hdrSwap_out _ _ _ (by omega), memcpy_out _ _ _ _ _ (by omega)]

theorem stk_buf_hdr (m : Mem) (pdu hp i : Nat) (h : pdu + 8 ≤ hp) (hi : i < 8) :
    hdrSwap (C.memcpy m hp pdu 8) hp (pdu + i) = m (pdu + i) := stk_buf m pdu hp (pdu + i) (by omega)

theorem lenBv_toNat (b : List (BitVec 8)) : (hdrB b 4 ++ hdrB b 5 ++ hdrB b 6 ++ hdrB b 7).toNat = lenField b := by
  unfold lenField; simp only [toNat_append8]

theorem lenField_lt (b : List (BitVec 8)) : lenField b < 4294967296 := by
  rw [← lenBv_toNat]; exact BitVec.isLt _
theorem ofNat64_lenField (b : List (BitVec 8)) : (BitVec.ofNat 64 (lenField b - 8)).toNat = lenField b - 8 := by
  have := lenField_lt b
  rw [BitVec.toNat_ofNat]; omega

theorem echo8_eq (b : List (BitVec 8)) : echo8 b = [BitVec.setWidth 64 (hdrB b 0), BitVec.setWidth 64 (hdrB b 1),
    BitVec.setWidth 64 (hdrB b 2), BitVec.setWidth 64 (hdrB b 3), BitVec.setWidth 64 (hdrB b 4),
    BitVec.setWidth 64 (hdrB b 5), BitVec.setWidth 64 (hdrB b 6), BitVec.setWidth 64 (hdrB b 7)] := rfl


/-! ## the buffer when the size check runs -/

/-- `m2` is the memory after the (possible) second receive, `m2'` the model's buffer at that time: the host-order header
    copy on the stack is intact, the payload is what the second answer delivered, the header is as received -/
structure Stage (mem : Mem) (b b2 : List (BitVec 8)) (pdu hp : Nat) (m2 m2' : Mem) : Prop where
  stk : ∀ i, i < 8 → m2 (hp + i) = hdrSwap (C.memcpy (C.memFill mem pdu 8 b) hp pdu 8) hp (hp + i)
  pay : ∀ a, 8 ≤ a → a < lenField b → m2 (pdu + a) = hdrB b2 (a - 8)
  rest : ∀ a, a < hp → (a < pdu ∨ pdu + 8 ≤ a) → m2 a = m2' a
  hdr : ∀ i, i < 8 → m2' (pdu + i) = hdrB b i

theorem stage_nopayload (mem : Mem) (b : List (BitVec 8)) (pdu hp : Nat) (hd : pdu + 8 ≤ hp) (h8 : lenField b = 8) :
    Stage mem b [] pdu hp (hdrSwap (C.memcpy (C.memFill mem pdu 8 b) hp pdu 8) hp) (C.memFill mem pdu 8 b) where
  stk := fun _ _ => rfl
  pay := fun a h1 h2 => by omega
  rest := fun a h1 _ => stk_buf _ _ _ _ h1
  hdr := fun i hi => m1_hdr mem pdu b i hi

/-- after the payload receive the caller's buffer is the model's: the stack copy lies above it -/
theorem payload_below (mem : Mem) (b b2 : List (BitVec 8)) (pdu hp : Nat) (a : Nat) (ha : a < hp) :
    C.memFill (hdrSwap (C.memcpy (C.memFill mem pdu 8 b) hp pdu 8) hp) (pdu + 8) (lenField b - 8) b2 a =
      C.memFill (C.memFill mem pdu 8 b) (pdu + 8) (lenField b - 8) b2 a := by
  by_cases hin : pdu + 8 ≤ a ∧ a < pdu + 8 + (lenField b - 8)
  · rw [memFill_in _ _ _ _ _ hin, memFill_in _ _ _ _ _ hin]
  · rw [memFill_out _ _ _ _ _ (by omega), memFill_out _ _ _ _ _ (by omega)]
    exact stk_buf _ _ _ _ ha

theorem stage_payload (mem : Mem) (b b2 : List (BitVec 8)) (pdu hp : Nat) (hd : pdu + lenField b ≤ hp)
    (h8 : 8 ≤ lenField b) :
    Stage mem b b2 pdu hp
      (C.memFill (hdrSwap (C.memcpy (C.memFill mem pdu 8 b) hp pdu 8) hp) (pdu + 8) (lenField b - 8) b2)
      (C.memFill (C.memFill mem pdu 8 b) (pdu + 8) (lenField b - 8) b2) where
  stk := fun i hi => memFill_out _ _ _ _ _ (by omega)
  pay := fun a h1 h2 => by
    rw [memFill_in _ _ _ _ _ (by omega)]; unfold hdrB; congr 1; omega
  rest := fun a h1 _ => payload_below mem b b2 pdu hp a h1
  hdr := fun i hi => by rw [memFill_out _ _ _ _ _ (by omega)]; exact m1_hdr mem pdu b i hi

theorem takeD_getElem? (b : List (BitVec 8)) (n i : Nat) (h : i < n) : (takeD b n)[i]? = some (hdrB b i) := by
  unfold takeD
  rw [List.getElem?_map, List.getElem?_range h]
  rfl
theorem takeD_getD (b : List (BitVec 8)) (n i : Nat) (h : i < n) : (takeD b n).getD i 0#8 = hdrB b i := by
  rw [List.getD_eq_getElem?_getD, takeD_getElem? b n i h]
  rfl
theorem takeD_length (b : List (BitVec 8)) (n : Nat) : (takeD b n).length = n := by unfold takeD; simp

theorem rawOf_getD_hdr (b b2 : List (BitVec 8)) (i : Nat) (h : i < 8) : (rawOf b b2).getD i 0 = (hdrB b i).toNat := by
  unfold rawOf
  rw [List.getD_eq_getElem?_getD, List.getElem?_map, List.getElem?_append_left (by rw [takeD_length]; exact h),
    takeD_getElem? b 8 i h]
  rfl

theorem rawOf_getD_pay (b b2 : List (BitVec 8)) (a : Nat) (h1 : 8 ≤ a) (h2 : a < lenField b) :
    (rawOf b b2).getD a 0 = (hdrB b2 (a - 8)).toNat := by
  unfold rawOf
  rw [List.getD_eq_getElem?_getD, List.getElem?_map, List.getElem?_append_right (by rw [takeD_length]; exact h1),
    takeD_length, takeD_getElem? b2 _ (a - 8) (by omega)]
  rfl

theorem rawOf_bytes (b b2 : List (BitVec 8)) : ∀ x ∈ rawOf b b2, x < 256 := by
  intro x hx; unfold rawOf at hx
  rw [List.mem_map] at hx
  obtain ⟨y, _, rfl⟩ := hx
  exact y.isLt

theorem rawOf_lenOf (b b2 : List (BitVec 8)) : lenOf (rawOf b b2) = lenField b := by
  unfold lenOf be32 lenField
  rw [rawOf_getD_hdr b b2 4 (by decide), rawOf_getD_hdr b b2 5 (by decide), rawOf_getD_hdr b b2 6 (by decide),
    rawOf_getD_hdr b b2 7 (by decide)]

theorem memOfList_rawOf_hdr (b b2 : List (BitVec 8)) (i : Nat) (h : i < 8) : C.memOfList (rawOf b b2) i = hdrB b i := by
  unfold C.memOfList; rw [rawOf_getD_hdr b b2 i h]; simp
theorem memOfList_rawOf_pay (b b2 : List (BitVec 8)) (a : Nat) (h1 : 8 ≤ a) (h2 : a < lenField b) :
    C.memOfList (rawOf b b2) a = hdrB b2 (a - 8) := by
  unfold C.memOfList; rw [rawOf_getD_pay b b2 a h1 h2]; simp


theorem Stage.stk_eq {mem : Mem} {b b2 : List (BitVec 8)} {pdu hp : Nat} {m2 m2' : Mem}
    (st : Stage mem b b2 pdu hp m2 m2') (i : Nat) (hi : i < 8) : m2 (hp + i) = hdrB b (perm (hdrB b 1) i) := by
  rw [st.stk i hi, hdr_at mem pdu hp b i hi]

/-- the buffer after the host-order header has been copied back -/
theorem Stage.copied {mem : Mem} {b b2 : List (BitVec 8)} {pdu hp : Nat} {m2 m2' : Mem}
    (st : Stage mem b b2 pdu hp m2 m2') (i : Nat) (hi : i < 8) :
    C.memcpy m2 pdu hp 8 (pdu + i) = hdrB b (perm (hdrB b 1) i) := by
  rw [memcpy_at _ _ _ _ _ hi]; exact st.stk_eq i hi

/-- converting the header back to network byte order restores the bytes as received (they are echoed) -/
theorem Stage.roundtrip {mem : Mem} {b b2 : List (BitVec 8)} {pdu hp : Nat} {m2 m2' : Mem}
    (st : Stage mem b b2 pdu hp m2 m2') (i : Nat) (hi : i < 8) :
    hdrSwap (C.memcpy m2 pdu hp 8) pdu (pdu + i) = hdrB b i := by
  rw [hdrSwap_at, st.copied 1 (by decide), perm_1, st.copied _ (perm_lt _ _ hi), perm_perm]

theorem Stage.check_size {mem : Mem} {b b2 : List (BitVec 8)} {pdu hp : Nat} {m2 m2' : Mem}
    (st : Stage mem b b2 pdu hp m2 m2') (msize : Nat) (hd : pdu + 8 ≤ hp) (h8 : 8 ≤ lenField b)
    (hm : pdu + lenField b ≤ msize) :
    C.rtr_pdu_check_size (C.memcpy m2 pdu hp 8) msize pdu = some (checkSize (rawOf b b2)) := by
  apply rtr_pdu_check_size_eq_at (rawOf b b2) (rawOf_bytes b b2)
  · constructor
    · have := st.copied 0 (by decide)
      rw [perm_0] at this
      rw [memOfList_rawOf_hdr b b2 0 (by decide)]; exact this
    · have := st.copied 1 (by decide)
      rw [perm_1] at this
      rw [memOfList_rawOf_hdr b b2 1 (by decide)]; exact this
    · rw [rawOf_lenOf, ← lenBv_toNat]
      unfold C.load32
      rw [show pdu + 4 + 3 = pdu + 7 by omega, show pdu + 4 + 2 = pdu + 6 by omega, show pdu + 4 + 1 = pdu + 5 by omega,
        st.copied 7 (by decide), st.copied 6 (by decide), st.copied 5 (by decide), st.copied 4 (by decide),
        perm_4, perm_5, perm_6, perm_7]
    · intro a h1 h2
      rw [rawOf_lenOf] at h2
      rw [memcpy_out _ _ _ _ _ (by omega), st.pay a h1 h2, memOfList_rawOf_pay b b2 a h1 h2]
  · rw [rawOf_lenOf]; exact h8
  · rw [rawOf_lenOf]; exact hm

theorem Stage.fail_mem {mem : Mem} {b b2 : List (BitVec 8)} {pdu hp : Nat} {m2 m2' : Mem}
    (st : Stage mem b b2 pdu hp m2 m2') (a : Nat) (ha : a < hp) (hd : pdu + 8 ≤ hp) :
    hdrSwap (C.memcpy m2 pdu hp 8) pdu a = m2' a := by
  by_cases hin : pdu ≤ a ∧ a < pdu + 8
  · obtain ⟨i, rfl⟩ : ∃ i, a = pdu + i := ⟨a - pdu, by omega⟩
    rw [st.roundtrip i (by omega), st.hdr i (by omega)]
  · rw [hdrSwap_out _ _ _ (by omega), memcpy_out _ _ _ _ _ (by omega)]; exact st.rest a ha (by omega)

theorem Stage.ok_mem {mem : Mem} {b b2 : List (BitVec 8)} {pdu hp : Nat} {m2 m2' : Mem}
    (st : Stage mem b b2 pdu hp m2 m2') (msize : Nat) (b3 : List (BitVec 8)) (a : Nat) (ha : a < msize)
    (hm : pdu + 8 ≤ msize) (hd : msize ≤ hp) :
    C.memFill (C.memcpy m2 pdu hp 8) pdu (msize - pdu) b3 a = C.memFill m2' pdu (msize - pdu) b3 a := by
  by_cases hin : pdu ≤ a ∧ a < pdu + (msize - pdu)
  · rw [memFill_in _ _ _ _ _ hin, memFill_in _ _ _ _ _ hin]
  · rw [memFill_out _ _ _ _ _ (by omega), memFill_out _ _ _ _ _ (by omega), memcpy_out _ _ _ _ _ (by omega)]
    exact st.rest a (by omega) (by omega)

/-! ## behind the version check, and the link theorem -/

theorem dg_cond (v : BitVec 32) (x y : BitVec 8) :
    (v == 1#32 && BitVec.setWidth 32 x == 0#32 && BitVec.setWidth 32 y != 10#32) =
      decide (v = 1#32 ∧ x = 0#8 ∧ y ≠ 10#8) := by
  rw [bne, zext8_eq_lit x 0 (by decide), zext8_eq_lit y 10 (by decide), Bool.eq_iff_iff]
  simp [and_assoc]
theorem mm_cond (v : BitVec 32) (x y : BitVec 8) :
    (BitVec.setWidth 32 x != v && BitVec.setWidth 32 y != 10#32) =
      decide (BitVec.setWidth 32 x ≠ v ∧ y ≠ 10#8) := by
  rw [bne, bne, zext8_eq_lit y 10 (by decide), Bool.eq_iff_iff]
  simp

set_option hygiene false in
/-- No proof calls this; `receive_pdu_eq_model` walks what lies behind the version check itself. -/
macro "recv_rest" : tactic => `(tactic| (
  by_cases hl : lenField b = 8
  · have st := stage_nopayload mem b pdu hp gd hl
    have hcs := st.check_size msize gd (by omega) (by omega)
    simp only [hl, Nat.lt_irrefl, if_false, if_true, finish, hcs]
    cases hc : checkSize (rawOf b [])
    · simp (disch := decide) only [C.b2i, Bool.false_eq_true, if_false, if_true, beq_self_eq_true, st.roundtrip, st.stk_eq, perm_0, perm_1, reportFatal, sendReport,
        changeState, echo8_eq, List.cons_append, List.nil_append]
      exact agrees_mk _ _ _ _ _ _ (fun a (ha : a < msize) => st.fail_mem a (by omega) gd)
    · simp only [C.b2i, if_true, if_false, reduceCtorEq, BitVec.reduceBEq, BitVec.reduceEq, Bool.false_eq_true, ite_self]
      first | exact agrees_mk _ _ _ _ _ _ (fun a (ha : a < msize) => st.ok_mem msize _ a ha g1 (by omega)) | (apply agrees_ite; first | exact agrees_mk _ _ _ _ _ _ (fun a (ha : a < msize) => st.ok_mem msize _ a ha g1 (by omega)) | (apply agrees_ite; first | exact agrees_mk _ _ _ _ _ _ (fun a (ha : a < msize) => st.ok_mem msize _ a ha g1 (by omega)) | (apply agrees_ite; exact agrees_mk _ _ _ _ _ _ (fun a (ha : a < msize) => st.ok_mem msize _ a ha g1 (by omega)))))
  · have hl' : 8 < lenField b := by omega
    simp only [hl, hl', if_true, if_false, hs]
    generalize hb2 : ((push w "tr_recv_all" [8#64, timeout] s).ext (push w "tr_recv_all" [8#64, timeout] s).n).buf = b2
    generalize hrc2 : BitVec.setWidth 32 ((push w "tr_recv_all" [8#64, timeout] s).ext (push w "tr_recv_all" [8#64, timeout] s).n).rc = rc2
    by_cases hneg2 : rc2.slt 0#32 = true
    · simp only [hneg2, if_true, transportErr, changeState]
      have hmem : ∀ a, a < msize → C.memFill (hdrSwap (C.memcpy (C.memFill mem pdu 8 b) hp pdu 8) hp) (pdu + 8) (lenField b - 8) b2 a
          = C.memFill (C.memFill mem pdu 8 b) (pdu + 8) (lenField b - 8) b2 a := by
        intro a ha
        by_cases hin : pdu + 8 ≤ a ∧ a < pdu + 8 + (lenField b - 8)
        · rw [memFill_in _ _ _ _ _ hin, memFill_in _ _ _ _ _ hin]
        · rw [memFill_out _ _ _ _ _ (by omega), memFill_out _ _ _ _ _ (by omega)]; exact stk_buf _ _ _ _ (by omega)
      by_cases e1 : rc2 = 4294967295#32
      · simp only [e1, if_true]; exact agrees_mk _ _ _ _ _ _ hmem
      by_cases e2 : rc2 = 4294967294#32
      · simp only [e1, e2, if_true, if_false]; exact agrees_mk _ _ _ _ _ _ hmem
      by_cases e3 : rc2 = 4294967293#32
      · simp only [e1, e2, e3, if_true, if_false]; exact agrees_mk _ _ _ _ _ _ hmem
      by_cases e4 : rc2 = 4294967292#32
      · simp only [e1, e2, e3, e4, if_true, if_false]; exact agrees_mk _ _ _ _ _ _ hmem
      have n0 := neg_ne_lit rc2 hneg2
      simp (disch := decide) only [e1, e2, e3, e4, n0, if_false]
      exact agrees_mk _ _ _ _ _ _ hmem
    · have st := stage_payload mem b b2 pdu hp (by omega) (by omega)
      have hcs := st.check_size msize gd (by omega) (by omega)
      simp only [hneg2, Bool.false_eq_true, if_false, finish, hcs]
      cases hc : checkSize (rawOf b b2)
      · simp (disch := decide) only [C.b2i, Bool.false_eq_true, if_false, if_true, beq_self_eq_true, st.roundtrip, st.stk_eq, perm_0, perm_1, reportFatal, sendReport,
          changeState, echo8_eq, List.cons_append, List.nil_append]
        exact agrees_mk _ _ _ _ _ _ (fun a (ha : a < msize) => st.fail_mem a (by omega) gd)
      · simp only [C.b2i, if_true, if_false, reduceCtorEq, BitVec.reduceBEq, BitVec.reduceEq, Bool.false_eq_true, ite_self]
        first | exact agrees_mk _ _ _ _ _ _ (fun a (ha : a < msize) => st.ok_mem msize _ a ha g1 (by omega)) | (apply agrees_ite; first | exact agrees_mk _ _ _ _ _ _ (fun a (ha : a < msize) => st.ok_mem msize _ a ha g1 (by omega)) | (apply agrees_ite; first | exact agrees_mk _ _ _ _ _ _ (fun a (ha : a < msize) => st.ok_mem msize _ a ha g1 (by omega)) | (apply agrees_ite; exact agrees_mk _ _ _ _ _ _ (fun a (ha : a < msize) => st.ok_mem msize _ a ha g1 (by omega)))))))

theorem receive_pdu_eq_model (w : XW) (mem : Mem) (msize : Nat) (s : Sock) (pdu : Nat) (pdu_len timeout : BitVec 64)
    (H1 : pdu + 3248 ≤ msize) (H2 : msize ≤ C.STACK) (H3 : 3248 ≤ pdu_len.toNat) :
    Agrees (C.rtr_receive_pdu w mem msize s pdu pdu_len timeout) (recvModel w mem msize s pdu timeout) msize := by
  unfold C.rtr_receive_pdu recvModel
  conv => zeta
  -- the two sockets the live downgrade can assign become variables while they still stand in the text as they were written
  -- (`Agrees.downgrade` wants them so)
  generalize hA : ({ ({ s with version := 0#32 } : Sock) with has_received_pdus := true } : Sock) = xA
  generalize hB : ({ s with has_received_pdus := true } : Sock) = xB
  -- the function's one address-taken local, `struct pdu_header header` (8 bytes), lies at `C.STACK + 4096`: the
  -- translator gives the k-th such object the page `C.STACK + 4096 * k`. Only `msize ≤ C.STACK` is used of the number
  -- (a variable in place of the sum `C.STACK + 4096` would cost three times as much to put in: it is compared with every sum)
  generalize hK : C.STACK = K at H2 ⊢
  have g1 : pdu + 8 ≤ msize := by omega
  have gd : pdu + 8 ≤ K + 4096 := by omega
  refine Agrees.pos (by rw [BitVec.ule_eq_decide]; simpa using H3) ?_
  refine Agrees.ite beq_iff_eq (fun hs => agrees_mk _ _ _ _ _ _ (fun _ _ => rfl)) (fun hs => ?_)
  -- the first receive; the `match` on the world's answer reduces when the next rule is unified with the goal
  recv_guards
  refine Agrees.ite Iff.rfl (fun hneg => ?_) (fun hneg => ?_)
  · refine Agrees.errorLabel hneg ?_ ?_ ?_ ?_ ?_
    all_goals exact agrees_mk _ _ _ _ _ _ (fun _ _ => rfl)
  generalize hb : (w.ext w.n).buf = b
  -- the copy of the header on the stack, in host byte order; the two tests of its length field
  rw [to_host_eq _ _ _ (by omega)]
  recv_guards
  refine Agrees.ite (by
    rw [hdr_len]
    simp only [BitVec.ult_eq_decide, BitVec.ule_eq_decide, Bool.not_eq_true', decide_eq_true_eq, decide_eq_false_iff_not,
      zext64_toNat, lenBv_toNat, BitVec.toNat_ofNat, Nat.reducePow, Nat.reduceMod, Nat.not_le, Nat.not_lt]) (fun hl8 => ?_) (fun hl8 => ?_)
  · recv_guards
    simp only [C.load8, stk_buf_hdr, gd, m1_hdr, Nat.reduceLT, reportFatal, sendReport, changeState, echo8_eq,
      List.cons_append, List.nil_append]
    exact agrees_mk _ _ _ _ _ _ (fun a (ha : a < msize) => stk_buf _ _ _ _ (by omega))
  recv_guards
  refine Agrees.ite (by
    rw [hdr_len]
    simp only [BitVec.ult_eq_decide, BitVec.ule_eq_decide, Bool.not_eq_true', decide_eq_true_eq, decide_eq_false_iff_not,
      zext64_toNat, lenBv_toNat, BitVec.toNat_ofNat, Nat.reducePow, Nat.reduceMod, Nat.not_le, Nat.not_lt]) (fun hlmax => ?_) (fun hlmax => ?_)
  · recv_guards
    simp only [C.load8, stk_buf_hdr, gd, m1_hdr, Nat.reduceLT, reportFatal, sendReport, changeState, echo8_eq,
      List.cons_append, List.nil_append]
    exact agrees_mk _ _ _ _ _ _ (fun a (ha : a < msize) => stk_buf _ _ _ _ (by omega))
  -- the live downgrade: the three copies of what follows become one, for a socket `x` of which only the state is known
  recv_guards
  generalize hd : downgrade s b = d
  revert xA xB d
  apply Agrees.downgrade (s := s) (b := b)
  case h1 =>
    simp only [Bool.not_eq_true']
  case hg =>
    simp only [Bool.and_eq_true, Bool.or_eq_true, decide_eq_true_eq]
    omega
  case h2 =>
    rw [C.load8, C.load8, hdr_at _ _ _ _ 0 (by decide), hdr_at _ _ _ _ 1 (by decide), perm_0, perm_1, dg_cond,
      decide_eq_true_eq]
  intro x hx
  have hs' : ¬ x.state = 9#32 := by
    rw [hx]
    exact hs
  have h8 : 8 ≤ (hdrB b 4 ++ hdrB b 5 ++ hdrB b 6 ++ hdrB b 7).toNat := by
    rw [lenBv_toNat]
    omega
  -- `remaining_len = header.len - sizeof(header)`, wherever it stands, is `lenField b - 8`
  rw [hdr_len, rem_zext _ h8, rem_pos _ h8, lenBv_toNat, ofNat64_lenField]
  recv_guards
  refine Agrees.ite (by rw [C.load8, C.load8, hdr_at _ _ _ _ 0 (by decide), hdr_at _ _ _ _ 1 (by decide), perm_0, perm_1,
    mm_cond, decide_eq_true_eq]) (fun hm => ?_) (fun hm => ?_)
  · recv_guards
    simp only [C.load8, stk_buf_hdr, gd, m1_hdr, Nat.reduceLT, sendReport, echo8_eq, List.cons_append, List.nil_append]
    exact agrees_mk _ _ _ _ _ _ (fun a (ha : a < msize) => stk_buf _ _ _ _ (by omega))
  recv_guards
  -- the payload, if there is one; either way the size check follows, on the `Stage` of its path
  by_cases hl : lenField b = 8
  case' pos =>
    refine Agrees.neg (by simp only [decide_eq_true_eq]; omega) ?_
    rw [if_pos hl]
    have st := stage_nopayload mem b pdu (K + 4096) gd hl
  case' neg =>
    recv_guards
    refine Agrees.neg (by rw [beq_iff_eq]; exact hs') ?_
    rw [if_neg hl, if_neg hs']
    unfold push
    recv_guards
    have st := stage_payload mem b (w.ext (w.n + 1)).buf pdu (K + 4096) (by omega) (by omega)
    refine Agrees.ite Iff.rfl (fun hneg2 => ?_) (fun hneg2 => ?_)
    · refine Agrees.errorLabel hneg2 ?_ ?_ ?_ ?_ ?_
      all_goals exact agrees_mk _ _ _ _ _ _ (fun a ha => payload_below mem b _ pdu _ a (by omega))
  all_goals
    rw [st.check_size msize gd (by omega) (by omega)]
    recv_guards
    unfold finish
    refine Agrees.ite_not (by simp only [Bool.not_eq_true', Bool.not_eq_true]) (fun hc => ?_) (fun hc => ?_)
    · -- delivered: the tests behind the footer conversion only feed debug output, every leaf returns the same
      have g5 : K + 4096 + 1 + 1 ≤ K + 4104 := by omega
      have g8 : pdu + 11 + 1 ≤ msize := by omega
      have g9 : pdu + 3 + 1 ≤ msize := by omega
      simp only [g5, g8, g9, decide_true, Bool.or_true, Bool.and_true, if_true, ite_self]
      exact agrees_mk _ _ _ _ _ _ (fun a (ha : a < msize) => st.ok_mem msize _ a ha g1 (by omega))
    · -- refused: the header is converted back, so the report echoes it as received
      rw [to_network_eq _ _ _ g1]
      recv_guards
      simp (disch := decide) only [C.load8, st.roundtrip, reportFatal, sendReport, changeState, echo8_eq,
        List.cons_append, List.nil_append]
      exact agrees_mk _ _ _ _ _ _ (fun a (ha : a < msize) => st.fail_mem a (by omega) gd)

/-! ## consequences -/

/-- `w'` is `w` after exactly the external calls `cs` (the k-th of them answered by `w.ext (w.n + k)`) -/
def Calls (w w' : XW) (cs : List Call) : Prop :=
  w'.trace = w.trace ++ cs ∧ w'.n = w.n + cs.length ∧ w'.ext = w.ext

theorem Calls.refl (w : XW) : Calls w w [] := ⟨by simp, by simp, rfl⟩
theorem Calls.push {w w' : XW} {cs : List Call} (h : Calls w w' cs) (name : String) (args : List (BitVec 64)) (s : Sock) :
    Calls w (push w' name args s) (cs ++ [(name, args, s)]) := by
  obtain ⟨h1, h2, h3⟩ := h
  refine ⟨?_, ?_, ?_⟩
  · show w'.trace ++ _ = _; rw [h1, List.append_assoc]
  · show w'.n + 1 = _; rw [h2, List.length_append]; simp; omega
  · exact h3

theorem transportErr_elim {Q : Out → Prop} (rc : BitVec 32) (w : XW) (cs : List Call) (s : Sock) (m : Mem)
    (h8 : rc = 4294967295#32 →
      Q ⟨4294967295#32, (w.ext w.n).st, m, changeState w 8#64 s, cs ++ [stateCall 8#64 s]⟩)
    (hp : rc = 4294967294#32 ∨ rc = 4294967293#32 → Q ⟨rc, s, m, w, cs⟩)
    (h7 : rc ≠ 4294967295#32 → rc ≠ 4294967294#32 → rc ≠ 4294967293#32 →
      Q ⟨if rc = 4294967292#32 then 4294967292#32 else 4294967295#32, (w.ext w.n).st, m, changeState w 7#64 s,
        cs ++ [stateCall 7#64 s]⟩) :
    Q (transportErr rc w cs s m) := by
  unfold transportErr
  by_cases e1 : rc = 4294967295#32
  · rw [if_pos e1]
    exact h8 e1
  rw [if_neg e1]
  by_cases e2 : rc = 4294967294#32
  · rw [if_pos e2]
    have := hp (Or.inl e2)
    rwa [e2] at this
  rw [if_neg e2]
  by_cases e3 : rc = 4294967293#32
  · rw [if_pos e3]
    have := hp (Or.inr e3)
    rwa [e3] at this
  rw [if_neg e3]
  have := h7 e1 e2 e3
  by_cases e4 : rc = 4294967292#32
  · rw [if_pos e4] at this ⊢
    exact this
  · rw [if_neg e4] at this ⊢
    exact this

theorem calls_reportFatal {w w' : XW} {cs : List Call} (h : Calls w w' cs) (code txt : BitVec 64) (b : List (BitVec 8))
    (s : Sock) (m : Mem) : Calls w (reportFatal w' cs code txt b s m).w (reportFatal w' cs code txt b s m).calls := by
  have := (h.push "rtr_send_error_pdu_from_network" ([8#64, code, txt] ++ echo8 b) s).push "rtr_change_socket_state" [7#64] s
  rw [List.append_assoc] at this
  exact this

theorem calls_transportErr {w w' : XW} {cs : List Call} (h : Calls w w' cs) (rc : BitVec 32) (s : Sock) (m : Mem) :
    Calls w (transportErr rc w' cs s m).w (transportErr rc w' cs s m).calls :=
  transportErr_elim (Q := fun o => Calls w o.w o.calls) rc w' cs s m (fun _ => h.push _ _ _) (fun _ => h)
    (fun _ _ _ => h.push _ _ _)

theorem calls_finish {w w' : XW} {cs : List Call} (h : Calls w w' cs) (s : Sock) (m : Mem) (msize pdu : Nat)
    (b b2 : List (BitVec 8)) : Calls w (finish w' cs s m msize pdu b b2).w (finish w' cs s m msize pdu b b2).calls := by
  unfold finish
  split
  · exact h.push _ _ _
  · exact calls_reportFatal h _ _ _ _ _


/-! ### the model, case by case -/

theorem downgrade_state (s : Sock) (b : List (BitVec 8)) : (downgrade s b).state = s.state := by
  unfold downgrade; repeat' split
  all_goals rfl

theorem rawOf_nil (b b2 : List (BitVec 8)) (h : lenField b = 8) : rawOf b [] = rawOf b b2 := by
  unfold rawOf takeD; rw [h]; rfl

section cases
variable (w : XW) (mem : Mem) (msize : Nat) (s : Sock) (pdu : Nat) (timeout : BitVec 64)

/-- the first answer of the world: the eight header bytes and the return code of the first receive -/
abbrev hdr1 : List (BitVec 8) := (w.ext w.n).buf
abbrev rc1 : BitVec 32 := BitVec.setWidth 32 (w.ext w.n).rc
/-- the second answer: payload bytes and return code of the second receive -/
abbrev pay2 : List (BitVec 8) := (w.ext (w.n + 1)).buf
abbrev rc2 : BitVec 32 := BitVec.setWidth 32 (w.ext (w.n + 1)).rc
/-- the socket after the live-downgrade step -/
abbrev sock1 : Sock := downgrade s (hdr1 w)
/-- the version check fails -/
def Mismatch : Prop := BitVec.setWidth 32 (hdrB (hdr1 w) 0) ≠ (sock1 w s).version ∧ hdrB (hdr1 w) 1 ≠ 10#8
instance : Decidable (Mismatch w s) := by unfold Mismatch; exact inferInstance
/-- the world after the first / second receive -/
abbrev world1 : XW := push w "tr_recv_all" [8#64, timeout] s
abbrev world2 : XW := push (world1 w s timeout) "tr_recv_all" [BitVec.ofNat 64 (lenField (hdr1 w) - 8), 60#64] (sock1 w s)
abbrev buf1 : Mem := C.memFill mem pdu 8 (hdr1 w)
abbrev buf2 : Mem := C.memFill (buf1 w mem pdu) (pdu + 8) (lenField (hdr1 w) - 8) (pay2 w)

theorem recvModel_cases :
    (s.state = 9#32 ∧ recvModel w mem msize s pdu timeout = ⟨4294967295#32, s, mem, w, []⟩) ∨
    (s.state ≠ 9#32 ∧ (rc1 w).slt 0#32 = true ∧
      recvModel w mem msize s pdu timeout =
        transportErr (rc1 w) (world1 w s timeout) [recv1 timeout s] s (buf1 w mem pdu)) ∨
    (s.state ≠ 9#32 ∧ (rc1 w).slt 0#32 = false ∧ lenField (hdr1 w) < 8 ∧
      recvModel w mem msize s pdu timeout =
        reportFatal (world1 w s timeout) [recv1 timeout s] 0#64 56#64 (hdr1 w) s (buf1 w mem pdu)) ∨
    (s.state ≠ 9#32 ∧ (rc1 w).slt 0#32 = false ∧ 3248 < lenField (hdr1 w) ∧
      recvModel w mem msize s pdu timeout =
        reportFatal (world1 w s timeout) [recv1 timeout s] 0#64 42#64 (hdr1 w) s (buf1 w mem pdu)) ∨
    (s.state ≠ 9#32 ∧ (rc1 w).slt 0#32 = false ∧ 8 ≤ lenField (hdr1 w) ∧ lenField (hdr1 w) ≤ 3248 ∧ Mismatch w s ∧
      recvModel w mem msize s pdu timeout =
        ⟨4294967295#32, sock1 w s, buf1 w mem pdu, sendReport (world1 w s timeout) 8#64 0#64 (hdr1 w) (sock1 w s),
          [recv1 timeout s, reportCall 8#64 0#64 (hdr1 w) (sock1 w s)]⟩) ∨
    (s.state ≠ 9#32 ∧ (rc1 w).slt 0#32 = false ∧ lenField (hdr1 w) = 8 ∧ ¬ Mismatch w s ∧
      recvModel w mem msize s pdu timeout =
        finish (world1 w s timeout) [recv1 timeout s] (sock1 w s) (buf1 w mem pdu) msize pdu (hdr1 w) (pay2 w)) ∨
    (s.state ≠ 9#32 ∧ (rc1 w).slt 0#32 = false ∧ 8 < lenField (hdr1 w) ∧ lenField (hdr1 w) ≤ 3248 ∧ ¬ Mismatch w s ∧
      (rc2 w).slt 0#32 = true ∧
      recvModel w mem msize s pdu timeout =
        transportErr (rc2 w) (world2 w s timeout) [recv1 timeout s, recv2 (hdr1 w) (sock1 w s)] (sock1 w s)
          (buf2 w mem pdu)) ∨
    (s.state ≠ 9#32 ∧ (rc1 w).slt 0#32 = false ∧ 8 < lenField (hdr1 w) ∧ lenField (hdr1 w) ≤ 3248 ∧ ¬ Mismatch w s ∧
      (rc2 w).slt 0#32 = false ∧
      recvModel w mem msize s pdu timeout =
        finish (world2 w s timeout) [recv1 timeout s, recv2 (hdr1 w) (sock1 w s)] (sock1 w s) (buf2 w mem pdu) msize pdu
          (hdr1 w) (pay2 w)) := by
  unfold recvModel Mismatch
  simp only []
  by_cases hs : s.state = 9#32
  · exact Or.inl ⟨hs, by rw [if_pos hs]⟩
  refine Or.inr ?_
  rw [if_neg hs]
  by_cases hneg : (rc1 w).slt 0#32 = true
  · exact Or.inl ⟨hs, hneg, by rw [if_pos hneg]⟩
  refine Or.inr ?_
  rw [if_neg hneg]
  have hneg' : (rc1 w).slt 0#32 = false := by simpa using hneg
  by_cases h8 : lenField (hdr1 w) < 8
  · exact Or.inl ⟨hs, hneg', h8, by rw [if_pos h8]⟩
  refine Or.inr ?_
  rw [if_neg h8]
  by_cases hmax : 3248 < lenField (hdr1 w)
  · exact Or.inl ⟨hs, hneg', hmax, by rw [if_pos hmax]⟩
  refine Or.inr ?_
  rw [if_neg hmax]
  by_cases hm : BitVec.setWidth 32 (hdrB (hdr1 w) 0) ≠ (sock1 w s).version ∧ hdrB (hdr1 w) 1 ≠ 10#8
  · exact Or.inl ⟨hs, hneg', by omega, by omega, hm, by rw [if_pos hm]⟩
  refine Or.inr ?_
  rw [if_neg hm]
  by_cases hl : lenField (hdr1 w) = 8
  · refine Or.inl ⟨hs, hneg', hl, hm, ?_⟩
    rw [if_pos hl]; unfold finish; rw [rawOf_nil _ (pay2 w) hl]
  refine Or.inr ?_
  rw [if_neg hl, if_neg (by rw [downgrade_state]; exact hs)]
  by_cases hneg2 : (rc2 w).slt 0#32 = true
  · exact Or.inl ⟨hs, hneg', by omega, by omega, hm, hneg2, if_pos hneg2⟩
  · have hneg2' : (rc2 w).slt 0#32 = false := by simpa using hneg2
    exact Or.inr ⟨hs, hneg', by omega, by omega, hm, hneg2', if_neg hneg2⟩


theorem recvModel_calls :
    Calls w (recvModel w mem msize s pdu timeout).w (recvModel w mem msize s pdu timeout).calls := by
  have h1 : Calls w (world1 w s timeout) [recv1 timeout s] := (Calls.refl w).push _ _ _
  have h2 : Calls w (world2 w s timeout) [recv1 timeout s, recv2 (hdr1 w) (sock1 w s)] := h1.push _ _ _
  rcases recvModel_cases w mem msize s pdu timeout with
    ⟨_, e⟩ | ⟨_, _, e⟩ | ⟨_, _, _, e⟩ | ⟨_, _, _, e⟩ | ⟨_, _, _, _, _, e⟩ | ⟨_, _, _, _, e⟩ |
    ⟨_, _, _, _, _, _, e⟩ | ⟨_, _, _, _, _, _, e⟩
  · rw [e]
    exact Calls.refl w
  · rw [e]
    exact calls_transportErr h1 _ _ _
  · rw [e]
    exact calls_reportFatal h1 _ _ _ _ _
  · rw [e]
    exact calls_reportFatal h1 _ _ _ _ _
  · rw [e]
    exact h1.push _ _ _
  · rw [e]
    exact calls_finish h1 _ _ _ _ _ _
  · rw [e]
    exact calls_transportErr h2 _ _ _
  · rw [e]
    exact calls_finish h2 _ _ _ _ _ _


/-! ### the pieces of the model, field by field -/

@[simp] theorem reportFatal_rc (w : XW) (cs : List Call) (code txt : BitVec 64) (b : List (BitVec 8)) (s : Sock) (m : Mem) :
    (reportFatal w cs code txt b s m).rc = 4294967295#32 := rfl
@[simp] theorem reportFatal_mem (w : XW) (cs : List Call) (code txt : BitVec 64) (b : List (BitVec 8)) (s : Sock) (m : Mem) :
    (reportFatal w cs code txt b s m).mem = m := rfl
@[simp] theorem reportFatal_calls (w : XW) (cs : List Call) (code txt : BitVec 64) (b : List (BitVec 8)) (s : Sock)
    (m : Mem) : (reportFatal w cs code txt b s m).calls = cs ++ [reportCall code txt b s, stateCall 7#64 s] := rfl
@[simp] theorem reportFatal_sock (w : XW) (cs : List Call) (code txt : BitVec 64) (b : List (BitVec 8)) (s : Sock)
    (m : Mem) : (reportFatal w cs code txt b s m).sock = (w.ext (w.n + 1)).st := rfl

@[simp] theorem transportErr_mem (rc : BitVec 32) (w : XW) (cs : List Call) (s : Sock) (m : Mem) :
    (transportErr rc w cs s m).mem = m :=
  transportErr_elim (Q := fun o => o.mem = m) rc w cs s m (fun _ => rfl) (fun _ => rfl) (fun _ _ _ => rfl)

/-- what a negative transport code `rc` leads to: return code, socket, calls (after the calls `pre` already made; `ans` is
    the socket the world answers a state change with): −1 → ERROR_TRANSPORT, RTR_ERROR; −2, −3 → handed through, nothing
    else; −4 → ERROR_FATAL, TR_CLOSED; anything else → ERROR_FATAL, RTR_ERROR -/
def TransportOutcome (rc : BitVec 32) (pre : List Call) (s ans : Sock) (ret : BitVec 32) (s' : Sock) (cs : List Call) :
    Prop :=
  (rc = 4294967295#32 → ret = 4294967295#32 ∧ s' = ans ∧ cs = pre ++ [stateCall 8#64 s]) ∧
  (rc = 4294967294#32 → ret = 4294967294#32 ∧ s' = s ∧ cs = pre) ∧
  (rc = 4294967293#32 → ret = 4294967293#32 ∧ s' = s ∧ cs = pre) ∧
  (rc = 4294967292#32 → ret = 4294967292#32 ∧ s' = ans ∧ cs = pre ++ [stateCall 7#64 s]) ∧
  (rc ≠ 4294967295#32 → rc ≠ 4294967294#32 → rc ≠ 4294967293#32 → rc ≠ 4294967292#32 →
    ret = 4294967295#32 ∧ s' = ans ∧ cs = pre ++ [stateCall 7#64 s])

theorem transportErr_outcome (rc : BitVec 32) (w : XW) (cs : List Call) (s : Sock) (m : Mem) :
    TransportOutcome rc cs s (w.ext w.n).st (transportErr rc w cs s m).rc (transportErr rc w cs s m).sock
      (transportErr rc w cs s m).calls := by
  apply transportErr_elim (Q := fun o => TransportOutcome rc cs s (w.ext w.n).st o.rc o.sock o.calls)
  · intro e1
    subst e1
    simp [TransportOutcome]
  · rintro (e | e)
    all_goals subst e
    all_goals simp [TransportOutcome]
  · intro e1 e2 e3
    by_cases e4 : rc = 4294967292#32
    all_goals simp [TransportOutcome, e1, e2, e3, e4]

theorem transportErr_rc_ne_zero (rc : BitVec 32) (w : XW) (cs : List Call) (s : Sock) (m : Mem) :
    (transportErr rc w cs s m).rc ≠ 0#32 := by
  apply transportErr_elim (Q := fun o => o.rc ≠ 0#32)
  · intro _
    simp only [ne_eq, BitVec.reduceEq, not_false_eq_true]
  · rintro (e | e)
    all_goals subst e
    all_goals simp only [ne_eq, BitVec.reduceEq, not_false_eq_true]
  · intro _ _ _
    by_cases e4 : rc = 4294967292#32
    all_goals simp only [e4, if_true, if_false, ne_eq, BitVec.reduceEq, not_false_eq_true]

theorem finish_ok (w : XW) (cs : List Call) (s : Sock) (m : Mem) (msize pdu : Nat) (b b2 : List (BitVec 8))
    (h : checkSize (rawOf b b2) = true) : finish w cs s m msize pdu b b2 =
      ⟨0#32, s, C.memFill m pdu (msize - pdu) (w.ext w.n).buf, push w "rtr_pdu_footer_to_host_byte_order" [] s,
        cs ++ [footerCall s]⟩ := by unfold finish; rw [if_pos h]
theorem finish_bad (w : XW) (cs : List Call) (s : Sock) (m : Mem) (msize pdu : Nat) (b b2 : List (BitVec 8))
    (h : checkSize (rawOf b b2) = false) : finish w cs s m msize pdu b b2 = reportFatal w cs 0#64 56#64 b s m := by
  unfold finish; rw [if_neg (by rw [h]; decide)]

theorem finish_calls (w : XW) (cs : List Call) (s : Sock) (m : Mem) (msize pdu : Nat) (b b2 : List (BitVec 8)) :
    ∃ tl, (finish w cs s m msize pdu b b2).calls = cs ++ tl ∧
      (tl = [footerCall s] ∨ tl = [reportCall 0#64 56#64 b s, stateCall 7#64 s]) := by
  unfold finish; split
  · exact ⟨_, rfl, Or.inl rfl⟩
  · exact ⟨_, rfl, Or.inr rfl⟩


theorem transportErr_sock_cases (rc : BitVec 32) (w : XW) (cs : List Call) (s : Sock) (m : Mem) :
    ((transportErr rc w cs s m).calls = cs ∧ (transportErr rc w cs s m).sock = s) ∨
    ∃ st, (transportErr rc w cs s m).calls = cs ++ [stateCall st s] ∧ (transportErr rc w cs s m).sock = (w.ext w.n).st :=
  transportErr_elim (Q := fun o => (o.calls = cs ∧ o.sock = s) ∨ ∃ st, o.calls = cs ++ [stateCall st s] ∧ o.sock = (w.ext w.n).st)
    rc w cs s m (fun _ => Or.inr ⟨_, rfl, rfl⟩) (fun _ => Or.inl ⟨rfl, rfl⟩) (fun _ _ _ => Or.inr ⟨_, rfl, rfl⟩)


/-! ## the theorems about `C.rtr_receive_pdu` -/

/-- the contract of the callers (`rtr_sync_receive_and_store_pdus`, `rtr_sync`, `rtr_wait_for_sync`: each hands in its
    `char pdu[RTR_MAX_PDU_LEN]` with RTR_MAX_PDU_LEN or `sizeof(pdu)`): the buffer has 3248 bytes and lies below the
    function's own objects -/
structure Contract (msize pdu : Nat) (pdu_len : BitVec 64) : Prop where
  fits : pdu + 3248 ≤ msize
  below : msize ≤ C.STACK
  len : 3248 ≤ pdu_len.toNat

variable (pdu_len : BitVec 64)

/-- `rtr_receive_pdu` has a defined result: return code `rc`, socket `s'`, memory `m'`, and it made exactly the external
    calls `cs`; these satisfy `P` -/
def Returns (P : BitVec 32 → Sock → Mem → List Call → Prop) : Prop :=
  ∃ rc s' m' w', C.rtr_receive_pdu w mem msize s pdu pdu_len timeout = some (rc, s', m', w') ∧
    ∃ cs, Calls w w' cs ∧ P rc s' m' cs

variable {msize pdu pdu_len}

/-- the link in the form the theorems below use: a property of the model's run, for every memory that agrees with the
    model's below `msize`, is a property of what the translated function returns -/
theorem returns_of_model (H : Contract msize pdu pdu_len) (P : BitVec 32 → Sock → Mem → List Call → Prop)
    (hP : ∀ m', (∀ a, a < msize → m' a = (recvModel w mem msize s pdu timeout).mem a) →
      P (recvModel w mem msize s pdu timeout).rc (recvModel w mem msize s pdu timeout).sock m'
        (recvModel w mem msize s pdu timeout).calls) :
    Returns w mem msize s pdu timeout pdu_len P := by
  obtain ⟨m', e, hm⟩ := receive_pdu_eq_model w mem msize s pdu pdu_len timeout H.fits H.below H.len
  exact ⟨_, _, m', _, e, _, recvModel_calls w mem msize s pdu timeout, hP m' hm⟩

/-- **(C04) defined.** Under the contract the translated function never leaves the defined fragment of C: whatever the
    transport delivers (any bytes, any length field 0 … 2^32−1, any nested lengths of an Error Report, any return codes),
    whatever the other callees answer, whatever the buffer held - no out-of-bounds access (every access is guarded by the
    bounds of the caller's 3248-byte buffer or of the function's own header copy), no overflow, no failed assertion. -/
theorem receive_pdu_defined (H : Contract msize pdu pdu_len) :
    C.rtr_receive_pdu w mem msize s pdu pdu_len timeout ≠ none := by
  obtain ⟨m', e, _⟩ := receive_pdu_eq_model w mem msize s pdu pdu_len timeout H.fits H.below H.len
  rw [e]; exact Option.some_ne_none _

/-- **(C04) what is asked of the transport.** -/
theorem receive_pdu_lengths (H : Contract msize pdu pdu_len) (hs : s.state ≠ 9#32) :
    Returns w mem msize s pdu timeout pdu_len (fun rc _ _ cs =>
      -- the first call asks for exactly the 8 header bytes, with the caller's timeout
      (∃ rest, cs = recv1 timeout s :: rest) ∧
      -- a length field below 8 or above 3248: no further receive; Error Report, ERROR_FATAL, RTR_ERROR
      ((rc1 w).slt 0#32 = false → (lenField (hdr1 w) < 8 ∨ 3248 < lenField (hdr1 w)) →
        rc = 4294967295#32 ∧
        cs = [recv1 timeout s, reportCall 0#64 (if lenField (hdr1 w) < 8 then 56#64 else 42#64) (hdr1 w) s,
          stateCall 7#64 s]) ∧
      -- otherwise, if the version check passes: exactly one more receive, for exactly the rest, iff there is a rest
      ((rc1 w).slt 0#32 = false → 8 ≤ lenField (hdr1 w) → lenField (hdr1 w) ≤ 3248 → ¬ Mismatch w s →
        (lenField (hdr1 w) = 8 → ∀ c ∈ cs.tail, c.1 ≠ "tr_recv_all") ∧
        (8 < lenField (hdr1 w) → ∃ rest, cs = recv1 timeout s :: recv2 (hdr1 w) (sock1 w s) :: rest ∧
          ∀ c ∈ rest, c.1 ≠ "tr_recv_all")) ∧
      -- in every other case the first receive is the only one
      (((rc1 w).slt 0#32 = true ∨ lenField (hdr1 w) < 8 ∨ 3248 < lenField (hdr1 w) ∨ Mismatch w s) →
        ∀ c ∈ cs.tail, c.1 ≠ "tr_recv_all")) := by
  apply returns_of_model w mem s timeout H
  intro m' _
  rcases recvModel_cases w mem msize s pdu timeout with
    ⟨h, _⟩ | ⟨_, hneg, e⟩ | ⟨_, hneg, hl, e⟩ | ⟨_, hneg, hl, e⟩ | ⟨_, hneg, h8, hmax, hm, e⟩ | ⟨_, hneg, hl, hm, e⟩ |
    ⟨_, hneg, h8, hmax, hm, hneg2, e⟩ | ⟨_, hneg, h8, hmax, hm, hneg2, e⟩
  · exact absurd h hs
  · rw [e]
    rcases transportErr_sock_cases (rc1 w) (world1 w s timeout) [recv1 timeout s] s (buf1 w mem pdu) with
      ⟨ec, _⟩ | ⟨st, ec, _⟩
    all_goals rw [ec]
    all_goals exact ⟨⟨_, rfl⟩, fun h => absurd (hneg.symm.trans h) (by decide),
      fun h => absurd (hneg.symm.trans h) (by decide), fun _ => by simp [stateCall]⟩
  · rw [e]
    refine ⟨⟨_, rfl⟩, ?_, ?_, ?_⟩
    · intro _ _; simp [hl]
    · intro _ h; omega
    · intro _; simp [reportCall, stateCall]
  · rw [e]
    refine ⟨⟨_, rfl⟩, ?_, ?_, ?_⟩
    · intro _ _; have : ¬ lenField (hdr1 w) < 8 := by omega
      simp [this]
    · intro _ _ h; omega
    · intro _; simp [reportCall, stateCall]
  · rw [e]
    refine ⟨⟨_, rfl⟩, ?_, ?_, ?_⟩
    · intro _ h; omega
    · intro _ _ _ h; exact absurd hm h
    · intro _; simp [reportCall]
  · rw [e]
    obtain ⟨tl, etl, htl⟩ := finish_calls (world1 w s timeout) [recv1 timeout s] (sock1 w s) (buf1 w mem pdu) msize pdu
      (hdr1 w) (pay2 w)
    rw [etl]
    refine ⟨⟨tl, rfl⟩, ?_, ?_, ?_⟩
    · intro _ h; omega
    · intro _ _ _ _
      refine ⟨fun _ => ?_, fun h => by omega⟩
      rcases htl with rfl | rfl <;> simp [footerCall, reportCall, stateCall]
    · intro h; rcases h with h | h | h | h
      · rw [hneg] at h; cases h
      · omega
      · omega
      · exact absurd h hm
  · rw [e]
    have hno : ¬ ((rc1 w).slt 0#32 = true ∨ lenField (hdr1 w) < 8 ∨ 3248 < lenField (hdr1 w) ∨ Mismatch w s) := by
      rintro (h | h | h | h)
      · rw [hneg] at h; cases h
      · omega
      · omega
      · exact absurd h hm
    rcases transportErr_sock_cases (rc2 w) (world2 w s timeout) [recv1 timeout s, recv2 (hdr1 w) (sock1 w s)]
      (sock1 w s) (buf2 w mem pdu) with ⟨ec, _⟩ | ⟨st, ec, _⟩
    all_goals rw [ec]
    all_goals exact ⟨⟨_, rfl⟩, fun _ h => by omega,
      fun _ _ _ _ => ⟨fun h => by omega, fun _ => ⟨_, rfl, by simp [stateCall]⟩⟩, fun h => absurd h hno⟩
  · rw [e]
    obtain ⟨tl, etl, htl⟩ := finish_calls (world2 w s timeout) [recv1 timeout s, recv2 (hdr1 w) (sock1 w s)] (sock1 w s)
      (buf2 w mem pdu) msize pdu (hdr1 w) (pay2 w)
    rw [etl]
    refine ⟨⟨_, rfl⟩, ?_, ?_, ?_⟩
    · intro _ h; omega
    · intro _ _ _ _
      refine ⟨fun h => by omega, fun _ => ⟨tl, rfl, ?_⟩⟩
      rcases htl with rfl | rfl <;> simp [footerCall, reportCall, stateCall]
    · intro h; rcases h with h | h | h | h
      · rw [hneg] at h; cases h
      · omega
      · omega
      · exact absurd h hm
/-- **(C08/C04) transport errors.** -/
theorem receive_pdu_transport_errors (H : Contract msize pdu pdu_len) (hs : s.state ≠ 9#32) :
    Returns w mem msize s pdu timeout pdu_len (fun rc s' m' cs =>
      -- a negative answer of the first receive
      ((rc1 w).slt 0#32 = true →
        TransportOutcome (rc1 w) [recv1 timeout s] s (w.ext (w.n + 1)).st rc s' cs ∧
        (∀ a, a < msize → m' a = buf1 w mem pdu a) ∧
        ∀ c ∈ cs, c.1 ≠ "rtr_send_error_pdu_from_network") ∧
      -- a negative answer of the second receive (which is made exactly under these conditions: `receive_pdu_lengths`)
      ((rc1 w).slt 0#32 = false → 8 < lenField (hdr1 w) → lenField (hdr1 w) ≤ 3248 → ¬ Mismatch w s →
        (rc2 w).slt 0#32 = true →
        TransportOutcome (rc2 w) [recv1 timeout s, recv2 (hdr1 w) (sock1 w s)] (sock1 w s) (w.ext (w.n + 2)).st rc s' cs ∧
        (∀ a, a < msize → m' a = buf2 w mem pdu a) ∧
        ∀ c ∈ cs, c.1 ≠ "rtr_send_error_pdu_from_network")) := by
  apply returns_of_model w mem s timeout H
  intro m' hmem
  rcases recvModel_cases w mem msize s pdu timeout with
    ⟨h, _⟩ | ⟨_, hneg, e⟩ | ⟨_, hneg, hl, e⟩ | ⟨_, hneg, hl, e⟩ | ⟨_, hneg, h8, hmax, hm, e⟩ | ⟨_, hneg, hl, hm, e⟩ |
    ⟨_, hneg, h8, hmax, hm, hneg2, e⟩ | ⟨_, hneg, h8, hmax, hm, hneg2, e⟩
  · exact absurd h hs
  · rw [e] at hmem ⊢
    refine ⟨fun _ => ⟨transportErr_outcome _ _ _ _ _, ?_, ?_⟩, fun h => by rw [hneg] at h; cases h⟩
    · intro a ha; rw [hmem a ha, transportErr_mem]
    · rcases transportErr_sock_cases (rc1 w) (world1 w s timeout) [recv1 timeout s] s (buf1 w mem pdu) with
        ⟨ec, _⟩ | ⟨st, ec, _⟩
      all_goals rw [ec]
      all_goals simp [recv1, stateCall]
  · exact ⟨fun h => (by rw [hneg] at h; cases h), fun _ h => by omega⟩
  · exact ⟨fun h => (by rw [hneg] at h; cases h), fun _ _ h => by omega⟩
  · exact ⟨fun h => (by rw [hneg] at h; cases h), fun _ _ _ h => absurd hm h⟩
  · exact ⟨fun h => (by rw [hneg] at h; cases h), fun _ h => by omega⟩
  · rw [e] at hmem ⊢
    refine ⟨fun h => (by rw [hneg] at h; cases h), fun _ _ _ _ _ => ⟨transportErr_outcome _ _ _ _ _, ?_, ?_⟩⟩
    · intro a ha; rw [hmem a ha, transportErr_mem]
    · rcases transportErr_sock_cases (rc2 w) (world2 w s timeout) [recv1 timeout s, recv2 (hdr1 w) (sock1 w s)]
        (sock1 w s) (buf2 w mem pdu) with ⟨ec, _⟩ | ⟨st, ec, _⟩
      all_goals rw [ec]
      all_goals simp [recv1, recv2, stateCall]
  · exact ⟨fun h => (by rw [hneg] at h; cases h), fun _ _ _ _ h => by rw [hneg2] at h; cases h⟩

/-- the live-downgrade step changes nothing but `version` and `has_received_pdus`; `version` changes in exactly one
    situation - first PDU of the connection, socket at version 1, header version 0, not an Error Report - and then
    becomes 0 -/
theorem downgrade_spec (s : Sock) (b : List (BitVec 8)) :
    downgrade s b = { s with
      version := if s.has_received_pdus = false ∧ s.version = 1#32 ∧ hdrB b 0 = 0#8 ∧ hdrB b 1 ≠ 10#8 then 0#32
        else s.version,
      has_received_pdus := true } := by
  unfold downgrade
  rcases hr : s.has_received_pdus with _ | _
  · by_cases hd : s.version = 1#32 ∧ hdrB b 0 = 0#8 ∧ hdrB b 1 ≠ 10#8
    · simp [hd]
    · simp [hd]
  · cases s; simp_all

theorem downgrade_version_le (s : Sock) (b : List (BitVec 8)) : (downgrade s b).version ≤ s.version := by
  rw [downgrade_spec]
  simp only []
  split
  · rename_i h; rw [h.2.1]; decide
  · exact BitVec.le_refl _

/-- **(C13)** After a header with an acceptable length field arrived: -/
theorem receive_pdu_version (H : Contract msize pdu pdu_len) (hs : s.state ≠ 9#32) (hneg : (rc1 w).slt 0#32 = false)
    (h8 : 8 ≤ lenField (hdr1 w)) (hmax : lenField (hdr1 w) ≤ 3248) :
    Returns w mem msize s pdu timeout pdu_len (fun rc s' m' cs =>
      -- every later call is made with the socket after the downgrade step (`downgrade_spec`)
      (∀ c ∈ cs.tail, c.2.2 = sock1 w s) ∧
      -- header version ≠ (possibly downgraded) socket version, not an Error Report: report code 8, RTR_ERROR, and
      -- nothing else - no payload receive, no state change by this function (it returns before that call)
      (Mismatch w s → rc = 4294967295#32 ∧ s' = sock1 w s ∧
        cs = [recv1 timeout s, reportCall 8#64 0#64 (hdr1 w) (sock1 w s)] ∧ ∀ a, a < msize → m' a = buf1 w mem pdu a) ∧
      -- otherwise the socket returned is that socket, unless a state change was requested: then what that call left
      (¬ Mismatch w s → s' = sock1 w s ∨
        ∃ st k, cs[k]? = some (stateCall st (sock1 w s)) ∧ k + 1 = cs.length ∧ s' = (w.ext (w.n + k)).st)) := by
  apply returns_of_model w mem s timeout H
  intro m' hmem
  rcases recvModel_cases w mem msize s pdu timeout with
    ⟨h, _⟩ | ⟨_, hneg', e⟩ | ⟨_, _, hl, e⟩ | ⟨_, _, hl, e⟩ | ⟨_, _, _, _, hm, e⟩ | ⟨_, _, hl, hm, e⟩ |
    ⟨_, _, _, _, hm, hneg2, e⟩ | ⟨_, _, _, _, hm, hneg2, e⟩
  · exact absurd h hs
  · rw [hneg] at hneg'; cases hneg'
  · omega
  · omega
  · rw [e] at hmem ⊢
    refine ⟨by simp [reportCall], fun _ => ⟨rfl, rfl, rfl, hmem⟩, fun h => absurd hm h⟩
  · rw [e] at hmem ⊢
    refine ⟨?_, fun h => absurd h hm, fun _ => ?_⟩
    · obtain ⟨tl, etl, htl⟩ := finish_calls (world1 w s timeout) [recv1 timeout s] (sock1 w s) (buf1 w mem pdu) msize pdu
        (hdr1 w) (pay2 w)
      rw [etl]; rcases htl with rfl | rfl <;> simp [footerCall, reportCall, stateCall]
    · cases hc : checkSize (rawOf (hdr1 w) (pay2 w))
      · rw [finish_bad _ _ _ _ _ _ _ _ hc]
        exact Or.inr ⟨7#64, 2, rfl, rfl, rfl⟩
      · rw [finish_ok _ _ _ _ _ _ _ _ hc]
        exact Or.inl rfl
  · rw [e]
    rcases transportErr_sock_cases (rc2 w) (world2 w s timeout) [recv1 timeout s, recv2 (hdr1 w) (sock1 w s)]
      (sock1 w s) (buf2 w mem pdu) with ⟨ec, es⟩ | ⟨st, ec, es⟩
    · rw [ec, es]
      exact ⟨by simp [recv2], fun h => absurd h hm, fun _ => Or.inl rfl⟩
    · rw [ec, es]
      exact ⟨by simp [recv2, stateCall], fun h => absurd h hm, fun _ => Or.inr ⟨st, 2, rfl, rfl, rfl⟩⟩
  · rw [e] at hmem ⊢
    refine ⟨?_, fun h => absurd h hm, fun _ => ?_⟩
    · obtain ⟨tl, etl, htl⟩ := finish_calls (world2 w s timeout) [recv1 timeout s, recv2 (hdr1 w) (sock1 w s)]
        (sock1 w s) (buf2 w mem pdu) msize pdu (hdr1 w) (pay2 w)
      rw [etl]; rcases htl with rfl | rfl <;> simp [recv2, footerCall, reportCall, stateCall]
    · cases hc : checkSize (rawOf (hdr1 w) (pay2 w))
      · rw [finish_bad _ _ _ _ _ _ _ _ hc]
        exact Or.inr ⟨7#64, 3, rfl, rfl, rfl⟩
      · rw [finish_ok _ _ _ _ _ _ _ _ hc]
        exact Or.inl rfl

def isReport (c : Call) : Bool := c.1 == "rtr_send_error_pdu_from_network"

/-- **(C14) the echo.** -/
theorem receive_pdu_echo (H : Contract msize pdu pdu_len) :
    Returns w mem msize s pdu timeout pdu_len (fun _ _ _ cs =>
      (∀ c ∈ cs, isReport c = true →
        (lenField (hdr1 w) < 8 ∧ c = reportCall 0#64 56#64 (hdr1 w) s) ∨
        (3248 < lenField (hdr1 w) ∧ c = reportCall 0#64 42#64 (hdr1 w) s) ∨
        (8 ≤ lenField (hdr1 w) ∧ lenField (hdr1 w) ≤ 3248 ∧ Mismatch w s ∧
          c = reportCall 8#64 0#64 (hdr1 w) (sock1 w s)) ∨
        (8 ≤ lenField (hdr1 w) ∧ lenField (hdr1 w) ≤ 3248 ∧ ¬ Mismatch w s ∧
          checkSize (rawOf (hdr1 w) (pay2 w)) = false ∧ c = reportCall 0#64 56#64 (hdr1 w) (sock1 w s))) ∧
      (cs.filter isReport).length ≤ 1) := by
  apply returns_of_model w mem s timeout H
  intro m' _
  rcases recvModel_cases w mem msize s pdu timeout with
    ⟨h, e⟩ | ⟨_, hneg, e⟩ | ⟨_, hneg, hl, e⟩ | ⟨_, hneg, hl, e⟩ | ⟨_, hneg, h8, hmax, hm, e⟩ | ⟨_, hneg, hl, hm, e⟩ |
    ⟨_, hneg, h8, hmax, hm, hneg2, e⟩ | ⟨_, hneg, h8, hmax, hm, hneg2, e⟩
  · rw [e]; simp
  · rw [e]
    rcases transportErr_sock_cases (rc1 w) (world1 w s timeout) [recv1 timeout s] s (buf1 w mem pdu) with
      ⟨ec, _⟩ | ⟨st, ec, _⟩
    all_goals rw [ec]
    all_goals simp [isReport, recv1, stateCall]
  · rw [e]; simp [isReport, recv1, stateCall, hl]; simp [reportCall, isReport]
  · rw [e]; simp [isReport, recv1, stateCall, hl]; simp [reportCall, isReport]
  · rw [e]; simp [isReport, recv1, hm, h8, hmax]; simp [reportCall, isReport]
  · rw [e]
    cases hc : checkSize (rawOf (hdr1 w) (pay2 w))
    · rw [finish_bad _ _ _ _ _ _ _ _ hc]
      simp [isReport, recv1, stateCall, hm, hl, hc]; simp [reportCall, isReport]
    · rw [finish_ok _ _ _ _ _ _ _ _ hc]
      simp [isReport, recv1, footerCall]
  · rw [e]
    rcases transportErr_sock_cases (rc2 w) (world2 w s timeout) [recv1 timeout s, recv2 (hdr1 w) (sock1 w s)]
      (sock1 w s) (buf2 w mem pdu) with ⟨ec, _⟩ | ⟨st, ec, _⟩
    all_goals rw [ec]
    all_goals simp [isReport, recv1, recv2, stateCall]
  · rw [e]
    cases hc : checkSize (rawOf (hdr1 w) (pay2 w))
    · rw [finish_bad _ _ _ _ _ _ _ _ hc]
      have : 8 ≤ lenField (hdr1 w) := by omega
      simp [isReport, recv1, recv2, stateCall, hm, this, hmax, hc]; simp [reportCall, isReport]
    · rw [finish_ok _ _ _ _ _ _ _ _ hc]
      simp [isReport, recv1, recv2, footerCall]

theorem rawOf_length (b b2 : List (BitVec 8)) (h : 8 ≤ lenField b) : (rawOf b b2).length = lenField b := by
  unfold rawOf; rw [List.length_map, List.length_append, takeD_length, takeD_length]; omega

def Delivers : Prop :=
  s.state ≠ 9#32 ∧ (rc1 w).slt 0#32 = false ∧ 8 ≤ lenField (hdr1 w) ∧ lenField (hdr1 w) ≤ 3248 ∧ ¬ Mismatch w s ∧
    (8 < lenField (hdr1 w) → (rc2 w).slt 0#32 = false) ∧ checkSize (rawOf (hdr1 w) (pay2 w)) = true

/-- **(C04/C14) success.** -/
theorem receive_pdu_success (H : Contract msize pdu pdu_len) :
    Returns w mem msize s pdu timeout pdu_len (fun rc s' m' cs =>
      (rc = 0#32 ↔ Delivers w s) ∧
      (rc = 0#32 →
        KnownSize (rawOf (hdr1 w) (pay2 w)) ∧ (rawOf (hdr1 w) (pay2 w)).length = lenField (hdr1 w) ∧
        s' = sock1 w s ∧
        cs = recv1 timeout s :: ((if 8 < lenField (hdr1 w) then [recv2 (hdr1 w) (sock1 w s)] else []) ++
          [footerCall (sock1 w s)]) ∧
        ∀ a, a < msize → m' a =
          C.memFill (if 8 < lenField (hdr1 w) then buf2 w mem pdu else buf1 w mem pdu) pdu (msize - pdu)
            (w.ext (w.n + (if 8 < lenField (hdr1 w) then 2 else 1))).buf a)) := by
  apply returns_of_model w mem s timeout H
  intro m' hmem
  unfold Delivers
  rcases recvModel_cases w mem msize s pdu timeout with
    ⟨h, e⟩ | ⟨_, hneg, e⟩ | ⟨_, hneg, hl, e⟩ | ⟨_, hneg, hl, e⟩ | ⟨_, hneg, h8, hmax, hm, e⟩ | ⟨hs, hneg, hl, hm, e⟩ |
    ⟨_, hneg, h8, hmax, hm, hneg2, e⟩ | ⟨hs, hneg, h8, hmax, hm, hneg2, e⟩
  · rw [e]; simp [h]
  · rw [e]
    have := transportErr_rc_ne_zero (rc1 w) (world1 w s timeout) [recv1 timeout s] s (buf1 w mem pdu)
    simp [this, hneg]
  · rw [e]; simp; omega
  · rw [e]; simp; omega
  · rw [e]; simp [hm]
  · rw [e] at hmem ⊢
    cases hc : checkSize (rawOf (hdr1 w) (pay2 w))
    · rw [finish_bad _ _ _ _ _ _ _ _ hc]; simp
    · rw [finish_ok _ _ _ _ _ _ _ _ hc] at hmem ⊢
      have h8 : ¬ 8 < lenField (hdr1 w) := by omega
      refine ⟨⟨fun _ => ⟨hs, hneg, by omega, by omega, hm, fun h => absurd h h8, rfl⟩, fun _ => rfl⟩, fun _ => ?_⟩
      refine ⟨(checkSize_spec _).mp hc, rawOf_length _ _ (by omega), rfl, ?_, ?_⟩
      · simp [h8]
      · intro a ha; rw [hmem a ha]; simp only [h8, if_false]; rfl
  · rw [e]
    have := transportErr_rc_ne_zero (rc2 w) (world2 w s timeout) [recv1 timeout s, recv2 (hdr1 w) (sock1 w s)]
      (sock1 w s) (buf2 w mem pdu)
    simp [this, hneg2, h8]
  · rw [e] at hmem ⊢
    cases hc : checkSize (rawOf (hdr1 w) (pay2 w))
    · rw [finish_bad _ _ _ _ _ _ _ _ hc]; simp
    · rw [finish_ok _ _ _ _ _ _ _ _ hc] at hmem ⊢
      refine ⟨⟨fun _ => ⟨hs, hneg, by omega, by omega, hm, fun _ => hneg2, rfl⟩, fun _ => rfl⟩, fun _ => ?_⟩
      refine ⟨(checkSize_spec _).mp hc, rawOf_length _ _ (by omega), rfl, ?_, ?_⟩
      · simp [h8]
      · intro a ha; rw [hmem a ha]; simp only [h8, if_true]; rfl

/-- **Frame (C04).** Nothing below the caller's buffer is written; unless a PDU is delivered, nothing behind its 3248 bytes
    either (on success the translation lets `rtr_pdu_footer_to_host_byte_order` - an external call here, answered by the world - write the whole object
    `[pdu, msize)`). -/
theorem receive_pdu_frame (H : Contract msize pdu pdu_len) :
    Returns w mem msize s pdu timeout pdu_len (fun rc _ m' _ =>
      (∀ a, a < pdu → m' a = mem a) ∧
      (rc ≠ 0#32 → ∀ a, pdu + max 8 (min (lenField (hdr1 w)) 3248) ≤ a → a < msize → m' a = mem a)) := by
  apply returns_of_model w mem s timeout H
  intro m' hmem
  have hfit := H.fits
  have hf1 : ∀ a, a < pdu ∨ pdu + 8 ≤ a → buf1 w mem pdu a = mem a := fun a ha => memFill_out _ _ _ _ _ ha
  have hf2 : ∀ a, a < pdu ∨ pdu + (8 + (lenField (hdr1 w) - 8)) ≤ a → buf2 w mem pdu a = mem a := fun a ha => by
    show C.memFill _ _ _ _ a = _
    rw [memFill_out _ _ _ _ _ (by omega)]
    exact hf1 a (by omega)
  -- a run that leaves `B` in the buffer, where `B` differs from `mem` inside `[pdu, pdu + k)` only
  have key : ∀ (B : Mem) (k : Nat) (rc : BitVec 32), (∀ a, a < msize → m' a = B a) →
      (∀ a, a < pdu ∨ pdu + k ≤ a → B a = mem a) → (rc ≠ 0#32 → k ≤ max 8 (min (lenField (hdr1 w)) 3248)) →
      (∀ a, a < pdu → m' a = mem a) ∧
        (rc ≠ 0#32 → ∀ a, pdu + max 8 (min (lenField (hdr1 w)) 3248) ≤ a → a < msize → m' a = mem a) := by
    intro B k rc hm hB hk
    refine ⟨fun a ha => ?_, fun hrc a h1 ha => ?_⟩
    · rw [hm a (by omega)]
      exact hB a (Or.inl ha)
    · have := hk hrc
      rw [hm a ha]
      exact hB a (Or.inr (by omega))
  rcases recvModel_cases w mem msize s pdu timeout with
    ⟨h, e⟩ | ⟨_, hneg, e⟩ | ⟨_, hneg, hl, e⟩ | ⟨_, hneg, hl, e⟩ | ⟨_, hneg, h8, hmax, hm, e⟩ | ⟨hs, hneg, hl, hm, e⟩ |
    ⟨_, hneg, h8, hmax, hm, hneg2, e⟩ | ⟨hs, hneg, h8, hmax, hm, hneg2, e⟩
  · rw [e] at hmem ⊢
    exact key mem 0 _ hmem (fun _ _ => rfl) (fun _ => by omega)
  · rw [e] at hmem ⊢
    simp only [transportErr_mem] at hmem
    exact key _ 8 _ hmem hf1 (fun _ => by omega)
  · rw [e] at hmem ⊢
    exact key _ 8 _ hmem hf1 (fun _ => by omega)
  · rw [e] at hmem ⊢
    exact key _ 8 _ hmem hf1 (fun _ => by omega)
  · rw [e] at hmem ⊢
    exact key _ 8 _ hmem hf1 (fun _ => by omega)
  · rw [e] at hmem ⊢
    cases hc : checkSize (rawOf (hdr1 w) (pay2 w))
    · rw [finish_bad _ _ _ _ _ _ _ _ hc] at hmem ⊢
      exact key _ 8 _ hmem hf1 (fun _ => by omega)
    · rw [finish_ok _ _ _ _ _ _ _ _ hc] at hmem ⊢
      refine ⟨fun a ha => ?_, fun h => absurd rfl h⟩
      rw [hmem a (by omega)]
      show C.memFill _ _ _ _ a = _
      rw [memFill_out _ _ _ _ _ (Or.inl ha)]
      exact hf1 a (Or.inl ha)
  · rw [e] at hmem ⊢
    simp only [transportErr_mem] at hmem
    exact key _ _ _ hmem hf2 (fun _ => by omega)
  · rw [e] at hmem ⊢
    cases hc : checkSize (rawOf (hdr1 w) (pay2 w))
    · rw [finish_bad _ _ _ _ _ _ _ _ hc] at hmem ⊢
      exact key _ _ _ hmem hf2 (fun _ => by omega)
    · rw [finish_ok _ _ _ _ _ _ _ _ hc] at hmem ⊢
      refine ⟨fun a ha => ?_, fun h => absurd rfl h⟩
      rw [hmem a (by omega)]
      show C.memFill _ _ _ _ a = _
      rw [memFill_out _ _ _ _ _ (Or.inl ha)]
      exact hf2 a (Or.inl ha)

/-- **(C13) globally:** every socket value `rtr_receive_pdu` hands to a callee is the caller's or the one after the
    downgrade step (`downgrade_spec`, `downgrade_version_le`: same fields but `has_received_pdus`, and `version` lowered from
    1 to 0 in the one situation); it returns one of these two, or what its last call - a state change made with one of
    these two - left. It writes no other version. -/
theorem receive_pdu_socket (H : Contract msize pdu pdu_len) :
    Returns w mem msize s pdu timeout pdu_len (fun _ s' _ cs =>
      (∀ c ∈ cs, c.2.2 = s ∨ c.2.2 = sock1 w s) ∧
      (s' = s ∨ s' = sock1 w s ∨
        ∃ st sc k, cs[k]? = some (stateCall st sc) ∧ k + 1 = cs.length ∧ s' = (w.ext (w.n + k)).st)) := by
  apply returns_of_model w mem s timeout H
  intro m' _
  rcases recvModel_cases w mem msize s pdu timeout with
    ⟨h, e⟩ | ⟨_, hneg, e⟩ | ⟨_, hneg, hl, e⟩ | ⟨_, hneg, hl, e⟩ | ⟨_, hneg, h8, hmax, hm, e⟩ | ⟨hs, hneg, hl, hm, e⟩ |
    ⟨_, hneg, h8, hmax, hm, hneg2, e⟩ | ⟨hs, hneg, h8, hmax, hm, hneg2, e⟩
  · rw [e]; simp
  · rw [e]
    rcases transportErr_sock_cases (rc1 w) (world1 w s timeout) [recv1 timeout s] s (buf1 w mem pdu) with
      ⟨e1, e2⟩ | ⟨st, e1, e2⟩
    · rw [e1, e2]; simp [recv1]
    · rw [e1, e2]; exact ⟨by simp [recv1, stateCall], Or.inr (Or.inr ⟨st, s, 1, rfl, rfl, rfl⟩)⟩
  · rw [e]; exact ⟨by simp [recv1, reportCall, stateCall], Or.inr (Or.inr ⟨_, _, 2, rfl, rfl, rfl⟩)⟩
  · rw [e]; exact ⟨by simp [recv1, reportCall, stateCall], Or.inr (Or.inr ⟨_, _, 2, rfl, rfl, rfl⟩)⟩
  · rw [e]; exact ⟨by simp [recv1, reportCall], Or.inr (Or.inl rfl)⟩
  · rw [e]
    cases hc : checkSize (rawOf (hdr1 w) (pay2 w))
    · rw [finish_bad _ _ _ _ _ _ _ _ hc]
      exact ⟨by simp [recv1, reportCall, stateCall], Or.inr (Or.inr ⟨_, _, 2, rfl, rfl, rfl⟩)⟩
    · rw [finish_ok _ _ _ _ _ _ _ _ hc]
      exact ⟨by simp [recv1, footerCall], Or.inr (Or.inl rfl)⟩
  · rw [e]
    rcases transportErr_sock_cases (rc2 w) (world2 w s timeout) [recv1 timeout s, recv2 (hdr1 w) (sock1 w s)]
      (sock1 w s) (buf2 w mem pdu) with ⟨e1, e2⟩ | ⟨st, e1, e2⟩
    · rw [e1, e2]; simp [recv1, recv2]
    · rw [e1, e2]; exact ⟨by simp [recv1, recv2, stateCall], Or.inr (Or.inr ⟨st, _, 2, rfl, rfl, rfl⟩)⟩
  · rw [e]
    cases hc : checkSize (rawOf (hdr1 w) (pay2 w))
    · rw [finish_bad _ _ _ _ _ _ _ _ hc]
      exact ⟨by simp [recv1, recv2, reportCall, stateCall], Or.inr (Or.inr ⟨_, _, 3, rfl, rfl, rfl⟩)⟩
    · rw [finish_ok _ _ _ _ _ _ _ _ hc]
      exact ⟨by simp [recv1, recv2, footerCall], Or.inr (Or.inl rfl)⟩

/-- the second receive is made (`receive_pdu_lengths`) -/
def SecondReceive : Prop :=
  (rc1 w).slt 0#32 = false ∧ 8 < lenField (hdr1 w) ∧ lenField (hdr1 w) ≤ 3248 ∧ ¬ Mismatch w s
instance : Decidable (SecondReceive w s) := by unfold SecondReceive; exact inferInstance

/-- **The buffer when no PDU is delivered (C04/C14):** the bytes of the first answer at `pdu … pdu+8` - AS RECEIVED, also
    after a failed size check, for which the header had been converted in place and is converted back -, the bytes of the
    second answer (if that receive was made) at `pdu+8 … pdu+L` (`L = lenField (hdr1 w)`, the length field of the first answer), everything else as before the call. -/
theorem receive_pdu_buffer_on_error (H : Contract msize pdu pdu_len) (hs : s.state ≠ 9#32) :
    Returns w mem msize s pdu timeout pdu_len (fun rc _ m' _ =>
      rc ≠ 0#32 → ∀ a, a < msize → m' a = (if SecondReceive w s then buf2 w mem pdu else buf1 w mem pdu) a) := by
  apply returns_of_model w mem s timeout H
  intro m' hmem
  rcases recvModel_cases w mem msize s pdu timeout with
    ⟨h, e⟩ | ⟨_, hneg, e⟩ | ⟨_, hneg, hl, e⟩ | ⟨_, hneg, hl, e⟩ | ⟨_, hneg, h8, hmax, hm, e⟩ | ⟨_, hneg, hl, hm, e⟩ |
    ⟨_, hneg, h8, hmax, hm, hneg2, e⟩ | ⟨_, hneg, h8, hmax, hm, hneg2, e⟩
  · exact absurd h hs
  · rw [e] at hmem ⊢; simp only [transportErr_mem] at hmem
    intro _ a ha; rw [hmem a ha, if_neg (fun h : SecondReceive w s => by have := h.1; rw [hneg] at this; cases this)]
  · rw [e] at hmem ⊢
    intro _ a ha; rw [hmem a ha, if_neg (fun h : SecondReceive w s => by have := h.2.1; have := h.2.2.1; omega)]; rfl
  · rw [e] at hmem ⊢
    intro _ a ha; rw [hmem a ha, if_neg (fun h : SecondReceive w s => by have := h.2.1; have := h.2.2.1; omega)]; rfl
  · rw [e] at hmem ⊢
    intro _ a ha; rw [hmem a ha, if_neg (fun h : SecondReceive w s => h.2.2.2 hm)]
  · rw [e] at hmem ⊢
    cases hc : checkSize (rawOf (hdr1 w) (pay2 w))
    · rw [finish_bad _ _ _ _ _ _ _ _ hc] at hmem ⊢
      intro _ a ha; rw [hmem a ha, if_neg (fun h : SecondReceive w s => by have := h.2.1; have := h.2.2.1; omega)]; rfl
    · rw [finish_ok _ _ _ _ _ _ _ _ hc]; intro h; exact absurd rfl h
  · rw [e] at hmem ⊢; simp only [transportErr_mem] at hmem
    intro _ a ha; rw [hmem a ha, if_pos (show SecondReceive w s from ⟨hneg, h8, hmax, hm⟩)]
  · rw [e] at hmem ⊢
    cases hc : checkSize (rawOf (hdr1 w) (pay2 w))
    · rw [finish_bad _ _ _ _ _ _ _ _ hc] at hmem ⊢
      intro _ a ha; rw [hmem a ha, if_pos (show SecondReceive w s from ⟨hneg, h8, hmax, hm⟩)]; rfl
    · rw [finish_ok _ _ _ _ _ _ _ _ hc]; intro h; exact absurd rfl h

end cases

/-! ## concrete worlds, evaluated on the translated C text itself (not on the model) -/

/-- a socket in state 2 (RTR_RESET; any state but RTR_SHUTDOWN behaves alike here), given version and whether the next PDU is the first of the connection -/
def sockEx (version : BitVec 32) (first : Bool) : Sock := { C.S_rtr_socket.zero with state := 2#32, version := version, has_received_pdus := !first }

/-- the world that gives the listed answers (return code, bytes), then zeros; a state change leaves state 99 -/
def worldEx (s : Sock) (answers : List (BitVec 64 × List (BitVec 8))) : XW :=
  { ext := fun i => match answers[i]? with
      | some (rc, buf) => { rc := rc, aux := 0#64, st := { s with state := 99#32 }, buf := buf }
      | none => { rc := 0#64, aux := 0#64, st := { s with state := 99#32 }, buf := [] } }

structure RecvObs where
  rc : BitVec 32
  state : BitVec 32
  version : BitVec 32
  received : Bool
  buf : List (BitVec 8)
  calls : List (String × List (BitVec 64))
deriving DecidableEq

def observe (n : Nat) (r : Option (BitVec 32 × Sock × Mem × XW)) : Option RecvObs :=
  r.map fun (rc, s, m, w) => ⟨rc, s.state, s.version, s.has_received_pdus, (List.range n).map m,
    w.trace.map fun c => (c.1, c.2.1)⟩

/-- run on a 3248-byte buffer at address 0 that holds 0xEE everywhere, timeout 5 -/
def runEx (s : Sock) (answers : List (BitVec 64 × List (BitVec 8))) (n : Nat) : Option RecvObs :=
  observe n (C.rtr_receive_pdu (worldEx s answers) (fun _ => 0xEE#8) 3248 s 0 3248#64 5#64)

/-- a well-formed 12-byte Serial Notify (version 1) in two receives: delivered, no report, no state change; the footer
    conversion (an external call here: the world's third answer) leaves its bytes -/
example : runEx (sockEx 1#32 false)
    [(0#64, [1, 0, 0, 7, 0, 0, 0, 12]), (0#64, [0, 0, 0, 42]), (0#64, [1, 0, 7, 0, 12, 0, 0, 0, 42, 0, 0, 0])] 13 =
    some ⟨0#32, 2#32, 1#32, true, [1, 0, 7, 0, 12, 0, 0, 0, 42, 0, 0, 0, 0],
      [("tr_recv_all", [8#64, 5#64]), ("tr_recv_all", [4#64, 60#64]), ("rtr_pdu_footer_to_host_byte_order", [])]⟩ := by
  decide +kernel

/-- a header whose length field is 7: rejected before anything else is received; CORRUPT_DATA (0) report with the
    "length value too small" text (56 bytes), echoing the header as received; ERROR_FATAL; RTR_ERROR -/
example : runEx (sockEx 1#32 false) [(0#64, [1, 0, 0, 7, 0, 0, 0, 7])] 9 =
    some ⟨4294967295#32, 99#32, 1#32, true, [1, 0, 0, 7, 0, 0, 0, 7, 0xEE],
      [("tr_recv_all", [8#64, 5#64]),
       ("rtr_send_error_pdu_from_network", [8#64, 0#64, 56#64, 1#64, 0#64, 0#64, 7#64, 0#64, 0#64, 0#64, 7#64]),
       ("rtr_change_socket_state", [7#64])]⟩ := by
  decide +kernel

/-- length 3249 = 0x0CB1: one more than the buffer holds - rejected before the payload is received; the code sent is
    CORRUPT_DATA (0) with the "PDU too big" text (42 bytes) -/
example : runEx (sockEx 1#32 false) [(0#64, [1, 4, 0, 0, 0, 0, 0x0C, 0xB1])] 9 =
    some ⟨4294967295#32, 99#32, 1#32, true, [1, 4, 0, 0, 0, 0, 0x0C, 0xB1, 0xEE],
      [("tr_recv_all", [8#64, 5#64]),
       ("rtr_send_error_pdu_from_network", [8#64, 0#64, 42#64, 1#64, 4#64, 0#64, 0#64, 0#64, 0#64, 0x0C#64, 0xB1#64]),
       ("rtr_change_socket_state", [7#64])]⟩ := by
  decide +kernel

example : runEx (sockEx 1#32 false) [(0#64, [1, 4, 0, 0, 0xFF, 0xFF, 0xFF, 0xFF])] 9 =
    some ⟨4294967295#32, 99#32, 1#32, true, [1, 4, 0, 0, 0xFF, 0xFF, 0xFF, 0xFF, 0xEE],
      [("tr_recv_all", [8#64, 5#64]),
       ("rtr_send_error_pdu_from_network",
         [8#64, 0#64, 42#64, 1#64, 4#64, 0#64, 0#64, 0xFF#64, 0xFF#64, 0xFF#64, 0xFF#64]),
       ("rtr_change_socket_state", [7#64])]⟩ := by
  decide +kernel

/-- an Error Report of 16 bytes whose nested length is 0xFFFFFFF0: the size check rejects it without reading outside the
    16 bytes; the header, converted to host order for the check, is converted back and echoed as received (F12) -/
example : runEx (sockEx 1#32 false)
    [(0#64, [1, 10, 0, 2, 0, 0, 0, 16]), (0#64, [0xFF, 0xFF, 0xFF, 0xF0, 0, 0, 0, 0])] 17 =
    some ⟨4294967295#32, 99#32, 1#32, true, [1, 10, 0, 2, 0, 0, 0, 16, 0xFF, 0xFF, 0xFF, 0xF0, 0, 0, 0, 0, 0xEE],
      [("tr_recv_all", [8#64, 5#64]), ("tr_recv_all", [8#64, 60#64]),
       ("rtr_send_error_pdu_from_network", [8#64, 0#64, 56#64, 1#64, 10#64, 0#64, 2#64, 0#64, 0#64, 0#64, 16#64]),
       ("rtr_change_socket_state", [7#64])]⟩ := by
  decide +kernel

/-- a version-0 Serial Notify as the FIRST PDU on a version-1 socket: live downgrade to 0, then delivered -/
example : runEx (sockEx 1#32 true)
    [(0#64, [0, 0, 0, 7, 0, 0, 0, 12]), (0#64, [0, 0, 0, 42]), (0#64, [])] 1 =
    some ⟨0#32, 2#32, 0#32, true, [0],
      [("tr_recv_all", [8#64, 5#64]), ("tr_recv_all", [4#64, 60#64]), ("rtr_pdu_footer_to_host_byte_order", [])]⟩ := by
  decide +kernel

/-- the same PDU on a socket that has received PDUs before: refused with UNEXPECTED_PROTOCOL_VERSION (8), nothing of
    its payload is received, version and state stay -/
example : runEx (sockEx 1#32 false) [(0#64, [0, 0, 0, 7, 0, 0, 0, 12]), (0#64, [0, 0, 0, 42])] 9 =
    some ⟨4294967295#32, 2#32, 1#32, true, [0, 0, 0, 7, 0, 0, 0, 12, 0xEE],
      [("tr_recv_all", [8#64, 5#64]),
       ("rtr_send_error_pdu_from_network", [8#64, 8#64, 0#64, 0#64, 0#64, 0#64, 7#64, 0#64, 0#64, 0#64, 12#64])]⟩ := by
  decide +kernel

/-- a version-0 ERROR REPORT as first PDU: no downgrade (type 10), no refusal either -/
example : runEx (sockEx 1#32 true)
    [(0#64, [0, 10, 0, 2, 0, 0, 0, 16]), (0#64, [0, 0, 0, 0, 0, 0, 0, 0]), (0#64, [])] 0 =
    some ⟨0#32, 2#32, 1#32, true, [],
      [("tr_recv_all", [8#64, 5#64]), ("tr_recv_all", [8#64, 60#64]), ("rtr_pdu_footer_to_host_byte_order", [])]⟩ := by
  decide +kernel

/-- transport errors: −2 (TR_WOULDBLOCK) on the second receive is handed through, nothing else happens; −1 on the first
    leads to ERROR_TRANSPORT; −7 (not a code of the transport API) to ERROR_FATAL and RTR_ERROR -/
example : runEx (sockEx 1#32 false) [(0#64, [1, 0, 0, 7, 0, 0, 0, 12]), (0xFFFFFFFFFFFFFFFE#64, [9, 9])] 0 =
    some ⟨4294967294#32, 2#32, 1#32, true, [], [("tr_recv_all", [8#64, 5#64]), ("tr_recv_all", [4#64, 60#64])]⟩ := by
  decide +kernel
example : runEx (sockEx 1#32 false) [(0xFFFFFFFFFFFFFFFF#64, [])] 0 =
    some ⟨4294967295#32, 99#32, 1#32, true, [], [("tr_recv_all", [8#64, 5#64]), ("rtr_change_socket_state", [8#64])]⟩ := by
  decide +kernel
example : runEx (sockEx 1#32 false) [(0xFFFFFFFFFFFFFFF9#64, [])] 0 =
    some ⟨4294967295#32, 99#32, 1#32, true, [], [("tr_recv_all", [8#64, 5#64]), ("rtr_change_socket_state", [7#64])]⟩ := by
  decide +kernel

/-- THE BOUND IS SHARP: with one byte less than the contract promises (an object of 3247 bytes) a PDU announcing 3248 bytes
    drives the C text out of its defined fragment: the payload receive would write `pdu[3247]` -/
example : observe 0 (C.rtr_receive_pdu (worldEx (sockEx 1#32 false) [(0#64, [1, 4, 0, 0, 0, 0, 0x0C, 0xB0])])
    (fun _ => 0xEE#8) 3247 (sockEx 1#32 false) 0 3248#64 5#64) = none := by
  decide +kernel
/-- ... and with the full 3248 bytes the same header is fine (the payload is asked for: 3240 bytes) -/
example : (observe 0 (C.rtr_receive_pdu (worldEx (sockEx 1#32 false) [(0#64, [1, 4, 0, 0, 0, 0, 0x0C, 0xB0]),
      (0xFFFFFFFFFFFFFFFE#64, [])])
    (fun _ => 0xEE#8) 3248 (sockEx 1#32 false) 0 3248#64 5#64)).map (·.calls) =
    some [("tr_recv_all", [8#64, 5#64]), ("tr_recv_all", [3240#64, 60#64])] := by
  decide +kernel

end Rtr.CLink.Recv
