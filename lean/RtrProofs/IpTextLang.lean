/-
  IpTextLang: every well-formed render (string of the RFC 4291 text language = what the model of
  `inet_pton` accepts) is parsed by the model of `lrtr_ipv6_str_to_addr` to the address it denotes.
-/
import RtrProofs.IpTextParse

namespace Rtr.IpText

theorem pushAll_append (st : PSt) (a b : List Nat) : pushAll st (a ++ b) = pushAll (pushAll st a) b := by
  simp [pushAll, List.foldl_append]

theorem quadStr_ne_nil (q : Nat × Nat × Nat × Nat) : quadStr q ≠ [] :=
  fun h => List.cons_ne_nil _ _ (List.append_eq_nil_iff.mp h).2

theorem groupOk_ne_nil {g : Str} (h : groupOk g = true) : g ≠ [] := by
  obtain ⟨c, cs, rfl, _⟩ := groupOk_cons h
  simp

theorem run_items (chk : Bool) (r : Render) (gs : List Str) (st : PSt)
    (hg : ∀ g ∈ gs, groupOk g = true)
    (hq : ∀ q, r.quad = some q → quadOk q = true ∧
        (st.i + gs.length = 6 ∨ (st.i + gs.length < 6 ∧ st.hfil.isSome = true)))
    (hl : st.i + gs.length ≤ 8) :
    run chk (joinC (gs ++ r.quadItems)) st = finish chk (pushAll st (gs.map groupVal ++ r.quadVals)) := by
  cases hquad : r.quad with
  | none =>
    simp only [Render.quadItems, Render.quadVals, hquad, List.append_nil]
    rcases List.eq_nil_or_concat gs with h | ⟨init, last, h⟩
    · subst h; simp [joinC, run_nil, pushAll]
    · rw [List.concat_eq_append] at h
      subst h
      have hlast := hg last (by simp)
      simp only [List.length_append, List.length_cons, List.length_nil] at hl
      rw [joinC_snoc, run_groups chk init last st (fun g h => hg g (by simp [h])) (groupOk_ne_nil hlast) (by omega)]
      rw [run_group_end chk hlast (by rw [pushAll_i]; simp; omega)]
      simp [pushAll]
  | some q =>
    obtain ⟨hqo, hpos⟩ := hq q hquad
    simp only [Render.quadItems, Render.quadVals, hquad]
    rw [joinC_snoc, run_groups chk gs (quadStr q) st hg (quadStr_ne_nil q) hl]
    rw [run_quad chk hqo (by rw [pushAll_i, pushAll_hfil]; simpa using hpos)]
    simp [pushAll, quadWords]

theorem parse6_nocolon (chk : Bool) {c : Char} (cs : Str) (hc : c ≠ ':') :
    parse6Core chk (c :: cs) = run chk (c :: cs) initSt := by
  unfold parse6Core
  split
  · rename_i rest h; injection h with h1 _; exact absurd h1 hc
  · rfl

theorem parse6_joinC (chk : Bool) {l : List Str} (hne : l ≠ []) (hl : ∀ g ∈ l, groupOk g = true) (l' : List Str)
    (t : Str) : parse6Core chk (joinC (l ++ l') ++ t) = run chk (joinC (l ++ l') ++ t) initSt := by
  obtain ⟨g, gs, rfl⟩ := List.exists_cons_of_ne_nil hne
  obtain ⟨c, cs, rfl, hc⟩ := groupOk_cons (hl g (by simp))
  rw [List.cons_append]
  cases gs ++ l' with
  | nil => exact parse6_nocolon chk _ hc
  | cons x xs => exact parse6_nocolon chk _ hc

theorem parse6_gap0 (chk : Bool) (tail : Str) :
    parse6Core chk (':' :: ':' :: tail) = run chk tail { initSt with hfil := some 0 } := by
  show loop chk _ (':' :: tail) initSt = _
  rw [loop_eq_run chk _ _ _ (by simp), run_colon chk tail initSt rfl]
  rfl

theorem wf_unpack {r : Render} (h : r.WF) :
    (∀ g ∈ r.pre, groupOk g = true) ∧ (∀ g ∈ r.post, groupOk g = true) ∧ (∀ q, r.quad = some q → quadOk q = true) ∧
    (if r.gap then r.count ≤ 7 else r.post = [] ∧ r.count = 8) := by
  unfold Render.WF Render.wfB at h
  simp only [Bool.and_eq_true, List.all_eq_true] at h
  obtain ⟨⟨⟨h1, h2⟩, h3⟩, h4⟩ := h
  refine ⟨h1, h2, ?_, ?_⟩
  · intro q hq; simpa [hq] using h3
  · cases hg : r.gap <;> simp [hg] at h4 ⊢ <;> exact h4

theorem quadVals_length (r : Render) : r.quadVals.length = if r.quad.isSome then 2 else 0 := by
  unfold Render.quadVals
  cases r.quad <;> simp [quadWords]

/-- by the repaired (`chk = true`) and by the original (`chk = false`) parser alike -/
theorem parse6Core_accepts (chk : Bool) (r : Render) (h : r.WF) : parse6Core chk r.toString = .ok r.value := by
  obtain ⟨hpre, hpost, hquad, hcount⟩ := wf_unpack h
  have hqv := quadVals_length r
  have hq2 : r.quadVals.length ≤ 2 := by
    rw [hqv]
    split <;> omega
  cases hgap : r.gap with
  | false =>
    simp only [hgap] at hcount
    obtain ⟨hp, hc⟩ := hcount
    simp only [Render.count, hp, List.length_nil, Nat.add_zero] at hc
    simp only [Render.toString, Render.value, hgap, Bool.false_eq_true, if_false]
    have hne : r.pre ≠ [] := by
      intro e; rw [e] at hc; simp at hc; omega
    have hstart := parse6_joinC chk hne hpre r.quadItems []
    rw [List.append_nil] at hstart
    rw [hstart]
    rw [run_items chk r r.pre initSt hpre ?_ (by simp [initSt]; omega)]
    · exact finish_nogap chk (shape_pushAll _ shape_init (by simp; omega)) (by rw [pushAll_hfil]; rfl) (by simp; omega)
    · intro q hq
      refine ⟨hquad q hq, Or.inl ?_⟩
      rw [hqv, hq] at hc
      simp [initSt] at hc ⊢; omega
  | true =>
    simp only [hgap, if_true] at hcount
    simp only [Render.count] at hcount
    simp only [Render.toString, Render.value, hgap, if_true, Render.count]
    -- state after the groups before `::` and the `::` itself
    let st1 : PSt := { pushAll initSt (r.pre.map groupVal) with hfil := some r.pre.length }
    have hreach : parse6Core chk (joinC r.pre ++ ':' :: ':' :: joinC (r.post ++ r.quadItems)) =
        run chk (joinC (r.post ++ r.quadItems)) st1 := by
      rcases List.eq_nil_or_concat r.pre with he | ⟨init, last, he⟩
      · simp only [st1, he, joinC, List.nil_append, List.map_nil, List.length_nil]
        exact parse6_gap0 chk _
      · rw [List.concat_eq_append] at he
        have hall : ∀ g ∈ init ++ [last], groupOk g = true := by rw [← he]; exact hpre
        have hstart := parse6_joinC chk (l := r.pre) (by simp [he]) hpre [] (':' :: ':' :: joinC (r.post ++ r.quadItems))
        rw [List.append_nil] at hstart
        -- text = colonTerm pre ++ ':' :: tail
        have e1 : joinC r.pre ++ ':' :: ':' :: joinC (r.post ++ r.quadItems) =
            colonTerm (init ++ [last]) ++ ':' :: joinC (r.post ++ r.quadItems) := by
          rw [he, joinC_snoc]; simp [colonTerm]
        rw [hstart, e1]
        have hlen : (init ++ [last]).length ≤ 8 := by rw [← he]; omega
        rw [run_groups chk (init ++ [last]) _ initSt hall (by simp) (by simp [initSt] at hlen ⊢; omega)]
        rw [run_colon chk _ _ (by rw [pushAll_hfil]; rfl)]
        simp only [st1, he, pushAll_i, initSt, Nat.zero_add, List.length_map]
    rw [hreach]
    have hsh1 : Shape st1 (r.pre.map groupVal) := by
      have := shape_pushAll (r.pre.map groupVal) shape_init (by simp; omega)
      exact ⟨this.words, this.i, this.le⟩
    have hi1 : st1.i = r.pre.length := by rw [hsh1.i]; simp
    rw [run_items chk r r.post st1 hpost ?_ (by rw [hi1]; omega)]
    · have hsh : Shape (pushAll st1 (r.post.map groupVal ++ r.quadVals))
          (r.pre.map groupVal ++ (r.post.map groupVal ++ r.quadVals)) :=
        shape_pushAll _ hsh1 (by simp; omega)
      have := finish_gap chk (r.pre.map groupVal) (r.post.map groupVal ++ r.quadVals) hsh
        (by rw [pushAll_hfil]; simp [st1])
      rw [this]
      simp [Nat.add_assoc]
    · intro q hq
      refine ⟨hquad q hq, Or.inr ⟨?_, rfl⟩⟩
      rw [hqv, hq] at hcount
      rw [hi1]; simp at hcount; omega

end Rtr.IpText
