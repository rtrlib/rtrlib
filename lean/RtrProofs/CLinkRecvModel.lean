/-
  CLinkRecvModel: the hand-written model `Rtr.P.receivePdu` (RtrModel/Rtr.lean, over a scripted transport; the
  model the C04/C13/C14 theorems are about) against `rtr_receive_pdu` as translated from the C text
  (RtrProofs/CLinkRecv.lean): both return the same - RTR_SUCCESS with the same PDU bytes, or the same error code - whenever
  the world answers the two receives as the scripted transport does.
  At the end, behind the link of the header conversion (`Recv.to_host_eq`): the conversion in front of the size check
  (`rtr_pdu_header_to_host_byte_order_view`, `rtr_convert_then_check_size_eq`).
-/
import RtrProofs.CLinkRecv
import RtrProofs.Receive
namespace Rtr.CLink.Recv
open Rtr Rtr.Gen Rtr.P Rtr.CLink

theorem hdrList_getD (b : List (BitVec 8)) (i : Nat) (h : i < 8) :
    ((takeD b 8).map BitVec.toNat).getD i 0 = (hdrB b i).toNat := by
  rw [List.getD_eq_getElem?_getD, List.getElem?_map, takeD_getElem? b 8 i h]
  rfl

theorem hdrList_lenOf (b : List (BitVec 8)) : lenOf ((takeD b 8).map BitVec.toNat) = lenField b := by
  unfold lenOf be32 lenField
  rw [hdrList_getD b 4 (by decide), hdrList_getD b 5 (by decide), hdrList_getD b 6 (by decide),
    hdrList_getD b 7 (by decide)]
theorem hdrList_verOf (b : List (BitVec 8)) : verOf ((takeD b 8).map BitVec.toNat) = (hdrB b 0).toNat :=
  hdrList_getD b 0 (by decide)
theorem hdrList_typeOf (b : List (BitVec 8)) : typeOf ((takeD b 8).map BitVec.toNat) = (hdrB b 1).toNat :=
  hdrList_getD b 1 (by decide)

/-- what the hand-written model returns for an outcome of `recvModel` -/
def resOf (o : Out) (raw : List Nat) : RecvRes := if o.rc = 0#32 then .ok raw else .rc o.rc.toInt

/-- the rule `Agrees.ite` of the walk of `receive_pdu_eq_model`, for the result of the hand-written model against that of
    `recvModel`: a test that both make -/
theorem resOf_ite {c c' : Prop} [Decidable c] [Decidable c'] {x y : RecvRes × Conn × Net} {o1 o2 : Out} {raw : List Nat}
    (hcc : c ↔ c') (h1 : c' → x.1 = resOf o1 raw) (h2 : ¬ c' → y.1 = resOf o2 raw) :
    (if c then x else y).1 = resOf (if c' then o1 else o2) raw := by
  by_cases h : c'
  · rw [if_pos h, if_pos (hcc.mpr h)]
    exact h1 h
  · rw [if_neg h, if_neg (fun hc => h (hcc.mp hc))]
    exact h2 h

theorem transport_agrees (x : BitVec 32) (c : Conn) (n : Net) (own : Nat) (w : XW) (cs : List Call) (s : Sock) (m : Mem)
    (raw : List Nat) : (recvTransportError c n own x.toInt).1 = resOf (transportErr x w cs s m) raw := by
  unfold recvTransportError transportErr
  refine resOf_ite (BitVec.toInt_inj (y := 4294967295#32)) (fun _ => rfl) (fun _ => ?_)
  refine resOf_ite (BitVec.toInt_inj (y := 4294967294#32)) (fun _ => rfl) (fun _ => ?_)
  refine resOf_ite (BitVec.toInt_inj (y := 4294967293#32)) (fun _ => rfl) (fun _ => ?_)
  exact resOf_ite (BitVec.toInt_inj (y := 4294967292#32)) (fun _ => rfl) (fun _ => rfl)

theorem resOf_check (raw : List Nat) (x y : RecvRes × Conn × Net) (hx : x.1 = .rc (-1)) (hy : y.1 = .ok raw) :
    (if (!checkSize raw) = true then x else y).1 = if checkSize raw = true then .ok raw else .rc (-1) := by
  cases checkSize raw
  · exact hx
  · exact hy

theorem downgrade_agrees (c : Conn) (s : Sock) (b : List (BitVec 8))
    (hver : c.version = s.version.toNat) (hrecv : c.hasReceived = s.has_received_pdus) :
    (P.downgraded c ((takeD b 8).map BitVec.toNat)).version = (downgrade s b).version.toNat ∧
    (P.downgraded c ((takeD b 8).map BitVec.toNat)).state = c.state := by
  unfold P.downgraded downgrade
  have e10 : (hdrB b 1).toNat ≠ 10 ↔ hdrB b 1 ≠ 10#8 := not_congr (toNat_eq_lit _ 10 (by decide))
  simp only [hdrList_verOf, hdrList_typeOf, hrecv, hver, toNat_eq_lit (w := 32) _ 1 (by decide), toNat_eq_lit (w := 8) _ 0 (by decide),
    e10]
  rcases s.has_received_pdus with _ | _
  · by_cases hd : s.version = 1#32 ∧ hdrB b 0 = 0#8 ∧ hdrB b 1 ≠ 10#8
    · simp [hd]
    · simp [hd]
  · simp [hver]

theorem mismatch_agrees (w : XW) (s : Sock) (v : Nat) (hv : v = (sock1 w s).version.toNat) :
    (verOf ((takeD (hdr1 w) 8).map BitVec.toNat) ≠ v ∧ typeOf ((takeD (hdr1 w) 8).map BitVec.toNat) ≠ 10) ↔
      Mismatch w s := by
  unfold Mismatch
  rw [hdrList_verOf, hdrList_typeOf, hv]
  have e10 : (hdrB (hdr1 w) 1).toNat ≠ 10 ↔ hdrB (hdr1 w) 1 ≠ 10#8 := not_congr (toNat_eq_lit _ 10 (by decide))
  have : (hdrB (hdr1 w) 0).toNat ≠ (sock1 w s).version.toNat ↔ BitVec.setWidth 32 (hdrB (hdr1 w) 0) ≠ (sock1 w s).version := by
    rw [← zext8_toNat (hdrB (hdr1 w) 0)]; exact not_congr BitVec.toNat_inj
  rw [this, e10]

section agree
variable (w : XW) (mem : Mem) (msize : Nat) (s : Sock) (pdu : Nat) (timeout : BitVec 64)

theorem rawOf_eq_append (b b2 : List (BitVec 8)) :
    rawOf b b2 = (takeD b 8).map BitVec.toNat ++ (takeD b2 (lenField b - 8)).map BitVec.toNat := by
  unfold rawOf; rw [List.map_append]

theorem resOf_finish (w : XW) (cs : List Call) (s : Sock) (m : Mem) (msize pdu : Nat) (b b2 : List (BitVec 8)) :
    resOf (finish w cs s m msize pdu b b2) (rawOf b b2) =
      if checkSize (rawOf b b2) then .ok (rawOf b b2) else .rc (-1) := by
  cases hc : checkSize (rawOf b b2)
  · rw [finish_bad _ _ _ _ _ _ _ _ hc]; rfl
  · rw [finish_ok _ _ _ _ _ _ _ _ hc]; rfl

/-- The hand-written model `Rtr.P.receivePdu` (RtrModel/Rtr.lean: scripted transport, used by the
    C04/C13/C14 theorems) and the model of the translated C text return the same - for every socket/connection pair that
    agree on state-is-SHUTDOWN, version, has_received_pdus, and every world whose two receive answers are those of the
    scripted transport (return codes, and the bytes when the receive succeeds; no stop request observed). -/
theorem receivePdu_agrees (c : Conn) (n : Net) (own : Nat) (timeoutI : Int)
    (hstate : c.state = .shutdown ↔ s.state = 9#32)
    (hver : c.version = s.version.toNat) (hrecv : c.hasReceived = s.has_received_pdus)
    (rcA : Int) (hdrA : List Nat) (n1 : Net)
    (h1 : recvAll n 8 timeoutI = (rcA, hdrA, n1, false))
    (hrc1 : (rc1 w).toInt = rcA)
    (hb1 : 0 ≤ rcA → hdrA = (takeD (hdr1 w) 8).map BitVec.toNat)
    (rcB : Int) (body : List Nat) (n2 : Net)
    (h2 : recvAll n1 (lenField (hdr1 w) - 8) Gen.RTR_RECV_TIMEOUT = (rcB, body, n2, false))
    (hrc2 : (rc2 w).toInt = rcB)
    (hb2 : 0 ≤ rcB → body = (takeD (pay2 w) (lenField (hdr1 w) - 8)).map BitVec.toNat) :
    (receivePdu c n own timeoutI).1 =
      resOf (recvModel w mem msize s pdu timeout) (rawOf (hdr1 w) (pay2 w)) := by
  have hd := downgrade_agrees c s (hdr1 w) hver hrecv
  rw [receivePdu_eq, h1]
  unfold recvModel
  conv => zeta
  refine resOf_ite hstate (fun _ => rfl) (fun hs => ?_)
  refine resOf_ite (by rw [← hrc1]; exact (slt0_iff _).symm) (fun hneg => ?_) (fun hneg => ?_)
  · rw [← hrc1]
    exact transport_agrees _ _ _ _ _ _ _ _ _
  have hge : 0 ≤ rcA := by
    rw [← hrc1]
    exact (slt0_false_iff _).mp (Bool.eq_false_iff.mpr hneg)
  rw [hb1 hge]
  unfold recvStage2
  conv => zeta
  rw [hdrList_lenOf]
  refine resOf_ite Iff.rfl (fun _ => rfl) (fun hl8 => ?_)
  refine resOf_ite Iff.rfl (fun _ => rfl) (fun hmax => ?_)
  refine resOf_ite (mismatch_agrees w s _ hd.1) (fun _ => rfl) (fun hm => ?_)
  -- behind the version check the two models are cut differently (`recvStage3` receives zero bytes where `recvModel`
  -- tests the length): by cases as `recvModel` has them
  have hst : ¬ (P.downgraded c ((takeD (hdr1 w) 8).map BitVec.toNat)).state = .shutdown :=
    fun h => hs (hstate.mp (hd.2 ▸ h))
  unfold recvStage3
  conv => zeta
  rw [hdrList_lenOf]
  by_cases hl : lenField (w.ext w.n).buf = 8
  · have er : rawOf (hdr1 w) [] = (takeD (hdr1 w) 8).map BitVec.toNat ++ [] := by
      rw [rawOf_eq_append, hl]
      rfl
    rw [if_pos hl, ← rawOf_nil _ (pay2 w) hl, resOf_finish, er]
    simp only [hl, Nat.sub_self, gt_iff_lt, Nat.lt_irrefl, false_and, if_false, applyStop, Bool.false_eq_true,
      Int.lt_irrefl]
    exact resOf_check _ _ _ rfl rfl
  · have hpos : lenField (w.ext w.n).buf - 8 > 0 := by omega
    rw [if_neg hl, if_neg (show ¬ (downgrade s (w.ext w.n).buf).state = 9#32 by rw [downgrade_state]; exact hs)]
    simp only [hpos, hst, and_false, if_false, if_true, h2, applyStop, Bool.false_eq_true, push]
    refine resOf_ite (by rw [← hrc2]; exact (slt0_iff _).symm) (fun _ => ?_) (fun hneg2 => ?_)
    · rw [← hrc2]
      exact transport_agrees _ _ _ _ _ _ _ _ _
    · have hge2 : 0 ≤ rcB := by
        rw [← hrc2]
        exact (slt0_false_iff _).mp (Bool.eq_false_iff.mpr hneg2)
      rw [resOf_finish, hb2 hge2, ← rawOf_eq_append]
      exact resOf_check _ _ _ rfl rfl

/-- ... and so does the translated C function itself, under the callers' contract -/
theorem receive_pdu_agrees_C {pdu_len : BitVec 64} (H : Contract msize pdu pdu_len)
    (c : Conn) (n : Net) (own : Nat) (timeoutI : Int)
    (hstate : c.state = .shutdown ↔ s.state = 9#32)
    (hver : c.version = s.version.toNat) (hrecv : c.hasReceived = s.has_received_pdus)
    (rcA : Int) (hdrA : List Nat) (n1 : Net)
    (h1 : recvAll n 8 timeoutI = (rcA, hdrA, n1, false))
    (hrc1 : (rc1 w).toInt = rcA)
    (hb1 : 0 ≤ rcA → hdrA = (takeD (hdr1 w) 8).map BitVec.toNat)
    (rcB : Int) (body : List Nat) (n2 : Net)
    (h2 : recvAll n1 (lenField (hdr1 w) - 8) Gen.RTR_RECV_TIMEOUT = (rcB, body, n2, false))
    (hrc2 : (rc2 w).toInt = rcB)
    (hb2 : 0 ≤ rcB → body = (takeD (pay2 w) (lenField (hdr1 w) - 8)).map BitVec.toNat) :
    Returns w mem msize s pdu timeout pdu_len (fun rc _ _ _ =>
      (receivePdu c n own timeoutI).1 =
        if rc = 0#32 then .ok (rawOf (hdr1 w) (pay2 w)) else .rc rc.toInt) := by
  apply returns_of_model w mem s timeout H
  intro _ _
  exact receivePdu_agrees w mem msize s pdu timeout c n own timeoutI hstate hver hrecv rcA hdrA n1 h1 hrc1 hb1 rcB body
    n2 h2 hrc2 hb2
end agree
set_option maxRecDepth 4000 in
/-- the hypotheses of `receivePdu_agrees` are satisfiable: a Serial Notify arriving in one segment, a world that answers
    the two receives with its header and its payload -/
example :
    let s : Sock := { C.S_rtr_socket.zero with state := 2#32, version := 1#32, has_received_pdus := true }
    let w : XW := { ext := fun i => if i = 0 then ⟨8#64, 0#64, s, [1, 0, 0, 7, 0, 0, 0, 12]⟩ else ⟨4#64, 0#64, s, [0, 0, 0, 42]⟩ }
    let c : Conn := { state := .established, version := 1, hasReceived := true }
    let n : Net := { tape := [.rx [1, 0, 0, 7, 0, 0, 0, 12, 0, 0, 0, 42]] }
    (c.state = .shutdown ↔ s.state = 9#32) ∧ c.version = s.version.toNat ∧ c.hasReceived = s.has_received_pdus ∧
    ∃ n1 n2, recvAll n 8 5 = (8, [1, 0, 0, 7, 0, 0, 0, 12], n1, false) ∧ (rc1 w).toInt = 8 ∧
      [1, 0, 0, 7, 0, 0, 0, 12] = (takeD (hdr1 w) 8).map BitVec.toNat ∧ lenField (hdr1 w) = 12 ∧
      recvAll n1 (lenField (hdr1 w) - 8) Gen.RTR_RECV_TIMEOUT = (4, [0, 0, 0, 42], n2, false) ∧ (rc2 w).toInt = 4 ∧
      [0, 0, 0, 42] = (takeD (pay2 w) (lenField (hdr1 w) - 8)).map BitVec.toNat := by
  refine ⟨by decide, by decide, rfl, _, _, rfl, by decide, by decide, by decide, rfl, by decide, by decide⟩

end Rtr.CLink.Recv

namespace Rtr.CLink
open Rtr Rtr.Gen Rtr.P

/-! ## the header conversion in front of the size check

`rtr_receive_pdu` converts a local copy of the header (`rtr_pdu_header_to_host_byte_order`, translated from the C text
as well), copies it back into the buffer and then calls `rtr_pdu_check_size` on the buffer; here the conversion is applied
to the buffer itself, which gives the same content at the check. The conversion touches bytes 2..7 only, so it does not
matter that the bytes behind the header arrive after it. -/

/-- the translated header conversion is defined on every buffer of at least 8 bytes and produces a host view of the
    received bytes (for ROUTER_KEY it leaves bytes 2, 3 alone, for every other type it swaps them: `hostHeader` is
    exact except for that) -/
theorem rtr_pdu_header_to_host_byte_order_view (raw : List Nat) (hb : ∀ x ∈ raw, x < 256) (msize : Nat)
    (h8 : 8 ≤ msize) :
    ∃ mem', C.rtr_pdu_header_to_host_byte_order (C.memOfList raw) msize 0 = some mem' ∧ HostView raw mem' := by
  have at_ (k : Nat) := Recv.hdrSwap_at (C.memOfList raw) 0 k
  simp only [Nat.zero_add] at at_
  refine ⟨_, Recv.to_host_eq _ _ _ (by omega), ?_, ?_, ?_, ?_⟩
  · exact Recv.hdrSwap_out _ _ _ (by omega)
  · exact Recv.hdrSwap_out _ _ _ (by omega)
  · rw [load32_toNat]
    simp only [Nat.reduceAdd, at_, Recv.perm_4, Recv.perm_5, Recv.perm_6, Recv.perm_7, memOfList_toNat hb]
    rfl
  · intro a ha
    exact Recv.hdrSwap_out _ _ _ (by omega)

/-- the C text of both steps, composed: header conversion of the received bytes, then the size check on the result,
    the object being the `lenOf raw` bytes the length field announces - defined, and the model's `checkSize raw` -/
theorem rtr_convert_then_check_size_eq (raw : List Nat) (hb : ∀ x ∈ raw, x < 256) (h8 : 8 ≤ lenOf raw) :
    (C.rtr_pdu_header_to_host_byte_order (C.memOfList raw) (lenOf raw) 0).bind
      (fun mem' => C.rtr_pdu_check_size mem' (lenOf raw) 0) = some (checkSize raw) := by
  obtain ⟨mem', e, hv⟩ := rtr_pdu_header_to_host_byte_order_view raw hb (lenOf raw) h8
  rw [e]; exact rtr_pdu_check_size_eq_view raw hb mem' hv h8

end Rtr.CLink
