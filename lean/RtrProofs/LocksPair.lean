/-
  LocksPair: two locks taken as ONE critical section (C06 across the two live tables).

  * `pairδ A B`: the automaton of the combined section of locks `A` then `B`
    (run over all paths of a program by `checkQ` / `acceptsProg`, RtrProofs/LocksChecker.lean):
        out  --acq W A-->  pend  --acq W B-->  done  --rel A-->  out
    `acq W B` is only accepted in `pend` (so: while the write lock of `A` is held, at most once
    per section), `rel A` is not accepted in `pend` (so: a write section of `A` always contains
    the write acquisition of `B`), `acq W A` only in `out`.
  * `pair_atomic` concerns `w` alone: `w` stands at a cut of its path (`Reach.accepted`), the phase reached there
    follows the lock set (`runQ_pair_held`), and from `out` to `out` the acquisitions balance (`runQ_pair_count`).
-/
import RtrProofs.Locks
import RtrProofs.LocksChecker

namespace Rtr.Locks

/-! ## The combined write section of two locks -/

/-- where a thread stands with respect to the combined section of locks `A`, `B` -/
inductive Phase where
  | out    -- not inside a write section of `A`
  | pend   -- inside a write section of `A`; `B` not yet write-acquired in it
  | done   -- inside a write section of `A`; `B` has been write-acquired in it
deriving DecidableEq, Repr, Inhabited

/-- `rel A` in `out` is the end of a READ section of `A`; everything the head comment does not name is indifferent -/
def pairδ (A B : Nat) (q : Phase) : Ev → Option Phase
  | .acq .W l =>
    if l = A then (match q with | .out => some .pend | _ => none)
    else if l = B then (match q with | .pend => some .done | _ => none)
    else some q
  | .rel l => if l = A then (match q with | .pend => none | _ => some .out) else some q
  | _ => some q

theorem pairδ_cases {A B : Nat} {q q' : Phase} {e : Ev} (h : pairδ A B q e = some q') :
    (e = .acq .W A ∧ q = .out ∧ q' = .pend) ∨
    (e = .acq .W B ∧ B ≠ A ∧ q = .pend ∧ q' = .done) ∨
    (e = .rel A ∧ q ≠ .pend ∧ q' = .out) ∨
    (q' = q ∧ e ≠ .acq .W A ∧ e ≠ .acq .W B ∧ e ≠ .rel A) := by
  cases e with
  | acq m l =>
    cases m with
    | R =>
      cases h
      exact Or.inr (Or.inr (Or.inr ⟨rfl, nofun, nofun, nofun⟩))
    | W =>
      simp only [pairδ] at h
      by_cases hA : l = A
      · subst hA
        rw [if_pos rfl] at h
        cases q <;> cases h
        exact Or.inl ⟨rfl, rfl, rfl⟩
      · rw [if_neg hA] at h
        by_cases hB : l = B
        · subst hB
          rw [if_pos rfl] at h
          cases q <;> cases h
          exact Or.inr (Or.inl ⟨rfl, hA, rfl, rfl⟩)
        · rw [if_neg hB] at h
          cases h
          exact Or.inr (Or.inr (Or.inr ⟨rfl, fun h => hA (by cases h; rfl), fun h => hB (by cases h; rfl), nofun⟩))
  | rel l =>
    simp only [pairδ] at h
    by_cases hA : l = A
    · subst hA
      rw [if_pos rfl] at h
      cases q <;> cases h
      · exact Or.inr (Or.inr (Or.inl ⟨rfl, nofun, rfl⟩))
      · exact Or.inr (Or.inr (Or.inl ⟨rfl, nofun, rfl⟩))
    · rw [if_neg hA] at h
      cases h
      exact Or.inr (Or.inr (Or.inr ⟨rfl, nofun, nofun, fun h => hA (by cases h; rfl)⟩))
  | rd | wr | bad =>
    cases h
    exact Or.inr (Or.inr (Or.inr ⟨rfl, nofun, nofun, nofun⟩))

/-- one write acquisition of `B` is owed -/
def Phase.owes : Phase → Nat
  | .pend => 1
  | _ => 0

theorem pairδ_count {A B : Nat} (hAB : A ≠ B) {q q' : Phase} {e : Ev} (h : pairδ A B q e = some q') :
    (if isAcq (selL B) e then 1 else 0) + q'.owes = (if isAcq (selL A) e then 1 else 0) + q.owes := by
  rcases pairδ_cases h with ⟨rfl, rfl, rfl⟩ | ⟨rfl, hBA, rfl, rfl⟩ | ⟨rfl, hq, rfl⟩ | ⟨rfl, hA, hB, _⟩
  · rw [if_pos (isAcq_selL_iff.mpr rfl), isAcq_selL_false (fun h => hAB (by cases h; rfl))]
    rfl
  · rw [if_pos (isAcq_selL_iff.mpr rfl), isAcq_selL_false (fun h => hBA (by cases h; rfl))]
    rfl
  · cases q
    · rfl
    · exact absurd rfl hq
    · rfl
  · rw [isAcq_selL_false hA, isAcq_selL_false hB]

theorem runQ_pair_count {A B : Nat} (hAB : A ≠ B) (π : List Ev) : ∀ (q q' : Phase),
    runQ (pairδ A B) q π = some q' →
    countAcq (selL B) π + q'.owes = countAcq (selL A) π + q.owes := by
  induction π with
  | nil =>
    intro q q' h
    simp only [runQ, Option.some.injEq] at h
    subst h
    simp [countAcq]
  | cons e π ih =>
    intro q q' h
    simp only [runQ] at h
    split at h
    · rename_i q₁ hd
      have h₁ := ih q₁ q' h
      have h₂ := pairδ_count hAB hd
      rw [countAcq_cons, countAcq_cons]
      omega
    · simp at h

theorem pairδ_held {A B : Nat} {q q' : Phase} {e : Ev} {h : Held} (hd : pairδ A B q e = some q')
    (hq : q ≠ .out → (A, Mode.W) ∈ h) : q' ≠ .out → (A, Mode.W) ∈ updHeld h e := by
  intro hq'
  rcases pairδ_cases hd with ⟨rfl, _, _⟩ | ⟨rfl, hBA, rfl, _⟩ | ⟨_, _, rfl⟩ | ⟨rfl, _, _, hrel⟩
  · exact List.mem_cons_self
  · exact List.mem_cons_of_mem _ (hq nofun)
  · exact absurd rfl hq'
  · -- an event that is not `rel A` keeps `A` in the lock set
    have hm := hq hq'
    cases e with
    | acq m l => exact List.mem_cons_of_mem _ hm
    | rel l => exact mem_filter_ne.mpr ⟨hm, fun h' => hrel (h' ▸ rfl)⟩
    | rd | wr | bad => exact hm

theorem runQ_pair_held {A B : Nat} (d : List Ev) : ∀ (q q' : Phase) (h : Held),
    runQ (pairδ A B) q d = some q' → (q ≠ .out → (A, Mode.W) ∈ h) →
      q' ≠ .out → (A, Mode.W) ∈ d.foldl updHeld h := by
  induction d with
  | nil =>
    intro q q' h hrun hq
    cases hrun
    exact hq
  | cons e d ih =>
    intro q q' h hrun hq
    simp only [runQ] at hrun
    cases hδ : pairδ A B q e with
    | none =>
      rw [hδ] at hrun
      cases hrun
    | some q₁ =>
      rw [hδ] at hrun
      exact ih q₁ q' _ hrun (pairδ_held hδ hq)

theorem pair_atomic {store : Loc → Nat} {paths : Nat → List Ev} (w A B : Nat) (hAB : A ≠ B)
    (hacc : runQ (pairδ A B) .out (paths w) = some .out)
    {s : Sys} (hr : Reach store paths s) (hout : (A, Mode.W) ∉ (s.thr w).held) :
    countAcq (selL A) (s.thr w).rest = countAcq (selL B) (s.thr w).rest := by
  obtain ⟨d, q, _, hh, hq, hrest⟩ := Reach.accepted hacc hr
  -- `w` is outside the section, so the phase reached is `out`
  have hqo : q = .out := Classical.byContradiction fun hne =>
    hout (hh ▸ runQ_pair_held d .out q [] hq (fun h => absurd rfl h) hne)
  subst hqo
  have := runQ_pair_count hAB _ _ _ hrest
  omega

end Rtr.Locks
