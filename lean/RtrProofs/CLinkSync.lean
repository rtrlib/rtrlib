/-
  CLinkSync: the synchronisation functions of rtrlib/rtr/packets.c as translated (`rtr_wait_for_sync`, `rtr_sync`, the two
  query senders, `rtr_set_last_update`, `rtr_handle_cache_response_pdu`, `rtr_handle_error_pdu`) equal short readable
  specifications (`<function>_eq : C.f … = fSpec …`) - for EVERY socket, world and buffer content, with the exact condition
  under which the C text has a defined result.  The property-level corollaries (C04, C05, C07, C13, C14, C17) are stated
  about the translated functions.

  The functions are translated as control skeletons over `C.XWorld C.S_rtr_socket` (RtrModel/CSem.lean).  A call of a
  function in the table `EXTERNX` of tools/gen_cfuns.py - whatever works on the socket or outside the program:
  rtr_receive_pdu, rtr_send_pdu, rtr_change_socket_state, rtr_send_error_pdu_from_host, rtr_sync_receive_and_store_pdus,
  the clock, pthread_setcancelstate, and also rtr_handle_cache_response_pdu, rtr_handle_error_pdu and rtr_set_last_update,
  which have translations of their own - is not entered: the world answers it (`w.ext i` answers the i-th call: return
  value `rc`, clock reading `aux`, the socket as the callee left it `st`, the bytes it left in the receive buffer `buf`)
  and it is recorded in `w.trace` with its name, its recorded scalar arguments and the socket it was handed.  Only
  rtr_get_pdu_type is composed with its translation.  So a specification says: which calls are made, in which order, with
  which arguments and which socket; how the function itself changes the socket in between; what it returns - and the
  theorems about rtr_sync say nothing of what the three translated callees do with the socket.

  Proof method (robust against harmless rewrites of the C text; nothing navigates the generated term):
    1. unfold the generated definition and the specification;
    2. `c_norm`: a fixed base `simp only` set, extended per call - calls ↦ `xans`/`xrec`; `==`, `!=`, `&&`, `||`, `!`,
       `decide` ↦ propositions; Bool tests ↦ `b = true`; widenings compared with literals ↦ statements about the narrow value;
    3. `ifs_agree`: make every condition atomic (`if p ∧ q` / `p ∨ q` / `¬p` ↦ nested decisions), then repeatedly take the
       condition at the head of either side, decide it both ways and prune BOTH sides with it (and with its symmetric form);
       leaves close by `rfl`, paths that contradict the bounds by `omega` or `simp_all`.
    So the proofs do not depend on the order of conjuncts, on `a == b` vs `b == a`, on early returns vs else-branches, on
    `switch` vs if-chains, on merged `case` labels, on temporaries or on the order of independent assignments.

  Definedness conditions found (the C text has a defined result exactly when):
    rtr_wait_for_sync              `last_update + refresh_interval` and `(…) - now` do not overflow `time_t` (waitDefined)
    rtr_sync                       always - unless 2^64 + 1 receives in a row deliver a Serial Notify (the loop's fuel)
    rtr_handle_cache_response_pdu  `pdu + 4 ≤ msize`
    rtr_handle_error_pdu           `pdu + 12 + len_enc_pdu + 4 ≤ msize` (len_enc_pdu read at offset 8)
    the other three                always
-/
import RtrProofs.CLink
import RtrModel.Generated.Constants

set_option linter.unusedSimpArgs false
set_option linter.unusedVariables false

namespace Rtr.CLink
open Rtr Rtr.Gen

local notation "Sock" => C.S_rtr_socket
local notation "XW" => C.XWorld C.S_rtr_socket
local notation "Res" => Option (BitVec 32 × C.S_rtr_socket × C.XWorld C.S_rtr_socket)
/-- a recorded call: name, recorded scalar arguments, the socket handed to the callee -/
local notation "Call" => String × List (BitVec 64) × C.S_rtr_socket

/-! ## Worlds: answers and records

The same notion, "the world after these calls", is spelled three times in the link files: here `xrec` / `xrecs w calls`,
in CLinkFsm `worldAfter w ops` (= `xrecs w (ops.map XOp.record)`, calls as typed `XOp`s; its `ExtAns.ret` is `xret`),
in CLinkRecv `push` (= `xrec`) and the relation `Calls w w' cs` (`w' = xrecs w cs`). -/

/-- the world's answer to the next external call -/
def xans (w : XW) : C.ExtAns Sock := w.ext w.n
/-- the world after the call `name(args)` with socket `s` was made: the call is recorded, the next answer is due -/
def xrec (w : XW) (name : String) (args : List (BitVec 64)) (s : Sock) : XW :=
  { w with n := w.n + 1, trace := w.trace ++ [(name, args, s)] }
/-- the world after the calls `calls` were made, in this order -/
def xrecs (w : XW) (calls : List Call) : XW :=
  { w with n := w.n + calls.length, trace := w.trace ++ calls }
/-- return value of a callee as the C `int` it is -/
def xret (a : C.ExtAns Sock) : BitVec 32 := a.rc.setWidth 32

theorem xcall_eq (w : XW) (name : String) (args : List (BitVec 64)) (s : Sock) :
    C.xcall w name args s = ((xans w).rc, (xans w).aux, (xans w).st, xrec w name args s) := rfl
theorem xcallBuf_eq (w : XW) (name : String) (args : List (BitVec 64)) (s : Sock) :
    C.xcallBuf w name args s = ((xans w).rc, (xans w).aux, (xans w).st, (xans w).buf, xrec w name args s) := rfl
theorem xret_fold (a : C.ExtAns Sock) : BitVec.setWidth 32 a.rc = xret a := rfl

theorem xrec_eq_xrecs (w : XW) (name : String) (args : List (BitVec 64)) (s : Sock) :
    xrec w name args s = xrecs w [(name, args, s)] := rfl
theorem xrecs_xrecs (w : XW) (a b : List Call) : xrecs (xrecs w a) b = xrecs w (a ++ b) := by
  simp only [xrecs, List.length_append, Nat.add_assoc, List.append_assoc]
theorem xrecs_nil (w : XW) : xrecs w [] = w := by
  simp only [xrecs, List.length_nil, Nat.add_zero, List.append_nil]
theorem xans_eq (w : XW) : xans w = w.ext w.n := rfl
theorem xans_xrecs (w : XW) (a : List Call) : xans (xrecs w a) = w.ext (w.n + a.length) := rfl
theorem xrecs_ext (w : XW) (a : List Call) : (xrecs w a).ext = w.ext := rfl
theorem xrecs_n (w : XW) (a : List Call) : (xrecs w a).n = w.n + a.length := rfl
theorem xrecs_trace (w : XW) (a : List Call) : (xrecs w a).trace = w.trace ++ a := rfl

/-- normal form of worlds: `xrecs w [call, …]`, answers as `w.ext (w.n + k)` -/
local macro "xw_norm" : tactic =>
  `(tactic| simp only [xrec_eq_xrecs, xrecs_xrecs, xans_xrecs, xans_eq, xrecs_ext, xrecs_n, xrecs_trace, List.cons_append,
      List.nil_append, List.length_cons, List.length_nil, Nat.reduceAdd, Nat.add_zero, Nat.zero_add])

/-! ## `c_norm` -/

private theorem zext16_eq_lit (x : BitVec 16) (k : Nat) (hk : k < 65536) :
    (BitVec.setWidth 32 x = BitVec.ofNat 32 k) = (x = BitVec.ofNat 16 k) :=
  setWidth_eq_lit x k (by decide) hk

private theorem b2i_bne_zero (b : Bool) : (C.b2i 32 b != 0#32) = b := by
  rw [C.b2i, ite_one_zero_bne, Bool.decide_eq_true]

private theorem bool_eq_false_eq (b : Bool) : (b = false) = ¬ (b = true) := by cases b <;> simp
private theorem bnot_eq_true_eq (b : Bool) : ((!b) = true) = ¬ (b = true) := by cases b <;> simp

/-- normal form of the generated term: external calls as `xans`/`xrec`, conditions as propositions about the values
    (no `==`, `!=`, `&&`, `decide`), widenings compared with literals as statements about the narrow value -/
local syntax "c_norm" "[" Lean.Parser.Tactic.simpLemma,* "]" : tactic
local macro_rules
  | `(tactic| c_norm [$ls,*]) =>
    `(tactic| try simp only [xcall_eq, xcallBuf_eq, xret_fold, beq_iff_eq, bne_iff_ne, ne_eq, Bool.and_eq_true, Bool.or_eq_true,
        bnot_eq_true_eq, Bool.not_eq_false', bool_eq_false_eq, Bool.not_eq_eq_eq_not, Bool.not_true, Bool.not_false,
        decide_eq_true_eq, decide_eq_false_iff_not, Decidable.not_not, b2i_bne_zero, C.load8, BitVec.reduceSetWidth,
        zext16_eq_lit _ 0 (by decide), zext16_eq_lit _ 1 (by decide), zext16_eq_lit _ 2 (by decide),
        zext16_eq_lit _ 3 (by decide), zext16_eq_lit _ 4 (by decide), zext16_eq_lit _ 5 (by decide),
        sext8_eq_lit _ 0 (by decide), sext8_eq_lit _ 3 (by decide), sext8_eq_lit _ 8 (by decide),
        sext8_eq_lit _ 10 (by decide), $ls,*])

/-! ## `ifs_agree` -/

private theorem ite_cases_rhs {α : Sort _} {c : Prop} [Decidable c] {a b l : α} (h1 : c → l = a) (h2 : ¬c → l = b) :
    l = (if c then a else b) :=
  iteInduction (motive := (l = ·)) h1 h2

private theorem ite_and_nest {α : Sort _} (p q : Prop) [Decidable p] [Decidable q] (a b : α) :
    (if p ∧ q then a else b) = if p then (if q then a else b) else b :=
  ite_ite_same.symm
private theorem ite_or_nest {α : Sort _} (p q : Prop) [Decidable p] [Decidable q] (a b : α) :
    (if p ∨ q then a else b) = if p then a else (if q then a else b) := by
  by_cases hp : p <;> by_cases hq : q <;> simp [hp, hq]

/-- rewrite the goal with a decided condition `h` (and, for a refuted equation, with its symmetric form) -/
local macro "prune_with" h:ident : tactic =>
  `(tactic| first
      | (have h_s := fun e => $h (Eq.symm e)
         try simp only [$h:ident, h_s, ↓reduceIte, not_true_eq_false, not_false_eq_true, and_true, true_and, and_false, false_and,
           ne_eq, eq_self, Bool.false_eq_true, Bool.true_eq_false] at ⊢)
      | (try simp only [$h:ident, ↓reduceIte, not_true_eq_false, not_false_eq_true, and_true, true_and, and_false, false_and,
           ne_eq, eq_self, Bool.false_eq_true, Bool.true_eq_false] at ⊢))

/-- both sides are decision trees over the same conditions: make every condition atomic (`if p ∧ q`, `if p ∨ q`, `if ¬p`
    become nested decisions), then take the condition at the head of the left (else the right) side, decide it both ways, prune
    both sides with it; a leaf closes by `rfl`, a path that contradicts the bounds known closes by `omega` or `simp_all` -/
local macro "ifs_agree" : tactic =>
  `(tactic| ((try simp only [ite_and_nest, ite_or_nest, ite_not]) <;>
    repeat' (first
      | rfl
      | omega
      | (refine ite_cases_lhs ?_ ?_ <;> intro h_ <;> (try simp only [Decidable.not_not] at h_) <;> prune_with h_)
      | (refine ite_cases_rhs ?_ ?_ <;> intro h_ <;> (try simp only [Decidable.not_not] at h_) <;> prune_with h_)
      | (simp_all; done))))

/-! ## The type byte of the receive buffer; the literals of the specifications -/

/-- the type byte of a received PDU (offset 1 of the receive buffer) -/
def typeByte (buf : List (BitVec 8)) : BitVec 8 := buf.getD 1 0#8

/-- `rtr_get_pdu_type` on the receive buffer as the callee left it (`C.memOfBytes buf`): the `char` at offset 1,
    sign-extended; a byte beyond the end of `buf` reads as 0, which is why the result is stated with `getD` -/
theorem get_pdu_type_buf (buf : List (BitVec 8)) (msize pdu : Nat) :
    C.rtr_get_pdu_type (C.memOfBytes buf) msize pdu =
      if pdu + 2 ≤ msize then some (BitVec.signExtend 32 (buf.getD (pdu + 1) 0#8)) else none :=
  rtr_get_pdu_type_eq (C.memOfBytes buf) msize pdu

/-- the literals of the specifications below are the enumerators of the source (RtrModel/Generated/Constants.lean) -/
theorem sync_literals_eq_enum :
    (0#32).toInt = RTR_SUCCESS ∧ (4294967295#32).toInt = RTR_ERROR ∧ (4294967294#32).toInt = TR_WOULDBLOCK ∧
    (4294967292#32).toInt = TR_CLOSED ∧
    ((0#8).toNat : Int) = SERIAL_NOTIFY ∧ ((1#8).toNat : Int) = SERIAL_QUERY ∧ ((2#8).toNat : Int) = RESET_QUERY ∧
    ((3#8).toNat : Int) = CACHE_RESPONSE ∧ ((8#8).toNat : Int) = CACHE_RESET ∧ ((10#8).toNat : Int) = ERROR ∧
    ((4#64).toNat : Int) = RTR_FAST_RECONNECT ∧ ((5#64).toNat : Int) = RTR_ERROR_NO_DATA_AVAIL ∧
    ((6#64).toNat : Int) = RTR_ERROR_NO_INCR_UPDATE_AVAIL ∧ ((7#64).toNat : Int) = RTR_ERROR_FATAL ∧
    ((8#64).toNat : Int) = RTR_ERROR_TRANSPORT ∧
    ((0#64).toNat : Int) = CORRUPT_DATA ∧ ((2#16).toNat : Int) = NO_DATA_AVAIL ∧ ((4#16).toNat : Int) = UNSUPPORTED_PROTOCOL_VER ∧
    (3248#64).toNat = RTR_MAX_PDU_LEN ∧ (60#64).toNat = RTR_RECV_TIMEOUT := by decide

/-! ## rtr_set_last_update (C07) -/

/-- `last_update` := the clock reading; a failing clock (return value -1) makes the socket ERROR_FATAL -/
def setLastUpdateSpec (w : XW) (s : Sock) : Res :=
  let clock := xans w
  let s1 : Sock := { s with last_update := clock.aux }
  let w1 := xrec w "lrtr_get_monotonic_time" [] s
  if xret clock = 4294967295#32 then
    some (4294967295#32, (xans w1).st, xrec w1 "rtr_change_socket_state" [7#64] s1)
  else
    some (0#32, s1, w1)

theorem rtr_set_last_update_eq (w : XW) (s : Sock) : C.rtr_set_last_update w s = setLastUpdateSpec w s := by
  unfold C.rtr_set_last_update setLastUpdateSpec
  c_norm []
  all_goals ifs_agree

/-- the clock works: exactly one call (the clock), `last_update` is its reading, nothing else changes, RTR_SUCCESS -/
theorem set_last_update_ok (w : XW) (s : Sock) (h : xret (w.ext w.n) ≠ 4294967295#32) :
    C.rtr_set_last_update w s =
      some (0#32, { s with last_update := (w.ext w.n).aux }, xrecs w [("lrtr_get_monotonic_time", [], s)]) := by
  rw [rtr_set_last_update_eq]; unfold setLastUpdateSpec
  simp only [xans_eq, h, ↓reduceIte]; rfl

/-- the clock fails: the state is changed to ERROR_FATAL and RTR_ERROR returned -/
theorem set_last_update_clock_failed (w : XW) (s : Sock) (h : xret (w.ext w.n) = 4294967295#32) :
    C.rtr_set_last_update w s =
      some (4294967295#32, (w.ext (w.n + 1)).st,
        xrecs w [("lrtr_get_monotonic_time", [], s),
                 ("rtr_change_socket_state", [7#64], { s with last_update := (w.ext w.n).aux })]) := by
  rw [rtr_set_last_update_eq]; unfold setLastUpdateSpec
  simp only [xans_eq, h, ↓reduceIte]; xw_norm

/-! ## rtr_send_serial_query, rtr_send_reset_query (C05, C14) -/

/-- the record handed to rtr_send_pdu (recorded: length argument, then the fields ver, type, session_id, len, sn):
    version, SERIAL_QUERY, the socket's session and serial, length 12; a send failure makes the socket ERROR_TRANSPORT -/
def serialQuerySpec (w : XW) (s : Sock) : Res :=
  let pdu : List (BitVec 64) :=
    [12#64, (s.version.setWidth 8).setWidth 64, 1#64, (s.session_id.setWidth 16).setWidth 64, 12#64,
     s.serial_number.setWidth 64]
  let w1 := xrec w "rtr_send_pdu" pdu s
  if xret (xans w) ≠ 0#32 then
    some (4294967295#32, (xans w1).st, xrec w1 "rtr_change_socket_state" [8#64] s)
  else
    some (0#32, s, w1)

/-- recorded: length argument, then the fields ver, type, flags, len -/
def resetQuerySpec (w : XW) (s : Sock) : Res :=
  let pdu : List (BitVec 64) := [8#64, (s.version.setWidth 8).setWidth 64, 2#64, 0#64, 8#64]
  let w1 := xrec w "rtr_send_pdu" pdu s
  if xret (xans w) ≠ 0#32 then
    some (4294967295#32, (xans w1).st, xrec w1 "rtr_change_socket_state" [8#64] s)
  else
    some (0#32, s, w1)

theorem rtr_send_serial_query_eq (w : XW) (s : Sock) : C.rtr_send_serial_query w s = serialQuerySpec w s := by
  unfold C.rtr_send_serial_query serialQuerySpec
  c_norm []
  all_goals ifs_agree

theorem rtr_send_reset_query_eq (w : XW) (s : Sock) : C.rtr_send_reset_query w s = resetQuerySpec w s := by
  unfold C.rtr_send_reset_query resetQuerySpec
  c_norm []
  all_goals ifs_agree

/-- both query senders, the record handed to rtr_send_pdu a variable -/
theorem query_contents (w : XW) (s : Sock) (pdu : List (BitVec 64)) :
    (if xret (xans w) ≠ 0#32 then
        some (4294967295#32, (xans (xrec w "rtr_send_pdu" pdu s)).st,
          xrec (xrec w "rtr_send_pdu" pdu s) "rtr_change_socket_state" [8#64] s)
      else some (0#32, s, xrec w "rtr_send_pdu" pdu s) : Res) =
      if xret (w.ext w.n) = 0#32 then some (0#32, s, xrecs w [("rtr_send_pdu", pdu, s)])
      else some (4294967295#32, (w.ext (w.n + 1)).st,
        xrecs w [("rtr_send_pdu", pdu, s), ("rtr_change_socket_state", [8#64], s)]) := by
  simp only [ne_eq, ite_not]
  xw_norm

/-- the Serial Query that is sent: the first call is rtr_send_pdu of 12 bytes with ver = the low byte of `version`,
    type SERIAL_QUERY, session_id = the low 16 bits of the socket's session, len = 12, sn = the socket's serial number,
    on the unchanged socket; if it succeeds nothing else happens and RTR_SUCCESS is returned, otherwise the only further
    call is the change to ERROR_TRANSPORT and RTR_ERROR is returned -/
theorem serial_query_contents (w : XW) (s : Sock) :
    let sent : Call := ("rtr_send_pdu",
      [12#64, (s.version.setWidth 8).setWidth 64, 1#64, (s.session_id.setWidth 16).setWidth 64, 12#64,
       s.serial_number.setWidth 64], s)
    C.rtr_send_serial_query w s =
      if xret (w.ext w.n) = 0#32 then some (0#32, s, xrecs w [sent])
      else some (4294967295#32, (w.ext (w.n + 1)).st, xrecs w [sent, ("rtr_change_socket_state", [8#64], s)]) := by
  rw [rtr_send_serial_query_eq]
  exact query_contents w s _

/-- the Reset Query that is sent: 8 bytes with ver = the low byte of `version`, type RESET_QUERY, flags 0, len = 8 -/
theorem reset_query_contents (w : XW) (s : Sock) :
    let sent : Call := ("rtr_send_pdu", [8#64, (s.version.setWidth 8).setWidth 64, 2#64, 0#64, 8#64], s)
    C.rtr_send_reset_query w s =
      if xret (w.ext w.n) = 0#32 then some (0#32, s, xrecs w [sent])
      else some (4294967295#32, (w.ext (w.n + 1)).st, xrecs w [sent, ("rtr_change_socket_state", [8#64], s)]) := by
  rw [rtr_send_reset_query_eq]
  exact query_contents w s _

/-! ## rtr_handle_cache_response_pdu (C05) -/

/-- the session id of a Cache Response: the 16-bit field at offset 2 (host order), widened -/
def crSession (mem : Nat → BitVec 8) (pdu : Nat) : BitVec 32 := (C.load16 mem (pdu + 2)).setWidth 32

/-- no session yet: adopt the PDU's session (and mark the socket as resetting if it holds data); otherwise the PDU's
    session must be the socket's - if not: Error Report (no encapsulated PDU, CORRUPT_DATA), ERROR_FATAL, RTR_ERROR.
    Defined iff the session field lies inside the object. -/
def cacheResponseSpec (w : XW) (mem : Nat → BitVec 8) (msize : Nat) (s : Sock) (pdu : Nat) : Res :=
  if pdu + 4 ≤ msize then
    if s.request_session_id = true then
      some (0#32, { s with session_id := crSession mem pdu,
                           is_resetting := if s.last_update ≠ 0#64 then true else s.is_resetting }, w)
    else if s.session_id ≠ crSession mem pdu then
      let w1 := xrec w "rtr_send_error_pdu_from_host" [0#64, 0#64] s
      some (4294967295#32, (xans w1).st, xrec w1 "rtr_change_socket_state" [7#64] s)
    else some (0#32, s, w)
  else none

theorem rtr_handle_cache_response_pdu_eq (w : XW) (mem : Nat → BitVec 8) (msize : Nat) (s : Sock) (pdu : Nat) :
    C.rtr_handle_cache_response_pdu w mem msize s pdu = cacheResponseSpec w mem msize s pdu := by
  unfold C.rtr_handle_cache_response_pdu cacheResponseSpec crSession
  c_norm []
  by_cases hd : pdu + 4 ≤ msize
  · simp only [hd, ↓reduceIte] <;> ifs_agree
  · simp only [hd, ↓reduceIte] <;> ifs_agree

theorem cache_response_undefined_iff (w : XW) (mem : Nat → BitVec 8) (msize : Nat) (s : Sock) (pdu : Nat) :
    C.rtr_handle_cache_response_pdu w mem msize s pdu = none ↔ ¬ pdu + 4 ≤ msize := by
  rw [rtr_handle_cache_response_pdu_eq]; unfold cacheResponseSpec
  refine ite_eq_none_iff ?_
  split
  · exact Option.some_ne_none _
  · split <;> exact Option.some_ne_none _

/-- no session yet: the socket adopts the PDU's session; it is marked as resetting iff it holds data; no call is made -/
theorem cache_response_adopts_session (w : XW) (mem : Nat → BitVec 8) (msize : Nat) (s : Sock) (pdu : Nat)
    (hd : pdu + 4 ≤ msize) (hr : s.request_session_id = true) :
    C.rtr_handle_cache_response_pdu w mem msize s pdu =
      some (0#32, { s with session_id := (C.load16 mem (pdu + 2)).setWidth 32,
                           is_resetting := if s.last_update ≠ 0#64 then true else s.is_resetting }, w) := by
  rw [rtr_handle_cache_response_pdu_eq]; unfold cacheResponseSpec crSession
  simp only [hd, hr, ↓reduceIte]

/-- a Cache Response of a foreign session is refused: Error Report without encapsulated PDU (recorded arguments: length 0,
    code CORRUPT_DATA), state ERROR_FATAL, RTR_ERROR - and the socket handed on still carries its own session -/
theorem cache_response_foreign_session (w : XW) (mem : Nat → BitVec 8) (msize : Nat) (s : Sock) (pdu : Nat)
    (hd : pdu + 4 ≤ msize) (hr : s.request_session_id = false) (hs : s.session_id ≠ (C.load16 mem (pdu + 2)).setWidth 32) :
    C.rtr_handle_cache_response_pdu w mem msize s pdu =
      some (4294967295#32, (w.ext (w.n + 1)).st,
        xrecs w [("rtr_send_error_pdu_from_host", [0#64, 0#64], s), ("rtr_change_socket_state", [7#64], s)]) := by
  rw [rtr_handle_cache_response_pdu_eq]; unfold cacheResponseSpec crSession
  simp only [hd, hr, hs, ↓reduceIte, ne_eq, not_false_eq_true, Bool.false_eq_true]; xw_norm

/-- a Cache Response of the established session: success, nothing changes, no call -/
theorem cache_response_same_session (w : XW) (mem : Nat → BitVec 8) (msize : Nat) (s : Sock) (pdu : Nat)
    (hd : pdu + 4 ≤ msize) (hr : s.request_session_id = false) (hs : s.session_id = (C.load16 mem (pdu + 2)).setWidth 32) :
    C.rtr_handle_cache_response_pdu w mem msize s pdu = some (0#32, s, w) := by
  rw [rtr_handle_cache_response_pdu_eq]; unfold cacheResponseSpec crSession
  simp only [hd, hr, hs, ↓reduceIte, ne_eq, not_true_eq_false, Bool.false_eq_true]

/-! ## rtr_handle_error_pdu (C13, C04) -/

/-- the length of the encapsulated PDU as `rtr_handle_error_pdu` finds it at offset 8 (host order) -/
def errLenEnc (mem : Nat → BitVec 8) (pdu : Nat) : Nat := (C.load32 mem (pdu + 8)).toNat

/-- the byte ranges (offset, width) `rtr_handle_error_pdu` reads: version, error code, length, length of the encapsulated
    PDU, and - behind the encapsulated PDU - the length of the error text -/
def errorPduReads (mem : Nat → BitVec 8) (pdu : Nat) : List (Nat × Nat) :=
  [(pdu, 1), (pdu + 2, 2), (pdu + 4, 4), (pdu + 8, 4), (pdu + 12 + errLenEnc mem pdu, 4)]

/-- an UNSUPPORTED_PROTOCOL_VER report that carries a supported version (≤ 1) below the socket's -/
def errorPduDowngrades (mem : Nat → BitVec 8) (pdu : Nat) (s : Sock) : Prop :=
  C.load16 mem (pdu + 2) = 4#16 ∧ (mem pdu).toNat ≤ 1 ∧ (mem pdu).toNat < s.version.toNat

instance (mem : Nat → BitVec 8) (pdu : Nat) (s : Sock) : Decidable (errorPduDowngrades mem pdu s) := by
  unfold errorPduDowngrades; exact inferInstance

/-- the state the error code leads to: FAST_RECONNECT for a downgrade, ERROR_NO_DATA_AVAIL for NO_DATA_AVAIL, else ERROR_FATAL -/
def errorPduState (mem : Nat → BitVec 8) (pdu : Nat) (s : Sock) : BitVec 64 :=
  if errorPduDowngrades mem pdu s then 4#64 else if C.load16 mem (pdu + 2) = 2#16 then 5#64 else 7#64

/-- one call: the state change the error code asks for, on the socket with the version possibly lowered; RTR_SUCCESS.
    Defined iff the text-length field behind the encapsulated PDU lies inside the object. -/
def errorPduSpec (w : XW) (mem : Nat → BitVec 8) (msize : Nat) (s : Sock) (pdu : Nat) : Res :=
  if pdu + 12 + errLenEnc mem pdu + 4 ≤ msize then
    let s1 : Sock := if errorPduDowngrades mem pdu s then { s with version := (mem pdu).setWidth 32 } else s
    some (0#32, (xans w).st, xrec w "rtr_change_socket_state" [errorPduState mem pdu s] s1)
  else none

theorem rtr_handle_error_pdu_eq (w : XW) (mem : Nat → BitVec 8) (msize : Nat) (s : Sock) (pdu : Nat) :
    C.rtr_handle_error_pdu w mem msize s pdu = errorPduSpec w mem msize s pdu := by
  unfold C.rtr_handle_error_pdu errorPduSpec errorPduState errorPduDowngrades errLenEnc
  by_cases hd : pdu + 12 + (C.load32 mem (pdu + 8)).toNat + 4 ≤ msize
  · -- every bounds guard holds, so the code behind the `switch` (copied into each `case` by the translation) yields the
    -- same `some …` on all its paths: `ite_self` removes it and only the `switch` is left to compare
    have g1 : pdu + 8 + 4 ≤ msize := by omega
    have g2 : pdu + 12 + (C.load32 mem (pdu + 8)).toNat ≤ msize := by omega
    have g3 : pdu + 4 + 4 ≤ msize := by omega
    have g4 : pdu + 2 + 2 ≤ msize := by omega
    have g5 : pdu + 1 ≤ msize := by omega
    simp only [hd, g1, g2, g3, g4, g5, decide_true, Bool.and_true, Bool.or_true, ↓reduceIte, ite_self]
    c_norm [sle_zext8_lit _ 1 (by decide), sle_lit_zext8 _ 0 (by decide), BitVec.ult_eq_decide, zext8_toNat, Nat.zero_le,
      and_true, true_and]
    -- the specification asks only whether the code is UNSUPPORTED_PROTOCOL_VER or NO_DATA_AVAIL: once that is decided
    -- the other cases of the `switch` agree
    by_cases h4 : C.load16 mem (pdu + 2) = 4#16
    · simp only [h4, BitVec.reduceEq, ↓reduceIte, true_and]
      all_goals ifs_agree
    · by_cases h2 : C.load16 mem (pdu + 2) = 2#16
      · simp only [h2, BitVec.reduceEq, ↓reduceIte, false_and]
        all_goals ifs_agree
      · simp only [h4, h2, false_and, ↓reduceIte, ite_self]
        all_goals ifs_agree
  · -- the guard in front of the text length fails on every path
    simp only [hd, decide_false, Bool.and_false, Bool.false_eq_true, ↓reduceIte, ite_self]

/-- (C13) an Unsupported-Version report with a supported lower version: `version` := the PDU's version byte, state
    FAST_RECONNECT (the socket handed to rtr_change_socket_state already carries the lowered version) -/
theorem error_pdu_downgrade (w : XW) (mem : Nat → BitVec 8) (msize : Nat) (s : Sock) (pdu : Nat)
    (hd : pdu + 12 + errLenEnc mem pdu + 4 ≤ msize)
    (hcode : C.load16 mem (pdu + 2) = 4#16) (hsup : (mem pdu).toNat ≤ 1) (hlow : (mem pdu).toNat < s.version.toNat) :
    C.rtr_handle_error_pdu w mem msize s pdu =
      some (0#32, (w.ext w.n).st,
        xrecs w [("rtr_change_socket_state", [4#64], { s with version := (mem pdu).setWidth 32 })]) := by
  rw [rtr_handle_error_pdu_eq]; unfold errorPduSpec errorPduState
  have h : errorPduDowngrades mem pdu s := ⟨hcode, hsup, hlow⟩
  simp only [hd, h, ↓reduceIte]; rfl

/-- (C13) every other error report leaves `version` alone: ERROR_NO_DATA_AVAIL for code NO_DATA_AVAIL, else ERROR_FATAL -/
theorem error_pdu_no_downgrade (w : XW) (mem : Nat → BitVec 8) (msize : Nat) (s : Sock) (pdu : Nat)
    (hd : pdu + 12 + errLenEnc mem pdu + 4 ≤ msize) (h : ¬ errorPduDowngrades mem pdu s) :
    C.rtr_handle_error_pdu w mem msize s pdu =
      some (0#32, (w.ext w.n).st,
        xrecs w [("rtr_change_socket_state", [if C.load16 mem (pdu + 2) = 2#16 then 5#64 else 7#64], s)]) := by
  rw [rtr_handle_error_pdu_eq]; unfold errorPduSpec errorPduState
  simp only [hd, h, ↓reduceIte]; rfl

/-- (C13) `version` never increases: the one call rtr_handle_error_pdu makes is handed a socket whose version is at
    most the version it was given -/
theorem error_pdu_version_le (w : XW) (mem : Nat → BitVec 8) (msize : Nat) (s : Sock) (pdu : Nat) (r : BitVec 32)
    (s' : Sock) (w' : XW) (h : C.rtr_handle_error_pdu w mem msize s pdu = some (r, s', w')) :
    ∃ st s1, w' = xrecs w [("rtr_change_socket_state", [st], s1)] ∧ s1.version.toNat ≤ s.version.toNat ∧
      { s1 with version := s.version } = s := by
  rw [rtr_handle_error_pdu_eq] at h; unfold errorPduSpec at h
  by_cases hd : pdu + 12 + errLenEnc mem pdu + 4 ≤ msize
  · simp only [hd, ↓reduceIte, Option.some.injEq, Prod.mk.injEq] at h
    obtain ⟨_, _, hw⟩ := h
    by_cases hdg : errorPduDowngrades mem pdu s
    · simp only [hdg, ↓reduceIte] at hw
      refine ⟨_, _, hw.symm, ?_, rfl⟩
      have := hdg.2.2
      show (BitVec.setWidth 32 (mem pdu)).toNat ≤ s.version.toNat
      rw [zext8_toNat]; omega
    · simp only [hdg, ↓reduceIte] at hw
      exact ⟨_, _, hw.symm, Nat.le_refl _, rfl⟩
  · simp only [hd, ↓reduceIte] at h; cases h

/-- (C04) rtr_handle_error_pdu relies on the size check made before it is called: the C text has a defined result exactly
    when every range it reads lies inside the object, i.e. exactly when the object reaches 4 bytes beyond the
    encapsulated PDU whose length is read at offset 8.  The last part counts the same bound from `pdu`, as
    `rtr_pdu_check_size` compares it with the length field (`16 + len_enc_pdu ≤ len`).  That the size check and the footer
    conversion give this bound for every PDU they let through is not proved here; without them the function reads outside
    the PDU. -/
theorem error_pdu_reads_in_bounds (w : XW) (mem : Nat → BitVec 8) (msize : Nat) (s : Sock) (pdu : Nat) :
    (C.rtr_handle_error_pdu w mem msize s pdu ≠ none ↔ pdu + 12 + errLenEnc mem pdu + 4 ≤ msize) ∧
    (pdu + 12 + errLenEnc mem pdu + 4 ≤ msize ↔ ∀ r ∈ errorPduReads mem pdu, r.1 + r.2 ≤ msize) ∧
    (pdu + 12 + errLenEnc mem pdu + 4 ≤ msize ↔ 12 + errLenEnc mem pdu + 4 ≤ msize - pdu) := by
  refine ⟨?_, ?_, by omega⟩
  · rw [rtr_handle_error_pdu_eq]
    unfold errorPduSpec
    exact (not_congr (ite_eq_none_iff (Option.some_ne_none _))).trans Decidable.not_not
  · simp only [errorPduReads, List.forall_mem_cons, List.not_mem_nil, false_imp_iff, implies_true, and_true]
    omega

theorem error_pdu_undefined_iff (w : XW) (mem : Nat → BitVec 8) (msize : Nat) (s : Sock) (pdu : Nat) :
    C.rtr_handle_error_pdu w mem msize s pdu = none ↔ ¬ pdu + 12 + errLenEnc mem pdu + 4 ≤ msize := by
  rw [← (error_pdu_reads_in_bounds w mem msize s pdu).1]; exact Decidable.not_not.symm

/-- what the result depends on: the version byte, the error code and the length of the encapsulated PDU (the length field
    and the text length are read for the debug message only) -/
theorem error_pdu_depends_on (w : XW) (mem mem' : Nat → BitVec 8) (msize : Nat) (s : Sock) (pdu : Nat)
    (h0 : mem pdu = mem' pdu) (h2 : C.load16 mem (pdu + 2) = C.load16 mem' (pdu + 2))
    (h8 : C.load32 mem (pdu + 8) = C.load32 mem' (pdu + 8)) :
    C.rtr_handle_error_pdu w mem msize s pdu = C.rtr_handle_error_pdu w mem' msize s pdu := by
  rw [rtr_handle_error_pdu_eq, rtr_handle_error_pdu_eq]
  unfold errorPduSpec errorPduState errorPduDowngrades errLenEnc
  simp only [h0, h2, h8]

/-! ## rtr_wait_for_sync (C17) -/

/-- no signed overflow in `(last_update + refresh_interval) - now` (all `time_t`, i.e. signed 64 bit; the refresh interval
    is an unsigned 32-bit value): this is exactly what the guards of the generated definition say -/
def waitDefined (s : Sock) (now : BitVec 64) : Prop :=
  s.last_update.toInt + s.refresh_interval.toNat < 2 ^ 63 ∧
  -(2 ^ 63) ≤ s.last_update.toInt + s.refresh_interval.toNat - now.toInt ∧
  s.last_update.toInt + s.refresh_interval.toNat - now.toInt < 2 ^ 63

instance (s : Sock) (now : BitVec 64) : Decidable (waitDefined s now) := by unfold waitDefined; exact inferInstance

/-- the timeout: the time left until `last_update + refresh_interval` as a SIGNED 64-bit number, but not below 0 -/
def waitTimeout (s : Sock) (now : BitVec 64) : BitVec 64 :=
  let wait := s.last_update + s.refresh_interval.setWidth 64 - now
  if wait.slt 0#64 then 0#64 else wait

/-- the result of rtr_wait_for_sync from the return value of the receive and the type byte of what it received -/
def waitResult (rc : BitVec 32) (ty : BitVec 8) : BitVec 32 :=
  if BitVec.sle 0#32 rc then (if ty = 0#8 then 0#32 else 4294967295#32)
  else if rc = 4294967294#32 then 0#32 else 4294967295#32

/-- RTR_SUCCESS or RTR_ERROR -/
theorem waitResult_cases (rc : BitVec 32) (ty : BitVec 8) : waitResult rc ty = 0#32 ∨ waitResult rc ty = 4294967295#32 := by
  unfold waitResult
  split <;> split <;> simp

/-- RTR_SUCCESS exactly when the receive succeeded (≥ 0) with a Serial Notify, or timed out (TR_WOULDBLOCK = −2) -/
theorem waitResult_eq_zero_iff (rc : BitVec 32) (ty : BitVec 8) :
    waitResult rc ty = 0#32 ↔ (0 ≤ rc.toInt ∧ ty = 0#8) ∨ rc.toInt = -2 := by
  have hnum : rc = 4294967294#32 ↔ rc.toInt = -2 := BitVec.toInt_inj.symm
  have hsle : BitVec.sle 0#32 rc = true ↔ 0 ≤ rc.toInt := by
    rw [BitVec.sle_eq_decide, decide_eq_true_iff, BitVec.toInt_zero]
  unfold waitResult
  rw [← hnum, ← hsle]
  by_cases h1 : BitVec.sle 0#32 rc = true
  · have h2 : rc ≠ 4294967294#32 := fun h => absurd (h ▸ h1) (by decide)
    simp [h1, h2]
  · simp [h1]

/-- one clock reading, one receive (buffer size RTR_MAX_PDU_LEN, the timeout above) on the unchanged socket -/
def waitForSyncSpec (w : XW) (s : Sock) : Res :=
  let now := (xans w).aux
  let w1 := xrec w "lrtr_get_monotonic_time" [] s
  if waitDefined s now then
    let recv := xans w1
    some (waitResult (xret recv) (typeByte recv.buf), recv.st,
          xrec w1 "rtr_receive_pdu" [3248#64, waitTimeout s now] s)
  else none

theorem waitDefined_eq_guards (s : Sock) (now : BitVec 64) :
    waitDefined s now =
      (BitVec.saddOverflow s.last_update (BitVec.setWidth 64 s.refresh_interval) = false ∧
       BitVec.ssubOverflow (s.last_update + (BitVec.setWidth 64 s.refresh_interval)) now = false) := by
  apply propext
  have h3 := @BitVec.le_toInt 64 s.last_update
  rw [saddOverflow_eq_false_iff, zext32_64_toInt]
  by_cases ha : BitVec.saddOverflow s.last_update (BitVec.setWidth 64 s.refresh_interval) = false
  · rw [ssubOverflow_eq_false_iff, BitVec.toInt_add_of_not_saddOverflow (Bool.eq_false_iff.mp ha), zext32_64_toInt]
    unfold waitDefined
    omega
  · rw [saddOverflow_eq_false_iff, zext32_64_toInt] at ha
    unfold waitDefined
    omega

private theorem xrec_ite_arg (w : XW) (name : String) (a : BitVec 64) (c : Prop) [Decidable c] (x y : BitVec 64) (s : Sock) :
    xrec w name [a, if c then x else y] s = if c then xrec w name [a, x] s else xrec w name [a, y] s :=
  apply_ite (fun t => xrec w name [a, t] s) c x y
private theorem some_ite_thd {α β γ : Type _} (r : α) (st : β) (c : Prop) [Decidable c] (a b : γ) :
    some (r, st, if c then a else b) = if c then some (r, st, a) else some (r, st, b) :=
  apply_ite (fun t => some (r, st, t)) c a b
private theorem some_ite_fst {α β : Type _} (c : Prop) [Decidable c] (a b : α) (y : β) :
    some (if c then a else b, y) = if c then some (a, y) else some (b, y) :=
  apply_ite (fun t => some (t, y)) c a b

theorem rtr_wait_for_sync_eq (w : XW) (s : Sock) : C.rtr_wait_for_sync w s = waitForSyncSpec w s := by
  unfold C.rtr_wait_for_sync waitForSyncSpec
  -- the specification computes timeout and result by cases inside one `some (…)`, the C text branches around the calls:
  -- move the specification's case distinctions outwards, the one on the timeout first as in the C text
  c_norm [get_pdu_type_buf, Nat.zero_add, Nat.reduceLeDiff, ↓reduceIte, waitDefined_eq_guards, waitTimeout, typeByte,
    xrec_ite_arg, some_ite_thd]
  simp only [waitResult, some_ite_fst]
  all_goals ifs_agree

theorem waitTimeout_toInt (s : Sock) (now : BitVec 64) (h : waitDefined s now) :
    (waitTimeout s now).toInt = max 0 (s.last_update.toInt + (s.refresh_interval.toNat : Int) - now.toInt) := by
  rw [waitDefined_eq_guards] at h
  have e : (s.last_update + BitVec.setWidth 64 s.refresh_interval - now).toInt =
      s.last_update.toInt + s.refresh_interval.toNat - now.toInt := by
    rw [BitVec.toInt_sub_of_not_ssubOverflow (Bool.eq_false_iff.mp h.2),
      BitVec.toInt_add_of_not_saddOverflow (Bool.eq_false_iff.mp h.1), zext32_64_toInt]
  unfold waitTimeout
  simp only [BitVec.slt_eq_decide, e, BitVec.toInt_zero, decide_eq_true_eq]
  split
  · rw [BitVec.toInt_zero]; omega
  · rw [e]; omega

/-- (C17) rtr_wait_for_sync reads the clock once and then receives once, on the unchanged socket, into a buffer of
    RTR_MAX_PDU_LEN bytes, with the timeout `max 0 (last_update + refresh_interval − now)` (as a signed number: a deadline
    that has passed gives 0, not a huge unsigned wait) - whenever that sum and difference do not overflow `time_t` -/
theorem wait_for_sync_timeout (w : XW) (s : Sock) (hdef : waitDefined s (w.ext w.n).aux) :
    ∃ r t, C.rtr_wait_for_sync w s = some (r, (w.ext (w.n + 1)).st,
        xrecs w [("lrtr_get_monotonic_time", [], s), ("rtr_receive_pdu", [3248#64, t], s)]) ∧
      t.toInt = max 0 (s.last_update.toInt + (s.refresh_interval.toNat : Int) - (w.ext w.n).aux.toInt) := by
  refine ⟨waitResult (xret (w.ext (w.n + 1))) (typeByte (w.ext (w.n + 1)).buf), waitTimeout s (w.ext w.n).aux, ?_,
    waitTimeout_toInt s _ hdef⟩
  rw [rtr_wait_for_sync_eq]; unfold waitForSyncSpec
  simp only [xans_eq, hdef, ↓reduceIte]; xw_norm <;> rfl

theorem wait_for_sync_undefined_iff (w : XW) (s : Sock) :
    C.rtr_wait_for_sync w s = none ↔ ¬ waitDefined s (w.ext w.n).aux := by
  rw [rtr_wait_for_sync_eq]; unfold waitForSyncSpec
  exact ite_eq_none_iff (Option.some_ne_none _)

/-- (C17) the result: RTR_SUCCESS exactly when the receive succeeded (≥ 0) with a Serial Notify, or timed out
    (TR_WOULDBLOCK: the refresh interval is over); otherwise RTR_ERROR; the socket is as the receive left it -/
theorem wait_for_sync_result (w : XW) (s : Sock) (hdef : waitDefined s (w.ext w.n).aux) :
    let recv := w.ext (w.n + 1)
    ∃ r w', C.rtr_wait_for_sync w s = some (r, recv.st, w') ∧ w'.n = w.n + 2 ∧
      (r = 0#32 ∨ r = 4294967295#32) ∧
      (r = 0#32 ↔ (0 ≤ (xret recv).toInt ∧ typeByte recv.buf = 0#8) ∨ (xret recv).toInt = -2) := by
  intro recv
  refine ⟨waitResult (xret recv) (typeByte recv.buf),
    xrecs w [("lrtr_get_monotonic_time", [], s), ("rtr_receive_pdu", [3248#64, waitTimeout s (w.ext w.n).aux], s)], ?_, rfl,
    waitResult_cases _ _, waitResult_eq_zero_iff _ _⟩
  rw [rtr_wait_for_sync_eq]
  unfold waitForSyncSpec
  simp only [xans_eq, hdef, ↓reduceIte]
  xw_norm
  rfl

/-! ## rtr_sync (C13, C05, C07) -/

private theorem ult_zero_eq (v : BitVec 32) : (BitVec.ult 0#32 v = true) = (v ≠ 0#32) := by
  apply propext
  rw [BitVec.ult_eq_decide, decide_eq_true_iff, ne_eq, ← BitVec.toNat_inj]
  simp only [BitVec.toNat_ofNat, Nat.zero_mod]; omega

/-- what one pass through the `do … while (type == SERIAL_NOTIFY)` loop of rtr_sync and the code behind it yield -/
inductive SyncRound where
  /-- a Serial Notify was received and skipped: receive again, with this socket and world -/
  | again (s : Sock) (w : XW)
  /-- rtr_sync returns -/
  | done (r : BitVec 32) (s : Sock) (w : XW)

def SyncRound.ofResult (r : BitVec 32 × Sock × XW) : SyncRound := .done r.1 r.2.1 r.2.2

/-- after a Cache Response: check it; receive and store the payload; only then clear `request_session_id`; only then set
    `last_update`; each step only if the one before did not fail, and RTR_SUCCESS only at the end -/
def syncCacheResponse (s : Sock) (w : XW) : BitVec 32 × Sock × XW :=
  let check := xans w
  let w1 := xrec w "rtr_handle_cache_response_pdu" [] s
  if xret check = 4294967295#32 then (4294967295#32, check.st, w1) else
  let store := xans w1
  let w2 := xrec w1 "rtr_sync_receive_and_store_pdus" [] check.st
  if xret store = 4294967295#32 then (4294967295#32, store.st, w2) else
  let s3 : Sock := { store.st with request_session_id := false }
  let stamp := xans w2
  let w3 := xrec w2 "rtr_set_last_update" [] s3
  if xret stamp = 4294967295#32 then (4294967295#32, stamp.st, w3) else (0#32, stamp.st, w3)

/-- the `switch (type)` behind the loop (`ty` is not Serial Notify): ERROR → rtr_handle_error_pdu, CACHE_RESET → state
    ERROR_NO_INCR_UPDATE_AVAIL, CACHE_RESPONSE → the path above, anything else → Error Report (header only, CORRUPT_DATA) -/
def syncDispatch (ty : BitVec 8) (s : Sock) (w : XW) : BitVec 32 × Sock × XW :=
  if ty = 10#8 then (4294967295#32, (xans w).st, xrec w "rtr_handle_error_pdu" [] s)
  else if ty = 8#8 then (4294967295#32, (xans w).st, xrec w "rtr_change_socket_state" [6#64] s)
  else if ty = 3#8 then syncCacheResponse s w
  else (4294967295#32, s, xrec w "rtr_send_error_pdu_from_host" [8#64, 0#64] s)

/-- one round: cancellation enabled, receive (RTR_MAX_PDU_LEN bytes, RTR_RECV_TIMEOUT), cancellation disabled; then
    TR_CLOSED before any session and version > 0 → downgrade; TR_WOULDBLOCK → ERROR_TRANSPORT; other failures → RTR_ERROR;
    Serial Notify → again; else the dispatch on the PDU type -/
def syncRound (w : XW) (s : Sock) : SyncRound :=
  let w1 := xrec w "pthread_setcancelstate" [0#64] s
  let recv := xans w1
  let w2 := xrec w1 "rtr_receive_pdu" [3248#64, 60#64] s
  let s1 := recv.st
  let w3 := xrec w2 "pthread_setcancelstate" [1#64] s1
  let rc := xret recv
  if (rc = 4294967292#32 ∧ s1.request_session_id = true) ∧ s1.version ≠ 0#32 then
    .done 4294967295#32 (xans w3).st (xrec w3 "rtr_change_socket_state" [4#64] { s1 with version := s1.version - 1#32 })
  else if rc = 4294967294#32 then
    .done 4294967295#32 (xans w3).st (xrec w3 "rtr_change_socket_state" [8#64] s1)
  else if BitVec.slt rc 0#32 = true then .done 4294967295#32 s1 w3
  else if typeByte recv.buf = 0#8 then .again s1 w3
  else .ofResult (syncDispatch (typeByte recv.buf) s1 w3)

def SyncRound.andThen (r : SyncRound) (again : Sock → XW → Res) : Res :=
  match r with
  | .done r s w => some (r, s, w)
  | .again s w => again s w

theorem SyncRound.ofResult_mk (r : BitVec 32) (s : Sock) (w : XW) : SyncRound.ofResult (r, s, w) = .done r s w := rfl
theorem SyncRound.andThen_ite (c : Prop) [Decidable c] (a b : SyncRound) (k : Sock → XW → Res) :
    (if c then a else b).andThen k = if c then a.andThen k else b.andThen k := by split <;> rfl
theorem SyncRound.andThen_done (r : BitVec 32) (s : Sock) (w : XW) (k : Sock → XW → Res) :
    (SyncRound.done r s w).andThen k = some (r, s, w) := rfl
theorem SyncRound.andThen_again (s : Sock) (w : XW) (k : Sock → XW → Res) :
    (SyncRound.again s w).andThen k = k s w := rfl

/-- rtr_sync with `fuel` rounds -/
def syncSpec : Nat → XW → Sock → Res
  | 0, _, _ => none
  | fuel + 1, w, s => (syncRound w s).andThen (fun s' w' => syncSpec fuel w' s')

/-- one round of the translated loop is `syncRound` (the receive buffer is the function's own object: its former
    content is irrelevant, every round overwrites it with what the receive left).  Stated for the buffer as `rtr_sync`
    hands it to its loop - at address 0 of an object of its own (3248 bytes); of the size only `2 ≤ msize` is used, for
    the read of the type byte -/
theorem rtr_sync_loop_succ (fuel : Nat) (w : XW) (mem : Nat → BitVec 8) (msize : Nat) (s : Sock) (hp : 2 ≤ msize) :
    C.rtr_sync.loop1 (fuel + 1) w mem msize 0 s =
      (syncRound w s).andThen (fun s' w' => C.rtr_sync.loop1 fuel w' (C.memOfBytes (w.ext (w.n + 1)).buf) msize 0 s') := by
  rw [C.rtr_sync.loop1]
  -- the translation copies the code behind `if (a && b) … else …` into both branches: `ite_self` and `ite_ite_same`
  -- merge the copies, and both sides become the same decision tree
  c_norm [rtr_get_pdu_type_at _ _ 0 hp, C.memOfBytes, ult_zero_eq, ite_self, ite_ite_same, syncRound, syncDispatch, syncCacheResponse,
    typeByte, Nat.zero_add, apply_ite SyncRound.ofResult, SyncRound.ofResult_mk, SyncRound.andThen_ite,
    SyncRound.andThen_done, SyncRound.andThen_again]
  all_goals ifs_agree

theorem rtr_sync_loop_eq (fuel : Nat) (w : XW) (mem : Nat → BitVec 8) (msize : Nat) (s : Sock) (hp : 2 ≤ msize) :
    C.rtr_sync.loop1 fuel w mem msize 0 s = syncSpec fuel w s := by
  induction fuel generalizing w mem s with
  | zero => rfl
  | succ fuel ih =>
    rw [rtr_sync_loop_succ fuel w mem msize s hp, syncSpec]
    cases syncRound w s with
    | done r s' w' => rfl
    | again s' w' => exact ih w' _ s'

theorem rtr_sync_eq (w : XW) (s : Sock) : C.rtr_sync w s = syncSpec C.FUEL w s := by
  unfold C.rtr_sync
  exact rtr_sync_loop_eq _ w _ 3248 s (by decide)

/-! ### the rounds of rtr_sync -/

/-- socket and world after `k` rounds each of which received and skipped a Serial Notify -/
def afterNotifies : Nat → XW → Sock → Option (Sock × XW)
  | 0, w, s => some (s, w)
  | k + 1, w, s =>
    match syncRound w s with
    | .again s' w' => afterNotifies k w' s'
    | .done _ _ _ => none

theorem syncSpec_eq_some_iff (fuel : Nat) (w : XW) (s : Sock) (r : BitVec 32) (s' : Sock) (w' : XW) :
    syncSpec fuel w s = some (r, s', w') ↔
      ∃ k sk wk, k < fuel ∧ afterNotifies k w s = some (sk, wk) ∧ syncRound wk sk = .done r s' w' := by
  induction fuel generalizing w s with
  | zero =>
    simp only [syncSpec, Nat.not_lt_zero, false_and, exists_false, iff_false]
    exact fun h => by cases h
  | succ fuel ih =>
    rw [syncSpec]
    cases hR : syncRound w s with
    | done r0 s0 w0 =>
      constructor
      · intro h
        cases h
        exact ⟨0, s, w, Nat.succ_pos _, rfl, hR⟩
      · rintro ⟨_ | k, sk, wk, -, hs, hd⟩
        · cases hs
          rw [hR] at hd
          cases hd
          rfl
        · rw [afterNotifies, hR] at hs
          cases hs
    | again s1 w1 =>
      rw [SyncRound.andThen_again, ih]
      constructor
      · rintro ⟨k, sk, wk, hk, hs, hd⟩
        refine ⟨k + 1, sk, wk, Nat.succ_lt_succ hk, ?_, hd⟩
        rw [afterNotifies, hR]
        exact hs
      · rintro ⟨_ | k, sk, wk, hk, hs, hd⟩
        · cases hs
          rw [hR] at hd
          cases hd
        · rw [afterNotifies, hR] at hs
          exact ⟨k, sk, wk, Nat.lt_of_succ_lt_succ hk, hs, hd⟩

theorem syncSpec_eq_none_iff (fuel : Nat) (w : XW) (s : Sock) :
    syncSpec fuel w s = none ↔ ∃ p, afterNotifies fuel w s = some p := by
  induction fuel generalizing w s with
  | zero => simp only [syncSpec, afterNotifies, true_iff]; exact ⟨_, rfl⟩
  | succ fuel ih =>
    rw [syncSpec]
    cases hR : syncRound w s with
    | done r0 s0 w0 =>
      simp only [SyncRound.andThen_done, afterNotifies, hR, reduceCtorEq, exists_false]
    | again s1 w1 =>
      simp only [SyncRound.andThen_again, afterNotifies, hR]; exact ih w1 s1

/-- rtr_sync returns what the first round that does not skip a Serial Notify returns -/
theorem rtr_sync_eq_some_iff (w : XW) (s : Sock) (r : BitVec 32) (s' : Sock) (w' : XW) :
    C.rtr_sync w s = some (r, s', w') ↔
      ∃ k sk wk, k < C.FUEL ∧ afterNotifies k w s = some (sk, wk) ∧ syncRound wk sk = .done r s' w' := by
  rw [rtr_sync_eq, syncSpec_eq_some_iff]

/-- for every number `k` of leading Serial Notify answers (below the fuel 2^64 + 1): rtr_sync returns what round `k` returns -/
theorem sync_after_notifies (w : XW) (s : Sock) (k : Nat) (sk : Sock) (wk : XW) (r : BitVec 32) (s' : Sock) (w' : XW)
    (hk : k < C.FUEL) (hskip : afterNotifies k w s = some (sk, wk)) (hdone : syncRound wk sk = .done r s' w') :
    C.rtr_sync w s = some (r, s', w') :=
  (rtr_sync_eq_some_iff w s r s' w').mpr ⟨k, sk, wk, hk, hskip, hdone⟩

/-- EXACT definedness of rtr_sync: it has no result only if the cache answers 2^64 + 1 receives in a row with a Serial
    Notify (the C loop does not terminate on a cache that sends nothing else; no access is out of bounds, nothing overflows) -/
theorem rtr_sync_undefined_iff (w : XW) (s : Sock) :
    C.rtr_sync w s = none ↔ ∃ p, afterNotifies C.FUEL w s = some p := by
  rw [rtr_sync_eq, syncSpec_eq_none_iff]

/-- the three calls every round makes: cancellation on, receive, cancellation off (the last one already with the socket
    as the receive left it) -/
def roundCalls (w : XW) (s : Sock) : List Call :=
  [("pthread_setcancelstate", [0#64], s), ("rtr_receive_pdu", [3248#64, 60#64], s),
   ("pthread_setcancelstate", [1#64], (w.ext (w.n + 1)).st)]

private theorem rc_nonneg_facts (x : BitVec 32) (h : 0 ≤ x.toInt) :
    x ≠ 4294967292#32 ∧ x ≠ 4294967294#32 ∧ ¬ (BitVec.slt x 0#32 = true) := by
  refine ⟨?_, ?_, ?_⟩
  · rintro rfl; revert h; decide
  · rintro rfl; revert h; decide
  · rw [slt0_iff]; omega

/-- evaluate `syncRound` under the hypotheses given -/
local syntax "round_simp" "[" Lean.Parser.Tactic.simpLemma,* "]" (Lean.Parser.Tactic.location)? : tactic
local macro_rules
  | `(tactic| round_simp [$ls,*] $[$loc]?) =>
    `(tactic| simp only [syncRound, syncDispatch, syncCacheResponse, SyncRound.ofResult, roundCalls, xrec_eq_xrecs, xrecs_xrecs, xans_xrecs, xans_eq, xrecs_ext, xrecs_n,
        List.cons_append, List.nil_append, List.length_cons, List.length_nil, Nat.reduceAdd, Nat.zero_add, ne_eq,
        not_true_eq_false, not_false_eq_true, and_true, true_and, and_false, false_and, Bool.false_eq_true, BitVec.reduceEq, ↓reduceIte, $ls,*] $[$loc]?)

/-- a round in terms of the world's answers: answer `w.n` is for "cancellation on", `w.n + 1` the receive, `w.n + 2` for
    "cancellation off", `w.n + 3` … for the calls behind them.  The `syncRound_*` lemmas below read single leaves off this
    table; the three leaves on which a step of the Cache-Response path (check, store, stamp) returns RTR_ERROR have no
    lemma of their own: they are read here -/
theorem syncRound_eq (w : XW) (s : Sock) :
    syncRound w s =
      let recv := w.ext (w.n + 1)
      let calls := roundCalls w s
      let check : Call := ("rtr_handle_cache_response_pdu", [], recv.st)
      let store : Call := ("rtr_sync_receive_and_store_pdus", [], (w.ext (w.n + 3)).st)
      let stamp : Call := ("rtr_set_last_update", [], { (w.ext (w.n + 4)).st with request_session_id := false })
      if (xret recv = 4294967292#32 ∧ recv.st.request_session_id = true) ∧ recv.st.version ≠ 0#32 then
        .done 4294967295#32 (w.ext (w.n + 3)).st
          (xrecs w (calls ++ [("rtr_change_socket_state", [4#64], { recv.st with version := recv.st.version - 1#32 })]))
      else if xret recv = 4294967294#32 then
        .done 4294967295#32 (w.ext (w.n + 3)).st (xrecs w (calls ++ [("rtr_change_socket_state", [8#64], recv.st)]))
      else if BitVec.slt (xret recv) 0#32 = true then .done 4294967295#32 recv.st (xrecs w calls)
      else if typeByte recv.buf = 0#8 then .again recv.st (xrecs w calls)
      else if typeByte recv.buf = 10#8 then
        .done 4294967295#32 (w.ext (w.n + 3)).st (xrecs w (calls ++ [("rtr_handle_error_pdu", [], recv.st)]))
      else if typeByte recv.buf = 8#8 then
        .done 4294967295#32 (w.ext (w.n + 3)).st (xrecs w (calls ++ [("rtr_change_socket_state", [6#64], recv.st)]))
      else if typeByte recv.buf = 3#8 then
        if xret (w.ext (w.n + 3)) = 4294967295#32 then .done 4294967295#32 (w.ext (w.n + 3)).st (xrecs w (calls ++ [check]))
        else if xret (w.ext (w.n + 4)) = 4294967295#32 then
          .done 4294967295#32 (w.ext (w.n + 4)).st (xrecs w (calls ++ [check, store]))
        else if xret (w.ext (w.n + 5)) = 4294967295#32 then
          .done 4294967295#32 (w.ext (w.n + 5)).st (xrecs w (calls ++ [check, store, stamp]))
        else .done 0#32 (w.ext (w.n + 5)).st (xrecs w (calls ++ [check, store, stamp]))
      else .done 4294967295#32 recv.st (xrecs w (calls ++ [("rtr_send_error_pdu_from_host", [8#64, 0#64], recv.st)])) := by
  simp only [syncRound, syncDispatch, syncCacheResponse, apply_ite SyncRound.ofResult, SyncRound.ofResult_mk, roundCalls]
  xw_norm

/-- a Serial Notify is skipped: nothing but the three calls of the round happens, and the loop receives again -/
theorem syncRound_notify (w : XW) (s : Sock) (hrc : 0 ≤ (xret (w.ext (w.n + 1))).toInt)
    (hty : typeByte (w.ext (w.n + 1)).buf = 0#8) :
    syncRound w s = .again (w.ext (w.n + 1)).st (xrecs w (roundCalls w s)) := by
  obtain ⟨h1, h2, h3⟩ := rc_nonneg_facts _ hrc
  rw [syncRound_eq]
  round_simp [h1, h2, h3, hty]

/-- TR_WOULDBLOCK (nothing arrived within RTR_RECV_TIMEOUT): state ERROR_TRANSPORT, RTR_ERROR -/
theorem syncRound_wouldblock (w : XW) (s : Sock) (hrc : xret (w.ext (w.n + 1)) = 4294967294#32) :
    syncRound w s = .done 4294967295#32 (w.ext (w.n + 3)).st
      (xrecs w (roundCalls w s ++ [("rtr_change_socket_state", [8#64], (w.ext (w.n + 1)).st)])) := by
  rw [syncRound_eq]
  round_simp [hrc]

/-- CACHE_RESET: state ERROR_NO_INCR_UPDATE_AVAIL, RTR_ERROR -/
theorem syncRound_cache_reset (w : XW) (s : Sock) (hrc : 0 ≤ (xret (w.ext (w.n + 1))).toInt)
    (hty : typeByte (w.ext (w.n + 1)).buf = 8#8) :
    syncRound w s = .done 4294967295#32 (w.ext (w.n + 3)).st
      (xrecs w (roundCalls w s ++ [("rtr_change_socket_state", [6#64], (w.ext (w.n + 1)).st)])) := by
  obtain ⟨h1, h2, h3⟩ := rc_nonneg_facts _ hrc
  rw [syncRound_eq]
  round_simp [h1, h2, h3, hty]

/-- an Error Report: rtr_handle_error_pdu decides about the state; RTR_ERROR whatever it returns -/
theorem syncRound_error_pdu (w : XW) (s : Sock) (hrc : 0 ≤ (xret (w.ext (w.n + 1))).toInt)
    (hty : typeByte (w.ext (w.n + 1)).buf = 10#8) :
    syncRound w s = .done 4294967295#32 (w.ext (w.n + 3)).st
      (xrecs w (roundCalls w s ++ [("rtr_handle_error_pdu", [], (w.ext (w.n + 1)).st)])) := by
  obtain ⟨h1, h2, h3⟩ := rc_nonneg_facts _ hrc
  rw [syncRound_eq]
  round_simp [h1, h2, h3, hty]

/-- any other PDU type: an Error Report with the 8 header bytes of the PDU and code CORRUPT_DATA; RTR_ERROR; the
    socket is not touched -/
theorem syncRound_unexpected (w : XW) (s : Sock) (hrc : 0 ≤ (xret (w.ext (w.n + 1))).toInt)
    (h0 : typeByte (w.ext (w.n + 1)).buf ≠ 0#8) (h3 : typeByte (w.ext (w.n + 1)).buf ≠ 3#8)
    (h8 : typeByte (w.ext (w.n + 1)).buf ≠ 8#8) (h10 : typeByte (w.ext (w.n + 1)).buf ≠ 10#8) :
    syncRound w s = .done 4294967295#32 (w.ext (w.n + 1)).st
      (xrecs w (roundCalls w s ++ [("rtr_send_error_pdu_from_host", [8#64, 0#64], (w.ext (w.n + 1)).st)])) := by
  obtain ⟨c1, c2, c3⟩ := rc_nonneg_facts _ hrc
  rw [syncRound_eq]
  round_simp [c1, c2, c3, h0, h3, h8, h10]

/-- any other failure of the receive: RTR_ERROR, no further call (rtr_receive_pdu has set the state) -/
theorem syncRound_recv_failed (w : XW) (s : Sock) (hneg : (xret (w.ext (w.n + 1))).toInt < 0)
    (hnb : xret (w.ext (w.n + 1)) ≠ 4294967294#32)
    (hnd : ¬ (xret (w.ext (w.n + 1)) = 4294967292#32 ∧ (w.ext (w.n + 1)).st.request_session_id = true ∧
              (w.ext (w.n + 1)).st.version ≠ 0#32)) :
    syncRound w s = .done 4294967295#32 (w.ext (w.n + 1)).st (xrecs w (roundCalls w s)) := by
  have h3 : BitVec.slt (xret (w.ext (w.n + 1))) 0#32 = true := (slt0_iff _).mpr hneg
  have hnd' : ¬ ((xret (w.ext (w.n + 1)) = 4294967292#32 ∧ (w.ext (w.n + 1)).st.request_session_id = true) ∧
              ¬ (w.ext (w.n + 1)).st.version = 0#32) := fun h => hnd ⟨h.1.1, h.1.2, h.2⟩
  rw [syncRound_eq]
  round_simp [hnb, h3, hnd']

/-- the cache hung up before any session existed and a lower version is left: version − 1, FAST_RECONNECT, RTR_ERROR -/
theorem syncRound_downgrade (w : XW) (s : Sock) (hclosed : xret (w.ext (w.n + 1)) = 4294967292#32)
    (hreq : (w.ext (w.n + 1)).st.request_session_id = true) (hver : (w.ext (w.n + 1)).st.version ≠ 0#32) :
    syncRound w s = .done 4294967295#32 (w.ext (w.n + 3)).st
      (xrecs w (roundCalls w s ++ [("rtr_change_socket_state", [4#64],
        { (w.ext (w.n + 1)).st with version := (w.ext (w.n + 1)).st.version - 1#32 })])) := by
  rw [syncRound_eq]
  round_simp [hclosed, hreq, hver]

private theorem toNat_sub_one (v : BitVec 32) (h : v ≠ 0#32) : (v - 1#32).toNat = v.toNat - 1 := by
  have h0 : v.toNat ≠ 0 := fun h' => h (BitVec.eq_of_toNat_eq h')
  have h1 : 1#32 ≤ v := BitVec.le_def.mpr (show 1 ≤ v.toNat from Nat.pos_of_ne_zero h0)
  rw [BitVec.toNat_sub_of_le h1]
  rfl

/-- (C13) after any number `k` of skipped Serial Notifies, a receive that returns TR_CLOSED while the
    socket still requests a session id and `version > 0` makes rtr_sync lower `version` by one, change the state to
    FAST_RECONNECT (the socket handed over already carries the lower version) and return RTR_ERROR -/
theorem sync_downgrade (w : XW) (s : Sock) (k : Nat) (sk : Sock) (wk : XW) (hk : k < C.FUEL)
    (hskip : afterNotifies k w s = some (sk, wk))
    (hclosed : xret (wk.ext (wk.n + 1)) = 4294967292#32)
    (hreq : (wk.ext (wk.n + 1)).st.request_session_id = true)
    (hver : (wk.ext (wk.n + 1)).st.version ≠ 0#32) :
    C.rtr_sync w s = some (4294967295#32, (wk.ext (wk.n + 3)).st,
      xrecs wk (roundCalls wk sk ++ [("rtr_change_socket_state", [4#64],
        { (wk.ext (wk.n + 1)).st with version := (wk.ext (wk.n + 1)).st.version - 1#32 })])) ∧
    ((wk.ext (wk.n + 1)).st.version - 1#32).toNat = (wk.ext (wk.n + 1)).st.version.toNat - 1 :=
  ⟨sync_after_notifies w s k sk wk _ _ _ hk hskip (syncRound_downgrade wk sk hclosed hreq hver), toNat_sub_one _ hver⟩

/-! ### (C13) rtr_sync changes `version` in no situation but the downgrade -/

/-- a socket that rtr_sync hands to a callee carries a `version` rtr_sync was itself given - by its caller (`s`) or by a
    callee (`(ext i).st`) - or, only in the call `rtr_change_socket_state(FAST_RECONNECT)` after a receive that returned
    TR_CLOSED while a session id was still requested and the version was not 0, that version minus one -/
def VersionGiven (ext : Nat → C.ExtAns Sock) (s : Sock) (e : Call) : Prop :=
  e.2.2.version = s.version ∨ (∃ i, e.2.2.version = (ext i).st.version) ∨
  (e.1 = "rtr_change_socket_state" ∧ e.2.1 = [4#64] ∧
    ∃ i, xret (ext i) = 4294967292#32 ∧ (ext i).st.request_session_id = true ∧ (ext i).st.version ≠ 0#32 ∧
      e.2.2.version = (ext i).st.version - 1#32)

def SyncRound.world : SyncRound → XW
  | .again _ w => w
  | .done _ _ w => w
def SyncRound.sock : SyncRound → Sock
  | .again s _ => s
  | .done _ s _ => s

/-- what `syncRound_versions` says about a round -/
def RoundOk (w : XW) (s : Sock) (r : SyncRound) : Prop :=
  r.world.ext = w.ext ∧ (∃ i, r.sock = (w.ext i).st) ∧
  ∃ seg, r.world.trace = w.trace ++ seg ∧ ∀ e ∈ seg, VersionGiven w.ext s e

/-- every socket a round hands on carries a version it was given (or the downgrade), and the socket it ends with is one a
    callee left -/
theorem syncRound_versions (w : XW) (s : Sock) : RoundOk w s (syncRound w s) := by
  have given : ∀ (name : String) (args : List (BitVec 64)) (i : Nat), VersionGiven w.ext s (name, args, (w.ext i).st) :=
    fun _ _ i => Or.inr (Or.inl ⟨i, rfl⟩)
  have stamp : ∀ (name : String) (args : List (BitVec 64)) (i : Nat),
      VersionGiven w.ext s (name, args, { (w.ext i).st with request_session_id := false }) :=
    fun _ _ i => Or.inr (Or.inl ⟨i, rfl⟩)
  -- the three calls of every round are handed `s`, `s` and the socket the receive left
  have calls : ∀ e ∈ roundCalls w s, VersionGiven w.ext s e :=
    List.forall_mem_cons.mpr ⟨Or.inl rfl, List.forall_mem_cons.mpr ⟨Or.inl rfl, List.forall_mem_singleton.mpr (given _ _ _)⟩⟩
  -- a leaf of `syncRound_eq`: the socket is an answer's, behind the three calls come the calls `l`
  have done : ∀ (r : BitVec 32) (i : Nat) (l : List Call), (∀ e ∈ l, VersionGiven w.ext s e) →
      RoundOk w s (.done r (w.ext i).st (xrecs w (roundCalls w s ++ l))) :=
    fun _ i _ h => ⟨rfl, ⟨i, rfl⟩, _, rfl, List.forall_mem_append.mpr ⟨calls, h⟩⟩
  have done0 : ∀ (r : BitVec 32), RoundOk w s (.done r (w.ext (w.n + 1)).st (xrecs w (roundCalls w s))) :=
    fun _ => ⟨rfl, ⟨_, rfl⟩, _, rfl, calls⟩
  have again0 : RoundOk w s (.again (w.ext (w.n + 1)).st (xrecs w (roundCalls w s))) := ⟨rfl, ⟨_, rfl⟩, _, rfl, calls⟩
  rw [syncRound_eq]
  dsimp only
  refine iteInduction (motive := RoundOk w s) (fun c1 => ?_) (fun _ => ?_)
  · exact done _ _ _ (List.forall_mem_singleton.mpr (Or.inr (Or.inr ⟨rfl, rfl, w.n + 1, c1.1.1, c1.1.2, c1.2, rfl⟩)))
  simp only [apply_ite (RoundOk w s), done, done0, again0, List.forall_mem_cons, List.not_mem_nil, false_imp_iff, implies_true,
    given, stamp, and_self, ite_self]

theorem VersionGiven.of_given {ext : Nat → C.ExtAns Sock} {s : Sock} {i : Nat} {e : Call}
    (h : VersionGiven ext (ext i).st e) : VersionGiven ext s e := by
  rcases h with h | h | h
  · exact Or.inr (Or.inl ⟨i, h⟩)
  · exact Or.inr (Or.inl h)
  · exact Or.inr (Or.inr h)

theorem syncSpec_versions (fuel : Nat) (w : XW) (s : Sock) (r : BitVec 32) (s' : Sock) (w' : XW)
    (h : syncSpec fuel w s = some (r, s', w')) :
    w'.ext = w.ext ∧ (∃ i, s' = (w.ext i).st) ∧ ∃ seg, w'.trace = w.trace ++ seg ∧ ∀ e ∈ seg, VersionGiven w.ext s e := by
  induction fuel generalizing w s with
  | zero => cases h
  | succ fuel ih =>
    rw [syncSpec] at h
    have hv := syncRound_versions w s
    cases hR : syncRound w s with
    | done r0 s0 w0 =>
      rw [hR] at h hv
      simp only [SyncRound.andThen_done, Option.some.injEq, Prod.mk.injEq] at h
      obtain ⟨rfl, rfl, rfl⟩ := h
      exact hv
    | again s1 w1 =>
      rw [hR] at h hv
      obtain ⟨hext, ⟨i, hs1⟩, seg1, htr1, hseg1⟩ := hv
      simp only [SyncRound.world, SyncRound.sock] at hext hs1 htr1
      obtain ⟨hext2, ⟨j, hs'⟩, seg2, htr2, hseg2⟩ := ih w1 s1 h
      rw [hext] at hext2 hs' hseg2
      refine ⟨hext2, ⟨j, hs'⟩, seg1 ++ seg2, by rw [htr2, htr1, List.append_assoc], ?_⟩
      intro e he
      rcases List.mem_append.mp he with he | he
      · exact hseg1 e he
      · have := hseg2 e he
        rw [hs1] at this
        exact this.of_given

/-- (C13) `version` is changed by rtr_sync itself in no situation but the downgrade of `sync_downgrade`: whatever rtr_sync returns, every
    call it made was handed a socket whose `version` is one rtr_sync was given (by its caller or by a callee) - except the
    call rtr_change_socket_state(FAST_RECONNECT) in the downgrade situation, which gets that version minus one; and the
    socket rtr_sync ends with is the one a callee left -/
theorem sync_version_only_downgrade (w : XW) (s : Sock) (r : BitVec 32) (s' : Sock) (w' : XW)
    (h : C.rtr_sync w s = some (r, s', w')) :
    w'.ext = w.ext ∧ (∃ i, s' = (w.ext i).st) ∧ ∃ seg, w'.trace = w.trace ++ seg ∧ ∀ e ∈ seg, VersionGiven w.ext s e := by
  rw [rtr_sync_eq] at h
  exact syncSpec_versions _ w s r s' w' h

/-! ### (C05, C07) the only way to RTR_SUCCESS -/

/-- (C05, C07) rtr_sync returns RTR_SUCCESS only if, after `k` skipped Serial Notifies, a receive
    succeeded with a CACHE_RESPONSE and then, IN THIS ORDER: rtr_handle_cache_response_pdu (on the socket as received) did
    not return RTR_ERROR; rtr_sync_receive_and_store_pdus (on the socket the former left: `request_session_id` is still what
    it was) did not return RTR_ERROR; `request_session_id` was cleared; rtr_set_last_update (on the socket the store left,
    with only `request_session_id` cleared) did not return RTR_ERROR - and these six calls are all the last round made -/
theorem sync_success_order (w : XW) (s s' : Sock) (w' : XW) (h : C.rtr_sync w s = some (0#32, s', w')) :
    ∃ k sk wk, k < C.FUEL ∧ afterNotifies k w s = some (sk, wk) ∧
      0 ≤ (xret (wk.ext (wk.n + 1))).toInt ∧ typeByte (wk.ext (wk.n + 1)).buf = 3#8 ∧
      xret (wk.ext (wk.n + 3)) ≠ 4294967295#32 ∧ xret (wk.ext (wk.n + 4)) ≠ 4294967295#32 ∧
      xret (wk.ext (wk.n + 5)) ≠ 4294967295#32 ∧ s' = (wk.ext (wk.n + 5)).st ∧
      w' = xrecs wk (roundCalls wk sk ++
        [("rtr_handle_cache_response_pdu", [], (wk.ext (wk.n + 1)).st),
         ("rtr_sync_receive_and_store_pdus", [], (wk.ext (wk.n + 3)).st),
         ("rtr_set_last_update", [], { (wk.ext (wk.n + 4)).st with request_session_id := false })]) := by
  obtain ⟨k, sk, wk, hk, hs, hd⟩ := (rtr_sync_eq_some_iff w s _ s' w').mp h
  refine ⟨k, sk, wk, hk, hs, ?_⟩
  -- in `syncRound_eq` every leaf but one fails or goes round again: `hd` says that none of the conditions leading there holds
  have bad : ∀ (a : Sock) (b : XW), (SyncRound.done 4294967295#32 a b = SyncRound.done 0#32 s' w') = False :=
    fun a b => eq_false fun hh => absurd (SyncRound.done.inj hh).1 (by decide)
  simp only [syncRound_eq, apply_ite (fun r => r = SyncRound.done 0#32 s' w'), bad, reduceCtorEq, if_false_left, if_false_right,
    SyncRound.done.injEq, true_and] at hd
  obtain ⟨_, _, c3, _, _, _, t3, r1, r2, r3, hs', hw'⟩ := hd
  have hrc : 0 ≤ (xret (wk.ext (wk.n + 1))).toInt := by
    rw [slt0_iff] at c3
    omega
  exact ⟨hrc, t3, r1, r2, r3, hs'.symm, hw'.symm⟩

/-- and conversely that path does end with RTR_SUCCESS -/
theorem syncRound_cache_response_ok (w : XW) (s : Sock) (hrc : 0 ≤ (xret (w.ext (w.n + 1))).toInt)
    (hty : typeByte (w.ext (w.n + 1)).buf = 3#8) (r1 : xret (w.ext (w.n + 3)) ≠ 4294967295#32)
    (r2 : xret (w.ext (w.n + 4)) ≠ 4294967295#32) (r3 : xret (w.ext (w.n + 5)) ≠ 4294967295#32) :
    syncRound w s = .done 0#32 (w.ext (w.n + 5)).st (xrecs w (roundCalls w s ++
      [("rtr_handle_cache_response_pdu", [], (w.ext (w.n + 1)).st),
       ("rtr_sync_receive_and_store_pdus", [], (w.ext (w.n + 3)).st),
       ("rtr_set_last_update", [], { (w.ext (w.n + 4)).st with request_session_id := false })])) := by
  obtain ⟨h1, h2, h3⟩ := rc_nonneg_facts _ hrc
  rw [syncRound_eq]
  round_simp [h1, h2, h3, hty, r1, r2, r3]

/-! ## Non-vacuity: the translated functions evaluated on small concrete worlds -/

/-- an established version-1 socket: last synchronisation at time 1000, refresh interval 3600 -/
def exSock : Sock :=
  { refresh_interval := 3600#32, last_update := 1000#64, expire_interval := 7200#32, retry_interval := 600#32,
    iv_mode := 0#32, state := 1#32, session_id := 0x1234#32, request_session_id := false, serial_number := 77#32,
    thread_id := 0#64, version := 1#32, has_received_pdus := true, is_resetting := false }

/-- a world that gives the listed answers (afterwards: return value 0) -/
def exWorld (l : List (C.ExtAns Sock)) : XW := { ext := fun i => l.getD i { rc := 0#64, aux := 0#64, st := exSock } }

/-- what can be observed of a result: return value, socket, number of calls made, the calls -/
structure SyncObs where
  ret : BitVec 32
  sock : Sock
  ncalls : Nat
  calls : List Call
deriving DecidableEq

def syncObs (r : Res) : Option SyncObs := r.map fun x => ⟨x.1, x.2.1, x.2.2.n, x.2.2.trace⟩

-- rtr_wait_for_sync: at time 2000 the deadline 1000 + 3600 is 2600 away; a Serial Notify arrives → RTR_SUCCESS
example : syncObs (C.rtr_wait_for_sync (exWorld [{ rc := 0#64, aux := 2000#64, st := exSock },
      { rc := 12#64, aux := 0#64, st := exSock, buf := [1#8, 0#8, 0#8, 0#8, 0#8, 0#8, 0#8, 12#8, 0#8, 0#8, 0#8, 78#8] }]) exSock) =
    some ⟨0#32, exSock, 2, [("lrtr_get_monotonic_time", [], exSock), ("rtr_receive_pdu", [3248#64, 2600#64], exSock)]⟩ := rfl
-- the deadline has passed (time 10000): the timeout is 0, not 2^64 − 5400; the receive times out → RTR_SUCCESS (poll now)
example : syncObs (C.rtr_wait_for_sync (exWorld [{ rc := 0#64, aux := 10000#64, st := exSock },
      { rc := 0xFFFFFFFFFFFFFFFE#64, aux := 0#64, st := exSock }]) exSock) =
    some ⟨0#32, exSock, 2, [("lrtr_get_monotonic_time", [], exSock), ("rtr_receive_pdu", [3248#64, 0#64], exSock)]⟩ := rfl
-- something else than a Serial Notify arrives → RTR_ERROR
example : syncObs (C.rtr_wait_for_sync (exWorld [{ rc := 0#64, aux := 2000#64, st := exSock },
      { rc := 8#64, aux := 0#64, st := exSock, buf := [1#8, 8#8, 0#8, 0#8, 0#8, 0#8, 0#8, 8#8] }]) exSock) =
    some ⟨4294967295#32, exSock, 2, [("lrtr_get_monotonic_time", [], exSock), ("rtr_receive_pdu", [3248#64, 2600#64], exSock)]⟩ := rfl
-- `last_update + refresh_interval` overflows time_t: no defined result
example : (C.rtr_wait_for_sync (exWorld [{ rc := 0#64, aux := 2000#64, st := exSock }])
    { exSock with last_update := 0x7FFFFFFFFFFFFFFF#64 }).isNone = true := by decide +kernel
example : ¬ waitDefined { exSock with last_update := 0x7FFFFFFFFFFFFFFF#64 } 2000#64 := by decide +kernel
example : waitDefined exSock 10000#64 ∧ (waitTimeout exSock 10000#64) = 0#64 := by decide +kernel

-- rtr_send_serial_query / rtr_send_reset_query
example : syncObs (C.rtr_send_serial_query (exWorld []) exSock) =
    some ⟨0#32, exSock, 1, [("rtr_send_pdu", [12#64, 1#64, 1#64, 0x1234#64, 12#64, 77#64], exSock)]⟩ := rfl
example : syncObs (C.rtr_send_reset_query (exWorld [{ rc := 0xFFFFFFFFFFFFFFFF#64, aux := 0#64, st := exSock },
      { rc := 0#64, aux := 0#64, st := { exSock with state := 8#32 } }]) exSock) =
    some ⟨4294967295#32, { exSock with state := 8#32 }, 2,
      [("rtr_send_pdu", [8#64, 1#64, 2#64, 0#64, 8#64], exSock), ("rtr_change_socket_state", [8#64], exSock)]⟩ := rfl

-- rtr_set_last_update
example : syncObs (C.rtr_set_last_update (exWorld [{ rc := 0#64, aux := 5000#64, st := exSock }]) exSock) =
    some ⟨0#32, { exSock with last_update := 5000#64 }, 1, [("lrtr_get_monotonic_time", [], exSock)]⟩ := rfl
example : syncObs (C.rtr_set_last_update (exWorld [{ rc := 0xFFFFFFFFFFFFFFFF#64, aux := 0#64, st := exSock },
      { rc := 0#64, aux := 0#64, st := { exSock with state := 7#32 } }]) exSock) =
    some ⟨4294967295#32, { exSock with state := 7#32 }, 2,
      [("lrtr_get_monotonic_time", [], exSock), ("rtr_change_socket_state", [7#64], { exSock with last_update := 0#64 })]⟩ := rfl

-- rtr_handle_cache_response_pdu: a Cache Response (host order: session field 0x5678 at offset 2) of 8 bytes
def exCacheResponse : List Nat := [1, 3, 0x78, 0x56, 8, 0, 0, 0]
example : syncObs (C.rtr_handle_cache_response_pdu (exWorld []) (C.memOfList exCacheResponse) 8
      { exSock with request_session_id := true } 0) =
    some ⟨0#32, { exSock with request_session_id := true, session_id := 0x5678#32, is_resetting := true }, 0, []⟩ := rfl
example : syncObs (C.rtr_handle_cache_response_pdu (exWorld [{ rc := 0#64, aux := 0#64, st := exSock },
      { rc := 0#64, aux := 0#64, st := { exSock with state := 7#32 } }]) (C.memOfList exCacheResponse) 8 exSock 0) =
    some ⟨4294967295#32, { exSock with state := 7#32 }, 2,
      [("rtr_send_error_pdu_from_host", [0#64, 0#64], exSock), ("rtr_change_socket_state", [7#64], exSock)]⟩ := rfl
example : syncObs (C.rtr_handle_cache_response_pdu (exWorld []) (C.memOfList exCacheResponse) 8
      { exSock with session_id := 0x5678#32 } 0) = some ⟨0#32, { exSock with session_id := 0x5678#32 }, 0, []⟩ := rfl
example : (C.rtr_handle_cache_response_pdu (exWorld []) (C.memOfList exCacheResponse) 3 exSock 0).isNone = true := by decide +kernel

-- rtr_handle_error_pdu: an Error Report (host order) with the given version byte and code, no encapsulated PDU, no text:
-- 16 bytes
def exErrorPdu (ver code : Nat) : List Nat := [ver, 10, code, 0, 16, 0, 0, 0, 0, 0, 0, 0, 0, 0, 0, 0]
example : syncObs (C.rtr_handle_error_pdu (exWorld [{ rc := 0#64, aux := 0#64, st := { exSock with version := 0#32, state := 4#32 } }])
      (C.memOfList (exErrorPdu 0 4)) 16 exSock 0) =
    some ⟨0#32, { exSock with version := 0#32, state := 4#32 }, 1,
      [("rtr_change_socket_state", [4#64], { exSock with version := 0#32 })]⟩ := rfl
-- the same report to a version-0 socket is no downgrade: ERROR_FATAL
example : syncObs (C.rtr_handle_error_pdu (exWorld []) (C.memOfList (exErrorPdu 0 4)) 16 { exSock with version := 0#32 } 0) =
    some ⟨0#32, exSock, 1, [("rtr_change_socket_state", [7#64], { exSock with version := 0#32 })]⟩ := rfl
example : syncObs (C.rtr_handle_error_pdu (exWorld []) (C.memOfList (exErrorPdu 1 2)) 16 exSock 0) =
    some ⟨0#32, exSock, 1, [("rtr_change_socket_state", [5#64], exSock)]⟩ := rfl
-- the object ends before the text-length field (15 bytes), or len_enc_pdu points beyond it: the C text reads outside
example : (C.rtr_handle_error_pdu (exWorld []) (C.memOfList (exErrorPdu 1 2)) 15 exSock 0).isNone = true := by decide +kernel
example : (C.rtr_handle_error_pdu (exWorld []) (C.memOfList [1, 10, 2, 0, 16, 0, 0, 0, 1, 0, 0, 0, 0, 0, 0, 0]) 16 exSock 0).isNone
    = true := by decide +kernel

-- rtr_sync: a Serial Notify is skipped, then Cache Response → check, store, clear request_session_id, set last_update
def exNotify : List (BitVec 8) := [1#8, 0#8, 0x12#8, 0x34#8, 0#8, 0#8, 0#8, 12#8, 0#8, 0#8, 0#8, 78#8]
def exResponse : List (BitVec 8) := [1#8, 3#8, 0x12#8, 0x34#8, 0#8, 0#8, 0#8, 8#8]
def exReq : Sock := { exSock with request_session_id := true }
example : syncObs (C.rtr_sync (exWorld [{ rc := 0#64, aux := 0#64, st := exReq }, { rc := 12#64, aux := 0#64, st := exReq, buf := exNotify },
      { rc := 0#64, aux := 0#64, st := exReq }, { rc := 0#64, aux := 0#64, st := exReq },
      { rc := 8#64, aux := 0#64, st := exReq, buf := exResponse }, { rc := 0#64, aux := 0#64, st := exReq },
      { rc := 0#64, aux := 0#64, st := { exReq with is_resetting := true } },
      { rc := 0#64, aux := 0#64, st := { exReq with serial_number := 78#32 } },
      { rc := 0#64, aux := 0#64, st := { exSock with serial_number := 78#32, last_update := 9000#64 } }]) exReq) =
    some ⟨0#32, { exSock with serial_number := 78#32, last_update := 9000#64 }, 9,
      [("pthread_setcancelstate", [0#64], exReq), ("rtr_receive_pdu", [3248#64, 60#64], exReq),
       ("pthread_setcancelstate", [1#64], exReq),
       ("pthread_setcancelstate", [0#64], exReq), ("rtr_receive_pdu", [3248#64, 60#64], exReq),
       ("pthread_setcancelstate", [1#64], exReq),
       ("rtr_handle_cache_response_pdu", [], exReq),
       ("rtr_sync_receive_and_store_pdus", [], { exReq with is_resetting := true }),
       ("rtr_set_last_update", [], { exSock with serial_number := 78#32 })]⟩ := rfl
-- rtr_sync: the cache hangs up before any session exists: version 1 → 0, FAST_RECONNECT
example : syncObs (C.rtr_sync (exWorld [{ rc := 0#64, aux := 0#64, st := exReq },
      { rc := 0xFFFFFFFFFFFFFFFC#64, aux := 0#64, st := exReq }, { rc := 0#64, aux := 0#64, st := exReq },
      { rc := 0#64, aux := 0#64, st := { exReq with version := 0#32, state := 4#32 } }]) exReq) =
    some ⟨4294967295#32, { exReq with version := 0#32, state := 4#32 }, 4,
      [("pthread_setcancelstate", [0#64], exReq), ("rtr_receive_pdu", [3248#64, 60#64], exReq),
       ("pthread_setcancelstate", [1#64], exReq),
       ("rtr_change_socket_state", [4#64], { exReq with version := 0#32 })]⟩ := rfl
-- … but not once a session exists
example : syncObs (C.rtr_sync (exWorld [{ rc := 0#64, aux := 0#64, st := exSock },
      { rc := 0xFFFFFFFFFFFFFFFC#64, aux := 0#64, st := exSock }]) exSock) =
    some ⟨4294967295#32, exSock, 3,
      [("pthread_setcancelstate", [0#64], exSock), ("rtr_receive_pdu", [3248#64, 60#64], exSock),
       ("pthread_setcancelstate", [1#64], exSock)]⟩ := rfl
-- rtr_sync: an unexpected PDU type (IPv4 prefix) → Error Report, RTR_ERROR
example : syncObs (C.rtr_sync (exWorld [{ rc := 0#64, aux := 0#64, st := exSock },
      { rc := 20#64, aux := 0#64, st := exSock, buf := [1#8, 4#8, 0#8, 0#8, 0#8, 0#8, 0#8, 20#8] }]) exSock) =
    some ⟨4294967295#32, exSock, 4,
      [("pthread_setcancelstate", [0#64], exSock), ("rtr_receive_pdu", [3248#64, 60#64], exSock),
       ("pthread_setcancelstate", [1#64], exSock), ("rtr_send_error_pdu_from_host", [8#64, 0#64], exSock)]⟩ := rfl
-- `afterNotifies` on a concrete world: one Serial Notify is skipped (the `k = 1` of `sync_downgrade` / `sync_success_order`)
example : ∃ sk wk, afterNotifies 1 (exWorld [{ rc := 0#64, aux := 0#64, st := exReq },
      { rc := 12#64, aux := 0#64, st := exReq, buf := exNotify }]) exReq = some (sk, wk) ∧ wk.n = 3 := ⟨_, _, rfl, rfl⟩

end Rtr.CLink
