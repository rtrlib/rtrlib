/-
  IpTextDefined: the repaired parser never reads a `words[]` slot it has not written, whatever the input text.
-/
import RtrProofs.IpTextParse

namespace Rtr.IpText

/-- invariant of the `while` loop: the words written so far are some list `vals` (so `i ≤ 8` and exactly the slots below
    `i` are written), and a `::` was seen at a position `hfil ≤ i`; this is what the two loops of the `::` expansion
    need in order to read written slots only -/
def Inv (st : PSt) : Prop := ∃ vals, Shape st vals ∧ ∀ h, st.hfil = some h → h ≤ st.i

theorem inv_init : Inv initSt := ⟨[], shape_init, by intro h e; cases e⟩

theorem inv_push {st : PSt} (h : Inv st) (hlt : st.i < 8) (v : Nat) : Inv (push st v) := by
  obtain ⟨vals, hs, hh⟩ := h
  refine ⟨vals ++ [v], shape_push hs (by rw [← hs.i]; exact hlt) v, ?_⟩
  intro k hk
  rw [push_hfil] at hk
  have := hh k hk
  rw [push_i]; omega

theorem inv_hfil {st : PSt} (h : Inv st) : Inv { st with hfil := some st.i } := by
  obtain ⟨vals, hs, _⟩ := h
  refine ⟨vals, ⟨hs.words, hs.i, hs.le⟩, ?_⟩
  intro k hk
  simp only [Option.some.injEq] at hk
  show k ≤ st.i
  omega

theorem finish_defined {st : PSt} (h : Inv st) : finish true st ≠ .uninit := by
  obtain ⟨vals, hs, hh⟩ := h
  cases hf : st.hfil with
  | none =>
    by_cases h8 : st.i = 8
    · rw [finish_nogap true hs hf (by rw [← hs.i]; exact h8)]; intro e; cases e
    · rw [finish_nogap_short hf h8]; intro e; cases e
  | some k =>
    have hk := hh k hf
    have hk' : k ≤ vals.length := by rw [← hs.i]; exact hk
    have e : vals = vals.take k ++ vals.drop k := (List.take_append_drop k vals).symm
    have hs' : Shape st (vals.take k ++ vals.drop k) := by rw [← e]; exact hs
    have := finish_gap true (vals.take k) (vals.drop k) hs' (by rw [hf, List.length_take]; congr 1; omega)
    rw [this]; intro e; cases e

theorem loop_defined (f : Nat) (s : Str) (st : PSt) : Inv st → loop true f s st ≠ .uninit := by
  -- `loop.induct` has one case per branch of `loop`, numbered in the order of the definition's text: twelve in all.
  -- Seven return `.reject` at once and fall to the last alternative; the five others keep the invariant:
  induction f, s, st using loop.induct with
  -- 2: the text has ended, `finish` on the state reached
  | case2 n st =>
    intro h
    simpa [loop] using finish_defined h
  -- 4: a `:` at the start of an iteration (the second of `::`) when none was seen before: `hfil := i`
  | case4 f cs st hh ih =>
    intro h
    simpa [loop, hh] using ih (inv_hfil h)
  -- 7: a group at the end of the text with `i < 8`: one `push`, then `finish`
  | case7 f c cs st hc d h8 hs =>
    intro h
    simpa [loop, hc, hs, h8] using finish_defined (inv_push h (by omega) d)
  -- 9: a group followed by `:` and more text with `i < 8`: one `push`, then the loop goes on
  | case9 f c cs st hc d c1 cs1 h1 h8 hs ih =>
    intro h
    simpa [loop, hc, hs, h1, h8] using ih (inv_push h (by omega) d)
  -- 11: a dotted quad that `parse4` accepts, at `i = 6` or at `i < 6` behind a `::`: two `push`es, then `finish`
  | case11 f c cs st hc d c1 cs1 h1 h2 k hp hs =>
    intro h
    have hi : st.i < 7 := by
      rcases h2.2 with h | h <;> omega
    simpa [loop, hc, hs, h1, h2, hp] using finish_defined (inv_push (inv_push h (by omega) _) (by rw [push_i]; omega) _)
  | _ =>
    intro _
    simp [loop, *]

theorem parse6_ne_uninit (s : Str) : parse6 s ≠ .uninit := by
  unfold parse6 parse6Core
  split
  · split
    · exact loop_defined _ _ _ inv_init
    · intro e; cases e
  · exact loop_defined _ _ _ inv_init

end Rtr.IpText
