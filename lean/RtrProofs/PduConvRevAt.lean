/-
  PduConvRevAt: what `Conv.revAt` (RtrModel/PduConv.lean) does to a buffer, byte by byte.  Every round trip of the
  conversions rests on two facts: reversing a field twice restores the buffer, and reversals of fields that do not overlap
  commute.  The list model (`revFields`, RtrProofs/PduConv.lean) and the memory model of the translated C text (`swapWords`,
  RtrProofs/CLinkFooter.lean) both fold such a step over a list of fields; `foldl_invol` is the round trip of any such fold.
  `swapField` / `swapFields` are the step on any byte-addressed store: the memory model's swaps, and the list model inside
  the buffer.
-/
import RtrModel.PduConv

namespace Rtr.Conv

theorem foldl_invol {α ι : Type} (f : α → ι → α) (R : ι → ι → Prop) (hinv : ∀ a i, f (f a i) i = a)
    (hcomm : ∀ a i j, R i j → f (f a i) j = f (f a j) i) (l : List ι) (hp : l.Pairwise R) (a : α) :
    l.foldl f (l.foldl f a) = a := by
  induction l generalizing a with
  | nil => rfl
  | cons i l ih =>
    rw [List.pairwise_cons] at hp
    -- move the second `f · i` in front of the first fold, next to the first `f · i`
    have hmove : ∀ (l' : List ι) (a' : α), (∀ j ∈ l', R i j) → f (l'.foldl f a') i = l'.foldl f (f a' i) := by
      intro l'
      induction l' with
      | nil =>
        intro a' _
        rfl
      | cons j l' ih' =>
        intro a' hj
        rw [List.foldl_cons, List.foldl_cons, ih' _ (fun j' h => hj j' (List.mem_cons_of_mem _ h)),
          hcomm a' i j (hj j List.mem_cons_self)]
    rw [List.foldl_cons, List.foldl_cons, hmove l _ hp.1, hinv, ih hp.2]

theorem revAt_oob (b : List Nat) (o k : Nat) (h : ¬ o + k ≤ b.length) : revAt b o k = b := by
  unfold revAt
  rw [if_neg h]

theorem length_revAt (b : List Nat) (o k : Nat) : (revAt b o k).length = b.length := by
  by_cases hb : o + k ≤ b.length
  · unfold revAt
    rw [if_pos hb, List.length_append, List.length_append, List.length_reverse,
      List.length_take_of_le (Nat.le_trans (Nat.le_add_right o k) hb),
      List.length_take_of_le (by rw [List.length_drop]; omega), List.length_drop]
    omega
  · rw [revAt_oob b o k hb]

theorem ext_getD {a b : List Nat} (hl : a.length = b.length) (h : ∀ i, i < a.length → a.getD i 0 = b.getD i 0) :
    a = b := by
  apply List.ext_getElem hl
  intro i h1 h2
  have := h i h1
  simpa [List.getD_eq_getElem?_getD, List.getElem?_eq_getElem h1, List.getElem?_eq_getElem h2] using this

/-- where the byte at `x` comes from when the `k` bytes at `a` are reversed -/
def mirror (a k x : Nat) : Nat := if a ≤ x ∧ x < a + k then a + (a + k - 1 - x) else x

theorem mirror_in (a k j : Nat) (hj : j < k) : mirror a k (a + j) = a + (k - 1 - j) := by
  unfold mirror
  rw [if_pos ⟨Nat.le_add_right a j, Nat.add_lt_add_left hj a⟩]
  omega

theorem mirror_out (a k x : Nat) (h : x < a ∨ a + k ≤ x) : mirror a k x = x := by
  unfold mirror
  rw [if_neg (by omega)]

theorem mirror_range (a k x : Nat) (h : a ≤ x ∧ x < a + k) : a ≤ mirror a k x ∧ mirror a k x < a + k := by
  unfold mirror
  rw [if_pos h]
  omega

theorem mirror_lt (a k n x : Nat) (h : a + k ≤ n) (hx : x < n) : mirror a k x < n := by
  by_cases hr : a ≤ x ∧ x < a + k
  · exact Nat.lt_of_lt_of_le (mirror_range a k x hr).2 h
  · rw [mirror_out a k x (by omega)]
    exact hx

theorem mirror_mirror (a k x : Nat) : mirror a k (mirror a k x) = x := by
  by_cases hr : a ≤ x ∧ x < a + k
  · have hr' := mirror_range a k x hr
    unfold mirror at hr' ⊢
    rw [if_pos hr] at hr' ⊢
    rw [if_pos hr']
    omega
  · rw [mirror_out a k x (by omega), mirror_out a k x (by omega)]

theorem mirror_comm (a k b l x : Nat) (h : a + k ≤ b ∨ b + l ≤ a) :
    mirror a k (mirror b l x) = mirror b l (mirror a k x) := by
  by_cases ha : a ≤ x ∧ x < a + k
  · have ha' := mirror_range a k x ha
    rw [mirror_out b l x (by omega), mirror_out b l _ (by omega)]
  · rw [mirror_out a k x (by omega)]
    by_cases hb : b ≤ x ∧ x < b + l
    · have hb' := mirror_range b l x hb
      rw [mirror_out a k _ (by omega)]
    · rw [mirror_out b l x (by omega), mirror_out a k x (by omega)]

theorem getD_revAt (b : List Nat) (o k i : Nat) (hb : o + k ≤ b.length) :
    (revAt b o k).getD i 0 = b.getD (mirror o k i) 0 := by
  have l1 : (b.take o).length = o := List.length_take_of_le (Nat.le_trans (Nat.le_add_right o k) hb)
  have l2 : ((b.drop o).take k).length = k := List.length_take_of_le (by rw [List.length_drop]; omega)
  unfold revAt
  rw [if_pos hb, List.append_assoc]
  simp only [List.getD_eq_getElem?_getD]
  by_cases h1 : i < o
  · rw [mirror_out o k i (Or.inl h1), List.getElem?_append_left (l1.symm ▸ h1), List.getElem?_take_of_lt h1]
  · obtain ⟨j, rfl⟩ : ∃ j, i = o + j := ⟨i - o, by omega⟩
    rw [List.getElem?_append_right (l1.symm ▸ Nat.le_add_right o j), l1, Nat.add_sub_cancel_left]
    by_cases h2 : j < k
    · rw [mirror_in o k j h2, List.getElem?_append_left (by rw [List.length_reverse, l2]; exact h2),
        List.getElem?_reverse (l2.symm ▸ h2), l2, List.getElem?_take_of_lt (by omega), List.getElem?_drop]
    · rw [mirror_out o k _ (Or.inr (Nat.add_le_add_left (Nat.le_of_not_lt h2) o)),
        List.getElem?_append_right (by rw [List.length_reverse, l2]; omega), List.length_reverse, l2, List.getElem?_drop]
      congr 2
      omega

theorem getD_revAt_in (b : List Nat) (o k j : Nat) (h : o + k ≤ b.length) (hj : j < k) :
    (revAt b o k).getD (o + j) 0 = b.getD (o + (k - 1 - j)) 0 := by
  rw [getD_revAt b o k _ h, mirror_in o k j hj]

theorem getD_revAt_out (b : List Nat) (o k i : Nat) (h : i < o ∨ o + k ≤ i) : (revAt b o k).getD i 0 = b.getD i 0 := by
  by_cases hb : o + k ≤ b.length
  · rw [getD_revAt b o k i hb, mirror_out o k i h]
  · rw [revAt_oob b o k hb]

theorem revAt_revAt (b : List Nat) (o k : Nat) : revAt (revAt b o k) o k = b := by
  by_cases hb : o + k ≤ b.length
  · have hb' : o + k ≤ (revAt b o k).length := by
      rw [length_revAt]
      exact hb
    apply ext_getD (by rw [length_revAt, length_revAt])
    intro i _
    rw [getD_revAt _ o k i hb', getD_revAt b o k _ hb, mirror_mirror]
  · rw [revAt_oob b o k hb, revAt_oob b o k hb]

theorem revAt_comm (b : List Nat) (o1 k1 o2 k2 : Nat) (hd : o1 + k1 ≤ o2 ∨ o2 + k2 ≤ o1) :
    revAt (revAt b o1 k1) o2 k2 = revAt (revAt b o2 k2) o1 k1 := by
  have len (o k : Nat) (c : List Nat) (p : Nat) : p ≤ (revAt c o k).length ↔ p ≤ c.length := by
    rw [length_revAt]
  by_cases h1 : o1 + k1 ≤ b.length
  · by_cases h2 : o2 + k2 ≤ b.length
    · apply ext_getD (by simp only [length_revAt])
      intro i _
      rw [getD_revAt _ o2 k2 i ((len _ _ _ _).2 h2), getD_revAt b o1 k1 _ h1, getD_revAt _ o1 k1 i ((len _ _ _ _).2 h1),
        getD_revAt b o2 k2 _ h2, mirror_comm o1 k1 o2 k2 i hd]
    · rw [revAt_oob b o2 k2 h2, revAt_oob _ o2 k2 (fun h => h2 ((len _ _ _ _).1 h))]
  · rw [revAt_oob b o1 k1 h1, revAt_oob _ o1 k1 (fun h => h1 ((len _ _ _ _).1 h))]

/-! ## the same on a byte-addressed store -/

/-- two fields `(offset, size)` that do not overlap -/
def Disj (f g : Nat × Nat) : Prop := f.1 + f.2 ≤ g.1 ∨ g.1 + g.2 ≤ f.1

instance (f g : Nat × Nat) : Decidable (Disj f g) := by unfold Disj; infer_instance

section Store
variable {α : Type}

def swapField (m : Nat → α) (o k : Nat) : Nat → α := fun x => m (mirror o k x)

def swapFields (m : Nat → α) (fs : List (Nat × Nat)) : Nat → α := fs.foldl (fun m f => swapField m f.1 f.2) m

theorem swapFields_cons (m : Nat → α) (f : Nat × Nat) (fs : List (Nat × Nat)) :
    swapFields m (f :: fs) = swapFields (swapField m f.1 f.2) fs := rfl

theorem swapField_apply (m : Nat → α) (o k x : Nat) : swapField m o k x = m (mirror o k x) := rfl

theorem swapField_in (m : Nat → α) (o k j : Nat) (hj : j < k) : swapField m o k (o + j) = m (o + (k - 1 - j)) := by
  rw [swapField_apply, mirror_in o k j hj]

theorem swapField_out (m : Nat → α) (o k x : Nat) (h : x < o ∨ o + k ≤ x) : swapField m o k x = m x := by
  rw [swapField_apply, mirror_out o k x h]

theorem swapField_swapField (m : Nat → α) (o k : Nat) : swapField (swapField m o k) o k = m := by
  funext x
  unfold swapField
  rw [mirror_mirror]

theorem swapField_comm (m : Nat → α) (o1 k1 o2 k2 : Nat) (h : o1 + k1 ≤ o2 ∨ o2 + k2 ≤ o1) :
    swapField (swapField m o1 k1) o2 k2 = swapField (swapField m o2 k2) o1 k1 := by
  funext x
  unfold swapField
  rw [mirror_comm o1 k1 o2 k2 x h]

theorem swapFields_invol (m : Nat → α) (fs : List (Nat × Nat)) (hp : fs.Pairwise Disj) :
    swapFields (swapFields m fs) fs = m :=
  foldl_invol _ Disj (fun m f => swapField_swapField m f.1 f.2) (fun m f g h => swapField_comm m f.1 f.2 g.1 g.2 h) fs hp m

theorem swapFields_out (m : Nat → α) (fs : List (Nat × Nat)) (x : Nat) (h : ∀ f ∈ fs, x < f.1 ∨ f.1 + f.2 ≤ x) :
    swapFields m fs x = m x := by
  induction fs generalizing m with
  | nil => rfl
  | cons f fs ih =>
    rw [swapFields_cons, ih _ (fun g hg => h g (List.mem_cons_of_mem _ hg)), swapField_out m f.1 f.2 x (h f List.mem_cons_self)]

end Store

end Rtr.Conv
