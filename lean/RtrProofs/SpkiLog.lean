/-
  SpkiLog: the stream of `update_fp` invocations of a router-key table is an exact change log:
  replaying it yields the table's contents, every reported addition was absent before and every
  reported removal was present before — for histories of add / remove / remove-by-source and the
  full-reload sequence of rtr_sync (shadow copy, updates, swap, notify_diff).
-/
import RtrProofs.SpkiRefine

namespace Rtr

def applyEv (S : SpkiRec → Prop) : Bool × SpkiRec → SpkiRec → Prop
  | (true, r) => fun x => x = r ∨ S x
  | (false, r) => fun x => x ≠ r ∧ S x

def replayFrom (S : SpkiRec → Prop) (log : List (Bool × SpkiRec)) : SpkiRec → Prop := log.foldl applyEv S

/-- every event of the stream is a real change of the replayed set -/
def ExactFrom : (SpkiRec → Prop) → List (Bool × SpkiRec) → Prop
  | _, [] => True
  | S, (true, r) :: l => ¬ S r ∧ ExactFrom (applyEv S (true, r)) l
  | S, (false, r) :: l => S r ∧ ExactFrom (applyEv S (false, r)) l

def emptySet : SpkiRec → Prop := fun _ => False

theorem replayFrom_append (S : SpkiRec → Prop) (l1 l2 : List (Bool × SpkiRec)) :
    replayFrom S (l1 ++ l2) = replayFrom (replayFrom S l1) l2 := List.foldl_append

theorem replayFrom_cons (S : SpkiRec → Prop) (ev : Bool × SpkiRec) (l : List (Bool × SpkiRec)) :
    replayFrom S (ev :: l) = replayFrom (applyEv S ev) l := rfl

theorem replayFrom_congr {S S' : SpkiRec → Prop} (h : ∀ x, S x ↔ S' x) (l : List (Bool × SpkiRec)) :
    ∀ x, replayFrom S l x ↔ replayFrom S' l x :=
  (funext fun x => propext (h x) : S = S') ▸ fun _ => Iff.rfl

theorem exactFrom_congr {S S' : SpkiRec → Prop} (h : ∀ x, S x ↔ S' x) (l : List (Bool × SpkiRec)) :
    ExactFrom S l ↔ ExactFrom S' l :=
  (funext fun x => propext (h x) : S = S') ▸ Iff.rfl

theorem exactFrom_append (S : SpkiRec → Prop) (l1 l2 : List (Bool × SpkiRec)) :
    ExactFrom S (l1 ++ l2) ↔ ExactFrom S l1 ∧ ExactFrom (replayFrom S l1) l2 := by
  induction l1 generalizing S with
  | nil => simp [ExactFrom, replayFrom]
  | cons ev l ih =>
    rcases ev with ⟨a, r⟩
    cases a
    · simp only [List.cons_append, ExactFrom, replayFrom_cons]; rw [ih]; exact and_assoc.symm
    · simp only [List.cons_append, ExactFrom, replayFrom_cons]; rw [ih]; exact and_assoc.symm

theorem replay_adds (S : SpkiRec → Prop) (l : List SpkiRec) :
    ∀ x, replayFrom S (l.map fun e => (true, e)) x ↔ (S x ∨ x ∈ l) := by
  induction l generalizing S with
  | nil => simp [replayFrom]
  | cons e l ih =>
    intro x
    rw [List.map_cons, replayFrom_cons, ih]
    simp only [applyEv, List.mem_cons, or_assoc, or_comm]

theorem exact_adds (S : SpkiRec → Prop) (l : List SpkiRec) (hn : l.Nodup) (hs : ∀ e, e ∈ l → ¬ S e) :
    ExactFrom S (l.map fun e => (true, e)) := by
  induction l generalizing S with
  | nil => simp [ExactFrom]
  | cons e l ih =>
    obtain ⟨he, hl⟩ := List.nodup_cons.mp hn
    simp only [List.map_cons, ExactFrom]
    refine ⟨hs e (by simp), ih _ hl ?_⟩
    intro y hy
    simp only [applyEv]
    rintro (h | h)
    · subst h; exact he hy
    · exact hs y (by simp [hy]) h

theorem replay_removes (S : SpkiRec → Prop) (l : List SpkiRec) :
    ∀ x, replayFrom S (l.map fun e => (false, e)) x ↔ (S x ∧ x ∉ l) := by
  induction l generalizing S with
  | nil => simp [replayFrom]
  | cons e l ih =>
    intro x
    rw [List.map_cons, replayFrom_cons, ih]
    simp only [applyEv, List.mem_cons, not_or, and_assoc, and_comm]

theorem exact_removes (S : SpkiRec → Prop) (l : List SpkiRec) (hn : l.Nodup) (hs : ∀ e, e ∈ l → S e) :
    ExactFrom S (l.map fun e => (false, e)) := by
  induction l generalizing S with
  | nil => simp [ExactFrom]
  | cons e l ih =>
    obtain ⟨he, hl⟩ := List.nodup_cons.mp hn
    simp only [List.map_cons, ExactFrom]
    refine ⟨hs e (by simp), ih _ hl ?_⟩
    intro y hy
    simp only [applyEv]
    exact ⟨fun h => he (h ▸ hy), hs y (by simp [hy])⟩

namespace SpkiTable

/-- invariant of a table with a callback: representation invariant + the callback stream is an
    exact change log whose replay is the contents -/
structure LInv (T : SpkiTable) : Prop where
  sinv : SInv T
  cb : T.hasCb = true
  replays : ∀ x, replayFrom emptySet T.log x ↔ x ∈ T.list
  exact : ExactFrom emptySet T.log

theorem linv_init : LInv (init true) :=
  ⟨sinv_init true, rfl, fun x => by simp [init, replayFrom, emptySet], by simp [init, ExactFrom]⟩

/-- the log grows by a run of reported additions of records not stored, then a run of reported
    removals of records stored by then; every operation below extends the log in this way (the prefix
    table has the same statement over its own replay: `C09.logOK_of_changes`, RtrProps/C09) -/
theorem linv_of_changes {T T' : SpkiTable} (iv : LInv T) (s' : SInv T') (cb' : T'.hasCb = true)
    (AL RL : List SpkiRec) (hAn : AL.Nodup) (hRn : RL.Nodup) (hA : ∀ e, e ∈ AL → e ∉ T.list)
    (hR : ∀ e, e ∈ RL → e ∈ T.list ∨ e ∈ AL)
    (hlog : T'.log = T.log ++ ((AL.map fun e => (true, e)) ++ RL.map fun e => (false, e)))
    (hlist : ∀ x, x ∈ T'.list ↔ (x ∈ T.list ∨ x ∈ AL) ∧ x ∉ RL) : LInv T' := by
  refine ⟨s', cb', fun x => ?_, ?_⟩
  · rw [hlog, replayFrom_append, replayFrom_append, replay_removes, replay_adds, iv.replays x, hlist x]
  · rw [hlog, exactFrom_append, exactFrom_append]
    refine ⟨iv.exact, exact_adds _ AL hAn fun e he => ?_, exact_removes _ RL hRn fun e he => ?_⟩
    · rw [iv.replays]
      exact hA e he
    · rw [replay_adds, iv.replays]
      exact hR e he

theorem add_linv {T : SpkiTable} (iv : LInv T) (r : SpkiRec) : LInv (T.add r).1 := by
  by_cases hr : r ∈ T.list
  · rw [add_dup iv.sinv r hr]
    exact iv
  · have a := add_new_spec iv.sinv r hr
    have hlog := a.log
    rw [iv.cb, if_pos rfl] at hlog
    refine linv_of_changes iv a.sinv (a.cb.trans iv.cb) [r] [] (List.pairwise_singleton _ r) List.nodup_nil
      (fun e he => List.mem_singleton.mp he ▸ hr) (fun e he => nomatch he) hlog fun x => ?_
    rw [a.list, List.mem_append]
    exact (and_iff_left List.not_mem_nil).symm

theorem remove_linv {T : SpkiTable} (iv : LInv T) (r : SpkiRec) : LInv (T.remove r).1 := by
  by_cases hr : r ∈ T.list
  · have a := remove_present_spec iv.sinv r hr
    have hlog := a.log
    rw [iv.cb, if_pos rfl] at hlog
    refine linv_of_changes iv a.sinv (a.cb.trans iv.cb) [] [r] List.nodup_nil (List.pairwise_singleton _ r)
      (fun e he => nomatch he) (fun e he => Or.inl (List.mem_singleton.mp he ▸ hr)) hlog fun x => ?_
    rw [a.list, iv.sinv.nodup.mem_erase_iff, List.mem_singleton]
    exact ⟨fun ⟨a, b⟩ => ⟨Or.inl b, a⟩, fun ⟨a, b⟩ => ⟨b, a.resolve_right List.not_mem_nil⟩⟩
  · rw [remove_absent iv.sinv r hr]
    exact iv

theorem srcRemove_linv {T : SpkiTable} (iv : LInv T) (src : Nat) : LInv (T.srcRemove src).1 := by
  have a := srcRemove_spec iv.sinv src
  have hlog := a.log
  rw [iv.cb, if_pos rfl] at hlog
  refine linv_of_changes iv a.sinv (a.cb.trans iv.cb) [] (T.list.filter fun e => e.src == src) List.nodup_nil
    (iv.sinv.nodup.sublist List.filter_sublist) (fun e he => nomatch he)
    (fun e he => Or.inl (List.mem_filter.mp he).1) hlog fun x => ?_
  rw [a.mem x, List.mem_filter, beq_iff_eq]
  exact ⟨fun ⟨a, b⟩ => ⟨Or.inl a, fun h => b h.2⟩, fun ⟨a, b⟩ =>
    ⟨a.resolve_right List.not_mem_nil, fun h => b ⟨a.resolve_right List.not_mem_nil, h⟩⟩⟩

/-- the updates rtr_sync applies to the shadow table: additions (`true`) and removals of
    records of the synchronising socket -/
def applyUpdates (src : Nat) (D : SpkiTable) (ups : List (Bool × SpkiRec)) : SpkiTable :=
  ups.foldl (fun D u => if u.1 then (D.add { u.2 with src := src }).1 else (D.remove { u.2 with src := src }).1) D

/-- the full-reload sequence of rtr_sync for socket `src` on table `T`: a callback-less shadow
    table receives a copy of `T` without the records of `src`, then the updates; the tables are
    swapped; `spki_table_notify_diff` reports the difference; (the shadow table is then freed) -/
def reload (T : SpkiTable) (src : Nat) (ups : List (Bool × SpkiRec)) : SpkiTable :=
  let sh := applyUpdates src (copyExcept T (init false) src).1 ups
  (notifyDiff (swap T sh).1 (swap T sh).2 src).1

theorem applyUpdates_spec (src : Nat) (ups : List (Bool × SpkiRec)) (D : SpkiTable) (iv : SInv D)
    (hcb : D.hasCb = false) :
    SInv (applyUpdates src D ups) ∧ (applyUpdates src D ups).hasCb = false ∧
    ∀ x, x.src ≠ src → (x ∈ (applyUpdates src D ups).list ↔ x ∈ D.list) := by
  induction ups generalizing D with
  | nil => exact ⟨iv, hcb, fun _ _ => Iff.rfl⟩
  | cons u ups ih =>
    rcases u with ⟨a, r⟩
    simp only [applyUpdates, List.foldl_cons]
    cases a
    · simp only [Bool.false_eq_true, if_false]
      obtain ⟨h2, h4, h3⟩ := remove_spec iv { r with src := src }
      obtain ⟨a1, a2, a3⟩ := ih _ h2 (h4.trans hcb)
      exact ⟨a1, a2, fun x hx => (a3 x hx).trans ((h3 x).trans ⟨And.right, fun h => ⟨fun e => hx (e ▸ rfl), h⟩⟩)⟩
    · simp only [if_true]
      obtain ⟨h2, h4, h3⟩ := add_spec iv { r with src := src }
      obtain ⟨a1, a2, a3⟩ := ih _ h2 (h4.trans hcb)
      exact ⟨a1, a2, fun x hx => (a3 x hx).trans ((h3 x).trans ⟨fun h => h.elim id fun e => absurd (e ▸ rfl) hx, Or.inl⟩)⟩

theorem reload_linv {T : SpkiTable} (iv : LInv T) (src : Nat) (ups : List (Bool × SpkiRec)) :
    LInv (reload T src ups) := by
  have c := copyLoop_spec src T.list (init false) (sinv_init false) iv.sinv.nodup
  have c7 : ∀ x, x ∈ (copyExcept T (init false) src).1.list ↔ x ∈ T.list ∧ x.src ≠ src := by
    intro x
    rcases c.out with g | g
    · show x ∈ (copyLoop src T.list (init false)).1.list ↔ _
      rw [g.list]
      simp [init]
    · obtain ⟨y, _, _, hy⟩ := g.clash
      simp [init] at hy
  obtain ⟨u1, u2, u3⟩ := applyUpdates_spec src ups (copyExcept T (init false) src).1 c.sinv c.cb
  let sh := applyUpdates src (copyExcept T (init false) src).1 ups
  have hsh : ∀ x, x.src ≠ src → (x ∈ sh.list ↔ x ∈ T.list) := by
    intro x hx
    rw [u3 x hx, c7 x]
    exact ⟨fun h => h.1, fun h => ⟨h, hx⟩⟩
  obtain ⟨s1, s2⟩ := sinv_swap iv.sinv u1
  have d := notifyDiff_spec (swap T sh).1 (swap T sh).2 s1 s2 src
  obtain ⟨RL, r1, r2, r3⟩ := d.log
  rw [show (swap T sh).1.hasCb = true from iv.cb, if_pos rfl] at r3
  -- reported as added: what the shadow table holds of `src` and `T` lacks; as removed: `RL`
  refine linv_of_changes iv d.sinvN (d.cbN.trans iv.cb) (sh.list.filter fun e => e.src == src && !decide (e ∈ T.list)) RL
    (u1.nodup.sublist List.filter_sublist) r1
    (fun e he => by simpa using (Bool.and_eq_true_iff.1 (List.mem_filter.mp he).2).2)
    (fun e he => Or.inl ((r2 e).mp he).1) r3 fun x => ?_
  show x ∈ (notifyDiff (swap T sh).1 (swap T sh).2 src).1.list ↔ _
  rw [d.list, r2 x, List.mem_filter]
  show x ∈ sh.list ↔ (x ∈ T.list ∨ x ∈ sh.list ∧ _) ∧ ¬ (x ∈ T.list ∧ x.src = src ∧ x ∉ sh.list)
  simp only [Bool.and_eq_true, beq_iff_eq, Bool.not_eq_true', decide_eq_false_iff_not]
  exact (net_diff (hsh x)).symm

end SpkiTable

/-- operations on a table with a callback, as the RTR client performs them -/
inductive LogOp where
  | add (r : SpkiRec)
  | remove (r : SpkiRec)
  | srcRemove (src : Nat)
  | reload (src : Nat) (ups : List (Bool × SpkiRec))

def stepLog (T : SpkiTable) : LogOp → SpkiTable
  | .add r => (T.add r).1
  | .remove r => (T.remove r).1
  | .srcRemove s => (T.srcRemove s).1
  | .reload s ups => T.reload s ups

def runLog (T : SpkiTable) (ops : List LogOp) : SpkiTable := ops.foldl stepLog T

theorem runLog_linv (T : SpkiTable) (iv : SpkiTable.LInv T) (ops : List LogOp) : SpkiTable.LInv (runLog T ops) := by
  induction ops generalizing T with
  | nil => exact iv
  | cons op ops ih =>
    apply ih
    cases op with
    | add r => exact SpkiTable.add_linv iv r
    | remove r => exact SpkiTable.remove_linv iv r
    | srcRemove s => exact SpkiTable.srcRemove_linv iv s
    | reload s ups => exact SpkiTable.reload_linv iv s ups

end Rtr
