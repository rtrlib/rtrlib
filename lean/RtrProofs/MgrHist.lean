/-
  What every operation keeps: the shape of the group list (with the counter `config->len`), that ESTABLISHED is
  entered only through the synced check (any configuration, no sortedness needed), "CLOSED groups own no thread".
-/
import RtrModel.Mgr
import RtrProofs.MgrSort
import RtrProofs.MgrCb
import RtrProofs.MgrStep

namespace Rtr.Mgr

/-- `config->len` as the C code maintains it: `len++` after a successful `rtr_mgr_add_group`,
    `len--` after a successful `rtr_mgr_remove_group`, untouched otherwise -/
def lenAfter (len : Nat) (o : Op) (rc : Int) : Nat :=
  match o with
  | .add _ _ _ => if rc = 0 then len + 1 else len
  | .remove _ => if rc = 0 then len - 1 else len
  | _ => len

structure ShapeKept (gs gs' : List Group) (n : Nat) : Prop where
  sorted : Sorted gs → Sorted gs'
  ne_nil : gs ≠ [] → gs' ≠ []
  length : gs'.length = n

theorem of_prefs_eq {gs gs' : List Group} (h : prefs gs' = prefs gs) : ShapeKept gs gs' gs.length := by
  refine ⟨sorted_of_prefs_eq h, ?_, ?_⟩
  · intro hn e
    rw [e] at h
    exact hn (List.map_eq_nil_iff.mp h.symm)
  · have := congrArg List.length h
    simpa [prefs] using this

/-- every operation keeps the preference values, except an accepted add, which inserts a fresh one in order, and an
    accepted remove, which deletes one of at least two -/
theorem step_inv_len (gs : List Group) (o : Op) :
    ShapeKept gs (step gs o).1 (lenAfter gs.length o (step gs o).2.2) := by
  cases o with
  | ev p i st sy =>
    simp only [step]
    split
    · rename_i r hr
      exact of_prefs_eq (event_prefs hr)
    · exact ⟨id, id, rfl⟩
  | add p n k =>
    rcases add_cases gs p n k with ⟨rc, hrc, _, h⟩ | ⟨_, hf, h⟩
    · simp only [step, h]
      exact ⟨id, id, (if_neg hrc).symm⟩
    · simp only [step, h, lenAfter, if_true]
      have k := of_prefs_eq (startedOne_prefs (startFirstIfClosed_shape (addedList gs p n)))
      have hlen := addedList_length gs p n
      refine ⟨fun hs => k.sorted (addedList_sorted hs hf n), fun _ => k.ne_nil ?_, k.length.trans hlen⟩
      intro e
      rw [e] at hlen
      cases hlen
  | setiv p a b c => exact of_prefs_eq (prefs_setIvs gs p _)
  | remove p =>
    rcases remove_cases gs p with h | ⟨g, hg, hp, hl, h⟩
    · simp only [step, h]
      exact ⟨id, id, rfl⟩
    · simp only [step, h, lenAfter, if_true]
      have k := of_prefs_eq (startedOne_prefs (startFirstIfClosed_shape (eraseG p gs)))
      have hlen := eraseG_length ⟨g, hg, hp⟩
      refine ⟨fun hs => k.sorted (eraseG_sorted hs), fun _ => k.ne_nil ?_, by have := k.length; omega⟩
      intro e
      rw [e] at hlen
      exact hl hlen.symm
  | start => exact of_prefs_eq (startedOne_prefs (start_shape gs))
  | stop => exact of_prefs_eq (stop_prefs gs)

/-! ### reachable configurations, histories -/

inductive Reachable : List Group → Prop
  | init {specs : List (Nat × Nat)} {gs : List Group} : init specs = some gs → Reachable gs
  | step {gs : List Group} (o : Op) : Reachable gs → Reachable (step gs o).1

theorem run_append (gs : List Group) (a b : List Op) : run gs (a ++ b) = run (run gs a) b := by
  induction a generalizing gs with
  | nil => rfl
  | cons o os ih => exact ih _

theorem reachable_run {gs : List Group} (h : Reachable gs) (ops : List Op) : Reachable (run gs ops) := by
  induction ops generalizing gs with
  | nil => exact h
  | cons o os ih => exact ih (Reachable.step o h)

theorem Reachable.inv {gs : List Group} (h : Reachable gs) : Sorted gs ∧ gs ≠ [] := by
  induction h with
  | init hi =>
    have ok := init_ok hi
    refine ⟨ok.sorted, fun e => ok.ne_nil ?_⟩
    subst e
    exact List.map_eq_nil_iff.mp ok.perm.symm.eq_nil
  | step o _ ih => exact ⟨(step_inv_len _ o).sorted ih.1, (step_inv_len _ o).ne_nil ih.2⟩

theorem Reachable.sorted {gs : List Group} (h : Reachable gs) : Sorted gs := h.inv.1

theorem Reachable.ne_nil {gs : List Group} (h : Reachable gs) : gs ≠ [] := h.inv.2

/-! ### the operations other than socket events -/

def Op.isEvent : Op → Bool
  | .ev .. => true
  | _ => false

theorem step_forall {P : Group → Prop} {gs : List Group} (h0 : ∀ g ∈ gs, P g)
    (hnew : ∀ p n iv, P (mkGroupIv p n iv)) (hstart : ∀ g, P g → P g.startSockets.1)
    (hstop : ∀ g, P g → P g.stopAll.1) (hiv : ∀ g iv, P g → P { g with ivs := iv })
    {o : Op} (ho : o.isEvent = false) : ∀ g' ∈ (step gs o).1, P g' := by
  cases o with
  | ev p i st sy => cases ho
  | add p n k =>
    rcases add_cases gs p n k with ⟨rc, _, _, h⟩ | ⟨_, _, h⟩
    · simp only [step, h]
      exact h0
    · simp only [step, h]
      refine startedOne_forall (startFirstIfClosed_shape _) (fun g hg => ?_) hstart
      rcases mem_addedList.mp hg with hm | rfl
      · exact h0 g hm
      · exact hnew ..
  | setiv p a b c =>
    intro g' hg'
    rcases mem_modG.mp (show g' ∈ modG gs p _ from hg') with ⟨h1, _⟩ | ⟨g0, hg0, _, rfl⟩
    · exact h0 g' h1
    · exact hiv g0 _ (h0 g0 hg0)
  | remove p =>
    rcases remove_cases gs p with h | ⟨_, _, _, _, h⟩
    · simp only [step, h]
      exact h0
    · simp only [step, h]
      exact startedOne_forall (startFirstIfClosed_shape _) (fun g hg => h0 g ((eraseG_sublist p gs).subset hg)) hstart
  | start => exact startedOne_forall (start_shape gs) h0 hstart
  | stop =>
    intro g' hg'
    rw [show (step gs .stop).1 = (stop gs).1 from rfl, stop_eq] at hg'
    obtain ⟨g, hg, rfl⟩ := List.mem_map.mp hg'
    exact hstop g (h0 g hg)

theorem step_log {gs : List Group} {o : Op} (ho : o.isEvent = false) {e : Ev}
    (he : e ∈ (step gs o).2.1) :
    (∃ q j ok, e = Ev.start q j ok) ∨ ∃ g ∈ gs, StopEv g.pref g.status e ∧ (o = .remove g.pref ∨ o = .stop) := by
  cases o with
  | ev p i st sy => cases ho
  | add p n k =>
    rcases add_cases gs p n k with ⟨rc, _, _, h⟩ | ⟨_, _, h⟩
    · simp only [step, h] at he
      cases he
    · simp only [step, h] at he
      exact Or.inl (startedOne_log (startFirstIfClosed_shape _) he)
  | setiv p a b c => cases he
  | remove p =>
    rcases remove_cases gs p with h | ⟨g, hg, rfl, _, h⟩
    · simp only [step, h] at he
      cases he
    · simp only [step, h] at he
      rcases List.mem_append.mp he with he | he
      · refine Or.inr ⟨g, hg, ?_, Or.inl rfl⟩
        by_cases hc : g.status ≠ .closed
        · rw [if_pos hc] at he
          rcases List.mem_append.mp he with he | he
          · exact stopAll_log he
          · exact Or.inr (Or.inl ⟨_, List.mem_singleton.mp he⟩)
        · rw [if_neg hc] at he
          cases he
      · exact Or.inl (startedOne_log (startFirstIfClosed_shape _) he)
  | start => exact Or.inl (startedOne_log (start_shape gs) he)
  | stop =>
    rw [show (step gs .stop).2.1 = (stop gs).2 from rfl, stop_eq] at he
    obtain ⟨g, hg, he⟩ := List.mem_flatMap.mp he
    exact Or.inr ⟨g, hg, stopAll_log he, Or.inr rfl⟩

theorem step_stops {gs : List Group} {o : Op} (ho : o.isEvent = false) {q j : Nat}
    (he : Ev.stop q j ∈ (step gs o).2.1) : o = .remove q ∨ o = .stop := by
  rcases step_log ho he with ⟨_, _, _, h⟩ | ⟨g, _, hst, h⟩
  · cases h
  · rw [stopEv_stop hst]
    exact h

/-! ### statuses: ESTABLISHED is entered only through the synced check -/

def EstAt (gs : List Group) (q : Nat) : Prop := ∃ g ∈ gs, g.pref = q ∧ g.status = .established

structure NoNewEst (gs gs' : List Group) (l : List Ev) : Prop where
  groups : ∀ g' ∈ gs', g'.status = .established → EstAt gs g'.pref
  log : ∀ q x, Ev.status q .established x ∈ l → EstAt gs q

theorem NoNewEst.of_statuses {gs gs' : List Group}
    (h : ∀ g' ∈ gs', ∃ g ∈ gs, g.pref = g'.pref ∧ g.status = g'.status) : NoNewEst gs gs' [] where
  groups := fun g' hg' he => by
    obtain ⟨g, hg, hp, hs⟩ := h g' hg'
    exact ⟨g, hg, hp, hs.trans he⟩
  log := fun _ _ => nofun

/-- What the RTR_ESTABLISHED event of socket `i` that makes group `p` ESTABLISHED does.  "ESTABLISHED only when
    synced" has a positive half (`own`) and a negative one (`groups`, `log`: `p` is the only preference newly
    ESTABLISHED); `closes`, `emits`, `stops` are the failover. -/
structure Establishes (gs : List Group) (p i : Nat) (gs' : List Group) (l : List Ev) : Prop where
  own : ∀ g' ∈ gs', g'.pref = p → g'.status = .established ∧ g'.isSynced = true
  groups : ∀ g' ∈ gs', g'.status = .established → EstAt gs g'.pref ∨ g'.pref = p
  log : ∀ q x, Ev.status q .established x ∈ l → EstAt gs q ∨ q = p
  closes : ∀ g' ∈ gs', p < g'.pref → g'.status = .closed
  emits : ∀ g ∈ gs, p < g.pref → g.status ≠ .closed →
    Ev.status g.pref .closed (some (p, i)) ∈ l ∧ ∀ j, j < g.socks.length → Ev.stop g.pref j ∈ l
  stops : ∀ q j, Ev.stop q j ∈ l → p < q

theorem establishing_spec {gs : List Group} {p i : Nat} {sy : Bool} {g : Group} {s : Sock}
    (hg : findG gs p = some g) (hsync : (evGroup g i s .established sy).isSynced = true) :
    Establishes gs p i (becomeEstablished (modG gs p fun _ => evGroup g i s .established sy) p i).1
      (becomeEstablished (modG gs p fun _ => evGroup g i s .established sy) p i).2 := by
  have hgm := findG_some hg
  -- the socket update keeps statuses: a group the callback sees ESTABLISHED was ESTABLISHED
  have lift : ∀ x ∈ modG gs p (fun _ => evGroup g i s .established sy), x.status = .established →
      EstAt gs x.pref := by
    intro x hx he
    rcases mem_modG_const hx with ⟨h1, _⟩ | rfl
    · exact ⟨x, h1, rfl, he⟩
    · exact ⟨g, hgm.1, rfl, he⟩
  refine ⟨?_, ?_, ?_, fun g' hg' hp => be_post_gt hg' hp, ?_, ?_⟩
  · intro g' hg' hp'
    obtain ⟨g0, hg0, hg0p, rfl⟩ := be_post_eq hg' hp'
    rcases mem_modG_const hg0 with ⟨_, hne⟩ | rfl
    · exact absurd hg0p hne
    · exact ⟨rfl, hsync⟩
  · intro g' hg' he
    obtain ⟨g0, hg0, hgp, ⟨_, rfl⟩ | ⟨hk, _⟩ | ⟨_, hc, _⟩⟩ := be_mem hg'
    · exact Or.inl (lift g' hg0 he)
    · exact Or.inr (hgp.trans hk)
    · rw [hc] at he
      cases he
  · intro q x hl
    rcases be_log hl with he | ⟨g0, hg0, _, _, hst⟩
    · cases he
      exact Or.inr rfl
    · rw [(stopEv_est hst).1]
      exact Or.inl (lift g0 hg0 (stopEv_est hst).2)
  · intro g0 hg0 hp hs
    exact be_emits (mem_modG.mpr (Or.inl ⟨hg0, Nat.ne_of_gt hp⟩)) hp hs
  · intro q j hl
    rcases be_log hl with he | ⟨g0, _, hp, _, hst⟩
    · cases he
    · rw [stopEv_stop hst]
      exact hp

theorem event_dichotomy {gs : List Group} {p i : Nat} {st : SockState} {sy : Bool} {r : List Group × List Ev}
    (h : event gs p i st sy = some r) :
    (NoNewEst gs r.1 r.2 ∧ ∀ q j, Ev.stop q j ∉ r.2) ∨
    ∃ g, findG gs p = some g ∧ st = .established ∧ (g.status = .connecting ∨ g.status = .error) ∧
      Establishes gs p i r.1 r.2 := by
  obtain ⟨g, s, hg, hs, ⟨_, rfl⟩ | ⟨rfl, hst, hsync, rfl⟩ | hrep⟩ := event_shapes h
  · refine Or.inl ⟨.of_statuses fun g' hg' => ?_, fun _ _ => nofun⟩
    rcases mem_modG.mp hg' with ⟨h1, _⟩ | ⟨g0, hg0, _, rfl⟩
    · exact ⟨g', h1, rfl, rfl⟩
    · exact ⟨g0, hg0, rfl, rfl⟩
  · exact Or.inr ⟨g, hg, rfl, hst, establishing_spec hg hsync⟩
  · have hgm := findG_some hg
    refine Or.inl ⟨⟨?_, ?_⟩, ?_⟩
    · refine hrep.forall (fun x hx he => ⟨x, hx, rfl, he⟩) ?_ (fun x hP he => hP (startSockets_est he))
      -- ESTABLISHED only as the status the group had
      intro st' hst' he
      subst he
      exact ⟨g, hgm.1, rfl, hst'.est⟩
    · intro q x hq
      rcases hrep.log hq with ⟨st', hst', he⟩ | ⟨_, _, _, he⟩
      · cases he
        exact ⟨g, hgm.1, rfl, hst'.est⟩
      · cases he
    · intro q j hq
      rcases hrep.log hq with ⟨_, _, he⟩ | ⟨_, _, _, he⟩
      · cases he
      · cases he

theorem step_est_cases (gs : List Group) (o : Op) :
    NoNewEst gs (step gs o).1 (step gs o).2.1 ∨
    ∃ p i sy, o = .ev p i .established sy ∧ Establishes gs p i (step gs o).1 (step gs o).2.1 := by
  by_cases ho : o.isEvent = false
  · refine Or.inl ⟨?_, ?_⟩
    · refine step_forall (fun g hg he => ⟨g, hg, rfl, he⟩) (fun _ _ _ he => nomatch he)
        (fun g hP he => hP (startSockets_est he)) ?_ (fun _ _ hP => hP) ho
      intro g hP he
      rcases stopAll_status g with hs | hs
      · rw [hs] at he
        cases he
      · exact hP (hs.symm.trans he)
    · intro q x hl
      rcases step_log ho hl with ⟨_, _, _, he⟩ | ⟨g, hg, hst, _⟩
      · cases he
      · exact ⟨g, hg, (stopEv_est hst).1.symm, (stopEv_est hst).2⟩
  · cases o with
    | ev p i st sy =>
      cases hev : event gs p i st sy with
      | none =>
        simp only [step, hev]
        exact Or.inl (.of_statuses fun g' hg' => ⟨g', hg', rfl, rfl⟩)
      | some r =>
        simp only [step, hev]
        rcases event_dichotomy hev with ⟨h, _⟩ | ⟨_, _, rfl, _, hest⟩
        · exact Or.inl h
        · exact Or.inr ⟨p, i, sy, rfl, hest⟩
    | _ => exact absurd rfl ho

/-! ### CLOSED groups own no thread (for histories without injected RTR_SHUTDOWN) -/

def ClosedThreadless (gs : List Group) : Prop :=
  ∀ g ∈ gs, g.status = .closed → ∀ s ∈ g.socks, s.thread = false

theorem evGroup_ct {g : Group} {i : Nat} {s : Sock} (hs : g.socks[i]? = some s) (s' : Sock) (ht : s'.thread = s.thread)
    (h : g.status = .closed → ∀ x ∈ g.socks, x.thread = false) :
    g.status = .closed → ∀ x ∈ g.socks.set i s', x.thread = false := by
  intro hc x hx
  rcases List.mem_or_eq_of_mem_set hx with hx | rfl
  · exact h hc x hx
  · rw [ht]
    exact h hc s (List.mem_of_getElem? hs)

/-- A group that becomes CLOSED has just had its threads joined, or is CLOSED by the RTR_SHUTDOWN callback alone
    (excluded by `hno`); `rtr_mgr_start_sockets` on a threadless CLOSED group never leaves it CLOSED.  `Sorted` is needed
    in one place: a swallowed event updates every group of preference `p`, while the socket it found is known for the
    first of them. -/
theorem step_ct {gs : List Group} (hsrt : Sorted gs) (h : ClosedThreadless gs) (o : Op)
    (hno : ∀ p i sy, o ≠ .ev p i .shutdown sy) : ClosedThreadless (step gs o).1 := by
  by_cases ho : o.isEvent = false
  · exact step_forall h (fun _ _ _ _ x hx => (List.mem_replicate.mp hx).2 ▸ rfl)
      (fun g hP hc => absurd hc (startSockets_not_closed hP)) (fun g _ _ => stopAll_threads g)
      (fun _ _ hP => hP) ho
  · cases o with
    | ev p i st sy =>
      simp only [step]
      split
      · rename_i r hr
        obtain ⟨g, s, hg, hs, ⟨_, rfl⟩ | ⟨_, _, _, rfl⟩ | hrep⟩ := event_shapes hr
        · intro g' hg'
          rcases mem_modG.mp hg' with ⟨h1, _⟩ | ⟨g0, hg0, hg0p, rfl⟩
          · exact h g' h1
          · have hgm := findG_some hg
            have hgg : g0 = g := hsrt.unique hg0 hgm.1 (hg0p.trans hgm.2.symm)
            subst hgg
            exact evGroup_ct hs _ rfl (h g0 hg0)
        · have h2 : ClosedThreadless (modG gs p fun _ => evGroup g i s st sy) := by
            intro x hx
            rcases mem_modG_const hx with ⟨h1, _⟩ | rfl
            · exact h x h1
            · exact evGroup_ct hs _ rfl (h g (findG_some hg).1)
          intro g' hg' hc
          obtain ⟨x, hx, _, ⟨_, rfl⟩ | ⟨_, rfl⟩ | ⟨_, _, rfl | hk⟩⟩ := be_mem hg'
          · exact h2 g' hx hc
          · cases hc
          · exact h2 g' hx hc
          · exact hk
        · refine hrep.forall h ?_ (fun q hP hc => absurd hc (startSockets_not_closed hP))
          intro st' hst' hc
          have hc' : st' = .closed := hc
          subst hc'
          rcases hst'.closed with h4 | h4
          · exact evGroup_ct hs _ rfl (h g (findG_some hg).1) h4
          · subst h4
            exact absurd rfl (hno p i sy)
      · exact h
    | _ => exact absurd rfl ho

end Rtr.Mgr
