/-
  CheckSize: `rtr_pdu_check_size` on a complete PDU (`Rtr.P.checkSize`) accepts exactly the PDUs whose type is
  one of the ten known ones and whose length field is what that type requires (`KnownSize`).  The link
  files, the conversions and C04 rest on this characterisation; error reports and convergence take only
  the bounds on the length field from it (`checkSize_len`).
-/
import RtrModel.Rtr

namespace Rtr.P

/-- the type is one of the ten known ones and the length field is exactly what the type requires -/
def KnownSize (raw : List Nat) : Prop :=
  (typeOf raw = 0 ∧ lenOf raw = Gen.sizeof_pdu_serial_notify) ∨
  (typeOf raw = 1 ∧ lenOf raw = Gen.sizeof_pdu_serial_query) ∨
  (typeOf raw = 2 ∧ lenOf raw = Gen.sizeof_pdu_reset_query) ∨
  (typeOf raw = 3 ∧ lenOf raw = Gen.sizeof_pdu_cache_response) ∨
  (typeOf raw = 4 ∧ lenOf raw = Gen.sizeof_pdu_ipv4) ∨
  (typeOf raw = 6 ∧ lenOf raw = Gen.sizeof_pdu_ipv6) ∨
  (typeOf raw = 7 ∧ verOf raw = 0 ∧ lenOf raw = Gen.sizeof_pdu_end_of_data_v0) ∨
  (typeOf raw = 7 ∧ verOf raw = 1 ∧ lenOf raw = Gen.sizeof_pdu_end_of_data_v1) ∨
  (typeOf raw = 8 ∧ lenOf raw = Gen.sizeof_pdu_header) ∨
  (typeOf raw = 9 ∧ lenOf raw = Gen.sizeof_pdu_router_key) ∨
  (typeOf raw = 10 ∧ lenOf raw = 16 + be32 raw 8 + be32 raw (12 + be32 raw 8))

theorem checkSize_spec (raw : List Nat) : checkSize raw = true ↔ KnownSize raw := by
  unfold checkSize KnownSize
  simp only
  split <;> rename_i h
  all_goals simp [h, Gen.sizeof_pdu_error]
  · by_cases a : lenOf raw < 16
    · simp only [a, if_true]; constructor
      · intro x; cases x
      · intro x; omega
    · by_cases b : lenOf raw < 16 + be32 raw 8
      · simp only [a, b, if_true, if_false]; constructor
        · intro x; cases x
        · intro x; omega
      · simp only [a, b, if_false, beq_iff_eq]
  · rename_i h0 h1 h2 h3 h4 h6 h7 h8 h9
    exact ⟨fun e => (h0 e).elim, fun e => (h1 e).elim, fun e => (h2 e).elim, fun e => (h3 e).elim,
      fun e => (h4 e).elim, fun e => (h6 e).elim, fun e => (h7 e).elim, fun e => (h7 e).elim,
      fun e => (h8 e).elim, fun e => (h9 e).elim, fun e => (h e).elim⟩

/-- 123 = `sizeof_pdu_router_key`, the longest PDU that is not an Error Report -/
theorem checkSize_len (raw : List Nat) (h : checkSize raw = true) :
    8 ≤ lenOf raw ∧ (typeOf raw ≠ 10 → lenOf raw ≤ 123) := by
  have fixed : ∀ k, 8 ≤ k → k ≤ 123 → lenOf raw = k → 8 ≤ lenOf raw ∧ (typeOf raw ≠ 10 → lenOf raw ≤ 123) :=
    fun k h8 hm e => ⟨by omega, fun _ => by omega⟩
  rcases (checkSize_spec raw).1 h with h | h | h | h | h | h | h | h | h | h | h
  · exact fixed _ (by decide) (by decide) h.2
  · exact fixed _ (by decide) (by decide) h.2
  · exact fixed _ (by decide) (by decide) h.2
  · exact fixed _ (by decide) (by decide) h.2
  · exact fixed _ (by decide) (by decide) h.2
  · exact fixed _ (by decide) (by decide) h.2
  · exact fixed _ (by decide) (by decide) h.2.2
  · exact fixed _ (by decide) (by decide) h.2.2
  · exact fixed _ (by decide) (by decide) h.2
  · exact fixed _ (by decide) (by decide) h.2
  · exact ⟨by rw [h.2]; omega, fun hne => absurd h.1 hne⟩

theorem getD_take (l : List Nat) (k i : Nat) (h : i < k) : (l.take k).getD i 0 = l.getD i 0 := by
  simp [List.getD_eq_getElem?_getD, h]

end Rtr.P
