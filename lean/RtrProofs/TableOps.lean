/-
  `rtr_update_pfx_table`, `rtr_update_spki_table` and their undo functions decide from the tables
  alone whether a PDU is accepted (`Verdict`); connection part and environment come in only when an
  update is refused (`refuse`), and the loops are runs that stop at the first refusal (`Verdict.run`).
  So what the table operations do to socket and environment is a property of `refuse`, what they do
  to the tables one of `Verdict.run`.  `stage` / `applyTables_stages` are only the step towards
  `applyTables_eq` of TableEqs.lean, which is the form to use.
-/
import RtrModel.Rtr

namespace Rtr.P

/-- why an update function refuses a PDU: an Error Report (then RTR_ERROR_FATAL when `fatal`), or
    PFX_ERROR / SPKI_ERROR, which is handed up without a report.  The codes are RFC 8210's
    (`C14b.codes_rfc`). -/
inductive Rej where
  | report (code : Nat) (text : List Nat) (fatal : Bool)
  | silent

/-- connection part and environment after PDU `raw` has been refused; `own` as for `changeState` -/
def refuse (c : Conn) (n : Net) (own : Nat) (raw : List Nat) : Rej → Conn × Net
  | .report code text fatal =>
    match sendErrorFromHost c n raw raw.length code text with
    | (_, n) => if fatal then changeState c n own .errFatal else (c, n)
  | .silent => (c, n)

theorem refuse_fatal (c : Conn) (n : Net) (own : Nat) (raw : List Nat) (code : Nat) (text : List Nat) :
    refuse c n own raw (.report code text true) =
      changeState c (sendErrorFromHost c n raw raw.length code text).2 own .errFatal := rfl

/-- what an update or undo function decides about one PDU in state `σ` (the tables, or one of them) -/
inductive Verdict (σ : Type) where
  | accept (s : σ)
  | refuse (r : Rej)

def Verdict.map {σ τ : Type} (f : σ → τ) : Verdict σ → Verdict τ
  | .accept s => .accept (f s)
  | .refuse r => .refuse r

def applyVerdict (c : Conn) (n : Net) (t : Tbl) (raw : List Nat) : Verdict Tbl → Bool × Conn × Net × Tbl
  | .accept t' => (true, c, n, t')
  | .refuse r => (false, (refuse c n t.own raw r).1, (refuse c n t.own raw r).2, t)

def undoVerdict (t : Tbl) : Verdict Tbl → Bool × Tbl
  | .accept t' => (true, t')
  | .refuse _ => (false, t)

/-! ## runs -/

namespace Verdict
section run
variable {σ : Type}

/-- the verdicts `v` over the PDUs `ps` in order, up to the first refusal: the state after the accepted
    PDUs, these PDUs (behind `done`), the refused PDU and the reason -/
def run (v : σ → List Nat → Verdict σ) (s : σ) :
    List (List Nat) → List (List Nat) → σ × List (List Nat) × Option (List Nat × Rej)
  | [], done => (s, done, none)
  | p :: ps, done =>
    match v s p with
    | .accept s' => run v s' ps (done ++ [p])
    | .refuse r => (s, done, some (p, r))

theorem run_append (v : σ → List Nat → Verdict σ) : ∀ (a b : List (List Nat)) (s : σ) (done : List (List Nat)),
    run v s (a ++ b) done =
      match run v s a done with
      | (s', d, none) => run v s' b d
      | (s', d, some x) => (s', d, some x) := by
  intro a
  induction a with
  | nil => intro b s done; rfl
  | cons p a ih =>
    intro b s done
    simp only [List.cons_append, run]
    cases v s p with
    | accept s' => exact ih b s' _
    | refuse r => rfl

theorem run_done (v : σ → List Nat → Verdict σ) : ∀ (ps : List (List Nat)) (s : σ) (done : List (List Nat)),
    run v s ps done = ((run v s ps []).1, done ++ (run v s ps []).2.1, (run v s ps []).2.2) := by
  intro ps
  induction ps with
  | nil => intro s done; simp only [run, List.append_nil]
  | cons p ps ih =>
    intro s done
    simp only [run]
    cases v s p with
    | accept s' =>
      dsimp only
      rw [ih s' (done ++ [p]), ih s' ([] ++ [p]), List.append_assoc]
      rfl
    | refuse r => simp only [List.append_nil]

theorem run_split (v : σ → List Nat → Verdict σ) : ∀ (ps : List (List Nat)) (s : σ) (done : List (List Nat)),
    ∃ a b, ps = a ++ b ∧ (run v s ps done).2.1 = done ++ a ∧
      ((run v s ps done).2.2 = none → b = []) ∧
      (∀ p r, (run v s ps done).2.2 = some (p, r) → p ∈ ps ∧ v (run v s ps done).1 p = .refuse r) := by
  intro ps
  induction ps with
  | nil => intro s done; exact ⟨[], [], rfl, (List.append_nil _).symm, fun _ => rfl, (fun _ _ h => nomatch h)⟩
  | cons p ps ih =>
    intro s done
    simp only [run]
    cases hv : v s p with
    | accept s' =>
      obtain ⟨a, b, h1, h2, h3, h4⟩ := ih s' (done ++ [p])
      refine ⟨p :: a, b, by rw [h1]; rfl, by rw [h2, List.append_assoc]; rfl, h3, fun q r h => ?_⟩
      exact ⟨List.mem_cons_of_mem _ (h4 q r h).1, (h4 q r h).2⟩
    | refuse r =>
      dsimp only
      refine ⟨[], p :: ps, rfl, (List.append_nil _).symm, (fun h => nomatch h), fun q r' h => ?_⟩
      simp only [Option.some.injEq, Prod.mk.injEq] at h
      obtain ⟨rfl, rfl⟩ := h
      exact ⟨List.mem_cons_self, hv⟩

theorem run_none (v : σ → List Nat → Verdict σ) (ps : List (List Nat)) (s : σ) (done : List (List Nat))
    (h : (run v s ps done).2.2 = none) : (run v s ps done).2.1 = done ++ ps := by
  obtain ⟨a, b, h1, h2, h3, _⟩ := run_split v ps s done
  rw [h2, h1, h3 h, List.append_nil]

theorem run_rel (v : σ → List Nat → Verdict σ) (R : σ → σ → Prop) (hrefl : ∀ s, R s s)
    (htrans : ∀ {a b c}, R a b → R b c → R a c) (hstep : ∀ s p s', v s p = .accept s' → R s s') :
    ∀ (ps : List (List Nat)) (s : σ) (done : List (List Nat)), R s (run v s ps done).1 := by
  intro ps
  induction ps with
  | nil => intro s done; exact hrefl s
  | cons p ps ih =>
    intro s done
    simp only [run]
    cases hv : v s p with
    | accept s' => exact htrans (hstep s p s' hv) (ih s' _)
    | refuse r => exact hrefl s

/-- used with `f` from one of the update tables to `Tbl` -/
theorem run_map {τ : Type} (f : σ → τ) (v : σ → List Nat → Verdict σ) (w : τ → List Nat → Verdict τ)
    (h : ∀ s p, w (f s) p = (v s p).map f) : ∀ (ps : List (List Nat)) (s : σ) (done : List (List Nat)),
    run w (f s) ps done = (f (run v s ps done).1, (run v s ps done).2) := by
  intro ps
  induction ps with
  | nil => intro s done; rfl
  | cons p ps ih =>
    intro s done
    simp only [run, h]
    cases v s p with
    | accept s' => exact ih s' _
    | refuse r => rfl

end run
end Verdict

/-! ## the loops of the model are runs -/

/-- the result of an apply loop whose run of verdicts came out as `x`: accepted PDUs leave connection
    part and environment alone, so these see at most the one refusal that ends the run -/
def applyRes (c : Conn) (n : Net) : Tbl × List (List Nat) × Option (List Nat × Rej) → Bool × Conn × Net × Tbl × List (List Nat)
  | (t', d, none) => (true, c, n, t', d)
  | (t', d, some (p, r)) => (false, (refuse c n t'.own p r).1, (refuse c n t'.own p r).2, t', d)

/-- an apply loop (`applyPfx` over `updatePfx`, `applyKey` over `updateKey`) -/
theorem applyLoop_run (upd : Conn → Net → Tbl → List Nat → Bool × Conn × Net × Tbl) (v : Tbl → List Nat → Verdict Tbl)
    (app : Conn → Net → Tbl → List (List Nat) → List (List Nat) → Bool × Conn × Net × Tbl × List (List Nat))
    (hupd : ∀ c n t raw, upd c n t raw = applyVerdict c n t raw (v t raw))
    (hnil : ∀ c n t done, app c n t [] done = (true, c, n, t, done))
    (hcons : ∀ c n t p ps done, app c n t (p :: ps) done =
      match upd c n t p with
      | (ok, c', n', t') => if ok then app c' n' t' ps (done ++ [p]) else (false, c', n', t', done)) :
    ∀ (ps : List (List Nat)) (c : Conn) (n : Net) (t : Tbl) (done : List (List Nat)),
      app c n t ps done = applyRes c n (Verdict.run v t ps done) := by
  intro ps
  induction ps with
  | nil => intro c n t done; exact hnil c n t done
  | cons p ps ih =>
    intro c n t done
    rw [hcons, hupd]
    simp only [Verdict.run]
    cases v t p with
    | accept t' => exact ih c n t' _
    | refuse r => rfl

/-- an undo loop (`undoAllPfx` over `undoPfx`, `undoAllKey` over `undoKey`) -/
theorem undoLoop_run (undo1 : Tbl → List Nat → Bool × Tbl) (v : Tbl → List Nat → Verdict Tbl)
    (all : Tbl → List (List Nat) → Bool × Tbl)
    (h1 : ∀ t raw, undo1 t raw = undoVerdict t (v t raw))
    (hnil : ∀ t, all t [] = (true, t))
    (hcons : ∀ t p ps, all t (p :: ps) = match undo1 t p with | (ok, t') => if ok then all t' ps else (false, t')) :
    ∀ (ps : List (List Nat)) (t : Tbl) (done : List (List Nat)),
      all t ps = ((Verdict.run v t ps done).2.2.isNone, (Verdict.run v t ps done).1) := by
  intro ps
  induction ps with
  | nil => intro t done; exact hnil t
  | cons p ps ih =>
    intro t done
    rw [hcons, h1]
    simp only [Verdict.run]
    cases v t p with
    | accept t' => exact ih t' _
    | refuse r => rfl

/-! ## the stages of the table part -/

/-- the tables the apply loops write to: for a reload, shadow tables without this socket's records -/
def startTbl (t : Tbl) (resetting : Bool) : Tbl :=
  if resetting then { t with shadow := some ⟨ptSrcRemove t.pt 0, ktSrcRemove t.kt 0⟩ } else t

/-- one stage of the table part: `r` is the result of its apply loop; after a failure the undo and
    `applyFail`, else the next stage -/
def stage (r : Bool × Conn × Net × Tbl × List (List Nat)) (undo : Tbl → List (List Nat) → Bool × Tbl)
    (next : Conn → Net → Tbl → ApplyRes) : ApplyRes :=
  match r with
  | (ok, c, n, t, done) =>
    if !ok then match undo t done with | (undone, t) => applyFail undone c n t
    else next c n t

def undoThen (a : Bool × Tbl) (f : Tbl → Bool × Tbl) : Bool × Tbl :=
  match a with
  | (ok, t) => match (if ok then f t else (false, t)) with | (ok', t') => (ok && ok', t')

theorem applyTables_stages (c : Conn) (n : Net) (t : Tbl) (resetting : Bool) (v4 v6 keys : List (List Nat)) :
    applyTables c n t resetting v4 v6 keys =
      stage (applyPfx c n (startTbl t resetting) v4 []) undoAllPfx fun c n t =>
      stage (applyPfx c n t v6 []) (fun t d => undoThen (undoAllPfx t v4) (undoAllPfx · d)) fun c n t =>
      stage (applyKey c n t keys [])
        (fun t d => undoThen (undoThen (undoAllPfx t v4) (undoAllPfx · v6)) (undoAllKey · d)) fun c n t =>
      { ok := true, purged := false, c := c, n := n, t := t.swapIn } := rfl

theorem stage_applyRes (c : Conn) (n : Net) (t : Tbl) (d : List (List Nat)) (x : Option (List Nat × Rej))
    (undo : Tbl → List (List Nat) → Bool × Tbl) (next : Conn → Net → Tbl → ApplyRes) :
    stage (applyRes c n (t, d, x)) undo next =
      match x with
      | none => next c n t
      | some (p, r) =>
        applyFail (undo t d).1 (refuse c n t.own p r).1 (refuse c n t.own p r).2 (undo t d).2 := by
  cases x with
  | none => rfl
  | some x => rfl

end Rtr.P
