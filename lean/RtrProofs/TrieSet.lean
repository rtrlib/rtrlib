/-
  TrieSet: `pfx_table_add` / `pfx_table_remove` on one trie refine the multiset of
  (prefix, length, payload element) triples, and keep the trie well-formed
  (`pfx_table_remove_id`: `removeId_spec` in TrieOps).
-/
import RtrProofs.TrieOps

namespace Rtr

theorem mem_elems_iff (t : Trie) (a : Addr) (n : Nat) (e : Elem) :
    (a, n, e) ∈ t.elems ↔ ∃ c ∈ t.nodes, c.addr = a ∧ c.len = n ∧ e ∈ c.data := by
  simp only [Trie.elems, List.mem_flatMap, List.mem_map]
  constructor
  · rintro ⟨c, hc, e', he, h⟩
    simp only [Prod.mk.injEq] at h
    exact ⟨c, hc, h.1, h.2.1, h.2.2 ▸ he⟩
  · rintro ⟨c, hc, h1, h2, h3⟩
    exact ⟨c, hc, e, h3, by simp [h1, h2]⟩

theorem not_mem_elems_of_key (t : Trie) (a : Addr) (n : Nat) (e : Elem) (h : (a, n) ∉ t.keys) : (a, n, e) ∉ t.elems := by
  rw [mem_elems_iff]
  rintro ⟨c, hc, h1, h2, _⟩
  exact h ((mem_keys_iff t a n).2 ⟨c, hc, h1, h2⟩)

theorem subAt_root_mem : ∀ (t : Trie) (p : List Bool) (c : NodeC) (l r : Trie), t.subAt p = .node c l r → c ∈ t.nodes := by
  intro t
  induction t with
  | nil => intro p c l r h; cases p <;> simp [Trie.subAt] at h
  | node c0 l0 r0 ihl ihr =>
    intro p c l r h
    cases p with
    | nil => simp [Trie.subAt] at h; simp [Trie.nodes, h.1]
    | cons b p =>
      cases b with
      | true => simp only [Trie.subAt, if_true] at h; simp [Trie.nodes, ihr p c l r h]
      | false => simp only [Trie.subAt, Bool.false_eq_true, if_false] at h; simp [Trie.nodes, ihl p c l r h]

theorem eq_of_nodup_map {α β} (f : α → β) : ∀ (l : List α), (l.map f).Nodup → ∀ a ∈ l, ∀ b ∈ l, f a = f b → a = b := by
  intro l
  induction l with
  | nil => intro _ a ha; cases ha
  | cons x xs ih =>
    intro h a ha b hb e
    simp only [List.map_cons, List.nodup_cons, List.mem_map, not_exists, not_and] at h
    rcases List.mem_cons.1 ha with hax | ha' <;> rcases List.mem_cons.1 hb with hbx | hb'
    · rw [hax, hbx]
    · subst hax; exact absurd e.symm (h.1 b hb')
    · subst hbx; exact absurd e (h.1 a ha')
    · exact ih h.2 a ha' b hb' e

theorem node_unique {N : NodeC → Prop} (w : Nat) (t : Trie) (d : Nat) (h : WFp N w t d) (c c' : NodeC) (hc : c ∈ t.nodes) (hc' : c' ∈ t.nodes)
    (e1 : c.addr = c'.addr) (e2 : c.len = c'.len) : c = c' := by
  have := WFp_keys_nodup w t d h
  rw [keys_eq_map] at this
  exact eq_of_nodup_map _ t.nodes this c hc c' hc' (by simp [e1, e2])

theorem modifyAt_elems (t : Trie) (p : List Bool) (h : ∃ c l r, t.subAt p = .node c l r) :
    ∃ rest, t.elems.Perm ((t.subAt p).elems ++ rest) ∧
      ∀ f, (t.modifyAt p f).elems.Perm ((f (t.subAt p)).elems ++ rest) := by
  obtain ⟨rest, h1, h2⟩ := modifyAt_nodes t p h
  refine ⟨rest.flatMap fun c => c.data.map fun e => (c.addr, c.len, e), ?_, fun f => ?_⟩
  · have := List.Perm.flatMap_right (fun (c : NodeC) => c.data.map fun e => (c.addr, c.len, e)) h1
    simpa [Trie.elems, List.flatMap_append] using this
  · have := List.Perm.flatMap_right (fun (c : NodeC) => c.data.map fun e => (c.addr, c.len, e)) (h2 f)
    simpa [Trie.elems, List.flatMap_append] using this

theorem findElem_isSome (d : List Elem) (e : Elem) : (findElem d e).isSome = true ↔ e ∈ d := by
  unfold findElem
  rw [List.findIdx?_isSome, List.any_eq_true]
  constructor
  · rintro ⟨x, hx, h⟩
    simp only [Bool.and_eq_true, beq_iff_eq] at h
    have : x = e := by cases x; cases e; simp_all
    exact this ▸ hx
  · intro h; exact ⟨e, h, by simp⟩

theorem findElem_some (d : List Elem) (e : Elem) (i : Nat) (h : findElem d e = some i) :
    ∃ hi : i < d.length, d[i] = e := by
  unfold findElem at h
  have := List.findIdx?_eq_some_iff_getElem.1 h
  obtain ⟨hi, hp, _⟩ := this
  refine ⟨hi, ?_⟩
  simp only [Bool.and_eq_true, beq_iff_eq] at hp
  generalize d[i] = x at hp
  cases x; cases e; simp_all

theorem perm_eraseIdx {α} : ∀ (d : List α) (i : Nat) (hi : i < d.length), d.Perm (d[i] :: d.eraseIdx i) := by
  intro d i hi
  rw [List.eraseIdx_eq_take_drop_succ]
  exact (List.Perm.of_eq (by rw [List.getElem_cons_drop, List.take_append_drop])).trans List.perm_middle

theorem delElem_perm (d : List Elem) (e : Elem) (i : Nat) (h : findElem d e = some i) : d.Perm (e :: delElem d i) := by
  obtain ⟨hi, he⟩ := findElem_some d e i h
  unfold delElem
  rw [← he]
  exact perm_eraseIdx d i hi

/-! ## pfx_table_add on one trie -/

open PfxTable

/-- a prefix that is canonical for a family of width `w`: length and address within the width, host
    bits zero (what `NodeOK` asks of the key of a stored node) -/
structure KeyOK (w : Nat) (a : Addr) (n : Nat) : Prop where
  len : n ≤ w
  lt : a < 2^w
  hz : hostZero w a n

/-- `res = addTrie w t a n e` on a well-formed trie.  `codes`: the model's `error` branches are not
    reached from depth 0 on a well-formed trie -/
structure AddOK (N : NodeC → Prop) (w : Nat) (t : Trie) (a : Addr) (n : Nat) (e : Elem) (res : Trie × PfxRc) : Prop where
  wf : WFp N w res.1 0
  dup : res.2 = .duplicate → res.1 = t ∧ (a, n, e) ∈ t.elems
  ok : res.2 = .success → (a, n, e) ∉ t.elems ∧ res.1.elems.Perm ((a, n, e) :: t.elems)
  codes : res.2 = .success ∨ res.2 = .duplicate

theorem lookupExact_zero_ne_up (w : Nat) (q : Addr) (n : Nat) (t : Trie) : lookupExact w q n t 0 ≠ .up := by
  cases t with
  | nil => simp [lookupExact]
  | node c l r =>
    rw [lookupExact_node, if_neg (by omega)]
    split
    · simp
    · split
      · simp
      · split <;> simp

theorem elems_setData (c : NodeC) (l r : Trie) (d : List Elem) :
    (Trie.node { c with data := d } l r).elems = l.elems ++ (d.map fun e => (c.addr, c.len, e)) ++ r.elems := by
  rw [elems_node]

theorem elems_node_perm (c : NodeC) (l r : Trie) :
    (Trie.node c l r).elems.Perm ((c.data.map fun e => (c.addr, c.len, e)) ++ (l.elems ++ r.elems)) := by
  rw [elems_node, ← List.append_assoc]
  exact List.Perm.append_right _ List.perm_append_comm

/-- the node found at `p` in a well-formed trie: no other node has its key, and a modification at
    `p` that replaces its payload by `d` leaves every other element alone -/
theorem found_node {N : NodeC → Prop} (w : Nat) (t : Trie) (d : Nat) (p : List Bool) (c : NodeC) (l r : Trie)
    (h : WFp N w t d) (hsub : t.subAt p = .node c l r) :
    WFp N w (.node c l r) (d + p.length) ∧ (∀ e, (c.addr, c.len, e) ∈ t.elems ↔ e ∈ c.data) ∧
    ∃ rest, t.elems.Perm ((c.data.map fun e => (c.addr, c.len, e)) ++ rest) ∧
      ∀ (f : Trie → Trie) (d : List Elem),
        (f (.node c l r)).elems.Perm ((d.map fun e => (c.addr, c.len, e)) ++ (l.elems ++ r.elems)) →
        (t.modifyAt p f).elems.Perm ((d.map fun e => (c.addr, c.len, e)) ++ rest) := by
  have hcmem := subAt_root_mem t p c l r hsub
  have wsub := subAt_WFp w t d p h
  rw [hsub] at wsub
  refine ⟨wsub, fun e => ?_, ?_⟩
  · rw [mem_elems_iff]
    constructor
    · rintro ⟨c', hc', h1, h2, h3⟩
      rw [← node_unique w t d h c' c hc' hcmem h1 h2]
      exact h3
    · exact fun he => ⟨c, hcmem, rfl, rfl, he⟩
  · obtain ⟨rest, h1, h2⟩ := modifyAt_elems t p ⟨c, l, r, hsub⟩
    rw [hsub] at h1 h2
    refine ⟨l.elems ++ r.elems ++ rest, ?_, fun f d hf => ?_⟩
    · rw [← List.append_assoc]
      exact h1.trans ((elems_node_perm c l r).append_right rest)
    · rw [← List.append_assoc]
      exact (h2 f).trans (hf.append_right rest)

theorem modifyAt_setData {N : NodeC → Prop} (hN : NodeInv N) (w : Nat) (t : Trie) (k : Nat) (p : List Bool)
    (c : NodeC) (l r : Trie) (h : WFp N w t k) (hsub : t.subAt p = .node c l r) (d : List Elem) (hd : d ≠ [])
    (hnd : d.Nodup) (f : Trie → Trie) (hf : f (.node c l r) = .node { c with data := d } l r) :
    WFp N w (t.modifyAt p f) k := by
  have wsub := subAt_WFp w t k p h
  rw [hsub] at wsub
  apply modifyAt_WFp w t k p f h ⟨c, l, r, hsub⟩
  · rw [hsub, hf]
    exact .node (hN.set c d wsub.root hd hnd) wsub.belowL wsub.belowR wsub.left wsub.right
  · rw [hsub, hf]
    exact List.Subset.refl _

theorem addTrie_spec {N : NodeC → Prop} (hN : NodeInv N) (w : Nat) (t : Trie) (a : Addr) (n : Nat) (e : Elem)
    (h : WFp N w t 0) (newOK : N ⟨a, n, [e]⟩) : AddOK N w t a n e (addTrie w t a n e) := by
  cases t with
  | nil =>
    simp only [addTrie]
    refine ⟨.node newOK trivial trivial trivial trivial, by simp, fun _ => ⟨by simp [Trie.elems, Trie.nodes], ?_⟩, Or.inl rfl⟩
    simp [Trie.elems, Trie.nodes]
  | node c0 l0 r0 =>
    have spec := lookupExact_spec_p w a n (.node c0 l0 r0) 0 h
    simp only [addTrie]
    split
    · rename_i hres; exact absurd hres (lookupExact_zero_ne_up w a n _)
    · rename_i p hres
      rw [hres] at spec
      obtain ⟨c, l, r, hsub, rfl, rfl⟩ := spec
      obtain ⟨wsub, inelems, rest, p1, p2⟩ := found_node w _ 0 p c l r h hsub
      simp only [hsub]
      split
      · rename_i hf
        exact ⟨h, fun _ => ⟨rfl, (inelems e).2 ((findElem_isSome _ _).1 hf)⟩, by simp, Or.inr rfl⟩
      · rename_i hf
        have hnot : e ∉ c.data := fun he => hf ((findElem_isSome _ _).2 he)
        have hnd : (c.data ++ [e]).Nodup := by
          rw [List.nodup_append]
          refine ⟨(hN.data c wsub.root).2, by simp, ?_⟩
          intro x hx y hy
          rw [List.mem_singleton.1 hy]
          exact fun e' => hnot (e' ▸ hx)
        refine ⟨modifyAt_setData hN w _ 0 p c l r h hsub _ (by simp) hnd _ rfl, by simp,
          fun _ => ⟨fun hin => hnot ((inelems e).1 hin), ?_⟩, Or.inl rfl⟩
        refine (p2 _ (c.data ++ [e]) (elems_node_perm { c with data := c.data ++ [e] } l r)).trans ?_
        refine List.Perm.trans ?_ (p1.symm.cons _)
        rw [List.map_append, List.append_assoc]
        exact List.perm_middle
    · rename_i p hres
      rw [hres] at spec
      have hnk := spec.1
      have eq := lookupExact_insert w ⟨a, n, [e]⟩ (.node c0 l0 r0) 0 h p hres
      simp only [Nat.zero_add] at eq
      rw [eq]
      refine ⟨insert_WFp w _ _ 0 h newOK hnk, by simp, fun _ => ⟨not_mem_elems_of_key _ a n e hnk, ?_⟩, Or.inl rfl⟩
      have := elems_perm (t := insert w (.node c0 l0 r0) ⟨a, n, [e]⟩ 0) (t' := .node ⟨a, n, [e]⟩ .nil (.node c0 l0 r0)) (by
        simpa [Trie.nodes] using insert_nodes_perm w (.node c0 l0 r0) ⟨a, n, [e]⟩ 0)
      refine this.trans ?_
      simp [elems_node, elems_nil]

/-! ## pfx_table_remove on one trie -/

/-- `res = removeTrie w t a n e` on a well-formed trie.  `ok` holds whether or not the node went with
    its last element -/
structure RemOK (N : NodeC → Prop) (w : Nat) (t : Trie) (a : Addr) (n : Nat) (e : Elem) (res : Trie × PfxRc) : Prop where
  wf : WFp N w res.1 0
  nf : res.2 = .notFound → res.1 = t ∧ (a, n, e) ∉ t.elems
  ok : res.2 = .success → t.elems.Perm ((a, n, e) :: res.1.elems)
  codes : res.2 = .success ∨ res.2 = .notFound

theorem removeTrie_spec {N : NodeC → Prop} (hN : NodeInv N) (w : Nat) (t : Trie) (a : Addr) (n : Nat) (e : Elem)
    (h : WFp N w t 0) : RemOK N w t a n e (removeTrie w t a n e) := by
  have spec := lookupExact_spec_p w a n t 0 h
  have nfcase : (a, n) ∉ t.keys → RemOK N w t a n e (t, .notFound) := fun hk =>
    ⟨h, fun _ => ⟨rfl, not_mem_elems_of_key t a n e hk⟩, by simp, Or.inr rfl⟩
  unfold removeTrie
  split
  · rename_i p hres
    rw [hres] at spec
    obtain ⟨c, l, r, hsub, rfl, rfl⟩ := spec
    obtain ⟨wsub, inelems, rest, p1, p2⟩ := found_node w t 0 p c l r h hsub
    simp only [hsub]
    split
    · rename_i hf
      have : e ∉ c.data := by
        intro he
        have := (findElem_isSome _ _).2 he
        rw [hf] at this; simp at this
      exact ⟨h, fun _ => ⟨rfl, fun hin => this ((inelems e).1 hin)⟩, by simp, Or.inr rfl⟩
    · rename_i i hf
      have dp := delElem_perm c.data e i hf
      -- the element leaves the payload, whatever then happens to the node
      have fin : ∀ t' : Trie, t'.elems.Perm (((delElem c.data i).map fun e => (c.addr, c.len, e)) ++ rest) →
          t.elems.Perm ((c.addr, c.len, e) :: t'.elems) := fun t' ht =>
        p1.trans (((dp.map fun e => (c.addr, c.len, e)).append_right rest).trans (ht.symm.cons _))
      split
      · rename_i hempty
        have hd : delElem c.data i = [] := by simpa using hempty
        refine ⟨?_, by simp, fun _ => fin _ (p2 _ _ ?_), Or.inl rfl⟩
        · apply modifyAt_WFp w _ 0 p _ h ⟨c, l, r, hsub⟩
          · simp only [hsub]
            exact removeRoot_WFp w _ l r _ wsub.belowL wsub.belowR wsub.left wsub.right
          · simp only [hsub]
            exact removeRoot_keys _ c l r
        · rw [hd]
          exact removeRoot_elems_perm _ l r
      · rename_i hne
        have hd : delElem c.data i ≠ [] := by simpa using hne
        have hnd : (delElem c.data i).Nodup := (hN.data c wsub.root).2.sublist (List.eraseIdx_sublist _ _)
        exact ⟨modifyAt_setData hN w t 0 p c l r h hsub _ hd hnd _ rfl, by simp,
          fun _ => fin _ (p2 _ _ (elems_node_perm { c with data := delElem c.data i } l r)), Or.inl rfl⟩
  · rename_i hres
    cases hl : lookupExact w a n t 0 with
    | up => rw [hl] at spec; exact nfcase spec
    | «at» p f =>
      cases f with
      | true => exact absurd hl (hres p)
      | false => rw [hl] at spec; exact nfcase spec.1

theorem WFp_elems_nodup {N : NodeC → Prop} (hN : NodeInv N) (w : Nat) (t : Trie) (d : Nat) (h : WFp N w t d) :
    t.elems.Nodup := by
  have hk := WFp_keys_nodup w t d h
  have hok := (All_iff t).1 (WFp_All w t d h)
  rw [keys_eq_map] at hk
  unfold Trie.elems
  generalize t.nodes = ns at hk hok
  induction ns with
  | nil => simp
  | cons c cs ih =>
    simp only [List.map_cons, List.nodup_cons, List.mem_map, not_exists, not_and] at hk
    simp only [List.flatMap_cons]
    rw [List.nodup_append]
    refine ⟨?_, ih hk.2 (fun x hx => hok x (List.mem_cons_of_mem _ hx)), ?_⟩
    · exact List.Pairwise.map _ (fun a b hab e => hab (by simpa using e)) (hN.data c (hok c (by simp))).2
    · intro x hx y hy e
      subst e
      simp only [List.mem_map, List.mem_flatMap] at hx hy
      obtain ⟨e1, _, rfl⟩ := hx
      obtain ⟨c', hc', e2, _, he⟩ := hy
      simp only [Prod.mk.injEq] at he
      exact hk.1 c' hc' (by simp [he.1, he.2.1])

end Rtr
