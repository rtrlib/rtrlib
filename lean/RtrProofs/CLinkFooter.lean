/-
  CLinkFooter: the memory-mode translation of `rtr_pdu_convert_footer_byte_order` (rtrlib/rtr/packets.c; translated by
  tools/gen_cfuns.py into RtrModel/Generated/CFuns.lean on every run, with `lrtr_ipv4_addr_convert_byte_order` and
  `lrtr_ipv6_addr_convert_byte_order` of rtrlib/lib inlined and the loop of the latter unrolled) against a specification
  over 32-bit words: the function byte-swaps, in place, exactly the 32-bit fields of the PDU body that the type (and, for
  End of Data, the version) in the header names - and nothing else inside the PDU.

      type                      words swapped (offsets from the start of the PDU)
      Serial Notify (0)         8
      Serial Query (1)          8
      IPv4 Prefix (4)           12 16
      IPv6 Prefix (6)           12 16 20 24 28        (through a 16-byte local, which lies beyond every buffer)
      End of Data (7)  v1       20 12 16 8            other versions: 8
      Router Key (9)            28
      Error Report (10)         to network: 12 + L (L = the host-order word at 8), then 8
                                to host:    8, then 12 + L (L = the now host-order word at 8)
      anything else             nothing

  `footer_eq` is the link, for every memory, every pointer into an object that holds the type byte, and both directions: the C
  text is `footerSpec`, the table above
  written as a function (`errorSpec` for type 10, `ipv6Spec` for type 6, `fixedSpec` for every other type), each row reading
  "defined iff the object holds the words it names, then this memory".  It is the only proof that looks at the generated text;
  `footer_fixed`, `footer_ipv6`, `footer_error_to_network` / `_to_host` are the rows written out, and the round trips follow.
  `footer_ipv6` states the list `[12, 16, 20, 24, 28]` and the bound `32`: they are `words 6 _` and `need 6 _` - the tables have
  the row of type 6, which CLinkFooterModel uses and `footer_fixed` does not.
  A word swapped in place is the memory read through `Conv.mirror` (`swapAt_eq`, `swapWords_eq`: `swapAt` / `swapWords` are
  `Conv.swapField` / `Conv.swapFields` of RtrProofs/PduConvRevAt.lean), which is where involution, commutation and the untouched
  bytes come from.
-/
import RtrProofs.CLinkPdu
import RtrProofs.PduConvRevAt

namespace Rtr.CLink.Footer
open Rtr Rtr.Gen Rtr.CLink

abbrev Mem := Nat → BitVec 8

/-- byte-swap the 32-bit word at address `a`, in place -/
def swapAt (m : Mem) (a : Nat) : Mem := C.store32 m a (C.bswap32 (C.load32 m a))

/-- byte-swap the words at the given offsets from `pdu`, in that order -/
def swapWords (m : Mem) (pdu : Nat) : List Nat → Mem
  | [] => m
  | o :: os => swapWords (swapAt m (pdu + o)) pdu os

/-- the 32-bit fields of the fixed-layout PDU bodies, in the order the C text converts them -/
def words (ty ver : BitVec 8) : List Nat :=
  if ty = 0#8 ∨ ty = 1#8 then [8]
  else if ty = 4#8 then [12, 16]
  else if ty = 6#8 then [12, 16, 20, 24, 28]
  else if ty = 7#8 then (if ver = 1#8 then [20, 12, 16, 8] else [8])
  else if ty = 9#8 then [28]
  else []

/-- bytes the object must have for the conversion to stay inside it -/
def need (ty ver : BitVec 8) : Nat :=
  if ty = 0#8 ∨ ty = 1#8 then 12
  else if ty = 4#8 then 20
  else if ty = 6#8 then 32
  else if ty = 7#8 then (if ver = 1#8 then 24 else 12)
  else if ty = 9#8 then 32
  else 2

def WordsApart (a b : Nat) : Prop := a + 4 ≤ b ∨ b + 4 ≤ a

instance (a b : Nat) : Decidable (WordsApart a b) := by unfold WordsApart; infer_instance

theorem words_spec (ty ver : BitVec 8) :
    (∀ o ∈ words ty ver, 8 ≤ o ∧ o + 4 ≤ need ty ver) ∧ (words ty ver).Pairwise WordsApart := by
  unfold words need
  by_cases h01 : ty = 0#8 ∨ ty = 1#8
  · rw [if_pos h01, if_pos h01]
    decide
  rw [if_neg h01, if_neg h01]
  by_cases h4 : ty = 4#8
  · rw [if_pos h4, if_pos h4]
    decide
  rw [if_neg h4, if_neg h4]
  by_cases h6 : ty = 6#8
  · rw [if_pos h6, if_pos h6]
    decide
  rw [if_neg h6, if_neg h6]
  by_cases h7 : ty = 7#8
  · rw [if_pos h7, if_pos h7]
    by_cases hv : ver = 1#8
    · rw [if_pos hv, if_pos hv]
      decide
    · rw [if_neg hv, if_neg hv]
      decide
  rw [if_neg h7, if_neg h7]
  by_cases h9 : ty = 9#8
  · rw [if_pos h9, if_pos h9]
    decide
  · rw [if_neg h9, if_neg h9]
    decide

theorem words_ge (ty ver : BitVec 8) : ∀ o ∈ words ty ver, 8 ≤ o :=
  fun o ho => ((words_spec ty ver).1 o ho).1

/-! ## the translated text -/

/-- IPv6 Prefix as the C text converts it: each of the four address words at `p` is byte-swapped into a 16-byte local at `S`,
    the local is copied back over the address, then the AS number behind the address is swapped in place -/
def ipv6ViaLocal (m : Mem) (p S : Nat) : Mem :=
  let m1 := C.store32 m S (C.bswap32 (C.load32 m p))
  let m2 := C.store32 m1 (S + 4) (C.bswap32 (C.load32 m1 (p + 4)))
  let m3 := C.store32 m2 (S + 8) (C.bswap32 (C.load32 m2 (p + 8)))
  let m4 := C.store32 m3 (S + 12) (C.bswap32 (C.load32 m3 (p + 12)))
  swapAt (C.memcpy m4 p S 16) (p + 16)

/-- the Error Report: the text-length word lies behind the encapsulated PDU, at `12 + L` for the encapsulated length `L` in host
    order - the word at 8 as it stands when converting to network order, swapped when converting to host order - and is
    converted while the word at 8 is in host order -/
def errorSpec (mem : Mem) (msize pdu : Nat) (tbo : BitVec 32) : Option Mem :=
  if tbo = 0#32 then
    if pdu + 12 ≤ msize ∧ pdu + 12 + (C.load32 mem (pdu + 8)).toNat + 4 ≤ msize then
      some (swapAt (swapAt mem (pdu + 12 + (C.load32 mem (pdu + 8)).toNat)) (pdu + 8))
    else none
  else
    if pdu + 12 ≤ msize ∧ pdu + 12 + (C.bswap32 (C.load32 mem (pdu + 8))).toNat + 4 ≤ msize then
      some (swapAt (swapAt mem (pdu + 8)) (pdu + 12 + (C.bswap32 (C.load32 mem (pdu + 8))).toNat))
    else none

/-- IPv6 Prefix: through the function's local `addr6`, the first object of its stack page (the translator places the k-th local
    whose address is taken at `C.STACK + 4096 * k`), which the 16 address bytes of the PDU (offsets 12..27) must not overlap:
    the guard of the `memcpy` back -/
def ipv6Spec (mem : Mem) (msize pdu : Nat) : Option Mem :=
  if pdu + 32 ≤ msize ∧ (pdu + 28 ≤ C.STACK + 4096 ∨ C.STACK + 4112 ≤ pdu + 12) then
    some (ipv6ViaLocal mem (pdu + 12) (C.STACK + 4096))
  else none

def fixedSpec (mem : Mem) (msize pdu : Nat) : Option Mem :=
  if pdu + need (mem (pdu + 1)) (mem pdu) ≤ msize then some (swapWords mem pdu (words (mem (pdu + 1)) (mem pdu))) else none

/-- what `rtr_pdu_convert_footer_byte_order` does, by the type byte -/
def footerSpec (mem : Mem) (msize pdu : Nat) (tbo : BitVec 32) : Option Mem :=
  if mem (pdu + 1) = 10#8 then errorSpec mem msize pdu tbo
  else if mem (pdu + 1) = 6#8 then ipv6Spec mem msize pdu
  else fixedSpec mem msize pdu

theorem footerSpec_error (mem : Mem) (msize pdu : Nat) (tbo : BitVec 32) (h10 : mem (pdu + 1) = 10#8) :
    footerSpec mem msize pdu tbo = errorSpec mem msize pdu tbo :=
  if_pos h10

theorem footerSpec_ipv6 (mem : Mem) (msize pdu : Nat) (tbo : BitVec 32) (h6 : mem (pdu + 1) = 6#8) :
    footerSpec mem msize pdu tbo = ipv6Spec mem msize pdu := by
  unfold footerSpec
  rw [if_neg (by rw [h6]; decide), if_pos h6]

theorem footerSpec_fixed (mem : Mem) (msize pdu : Nat) (tbo : BitVec 32) (h6 : mem (pdu + 1) ≠ 6#8) (h10 : mem (pdu + 1) ≠ 10#8) :
    footerSpec mem msize pdu tbo = fixedSpec mem msize pdu := by
  unfold footerSpec
  rw [if_neg h10, if_neg h6]

/-- a test of the `switch` on the type byte, which `rtr_get_pdu_type` reads through a `char *` (hence sign-extended) -/
theorem sext8_lit_beq (x : BitVec 8) (k : Nat) (hk : k < 128) :
    (BitVec.signExtend 32 x == BitVec.ofNat 32 k) = decide (x = BitVec.ofNat 8 k) := by
  simp only [Bool.beq_eq_decide_eq, sext8_eq_lit x k hk]

section
variable (mem : Mem) (msize pdu : Nat) (tbo : BitVec 32)

theorem footer_eq (htbo : tbo = 0#32 ∨ tbo = 1#32) (h2 : pdu + 2 ≤ msize) :
    C.rtr_pdu_convert_footer_byte_order mem msize pdu tbo = footerSpec mem msize pdu tbo := by
  unfold C.rtr_pdu_convert_footer_byte_order
  rw [rtr_get_pdu_type_at mem msize pdu h2]
  have s (k : Nat) (hk : k < 128) := sext8_lit_beq (mem (pdu + 1)) k hk
  have s0 := s 0 (by decide)
  have s1 := s 1 (by decide)
  have s4 := s 4 (by decide)
  have s6 := s 6 (by decide)
  have s7 := s 7 (by decide)
  have s9 := s 9 (by decide)
  have s10 := s 10 (by decide)
  have ev : (BitVec.setWidth 32 (C.load8 mem pdu) == 1#32) = decide (mem pdu = 1#8) := zext8_eq_lit (mem pdu) 1 (by decide)
  have hv1 : pdu + 1 ≤ msize := by omega
  -- one pass over the text: the type tests, the conversions, and the bounds guard that each access repeats; what is left is a
  -- cascade `if type = k then (if all guards of the branch then some (the stores of the branch) else none) else …`.  Below,
  -- the branch of a type is selected by deciding every test of the cascade under `type = k` (`BitVec.reduceEq`), never by
  -- its position: the order of the cases of the `switch` does not matter
  simp only [lrtr_convert_long_eq, if_pos htbo, s0, s1, s4, s6, s7, s9, s10, ev, hv1, decide_eq_true_eq, ite_ite_same, if_true,
    Bool.and_eq_true, beq_iff_eq, and_self, and_self_left]
  by_cases h10 : mem (pdu + 1) = 10#8
  · -- to host: the length that locates the second word is read back from the word just stored
    rw [footerSpec_error mem msize pdu tbo h10]
    simp only [errorSpec, h10, BitVec.reduceEq, if_false, if_true, load32_store32]
    by_cases ht : tbo = 0#32
    · rw [if_pos ht, if_pos ht]
      exact ite_cond_congr (by omega)
    · rw [if_neg ht, if_neg ht]
      exact ite_cond_congr (by omega)
  by_cases h6 : mem (pdu + 1) = 6#8
  · -- the bounds guards of the stores into the local compare literals above `C.STACK` and go; the sums are collected so that
    -- `omega` is left with the guards on `pdu` alone
    rw [footerSpec_ipv6 mem msize pdu tbo h6]
    simp only [ipv6Spec, h6, BitVec.reduceEq, if_false, if_true, Nat.add_zero, Nat.add_assoc, Nat.reduceAdd,
      Nat.add_le_add_iff_left, Nat.reduceLeDiff, true_and, and_true]
    exact ite_cond_congr (by omega)
  -- the fixed layouts: under `type = k` the rows of `need` and `words` are literals; the guards of the words of a row
  -- together say that the object reaches the end of the last one
  rw [footerSpec_fixed mem msize pdu tbo h6 h10]
  unfold fixedSpec
  by_cases h1 : mem (pdu + 1) = 1#8
  · simp only [h1, need, words, swapWords, swapAt, BitVec.reduceEq, or_true, if_false, if_true]
  by_cases h0 : mem (pdu + 1) = 0#8
  · simp only [h0, need, words, swapWords, swapAt, BitVec.reduceEq, true_or, if_false, if_true]
  by_cases h9 : mem (pdu + 1) = 9#8
  · simp only [h9, need, words, swapWords, swapAt, BitVec.reduceEq, or_self, if_false, if_true]
  by_cases h4 : mem (pdu + 1) = 4#8
  · simp only [h4, need, words, swapWords, swapAt, BitVec.reduceEq, or_self, if_false, if_true]
    exact ite_cond_congr (by omega)
  by_cases h7 : mem (pdu + 1) = 7#8
  · by_cases hv : mem pdu = 1#8
    · simp only [h7, hv, need, words, swapWords, swapAt, BitVec.reduceEq, or_self, if_false, if_true]
      exact ite_cond_congr (by omega)
    · simp only [h7, hv, need, words, swapWords, swapAt, BitVec.reduceEq, or_self, if_false, if_true]
  simp only [h0, h1, h4, h6, h7, h9, h10, need, words, swapWords, or_self, if_false, if_pos h2]

/-- link: every PDU type with a fixed layout that is converted in place (everything but IPv6 Prefix and Error Report) -/
theorem footer_fixed (htbo : tbo = 0#32 ∨ tbo = 1#32) (h2 : pdu + 2 ≤ msize)
    (h6 : mem (pdu + 1) ≠ 6#8) (h10 : mem (pdu + 1) ≠ 10#8) :
    C.rtr_pdu_convert_footer_byte_order mem msize pdu tbo =
      if pdu + need (mem (pdu + 1)) (mem pdu) ≤ msize then some (swapWords mem pdu (words (mem (pdu + 1)) (mem pdu))) else none := by
  rw [footer_eq mem msize pdu tbo htbo h2, footerSpec_fixed mem msize pdu tbo h6 h10]
  rfl

end

/-! ## swapping in place: one word, and words that do not overlap -/

theorem swapAt_eq (m : Mem) (a : Nat) : swapAt m a = Conv.swapField m a 4 := by
  funext x
  by_cases h : a ≤ x ∧ x < a + 4
  · obtain ⟨j, rfl⟩ : ∃ j, x = a + j := ⟨x - a, by omega⟩
    have hj : j = 0 ∨ j = 1 ∨ j = 2 ∨ j = 3 := by omega
    rw [Conv.swapField_in m a 4 j (by omega)]
    unfold swapAt C.load32
    rw [bswap32_append, store32_append]
    rcases hj with rfl | rfl | rfl | rfl <;> simp
  · rw [Conv.swapField_out m a 4 x (by omega)]
    exact store32_other _ _ _ _ (by omega)

def wordFields (pdu : Nat) (l : List Nat) : List (Nat × Nat) := l.map (fun o => (pdu + o, 4))

theorem swapWords_eq (m : Mem) (pdu : Nat) (l : List Nat) : swapWords m pdu l = Conv.swapFields m (wordFields pdu l) := by
  induction l generalizing m with
  | nil => rfl
  | cons o os ih =>
    show swapWords (swapAt m (pdu + o)) pdu os = _
    rw [ih, swapAt_eq]
    rfl

theorem swapAt_swapAt (m : Mem) (a : Nat) : swapAt (swapAt m a) a = m := by
  rw [swapAt_eq, swapAt_eq, Conv.swapField_swapField]

theorem swapWords_involutive (m : Mem) (pdu : Nat) (l : List Nat) (h : l.Pairwise WordsApart) :
    swapWords (swapWords m pdu l) pdu l = m := by
  rw [swapWords_eq, swapWords_eq]
  apply Conv.swapFields_invol
  unfold wordFields
  rw [List.pairwise_map]
  exact h.imp (fun hab => by unfold WordsApart at hab; unfold Conv.Disj; omega)

theorem swapWords_low (m : Mem) (pdu : Nat) (l : List Nat) (h : ∀ o ∈ l, 8 ≤ o) (x : Nat) (hx : x < pdu + 8) :
    swapWords m pdu l x = m x := by
  rw [swapWords_eq]
  apply Conv.swapFields_out
  intro f hf
  obtain ⟨o, ho, rfl⟩ := List.mem_map.1 hf
  have := h o ho
  exact Or.inl (by omega)

/-- round trip of the translated text (fixed-layout types): the conversion to network byte order followed by the conversion to
    host byte order - both as translated from the C text - gives the memory back -/
theorem footer_fixed_round_trip (mem : Mem) (msize pdu : Nat) (h2 : pdu + 2 ≤ msize)
    (h6 : mem (pdu + 1) ≠ 6#8) (h10 : mem (pdu + 1) ≠ 10#8) (hn : pdu + need (mem (pdu + 1)) (mem pdu) ≤ msize) :
    (C.rtr_pdu_convert_footer_byte_order mem msize pdu 0#32).bind (fun m' => C.rtr_pdu_convert_footer_byte_order m' msize pdu 1#32)
      = some mem := by
  rw [footer_fixed mem msize pdu 0#32 (Or.inl rfl) h2 h6 h10, if_pos hn]
  simp only [Option.bind_some]
  have l0 := swapWords_low mem pdu _ (words_ge (mem (pdu + 1)) (mem pdu)) pdu (by omega)
  have l1 := swapWords_low mem pdu _ (words_ge (mem (pdu + 1)) (mem pdu)) (pdu + 1) (by omega)
  rw [footer_fixed _ msize pdu 1#32 (Or.inr rfl) h2 (by rw [l1]; exact h6) (by rw [l1]; exact h10), l0, l1, if_pos hn,
    swapWords_involutive _ _ _ (words_spec _ _).2]

/-! ## the Error Report: a word whose position is read from the PDU -/

section
variable (mem : Mem) (msize pdu : Nat)

/-- to network byte order: the text-length word behind the encapsulated PDU is found with the still host-order length `L`,
    then the length itself is swapped -/
theorem footer_error_to_network (h2 : pdu + 2 ≤ msize) (hty : mem (pdu + 1) = 10#8) :
    C.rtr_pdu_convert_footer_byte_order mem msize pdu 0#32 =
      if pdu + 12 ≤ msize ∧ pdu + 12 + (C.load32 mem (pdu + 8)).toNat + 4 ≤ msize then
        some (swapAt (swapAt mem (pdu + 12 + (C.load32 mem (pdu + 8)).toNat)) (pdu + 8))
      else none := by
  rw [footer_eq mem msize pdu 0#32 (Or.inl rfl) h2, footerSpec_error mem msize pdu 0#32 hty]
  unfold errorSpec
  rw [if_pos rfl]

/-- to host byte order: the length is swapped first, the text-length word is found with the now host-order length -/
theorem footer_error_to_host (h2 : pdu + 2 ≤ msize) (hty : mem (pdu + 1) = 10#8) :
    C.rtr_pdu_convert_footer_byte_order mem msize pdu 1#32 =
      if pdu + 12 ≤ msize ∧ pdu + 12 + (C.bswap32 (C.load32 mem (pdu + 8))).toNat + 4 ≤ msize then
        some (swapAt (swapAt mem (pdu + 8)) (pdu + 12 + (C.bswap32 (C.load32 mem (pdu + 8))).toNat))
      else none := by
  rw [footer_eq mem msize pdu 1#32 (Or.inr rfl) h2, footerSpec_error mem msize pdu 1#32 hty]
  unfold errorSpec
  rw [if_neg (by decide)]

/-- round trip of the translated text (Error Report): to network, then to host, is the identity -/
theorem footer_error_round_trip (h2 : pdu + 2 ≤ msize) (hty : mem (pdu + 1) = 10#8)
    (hn : pdu + 12 ≤ msize ∧ pdu + 12 + (C.load32 mem (pdu + 8)).toNat + 4 ≤ msize) :
    (C.rtr_pdu_convert_footer_byte_order mem msize pdu 0#32).bind (fun m' => C.rtr_pdu_convert_footer_byte_order m' msize pdu 1#32)
      = some mem := by
  rw [footer_error_to_network mem msize pdu h2 hty, if_pos hn]
  simp only [Option.bind_some]
  -- `L` and `m1` are named so that `t1`, `t8` and `hn` speak of the same terms when the second conversion is rewritten: it finds
  -- its second word with `bswap32` of a load from `m1`, which `t8` turns back into `L`.  A `show` spells `m1` out where `unfold`
  -- has to see it
  let L := (C.load32 mem (pdu + 8)).toNat
  have hL : (C.load32 mem (pdu + 8)).toNat = L := rfl
  rw [hL] at hn ⊢
  let m1 := swapAt (swapAt mem (pdu + 12 + L)) (pdu + 8)
  have t1 : m1 (pdu + 1) = mem (pdu + 1) := by
    show swapAt (swapAt mem (pdu + 12 + L)) (pdu + 8) (pdu + 1) = _
    unfold swapAt
    rw [store32_other _ _ _ _ (by omega), store32_other _ _ _ _ (by omega)]
  have t8 : C.load32 m1 (pdu + 8) = C.bswap32 (C.load32 mem (pdu + 8)) := by
    show C.load32 (swapAt (swapAt mem (pdu + 12 + L)) (pdu + 8)) (pdu + 8) = _
    unfold swapAt
    rw [load32_store32, load32_store32_other _ _ _ _ (by omega)]
  rw [footer_error_to_host m1 msize pdu h2 (by rw [t1]; exact hty), t8, bswap32_bswap32, hL, if_pos hn]
  show some (swapAt (swapAt (swapAt (swapAt mem (pdu + 12 + L)) (pdu + 8)) (pdu + 8)) (pdu + 12 + L)) = some mem
  rw [swapAt_swapAt, swapAt_swapAt]

end

/-! ## IPv6 Prefix: converted through a local copy -/

theorem store32_shift (m m' : Mem) (a a' : Nat) (v : BitVec 32) (j : Nat) (hj : j < 4) :
    C.store32 m a v (a + j) = C.store32 m' a' v (a' + j) := by
  have : j = 0 ∨ j = 1 ∨ j = 2 ∨ j = 3 := by omega
  unfold C.store32
  rcases this with e | e | e | e <;> subst e <;> simp

theorem store32_translate (m m' : Mem) (d d' a : Nat) (v : BitVec 32) (y : Nat)
    (h : (y < a ∨ a + 4 ≤ y) → m (d + y) = m' (d' + y)) :
    C.store32 m (d + a) v (d + y) = C.store32 m' (d' + a) v (d' + y) := by
  by_cases hy : a ≤ y ∧ y < a + 4
  · obtain ⟨j, rfl⟩ : ∃ j, y = a + j := ⟨y - a, by omega⟩
    rw [← Nat.add_assoc, ← Nat.add_assoc]
    exact store32_shift _ _ _ _ _ j (by omega)
  · rw [store32_other _ _ _ _ (by omega), store32_other _ _ _ _ (by omega)]
    exact h (by omega)

theorem store32_congr (m m' : Mem) (a : Nat) (v : BitVec 32) (x : Nat) (h : (x < a ∨ a + 4 ≤ x) → m x = m' x) :
    C.store32 m a v x = C.store32 m' a v x := by
  have h' := store32_translate m m' 0 0 a v x
  simp only [Nat.zero_add] at h'
  exact h' h

/-- four words written to a scratch area `S` and copied to `p` are, seen from below `S`, four words written at `p` -/
theorem via_copy (m : Mem) (p S : Nat) (v0 v1 v2 v3 : BitVec 32) (x : Nat) (hx : x < S) :
    C.memcpy (C.store32 (C.store32 (C.store32 (C.store32 m S v0) (S + 4) v1) (S + 8) v2) (S + 12) v3) p S 16 x
      = C.store32 (C.store32 (C.store32 (C.store32 m p v0) (p + 4) v1) (p + 8) v2) (p + 12) v3 x := by
  by_cases hout : x < p ∨ p + 16 ≤ x
  · rw [memcpy_out _ _ _ _ _ hout, store32_other _ _ _ _ (by omega), store32_other _ _ _ _ (by omega),
      store32_other _ _ _ _ (by omega), store32_other _ _ _ _ (by omega), store32_other _ _ _ _ (by omega),
      store32_other _ _ _ _ (by omega), store32_other _ _ _ _ (by omega), store32_other _ _ _ _ (by omega)]
  · -- every copied byte lies in one of the four words, at the same distance from `S` as its copy from `p`
    obtain ⟨y, rfl⟩ : ∃ y, x = p + y := ⟨x - p, by omega⟩
    rw [memcpy_in _ _ _ _ _ (by omega), Nat.add_sub_cancel_left]
    exact store32_translate _ _ S p 12 v3 y (fun h3 => store32_translate _ _ S p 8 v2 y (fun h2 =>
      store32_translate _ _ S p 4 v1 y (fun h1 => store32_translate _ _ S p 0 v0 y (fun h0 => by omega))))

theorem ipv6ViaLocal_below (m : Mem) (p S x : Nat) (hp : p + 20 ≤ S) (hx : x < S) :
    ipv6ViaLocal m p S x = swapAt (swapAt (swapAt (swapAt (swapAt m p) (p + 4)) (p + 8)) (p + 12)) (p + 16) x := by
  unfold ipv6ViaLocal
  -- the loads of the source words do not see the scratch stores
  rw [load32_store32_other m S (p + 4) _ (by omega)]
  rw [load32_store32_other _ (S + 4) (p + 8) _ (by omega), load32_store32_other m S (p + 8) _ (by omega)]
  rw [load32_store32_other _ (S + 8) (p + 12) _ (by omega), load32_store32_other _ (S + 4) (p + 12) _ (by omega),
    load32_store32_other m S (p + 12) _ (by omega)]
  unfold swapAt
  -- the AS number behind the address is neither copied nor scratch
  rw [load32_eq (m' := m) (a := p + 16) (a' := p + 16) (fun k hk => by
    rw [memcpy_out _ _ _ _ _ (by omega), store32_other _ _ _ _ (by omega), store32_other _ _ _ _ (by omega),
      store32_other _ _ _ _ (by omega), store32_other _ _ _ _ (by omega)])]
  -- the in-place side
  rw [load32_store32_other m p (p + 4) _ (by omega)]
  rw [load32_store32_other _ (p + 4) (p + 8) _ (by omega), load32_store32_other m p (p + 8) _ (by omega)]
  rw [load32_store32_other _ (p + 8) (p + 12) _ (by omega), load32_store32_other _ (p + 4) (p + 12) _ (by omega),
    load32_store32_other m p (p + 12) _ (by omega)]
  rw [load32_store32_other _ (p + 12) (p + 16) _ (by omega), load32_store32_other _ (p + 8) (p + 16) _ (by omega),
    load32_store32_other _ (p + 4) (p + 16) _ (by omega), load32_store32_other m p (p + 16) _ (by omega)]
  exact store32_congr _ _ (p + 16) _ x (fun _ => via_copy m p S _ _ _ _ x hx)

/-- the four address words go through a 16-byte local (which lies in the stack pages, beyond every buffer) and are copied back;
    seen from the buffer this is the in-place swap of the words 12 16 20 24, followed by the AS number at 28.
    The result is described below the stack pages only - what the local holds afterwards is left open - so there is no equation
    `… = if … then some … else none` to state as for the other types: one `if` over propositions says when the text is defined
    and, where it is, what it returns (a user rewrites the hypothesis with `if_pos` / `if_neg`). -/
theorem footer_ipv6 (mem : Mem) (msize pdu : Nat) (tbo : BitVec 32) (htbo : tbo = 0#32 ∨ tbo = 1#32) (h2 : pdu + 2 ≤ msize)
    (hs : msize ≤ C.STACK) (hty : mem (pdu + 1) = 6#8) :
    if pdu + 32 ≤ msize then
      ∃ m', C.rtr_pdu_convert_footer_byte_order mem msize pdu tbo = some m' ∧
        ∀ x, x < C.STACK → m' x = swapWords mem pdu [12, 16, 20, 24, 28] x
    else C.rtr_pdu_convert_footer_byte_order mem msize pdu tbo = none := by
  rw [footer_eq mem msize pdu tbo htbo h2, footerSpec_ipv6 mem msize pdu tbo hty]
  unfold ipv6Spec
  by_cases h : pdu + 32 ≤ msize
  · rw [if_pos h, if_pos ⟨h, Or.inl (by omega)⟩]
    refine ⟨_, rfl, fun x hx => ?_⟩
    rw [ipv6ViaLocal_below mem (pdu + 12) (C.STACK + 4096) x (by omega) (Nat.lt_of_lt_of_le hx (Nat.le_add_right _ _))]
    rfl
  · rw [if_neg h, if_neg (fun q => h q.1)]

end Rtr.CLink.Footer
