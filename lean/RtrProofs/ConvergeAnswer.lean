/-
  ConvergeAnswer: the answer of a cache as data (a list of announcements / withdrawals), its wire form, and the
  completeness of `rtr_sync` stated on the data: a consistent answer is applied, and the tables afterwards are
  described as sets.
-/
import RtrProofs.ConvergeSync

namespace Rtr.P

/-! ## consistent lists of operations -/

section ListSet
variable {α : Type} [DecidableEq α]

/-- **a consistent list of operations is applicable in any order** -/
theorem cv_lsApplyAll_consistent : ∀ (ops : List (Bool × α)) (t : List α), t.Nodup →
    (ops.map Prod.snd).Nodup → (∀ op ∈ ops, (op.1 = true ↔ op.2 ∉ t)) →
    ∃ t', lsApplyAll t ops = some t' ∧ t'.Nodup ∧
      ∀ x, x ∈ t' ↔ ((true, x) ∈ ops ∨ (x ∈ t ∧ (false, x) ∉ ops)) := by
  intro ops
  induction ops with
  | nil => intro t hn _ _; exact ⟨t, rfl, hn, fun x => by simp⟩
  | cons op ops ih =>
    intro t hn hnd hc
    obtain ⟨f, r⟩ := op
    simp only [List.map_cons, List.nodup_cons] at hnd
    obtain ⟨hr, hnd⟩ := hnd
    have hne : ∀ op ∈ ops, op.2 ≠ r := fun op hop e => hr (by rw [← e]; exact List.mem_map_of_mem hop)
    have hrt := hc (f, r) List.mem_cons_self
    simp only at hrt
    cases f with
    | true =>
      have hnot : r ∉ t := hrt.1 rfl
      have hc' : ∀ op ∈ ops, (op.1 = true ↔ op.2 ∉ r :: t) := by
        intro op hop
        rw [hc op (List.mem_cons_of_mem _ hop)]
        simp [hne op hop]
      obtain ⟨t', h1, h2, h3⟩ := ih (r :: t) (List.nodup_cons.2 ⟨hnot, hn⟩) hnd hc'
      refine ⟨t', ?_, h2, fun x => ?_⟩
      · simp only [lsApplyAll, lsApply, if_true, hnot, if_false]; exact h1
      · rw [h3 x]
        by_cases e : x = r
        · subst e
          have : (false, x) ∉ ops := fun hm => hr (List.mem_map_of_mem (f := Prod.snd) hm)
          simp [this]
        · simp [e]
    | false =>
      have hin : r ∈ t := by
        by_cases h : r ∈ t
        · exact h
        · exact absurd (hrt.2 h) (by simp)
      have hc' : ∀ op ∈ ops, (op.1 = true ↔ op.2 ∉ t.erase r) := by
        intro op hop
        rw [hc op (List.mem_cons_of_mem _ hop), List.mem_erase_of_ne (hne op hop)]
      obtain ⟨t', h1, h2, h3⟩ := ih (t.erase r) (hn.sublist List.erase_sublist) hnd hc'
      refine ⟨t', ?_, h2, fun x => ?_⟩
      · simp only [lsApplyAll, lsApply, Bool.false_eq_true, if_false, hin, if_true]; exact h1
      · rw [h3 x]
        by_cases e : x = r
        · subst e
          have h4 : (true, x) ∉ ops := fun hm => hr (List.mem_map_of_mem (f := Prod.snd) hm)
          simp [h4, List.Nodup.mem_erase_iff hn]
        · simp [e, List.mem_erase_of_ne e]

theorem cv_lsApplyAll_announce (new t : List α) (hn : t.Nodup) (hnew : new.Nodup) (hd : ∀ x ∈ new, x ∉ t) :
    ∃ t', lsApplyAll t (new.map fun x => (true, x)) = some t' ∧ t'.Nodup ∧ ∀ x, x ∈ t' ↔ (x ∈ new ∨ x ∈ t) := by
  have hsnd : (new.map fun x => (true, x)).map Prod.snd = new := by
    rw [List.map_map]
    exact List.map_id _
  obtain ⟨t', h1, h2, h3⟩ := cv_lsApplyAll_consistent (new.map fun x => (true, x)) t hn (by rw [hsnd]; exact hnew) (by
    intro op hop
    obtain ⟨x, hx, rfl⟩ := List.mem_map.1 hop
    exact ⟨fun _ => hd x hx, fun _ => rfl⟩)
  refine ⟨t', h1, h2, fun x => ?_⟩
  rw [h3 x]
  simp

end ListSet

/-- one payload element of a cache's answer -/
inductive CvItem where
  | pfx (announce : Bool) (r : Rec)
  | key (announce : Bool) (k : KeyRec)
deriving DecidableEq, Repr

def cvFlag (a : Bool) : Nat := if a then 1 else 0

theorem cvFlag_le (a : Bool) : cvFlag a ≤ 1 := by cases a <;> decide
theorem cvFlag_decide (a : Bool) : decide (cvFlag a = 1) = a := by cases a <;> rfl

def CvItem.pdu (ver : Nat) : CvItem → List Nat
  | .pfx a r => cvPfxPdu ver (cvFlag a) r
  | .key a k => cvKeyPdu ver (cvFlag a) k

/-- the element's record is one a cache can send -/
def CvItem.OK : CvItem → Prop
  | .pfx _ r => cvRecOK r
  | .key _ k => cvKeyOK k

instance (i : CvItem) : Decidable i.OK := by
  cases i <;> (unfold CvItem.OK; exact inferInstance)

/-- the operations on the prefix table in the order the apply loops perform them: IPv4 first -/
def cvOps4 (items : List CvItem) : List (Bool × Rec) :=
  items.filterMap fun i => match i with
    | .pfx a r => if r.v6 then none else some (a, r)
    | .key _ _ => none

def cvOps6 (items : List CvItem) : List (Bool × Rec) :=
  items.filterMap fun i => match i with
    | .pfx a r => if r.v6 then some (a, r) else none
    | .key _ _ => none

def cvPfxOps (items : List CvItem) : List (Bool × Rec) := cvOps4 items ++ cvOps6 items

def cvKeyOps (items : List CvItem) : List (Bool × KeyRec) :=
  items.filterMap fun i => match i with
    | .pfx _ _ => none
    | .key a k => some (a, k)

/-- the bytes of a complete answer: Cache Response, payload, End of Data -/
def cvAnswer (ver sess serial : Nat) (iv : CvIvals) (items : List CvItem) : List Nat :=
  cvCacheResponse ver sess ++ ((items.map (CvItem.pdu ver)).flatten ++ cvEndOfData ver sess serial iv)

theorem cv_item_wire (ver : Nat) (i : CvItem) (hi : i.OK) :
    CvData ver (i.pdu ver) ∧
    (cvV4 [i.pdu ver]).map pfxOp = cvOps4 [i] ∧ (cvV6 [i.pdu ver]).map pfxOp = cvOps6 [i] ∧
    (cvKeys [i.pdu ver]).map keyOp = cvKeyOps [i] ∧
    (∀ p ∈ cvV4 [i.pdu ver] ++ cvV6 [i.pdu ver], pfxOK p) ∧ (∀ p ∈ cvKeys [i.pdu ver], keyOK p) := by
  cases i with
  | pfx a r =>
    have hr : cvRecOK r := hi
    obtain ⟨w, ty, _⟩ := cv_pfxPdu_wire ver (cvFlag a) r
    have hop := cv_pfxOp_pdu ver (cvFlag a) r hr
    rw [cvFlag_decide] at hop
    have hpk := cv_pfxPdu_ok ver (cvFlag a) r hr (cvFlag_le a)
    cases h6 : r.v6
    · rw [h6] at ty
      refine ⟨⟨w, Or.inl ty⟩, ?_⟩
      simp [cvV4, cvV6, cvKeys, cvOps4, cvOps6, cvKeyOps, CvItem.pdu, ty, hop, hpk, h6]
    · rw [h6] at ty
      refine ⟨⟨w, Or.inr (Or.inl ty)⟩, ?_⟩
      simp [cvV4, cvV6, cvKeys, cvOps4, cvOps6, cvKeyOps, CvItem.pdu, ty, hop, hpk, h6]
  | key a k =>
    have hk : cvKeyOK k := hi
    obtain ⟨w, ty, _⟩ := cv_keyPdu_wire ver (cvFlag a) k hk
    have hop := cv_keyOp_pdu ver (cvFlag a) k hk
    rw [cvFlag_decide] at hop
    have hpk := cv_keyPdu_ok ver (cvFlag a) k hk (cvFlag_le a)
    refine ⟨⟨w, Or.inr (Or.inr ty)⟩, ?_⟩
    simp [cvV4, cvV6, cvKeys, cvOps4, cvOps6, cvKeyOps, CvItem.pdu, ty, hop, hpk]

theorem cv_items_wire (ver : Nat) : ∀ (items : List CvItem), (∀ i ∈ items, i.OK) →
    (cvV4 (items.map (CvItem.pdu ver))).map pfxOp = cvOps4 items ∧
    (cvV6 (items.map (CvItem.pdu ver))).map pfxOp = cvOps6 items ∧
    (cvKeys (items.map (CvItem.pdu ver))).map keyOp = cvKeyOps items ∧
    (∀ p ∈ cvV4 (items.map (CvItem.pdu ver)) ++ cvV6 (items.map (CvItem.pdu ver)), pfxOK p) ∧
    (∀ p ∈ cvKeys (items.map (CvItem.pdu ver)), keyOK p) ∧
    (∀ p ∈ items.map (CvItem.pdu ver), CvData ver p) := by
  intro items
  induction items with
  | nil =>
    intro _
    simp [cvV4, cvV6, cvKeys, cvOps4, cvOps6, cvKeyOps]
  | cons i items ih =>
    intro hok
    obtain ⟨h1, h2, h3, h4, h5, h6⟩ := ih (fun j hj => hok j (List.mem_cons_of_mem _ hj))
    obtain ⟨d, g1, g2, g3, g4, g5⟩ := cv_item_wire ver i (hok i List.mem_cons_self)
    have e4 : cvV4 ((i :: items).map (CvItem.pdu ver)) = cvV4 [i.pdu ver] ++ cvV4 (items.map (CvItem.pdu ver)) :=
      cv_byType_cons 4 _ _
    have e6 : cvV6 ((i :: items).map (CvItem.pdu ver)) = cvV6 [i.pdu ver] ++ cvV6 (items.map (CvItem.pdu ver)) :=
      cv_byType_cons 6 _ _
    have e9 : cvKeys ((i :: items).map (CvItem.pdu ver)) = cvKeys [i.pdu ver] ++ cvKeys (items.map (CvItem.pdu ver)) :=
      cv_byType_cons 9 _ _
    rw [e4, e6, e9]
    refine ⟨?_, ?_, ?_, ?_, ?_, ?_⟩
    · rw [List.map_append, g1, h1]
      exact (List.filterMap_append (l := [i]) (l' := items)).symm
    · rw [List.map_append, g2, h2]
      exact (List.filterMap_append (l := [i]) (l' := items)).symm
    · rw [List.map_append, g3, h3]
      exact (List.filterMap_append (l := [i]) (l' := items)).symm
    · intro p hp
      simp only [List.mem_append] at hp g4 h4
      rcases hp with (hp | hp) | (hp | hp)
      · exact g4 p (Or.inl hp)
      · exact h4 p (Or.inl hp)
      · exact g4 p (Or.inr hp)
      · exact h4 p (Or.inr hp)
    · intro p hp
      rcases List.mem_append.1 hp with hp | hp
      · exact g5 p hp
      · exact h5 p hp
    · intro p hp
      rcases List.mem_cons.1 hp with rfl | hp
      · exact d
      · exact h6 p hp

/-- completeness of `rtr_sync` on the data form of the answer, the resulting tables given -/
theorem cv_sync_items_exact (fuel : Nat) (st : St) (ver sess serial : Nat) (iv : CvIvals) (items : List CvItem) (rest : List Nat)
    (pt' : List Rec) (kt' : List KeyRec)
    (hfuel : items.length < fuel) (hs : st.c.state ≠ .shutdown)
    (hver : ver = st.c.version ∨ (st.c.hasReceived = false ∧ st.c.version = 1 ∧ ver = 0)) (hv : ver ≤ 1)
    (hsh : st.t.shadow = none) (hsess : sess < 65536) (hq : st.ss.reqSession = true ∨ st.ss.session = sess)
    (hok : ∀ i ∈ items, i.OK)
    (hp : lsApplyAll (baseOf st.t (resettingAfter st.ss)).pt (cvPfxOps items) = some pt')
    (hk : lsApplyAll (baseOf st.t (resettingAfter st.ss)).kt (cvKeyOps items) = some kt')
    (htape : CvTape st.n (cvAnswer ver sess serial iv items ++ rest)) :
    ∃ n' g, CvTape n' rest ∧ CvRecvd st.n n' ∧
      syncG fuel st = (true, cvSynced st ver sess (cvEndOfData ver sess serial iv) pt' kt' n', some g) := by
  obtain ⟨w1, w2, w3, w4, w5, w6⟩ := cv_items_wire ver items hok
  obtain ⟨ew, et⟩ := cv_endOfData_wire ver sess serial iv hv
  have htape' : CvTape st.n (cvCacheResponse ver sess ++ ((items.map (CvItem.pdu ver)).flatten ++
      (cvEndOfData ver sess serial iv ++ rest))) := by
    have := htape
    unfold cvAnswer at this
    simpa only [List.append_assoc] using this
  obtain ⟨n', t', s', e⟩ := cv_syncG_complete fuel st ver sess (items.map (CvItem.pdu ver)) (cvEndOfData ver sess serial iv) rest
    pt' kt' (by rw [List.length_map]; exact hfuel) hs hver hsh hsess hq w6 ew et (cv_endOfData_session ver sess serial iv hsess)
    w4 w5 (by rw [List.map_append, w1, w2]; exact hp) (by rw [w3]; exact hk) htape'
  exact ⟨n', _, t', s', e⟩

/-! ## the answer to a Reset Query: announcements only -/

def cvResetItems (recs : List Rec) (keys : List KeyRec) : List CvItem :=
  recs.map (CvItem.pfx true) ++ keys.map (CvItem.key true)

theorem cv_filterMap_none {α β : Type} (l : List α) : l.filterMap (fun _ => (none : Option β)) = [] :=
  List.filterMap_eq_nil_iff.2 (fun _ _ => rfl)

theorem cv_resetItems_ops (recs : List Rec) (keys : List KeyRec) :
    cvOps4 (cvResetItems recs keys) = (recs.filter fun r => !r.v6).map (fun r => (true, r)) ∧
    cvOps6 (cvResetItems recs keys) = (recs.filter fun r => r.v6).map (fun r => (true, r)) ∧
    cvKeyOps (cvResetItems recs keys) = keys.map (fun k => (true, k)) := by
  unfold cvResetItems cvOps4 cvOps6 cvKeyOps
  simp only [List.filterMap_append, List.filterMap_map, Function.comp_def, cv_filterMap_none, List.append_nil, List.nil_append]
  refine ⟨?_, ?_, ?_⟩
  · induction recs with
    | nil => rfl
    | cons r rs ih => cases h : r.v6 <;> simp [h, ih]
  · induction recs with
    | nil => rfl
    | cons r rs ih => cases h : r.v6 <;> simp [h, ih]
  · induction keys with
    | nil => rfl
    | cons k ks ih => simp [ih]

/-- `hi`: with a new session requested `resettingAfter` can be false only without a time stamp; the answer is then
    written into the live tables with no removal of this socket's records before, so they must hold none.  C07's
    `Inv7` supplies it (`C08b.inv7_own_data`). -/
theorem cv_base_mem (t : Tbl) (ss : Sess) (hi : ss.lastUpdate = 0 → NoOwn t) (hr : ss.reqSession = true) :
    (∀ x, x ∈ (baseOf t (resettingAfter ss)).pt ↔ (x ∈ t.pt ∧ x.src ≠ 0)) ∧
    (∀ x, x ∈ (baseOf t (resettingAfter ss)).kt ↔ (x ∈ t.kt ∧ x.src ≠ 0)) := by
  unfold baseOf
  cases hres : resettingAfter ss
  · have h0 : ss.lastUpdate = 0 := by
      unfold resettingAfter at hres
      rw [if_pos hr] at hres
      by_cases h : ss.lastUpdate ≠ 0
      · rw [if_pos h] at hres; cases hres
      · simpa using h
    obtain ⟨n1, n2⟩ := hi h0
    simp only [Bool.false_eq_true, if_false]
    exact ⟨fun x => ⟨fun hx => ⟨hx, n1 x hx⟩, fun hx => hx.1⟩, fun x => ⟨fun hx => ⟨hx, n2 x hx⟩, fun hx => hx.1⟩⟩
  · simp only [if_true]
    exact ⟨fun x => mem_ptSrcRemove _ x, fun x => mem_ktSrcRemove _ x⟩

theorem cv_nodup_split {α : Type} (l : List α) (p : α → Bool) (h : l.Nodup) :
    (l.filter (fun x => !p x) ++ l.filter p).Nodup :=
  (List.perm_append_comm.trans (List.filter_append_perm p l)).nodup_iff.2 h

theorem cv_mem_split {α : Type} (l : List α) (p : α → Bool) (x : α) : x ∈ l.filter (fun x => !p x) ++ l.filter p ↔ x ∈ l := by
  rw [List.mem_append, List.mem_filter, List.mem_filter]
  cases p x <;> simp

/-! ## the tables after an applicable answer -/

structure CvApplies (t : Tbl) (ss : Sess) (items : List CvItem) (pt' : List Rec) (kt' : List KeyRec) : Prop where
  pt : lsApplyAll (baseOf t (resettingAfter ss)).pt (cvPfxOps items) = some pt'
  kt : lsApplyAll (baseOf t (resettingAfter ss)).kt (cvKeyOps items) = some kt'
  np : pt'.Nodup
  nk : kt'.Nodup

/-- the answer to a Reset Query replaces the socket's records by the cache's -/
theorem cv_reset_tables (t : Tbl) (ss : Sess) (ht : TblOK t) (hi : ss.lastUpdate = 0 → NoOwn t) (hr : ss.reqSession = true)
    (recs : List Rec) (keys : List KeyRec) (hrok : ∀ r ∈ recs, cvRecOK r) (hkok : ∀ k ∈ keys, cvKeyOK k)
    (hrn : recs.Nodup) (hkn : keys.Nodup) :
    ∃ pt' kt', CvApplies t ss (cvResetItems recs keys) pt' kt' ∧ (∀ x, x ∈ pt' ↔ (x ∈ recs ∨ (x ∈ t.pt ∧ x.src ≠ 0))) ∧
      (∀ x, x ∈ kt' ↔ (x ∈ keys ∨ (x ∈ t.kt ∧ x.src ≠ 0))) ∧ (∀ i ∈ cvResetItems recs keys, i.OK) := by
  obtain ⟨o4, o6, ok⟩ := cv_resetItems_ops recs keys
  obtain ⟨bp, bk⟩ := cv_base_mem t ss hi hr
  obtain ⟨bn1, bn2, _⟩ := work_tables t (resettingAfter ss) ht
  have hops : cvPfxOps (cvResetItems recs keys) =
      ((recs.filter fun r => !r.v6) ++ recs.filter fun r => r.v6).map fun r => (true, r) := by
    unfold cvPfxOps; rw [o4, o6, List.map_append]
  have hitems : ∀ i ∈ cvResetItems recs keys, i.OK := by
    intro i hi'
    unfold cvResetItems at hi'
    rcases List.mem_append.1 hi' with h | h
    · obtain ⟨r, hr', rfl⟩ := List.mem_map.1 h
      exact hrok r hr'
    · obtain ⟨k, hk', rfl⟩ := List.mem_map.1 h
      exact hkok k hk'
  have msplit := cv_mem_split recs (fun r => r.v6)
  -- the records announced have source 0, the tables written to hold none of this socket
  obtain ⟨pt', hp1, hp2, hp3⟩ := cv_lsApplyAll_announce _ _ bn1 (cv_nodup_split recs (fun r => r.v6) hrn)
    (fun x hx hm => ((bp x).1 hm).2 (hrok x ((msplit x).1 hx)).1)
  obtain ⟨kt', hk1, hk2, hk3⟩ := cv_lsApplyAll_announce keys _ bn2 hkn (fun x hx hm => ((bk x).1 hm).2 (hkok x hx).1)
  rw [← hops] at hp1
  rw [← ok] at hk1
  refine ⟨pt', kt', ⟨hp1, hk1, hp2, hk2⟩, fun x => ?_, fun x => ?_, hitems⟩
  · rw [hp3 x, msplit, bp x]
  · rw [hk3 x, bk x]

theorem cv_items_tables (t : Tbl) (ss : Sess) (ht : TblOK t) (hr : ss.reqSession = false) (hres : ss.isResetting = false)
    (items : List CvItem) (hnp : ((cvPfxOps items).map Prod.snd).Nodup) (hnk : ((cvKeyOps items).map Prod.snd).Nodup)
    (hcp : ∀ op ∈ cvPfxOps items, (op.1 = true ↔ op.2 ∉ t.pt)) (hck : ∀ op ∈ cvKeyOps items, (op.1 = true ↔ op.2 ∉ t.kt)) :
    ∃ pt' kt', CvApplies t ss items pt' kt' ∧
      (∀ x, x ∈ pt' ↔ ((true, x) ∈ cvPfxOps items ∨ (x ∈ t.pt ∧ (false, x) ∉ cvPfxOps items))) ∧
      (∀ x, x ∈ kt' ↔ ((true, x) ∈ cvKeyOps items ∨ (x ∈ t.kt ∧ (false, x) ∉ cvKeyOps items))) := by
  have hb : baseOf t (resettingAfter ss) = ⟨t.pt, t.kt⟩ := by
    unfold resettingAfter baseOf
    rw [hr, hres]
    simp
  obtain ⟨pt', hp1, np, mp⟩ := cv_lsApplyAll_consistent (cvPfxOps items) t.pt ht.2.1 hnp hcp
  obtain ⟨kt', hk1, nk, mk⟩ := cv_lsApplyAll_consistent (cvKeyOps items) t.kt ht.2.2 hnk hck
  exact ⟨pt', kt', ⟨by rw [hb]; exact hp1, by rw [hb]; exact hk1, np, nk⟩, mp, mk⟩

/-- the records after a reload — the cache's, and those of other sockets — when the tables it was applied to
    (`old1`) differ from `old` in records of this socket only -/
theorem cv_reloaded_mem {α : Type} {src : α → Nat} {new old old1 new1 : List α}
    (ho : ∀ x, src x ≠ 0 → (x ∈ old1 ↔ x ∈ old)) (h : ∀ x, x ∈ new1 ↔ (x ∈ new ∨ (x ∈ old1 ∧ src x ≠ 0))) (x : α) :
    x ∈ new1 ↔ (x ∈ new ∨ (x ∈ old ∧ src x ≠ 0)) := by
  rw [h x]
  by_cases hx : src x = 0
  · simp [hx]
  · rw [ho x hx]

theorem cv_reload_tables {recs : List Rec} {keys : List KeyRec} {t t' : Tbl}
    (hrok : ∀ r ∈ recs, cvRecOK r) (hkok : ∀ k ∈ keys, cvKeyOK k)
    (mp : ∀ x, x ∈ t'.pt ↔ (x ∈ recs ∨ (x ∈ t.pt ∧ x.src ≠ 0)))
    (mk : ∀ x, x ∈ t'.kt ↔ (x ∈ keys ∨ (x ∈ t.kt ∧ x.src ≠ 0))) :
    (∀ x : Rec, x.src = 0 → (x ∈ t'.pt ↔ x ∈ recs)) ∧ (∀ x : KeyRec, x.src = 0 → (x ∈ t'.kt ↔ x ∈ keys)) ∧
    OthersSame t t' := by
  refine ⟨fun x hx => ?_, fun x hx => ?_, fun x hx => ?_, fun x hx => ?_⟩
  · rw [mp x]
    simp [hx]
  · rw [mk x]
    simp [hx]
  · rw [mp x]
    have : x ∉ recs := fun h => hx (hrok x h).1
    simp [hx, this]
  · rw [mk x]
    have : x ∉ keys := fun h => hx (hkok x h).1
    simp [hx, this]

end Rtr.P
