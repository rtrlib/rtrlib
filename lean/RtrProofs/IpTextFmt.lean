/-
  IpTextFmt: the output of the model of `lrtr_ipv6_addr_to_str` is a well-formed render denoting the address
  (`fmt6Str_good`).  The scan has an invariant over an arbitrary list; the formatting loop goes by induction over the
  word list.
-/
import RtrProofs.IpTextLang

namespace Rtr.IpText

/-! ## the zero-run scan -/

def IsRun (zs : List Bool) (p l : Nat) : Prop :=
  p + l ≤ zs.length ∧ ∀ d, d < l → zs.getD (p + d) false = true

theorem isRun_snoc (done : List Bool) (z : Bool) (p l : Nat) :
    IsRun (done ++ [z]) p l ↔
      IsRun done p l ∨ (p = done.length + 1 ∧ l = 0) ∨
        ∃ l', l = l' + 1 ∧ p + l' = done.length ∧ z = true ∧ IsRun done p l' := by
  simp only [IsRun, List.length_append, List.length_singleton]
  constructor
  · intro ⟨hb, ht⟩
    have old : ∀ d, d < l → p + d < done.length → done.getD (p + d) false = true := by
      intro d hd hlt
      rw [← getD_append_left done [z] false hlt]
      exact ht d hd
    by_cases hn : p + l ≤ done.length
    · exact Or.inl ⟨hn, fun d hd => old d hd (by omega)⟩
    · cases l with
      | zero => exact Or.inr (Or.inl ⟨by omega, rfl⟩)
      | succ l =>
        have hz := ht l (Nat.lt_succ_self l)
        rw [show p + l = done.length by omega, getD_append_length] at hz
        refine Or.inr (Or.inr ⟨l, rfl, by omega, hz, by omega, fun d hd => ?_⟩)
        exact old d (Nat.lt_succ_of_lt hd) (by omega)
  · rintro (⟨hb, ht⟩ | ⟨rfl, rfl⟩ | ⟨l, rfl, hn, rfl, hb, ht⟩)
    · refine ⟨Nat.le_succ_of_le hb, fun d hd => ?_⟩
      rw [getD_append_left done [z] false (by omega)]
      exact ht d hd
    · exact ⟨Nat.le_refl _, nofun⟩
    · refine ⟨by omega, fun d hd => ?_⟩
      by_cases hd' : d < l
      · rw [getD_append_left done [true] false (by omega)]
        exact ht d hd'
      · rw [show p + d = done.length by omega, getD_append_length]

/-- after the prefix `done`: best is a run, cur (starting at `s`) is the longest run reaching the
end, and best is the first among the longest runs.  `scanStep` resets only `curlen` at a `false`, so `cp` is stale
while `cl = 0`: the run reaching the end is then the empty one at `done.length` -/
def ScanInv (done : List Bool) : Nat × Nat × Nat × Nat → Prop
  | (bp, bl, cp, cl) =>
    let s := if cl = 0 then done.length else cp
    IsRun done bp bl ∧ IsRun done s cl ∧ s + cl = done.length ∧
    ∀ p l, IsRun done p l → (p + l = done.length → l ≤ cl) ∧ l ≤ bl ∧ (l = bl → 0 < l → bp ≤ p)

theorem scanInv_step {done : List Bool} {st : Nat × Nat × Nat × Nat} (z : Bool)
    (h : ScanInv done st) : ScanInv (done ++ [z]) (scanStep st done.length z) := by
  obtain ⟨bp, bl, cp, cl⟩ := st
  obtain ⟨hbest, hcur, hs, hmax⟩ := h
  generalize hs' : (if cl = 0 then done.length else cp) = s at hcur hs
  have hb := hbest.1
  have hle := (hmax s cl hcur).2.1
  have hbest' : IsRun (done ++ [z]) bp bl := (isRun_snoc ..).2 (Or.inl hbest)
  -- a run of the longer list is an old run, or empty at the new end, or reaches the new `true`
  have key : ∀ p l, IsRun (done ++ [z]) p l →
      (p + l ≤ done.length ∧ l ≤ bl ∧ (l = bl → 0 < l → bp ≤ p)) ∨
        (p + l = done.length + 1 ∧ l ≤ cl + 1 ∧ (z = false → l = 0)) := by
    intro p l h
    rcases (isRun_snoc ..).1 h with hr | ⟨rfl, rfl⟩ | ⟨l, rfl, hn, rfl, hr⟩
    · exact Or.inl ⟨hr.1, (hmax p l hr).2⟩
    · exact Or.inr ⟨rfl, Nat.zero_le _, fun _ => rfl⟩
    · exact Or.inr ⟨by omega, Nat.succ_le_succ ((hmax p l hr).1 hn), nofun⟩
  cases z
  · simp only [scanStep, ScanInv, Bool.not_false, if_true, List.length_append, List.length_singleton]
    refine ⟨hbest', (isRun_snoc ..).2 (Or.inr (Or.inl ⟨rfl, rfl⟩)), trivial, fun p l h => ?_⟩
    rcases key p l h with h | ⟨hn, -, hz⟩
    · exact ⟨fun hn => by omega, h.2⟩
    · have := hz rfl
      omega
  · have hcur' : IsRun (done ++ [true]) s (cl + 1) :=
      (isRun_snoc ..).2 (Or.inr (Or.inr ⟨cl, rfl, hs, rfl, hcur⟩))
    have hs1 : s + (cl + 1) = done.length + 1 := by omega
    by_cases hgt : cl + 1 > bl
    · simp only [scanStep, ScanInv, hgt, hs', Bool.not_true, Bool.false_eq_true, if_true, if_false,
        List.length_append, List.length_singleton, Nat.add_one_ne_zero]
      refine ⟨hcur', hcur', hs1, fun p l h => ?_⟩
      have := key p l h
      omega
    · simp only [scanStep, ScanInv, hgt, hs', Bool.not_true, Bool.false_eq_true, if_false,
        List.length_append, List.length_singleton, Nat.add_one_ne_zero]
      refine ⟨hbest', hcur', hs1, fun p l h => ?_⟩
      have := key p l h
      omega

theorem scanFrom_inv (zs : List Bool) : ∀ (done : List Bool) (st : Nat × Nat × Nat × Nat),
    ScanInv done st → ScanInv (done ++ zs) (scanFrom done.length zs st) := by
  induction zs with
  | nil =>
    intro done st h
    simpa only [List.append_nil, scanFrom] using h
  | cons z zs ih =>
    intro done st h
    have := ih (done ++ [z]) _ (scanInv_step z h)
    simpa only [List.append_assoc, List.singleton_append, List.length_append, List.length_singleton,
      scanFrom] using this

theorem zeroRunB_inv (zs : List Bool) :
    ScanInv zs ((zeroRunB zs).1, (zeroRunB zs).2, (scanFrom 0 zs (0, 0, 0, 0)).2.2) :=
  scanFrom_inv zs [] _ (by simp [ScanInv, IsRun])

theorem zeroRunB_run (zs : List Bool) : IsRun zs (zeroRunB zs).1 (zeroRunB zs).2 :=
  (zeroRunB_inv zs).1

theorem zeroRunB_first_longest (zs : List Bool) {p l : Nat} (h : IsRun zs p l) :
    l ≤ (zeroRunB zs).2 ∧ (l = (zeroRunB zs).2 → 0 < l → (zeroRunB zs).1 ≤ p) :=
  ((zeroRunB_inv zs).2.2.2 p l h).2

/-- the formatter compresses the first longest run of zero words (RFC 5952 section 4.2.3): among the
    runs inside eight words none is longer than the reported one, and none of the same length starts
    earlier; `zeroRunB_first_longest` for eight words, with the quantifiers as `List.all` over ranges -/
theorem zeroRunB_longest : ∀ b0 b1 b2 b3 b4 b5 b6 b7 : Bool,
    (List.range 8).all (fun p => (List.range 9).all (fun l =>
      !(decide (p + l ≤ 8) && (List.range l).all (fun d => [b0, b1, b2, b3, b4, b5, b6, b7].getD (p + d) false))
      || decide (l < (zeroRunB [b0, b1, b2, b3, b4, b5, b6, b7]).2)
      || (decide (l = (zeroRunB [b0, b1, b2, b3, b4, b5, b6, b7]).2) &&
          (decide ((zeroRunB [b0, b1, b2, b3, b4, b5, b6, b7]).1 ≤ p) || decide (l = 0))))) = true := by
  intro b0 b1 b2 b3 b4 b5 b6 b7
  generalize hzs : [b0, b1, b2, b3, b4, b5, b6, b7] = zs
  have h8 : zs.length = 8 := by
    rw [← hzs]
    rfl
  rw [List.all_eq_true]
  intro p _
  rw [List.all_eq_true]
  intro l _
  cases hrun : (decide (p + l ≤ 8) && (List.range l).all (fun d => zs.getD (p + d) false))
  · rfl
  · rw [Bool.and_eq_true, decide_eq_true_eq, List.all_eq_true, ← h8] at hrun
    obtain ⟨h1, h2⟩ := zeroRunB_first_longest zs ⟨hrun.1, fun d hd => hrun.2 d (List.mem_range.mpr hd)⟩
    simp only [Bool.not_true, Bool.false_or, Bool.or_eq_true, Bool.and_eq_true, decide_eq_true_eq]
    omega

theorem isRun_split {ws : List Nat} {p l : Nat} (h : IsRun (ws.map (· == 0)) p l) :
    ws = ws.take p ++ List.replicate l 0 ++ ws.drop (p + l) := by
  obtain ⟨hle, hz⟩ := h
  rw [List.length_map] at hle
  have hmid : (ws.drop p).take l = List.replicate l 0 := by
    refine List.ext_getElem (by simp; omega) (fun d h1 h2 => ?_)
    rw [List.length_replicate] at h2
    have := hz d h2
    rw [List.getD_eq_getElem?_getD, List.getElem?_map, List.getElem?_eq_getElem (by omega)] at this
    simpa using this
  rw [← hmid, List.append_assoc, ← List.drop_drop, List.take_append_drop, List.take_append_drop]

/-- the render of the "normal formatting" branch with the run `[bp, bp + bl)` compressed; only `fmt6_case` names it -/
def renderAt (ws : List Nat) (bp bl : Nat) : Render :=
  ⟨(ws.take bp).map hex16, true, (ws.drop (bp + bl)).map hex16, none⟩

/-- what the text produced for the scan result `run` looks like: `r` is a string of the language, its text is the
    formatter's, and it denotes `ws`. 39 = eight groups of at most four digits and seven colons (the uncompressed
    form); with `::` at least two groups are missing, and the embedded-IPv4 forms have at most 7 + 15 characters. -/
def Good (ws : List Nat) (run : Nat × Nat) (r : Render) : Prop :=
  r.WF ∧ r.toString = fmt6Body ws run ∧ r.value = ws ∧ (fmt6Body ws run).length ≤ 39

-- No proof calls this; `good_gap` is these four goals for every run.
macro "fmt6_case" hz:ident : tactic => `(tactic| (
  simp [List.range, List.range.loop] at $hz:ident
  refine ⟨?_, ?_, ?_, ?_⟩
  · simp [renderAt, Render.WF, Render.wfB, Render.count, Render.quadVals, *]
  · simp [renderAt, Render.toString, fmt6Body, fmtLoop, joinC, Render.quadItems, *]
  · simp [renderAt, Render.value, Render.count, Render.quadVals, groupVal_hex16, *]
  · simp [fmt6Body, fmtLoop, *] <;> omega))

/-! ## the formatting loop -/

theorem fmtLoop_end (ws : List Nat) (bp : Option Nat) (bl fuel : Nat) {i : Nat} (h : 8 ≤ i) :
    fmtLoop ws bp bl fuel i = [] := by
  cases fuel with
  | zero => rfl
  | succ f => rw [fmtLoop, if_pos h]

theorem fmtLoop_word (ws : List Nat) {bp : Option Nat} (bl fuel : Nat) {i : Nat} (h : i < 8) (hb : bp ≠ some i) :
    fmtLoop ws bp bl (fuel + 1) i =
      (if i ≠ 0 then [':'] else []) ++ (hex16 (ws.getD i 0) ++ fmtLoop ws bp bl fuel (i + 1)) := by
  rw [fmtLoop, if_neg (by omega), if_neg hb]

theorem fmtLoop_gap (ws : List Nat) (bl fuel : Nat) {i : Nat} (h : i < 8) :
    fmtLoop ws (some i) bl (fuel + 1) i =
      ':' :: ((if i + bl - 1 = 7 then [':'] else []) ++ fmtLoop ws (some i) bl fuel (i + bl - 1 + 1)) := by
  rw [fmtLoop, if_neg (by omega), if_pos rfl]

theorem fmtLoop_words (bp : Option Nat) (bl : Nat) {ws : List Nat} : ∀ (seg : List Nat) (w : Nat) (a b : List Nat)
    (fuel : Nat), ws = a ++ w :: seg ++ b → (∀ k, a.length ≤ k → k ≤ a.length + seg.length → bp ≠ some k) →
    a.length + seg.length < 8 → seg.length < fuel →
    fmtLoop ws bp bl fuel a.length = (if a.length ≠ 0 then [':'] else []) ++
      (joinC ((w :: seg).map hex16) ++ fmtLoop ws bp bl (fuel - (seg.length + 1)) (a.length + (seg.length + 1))) := by
  intro seg
  induction seg with
  | nil =>
    intro w a b fuel hws hbp h8 hf
    simp only [List.length_nil, Nat.add_zero] at hbp h8 ⊢
    obtain ⟨f, rfl⟩ : ∃ f, fuel = f + 1 := ⟨fuel - 1, by omega⟩
    have hg : ws.getD a.length 0 = w := by
      rw [hws, List.append_assoc, List.cons_append, getD_append_length]
    rw [fmtLoop_word ws bl f h8 (hbp _ (Nat.le_refl _) (Nat.le_refl _)), hg]
    rfl
  | cons v seg ih =>
    intro w a b fuel hws hbp h8 hf
    simp only [List.length_cons] at hbp h8 hf ⊢
    obtain ⟨f, rfl⟩ : ∃ f, fuel = f + 1 := ⟨fuel - 1, by omega⟩
    have := ih v (a ++ [w]) b f (by simp [hws]) (fun k h1 h2 => hbp k (by simp at h1; omega) (by simp at h2; omega))
      (by simp; omega) (by omega)
    have hg : ws.getD a.length 0 = w := by
      rw [hws, List.append_assoc, List.cons_append, getD_append_length]
    rw [List.length_append, List.length_singleton, if_pos (Nat.succ_ne_zero _)] at this
    rw [fmtLoop_word ws bl f (by omega) (hbp _ (Nat.le_refl _) (by omega)), this, hg,
      show f + 1 - (seg.length + 1 + 1) = f - (seg.length + 1) by omega,
      show a.length + (seg.length + 1 + 1) = a.length + 1 + (seg.length + 1) by omega]
    simp [joinC]

theorem fmtLoop_run (pre mid post : List Nat) (bl : Nat) (hm : mid.length = bl) (h8 : pre.length + bl + post.length = 8)
    (h1 : 1 ≤ bl) :
    fmtLoop (pre ++ mid ++ post) (some pre.length) bl 8 0 =
      joinC (pre.map hex16) ++ ':' :: ':' :: joinC (post.map hex16) := by
  obtain ⟨ws, hws⟩ : ∃ ws, ws = pre ++ mid ++ post := ⟨_, rfl⟩
  rw [← hws]
  have htail : fmtLoop ws (some pre.length) bl (7 - pre.length + 1) pre.length = ':' :: ':' :: joinC (post.map hex16) := by
    rw [fmtLoop_gap ws bl _ (by omega)]
    cases post with
    | nil =>
      rw [List.length_nil] at h8
      rw [if_pos (by omega), fmtLoop_end _ _ _ _ (by omega)]
      rfl
    | cons v post =>
      rw [List.length_cons] at h8
      have := fmtLoop_words (ws := ws) (some pre.length) bl post v (pre ++ mid) [] (7 - pre.length)
        (by rw [hws, List.append_nil]) (fun k h1 _ e => by injection e; simp at h1; omega) (by simp; omega) (by omega)
      rw [List.length_append, hm, if_pos (by omega)] at this
      rw [if_neg (by omega), show pre.length + bl - 1 + 1 = pre.length + bl by omega, this,
        fmtLoop_end _ _ _ _ (by omega), List.append_nil]
      rfl
  cases pre with
  | nil => exact htail
  | cons w pre =>
    rw [List.length_cons] at h8 htail ⊢
    have := fmtLoop_words (ws := ws) (some (pre.length + 1)) bl pre w [] (mid ++ post) 8
      (by rw [hws, List.append_assoc, List.nil_append])
      (fun k _ hk e => by injection e; simp at hk; omega) (by simp; omega) (by omega)
    rw [List.length_nil, Nat.zero_add, if_neg (by decide),
      show 8 - (pre.length + 1) = 7 - (pre.length + 1) + 1 by omega, htail] at this
    rw [this]
    rfl

/-! ## lists of `%x` groups -/

theorem map_groupVal_hex16 {l : List Nat} (h : ∀ w ∈ l, w < 65536) : (l.map hex16).map groupVal = l := by
  rw [List.map_map]
  conv => rhs; rw [← List.map_id l]
  exact List.map_congr_left (fun w hw => groupVal_hex16 (h w hw))

theorem joinC_hex16_length (l : List Nat) : (joinC (l.map hex16)).length ≤ 5 * l.length - 1 := by
  induction l with
  | nil => exact Nat.le_refl 0
  | cons w l ih =>
    have := (hex16_length w).2
    cases l with
    | nil => exact this
    | cons v l =>
      rw [show joinC ((w :: v :: l).map hex16) = hex16 w ++ ':' :: joinC ((v :: l).map hex16) from rfl,
        List.length_append, List.length_cons]
      simp only [List.length_cons] at ih ⊢
      omega

theorem good_plain {ws : List Nat} (h8 : ws.length = 8) (hw : ∀ w ∈ ws, w < 65536) (bp : Nat) {bl : Nat}
    (hbl : bl < 2) : Good ws (bp, bl) ⟨ws.map hex16, false, [], none⟩ := by
  have hbody : fmt6Body ws (bp, bl) = joinC (ws.map hex16) := by
    simp only [fmt6Body, if_pos hbl]
    rw [if_neg (fun h => by cases h.1)]
    match ws, h8 with
    | w :: l, h8 =>
      rw [List.length_cons] at h8
      have := fmtLoop_words (ws := w :: l) none bl l w [] [] 8 (by simp) (fun _ _ _ e => by cases e) (by simp; omega) (by omega)
      rw [List.length_nil, Nat.zero_add, if_neg (by decide), fmtLoop_end _ _ _ _ (i := l.length + 1) (by omega),
        List.append_nil] at this
      exact this
  have hlen := joinC_hex16_length ws
  refine ⟨?_, ?_, ?_, ?_⟩
  · simp [Render.WF, Render.wfB, groupOk_hex16, Render.count, Render.quadVals, h8]
  · simp [hbody, Render.toString, Render.quadItems]
  · simp [Render.value, Render.quadVals, map_groupVal_hex16 hw]
  · rw [hbody]
    omega

theorem good_gap (pre post : List Nat) {bl : Nat} (h8 : pre.length + bl + post.length = 8) (h2 : 2 ≤ bl)
    (hpre : ∀ w ∈ pre, w < 65536) (hpost : ∀ w ∈ post, w < 65536)
    (hbody : fmt6Body (pre ++ List.replicate bl 0 ++ post) (pre.length, bl) =
      fmtLoop (pre ++ List.replicate bl 0 ++ post) (some pre.length) bl 8 0) :
    Good (pre ++ List.replicate bl 0 ++ post) (pre.length, bl) ⟨pre.map hex16, true, post.map hex16, none⟩ := by
  rw [fmtLoop_run pre _ post bl List.length_replicate h8 (by omega)] at hbody
  have hl1 := joinC_hex16_length pre
  have hl2 := joinC_hex16_length post
  refine ⟨?_, ?_, ?_, ?_⟩
  · simp [Render.WF, Render.wfB, groupOk_hex16, Render.count, Render.quadVals]
    omega
  · rw [hbody]
    simp [Render.toString, Render.quadItems]
  · simp [Render.value, Render.count, Render.quadVals, map_groupVal_hex16 hpre, map_groupVal_hex16 hpost]
    omega
  · rw [hbody]
    simp only [List.length_append, List.length_cons]
    omega

/-! ## the two embedded-IPv4 forms -/

theorem quadOk_octets (x : Nat) : quadOk (octets x) = true := by
  simp [quadOk, octets, Nat.mod_lt]

theorem quadWords_octets {w6 w7 : Nat} (h6 : w6 < 65536) (h7 : w7 < 65536) :
    quadWords (octets (w6 * 65536 + w7)) = [w6, w7] := by
  simp only [quadWords, octets, List.cons.injEq, and_true]
  omega

theorem quadStr_length (q : Nat × Nat × Nat × Nat) : (quadStr q).length ≤ 15 := by
  have d1 := (dec8_length q.1).2
  have d2 := (dec8_length q.2.1).2
  have d3 := (dec8_length q.2.2.1).2
  have d4 := (dec8_length q.2.2.2).2
  simp only [quadStr, List.length_append, List.length_cons]
  omega

/-- `sprintf(b, "::%s%d.%d.%d.%d", a[2] ? "ffff:" : "", ...)` with `a[2] = 0` -/
theorem fmt6Body_compat (ws : List Nat) (h4 : ws.getD 4 0 = 0) (h5 : ws.getD 5 0 = 0) :
    fmt6Body ws (0, 6) = ':' :: ':' :: quadStr (octets (ws.getD 6 0 * 65536 + ws.getD 7 0)) := by
  simp only [fmt6Body, h4, h5, octets]
  rw [if_pos (by decide), if_neg (by decide), List.nil_append]

/-- the same `sprintf` with `a[2] = 0xffff` -/
theorem fmt6Body_mapped (ws : List Nat) (h4 : ws.getD 4 0 = 0) (h5 : ws.getD 5 0 = 65535) :
    fmt6Body ws (0, 5) =
      ':' :: ':' :: 'f' :: 'f' :: 'f' :: 'f' :: ':' :: quadStr (octets (ws.getD 6 0 * 65536 + ws.getD 7 0)) := by
  simp only [fmt6Body, h4, h5, octets]
  rw [if_pos (by decide), if_pos (by decide)]
  rfl

/-- `::a.b.c.d` (`gs = []`) and `::ffff:a.b.c.d` (`gs = ["ffff"]`) -/
theorem good_embedded {ws : List Nat} {run : Nat × Nat} (gs : List Str) (q : Nat × Nat × Nat × Nat)
    (hg : gs.all groupOk = true) (hn : gs.length ≤ 1) (hq : quadOk q = true)
    (hbody : fmt6Body ws run = ':' :: ':' :: joinC (gs ++ [quadStr q]))
    (hval : List.replicate (6 - gs.length) 0 ++ (gs.map groupVal ++ quadWords q) = ws) :
    Good ws run ⟨[], true, gs, some q⟩ := by
  have hlen := quadStr_length q
  refine ⟨?_, ?_, ?_, ?_⟩
  · simp [Render.WF, Render.wfB, Render.count, Render.quadVals, hg, hq, quadWords]
    omega
  · rw [hbody]
    rfl
  · rw [← hval, show 6 - gs.length = 8 - (0 + gs.length + 2) from by omega]
    rfl
  · rw [hbody]
    generalize quadStr q = t at hlen
    match gs, hn, hg with
    | [], _, _ =>
      simp only [List.nil_append, joinC, List.length_cons]
      omega
    | [g], _, hg =>
      have := ((groupOk_iff g).mp (by simpa using hg)).2.1
      simp only [List.cons_append, List.nil_append, joinC, List.length_cons, List.length_append]
      omega

theorem fmt6Body_render (pre post : List Nat) (bl : Nat) (h8 : pre.length + bl + post.length = 8)
    (hw : ∀ w ∈ pre ++ List.replicate bl 0 ++ post, w < 65536) :
    ∃ r : Render, Good (pre ++ List.replicate bl 0 ++ post) (pre.length, bl) r := by
  have hpre : ∀ w ∈ pre, w < 65536 := fun w h => hw w (by simp [h])
  have hpost : ∀ w ∈ post, w < 65536 := fun w h => hw w (by simp [h])
  by_cases hsmall : bl < 2
  · exact ⟨_, good_plain (by simp; omega) hw _ hsmall⟩
  · -- the test of `fmt6Body` for the embedded-IPv4 forms, term for term, so that `if_neg hc` rewrites it below
    by_cases hc : some pre.length = some 0 ∧
        ((bl = 5 ∧ (pre ++ List.replicate bl 0 ++ post).getD 4 0 * 65536 +
          (pre ++ List.replicate bl 0 ++ post).getD 5 0 = 65535) ∨ bl = 6)
    · obtain ⟨hp, hb⟩ := hc
      obtain rfl := List.eq_nil_of_length_eq_zero (Option.some.inj hp)
      rcases hb with ⟨rfl, ha2⟩ | rfl
      · have h3 : post.length = 3 := by
          rw [List.length_nil] at h8
          omega
        match post, h3, hpost, ha2 with
        | [w5, w6, w7], _, hpost, ha2 =>
          obtain rfl : w5 = 65535 := by simpa using ha2
          exact ⟨_, good_embedded [['f', 'f', 'f', 'f']] (octets (w6 * 65536 + w7)) (by decide) (by decide)
            (quadOk_octets _) (fmt6Body_mapped _ rfl rfl)
            (by rw [quadWords_octets (hpost w6 (by simp)) (hpost w7 (by simp))]; rfl)⟩
      · have h2 : post.length = 2 := by
          rw [List.length_nil] at h8
          omega
        match post, h2, hpost with
        | [w6, w7], _, hpost =>
          exact ⟨_, good_embedded [] (octets (w6 * 65536 + w7)) rfl (by decide) (quadOk_octets _)
            (fmt6Body_compat _ rfl rfl) (by rw [quadWords_octets (hpost w6 (by simp)) (hpost w7 (by simp))]; rfl)⟩
    · exact ⟨_, good_gap pre post h8 (by omega) hpre hpost (by simp only [fmt6Body, if_neg hsmall, if_neg hc])⟩

theorem fmt6Str_good (ws : List Nat) (h8 : ws.length = 8) (hw : ∀ w ∈ ws, w < 65536) :
    ∃ r : Render, Good ws (zeroRun ws) r := by
  have hrun : IsRun (ws.map (· == 0)) (zeroRun ws).1 (zeroRun ws).2 := zeroRunB_run _
  have hs := isRun_split hrun
  obtain ⟨hle, _⟩ := hrun
  rw [List.length_map] at hle
  have := fmt6Body_render (ws.take (zeroRun ws).1) (ws.drop ((zeroRun ws).1 + (zeroRun ws).2)) (zeroRun ws).2
    (by simp; omega) (by rwa [← hs])
  rw [← hs, List.length_take, Nat.min_eq_left (by omega)] at this
  exact this

end Rtr.IpText
