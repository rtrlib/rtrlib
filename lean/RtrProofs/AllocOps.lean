/-
  AllocOps: whatever the oracle does, every table operation keeps the books, and so do the two copy
  loops.  A copy in which nothing is refused is the model's copy, and so is a prefix-table copy that
  reports success (not a router-key copy: its hash table need not have grown); what a successful copy holds.
-/
import RtrProofs.AllocSpki
import RtrProofs.NotifyDiff

namespace Rtr
namespace Alloc
open PfxTable SpkiTable

/-! ### every operation keeps the books -/

abbrev PBooks := Books TableWF pfxBlocks

abbrev KBooks := Books SInv spkiBlocks

theorem addF_books (a : A) (T : PfxTable) (r : Rec) (h : TableWF T) (hr : RecOK r) :
    PBooks a T (addF a T r).1 (addF a T r).2.1 := by
  refine ⟨?_, addF_bal a T r h⟩
  rcases (addF_ok a T r).cases with e | e
  · rw [e]; exact (add_spec T r h hr).wf
  · rw [e]; exact h

theorem removeF_books (a : A) (T : PfxTable) (r : Rec) (h : TableWF T) : PBooks a T (removeF a T r).1 (removeF a T r).2.1 :=
  ⟨(remove_spec T r h).wf, removeF_bal a T r⟩

theorem srcRemoveF_books (a : A) (T : PfxTable) (src : Nat) (h : TableWF T) :
    PBooks a T (srcRemoveF a T src).1 (srcRemoveF a T src).2.1 :=
  ⟨(srcRemove_spec T src h).wf, srcRemoveF_bal a T src⟩

theorem free_wf (T : PfxTable) : TableWF T.free :=
  ⟨by rw [(free_spec T).v4]; trivial, by rw [(free_spec T).t6]; trivial⟩

theorem kaddF_books (a : A) {T : SpkiTable} (iv : SInv T) (r : SpkiRec) : KBooks a T (kaddF a T r).1 (kaddF a T r).2.1 := by
  refine ⟨?_, (kaddF_ok a T r).bal iv.ht.bit_ge⟩
  rcases kaddF_cases a iv r with e | e | ⟨e, hr⟩
  · rw [e]; exact sinv_add iv r
  · rw [e]; exact iv
  · rw [e]; exact (addNoGrow_spec iv r hr).1

theorem kremoveF_books (a : A) {T : SpkiTable} (iv : SInv T) (r : SpkiRec) :
    KBooks a T (kremoveF a T r).1 (kremoveF a T r).2.1 :=
  ⟨sinv_remove iv r, kremoveF_bal a iv r⟩

theorem ksrcRemoveF_books (a : A) {T : SpkiTable} (iv : SInv T) (src : Nat) :
    KBooks a T (ksrcRemoveF a T src).1 (ksrcRemoveF a T src).2.1 :=
  ⟨(SpkiTable.srcRemove_spec iv src).sinv, ksrcRemoveF_bal a iv src⟩

/-! ### pfx_table_copy_except_socket -/

theorem copyPass_cons (src : Nat) (a : A) (D : PfxTable) (e : Bool) (r : Rec) (rs : List Rec) :
    copyPass src (a, D, e) (r :: rs) =
      copyPass src (if r.src != src then ((addF a D r).1, (addF a D r).2.1, e || (addF a D r).2.2 != .success) else (a, D, e)) rs :=
  rfl

theorem copyPass_books (src : Nat) : ∀ (rs : List Rec) (a : A) (D : PfxTable) (e : Bool), TableWF D →
    (∀ r ∈ rs, RecOK r) → PBooks a D (copyPass src (a, D, e) rs).1 (copyPass src (a, D, e) rs).2.1 := by
  intro rs
  induction rs with
  | nil => intro a D e h _; exact Books.refl a h
  | cons r rs ih =>
    intro a D e h hok
    by_cases hp : (r.src != src) = true
    · rw [copyPass_cons, if_pos hp]
      have q := addF_books a D r h (hok r (by simp))
      exact q.trans (ih _ _ _ q.inv (fun x hx => hok x (List.mem_cons_of_mem _ hx)))
    · rw [copyPass_cons, if_neg hp]
      exact ih a D e h (fun x hx => hok x (List.mem_cons_of_mem _ hx))

theorem copyPass_sticky (src : Nat) : ∀ (rs : List Rec) (a : A) (D : PfxTable), (copyPass src (a, D, true) rs).2.2 = true := by
  intro rs
  induction rs with
  | nil => intro a D; rfl
  | cons r rs ih =>
    intro a D
    by_cases hp : (r.src != src) = true
    · rw [copyPass_cons, if_pos hp]
      simp only [Bool.true_or]
      exact ih _ _
    · rw [copyPass_cons, if_neg hp]
      exact ih a D

/-- a pass in which nothing can be refused, or which ends without the error flag, is the model's pass:
    every add returned what the model's add returns -/
theorem copyPass_model (src : Nat) : ∀ (rs : List Rec) (a : A) (D : PfxTable) (e : Bool),
    a.budget = none ∨ (copyPass src (a, D, e) rs).2.2 = false →
    (copyPass src (a, D, e) rs).2 = rs.foldl (addStep fun r => r.src != src) (D, e) ∧
    (a.budget = none → (copyPass src (a, D, e) rs).1.budget = none) := by
  intro rs
  induction rs with
  | nil => intro a D e _; exact ⟨rfl, id⟩
  | cons r rs ih =>
    intro a D e h
    rw [List.foldl_cons]
    by_cases hp : (r.src != src) = true
    · rw [copyPass_cons, if_pos hp] at h ⊢
      have q := addF_ok a D r
      have hb : a.budget = none → (addF a D r).1.budget = none := fun hn => (q.none hn).2
      have hadd : (addF a D r).2 = D.add r := by
        rcases h with hn | hf
        · exact (q.none hn).1
        · rcases q.cases with c | c
          · exact c
          · -- a failed add sets the flag, and the flag stays set
            have : (e || (PfxRc.error != PfxRc.success)) = true := by cases e <;> rfl
            rw [c, this, copyPass_sticky] at hf
            cases hf
      have e1 : addStep (fun r => r.src != src) (D, e) r = ((addF a D r).2.1, e || (addF a D r).2.2 != .success) := by
        simp only [addStep, hp, if_true, hadd]
      rw [e1]
      have s := ih _ _ _ (h.imp hb id)
      exact ⟨s.1, fun hn => s.2 (hb hn)⟩
    · rw [copyPass_cons, if_neg hp] at h ⊢
      have e1 : addStep (fun r => r.src != src) (D, e) r = (D, e) := by
        simp [addStep, hp]
      rw [e1]
      exact ih a D e h

/-- the two passes of `pfx_table_copy_except_socket`: the IPv4 pass alone if it ends with the error flag, else both; the
    call reports success exactly when neither pass sets its flag -/
theorem copyExceptF_cases {φ : A × PfxTable × PfxRc → Prop} (a : A) (S D : PfxTable) (src : Nat)
    (one : ∀ s1, s1 = copyPass src (a, D, false) S.recs4 → s1.2.2 = true → φ (s1.1, s1.2.1, .error))
    (two : ∀ s1 s2, s1 = copyPass src (a, D, false) S.recs4 → s1.2.2 = false →
      s2 = copyPass src (s1.1, s1.2.1, false) S.recs6 → φ (s2.1, s2.2.1, if s2.2.2 then .error else .success)) :
    φ (copyExceptF a S D src) := by
  unfold copyExceptF
  dsimp only
  by_cases h1 : (copyPass src (a, D, false) S.recs4).2.2 = true
  · rw [if_pos h1]
    exact one _ rfl h1
  · rw [if_neg h1]
    have := two _ _ rfl ((Bool.not_eq_true _).mp h1) rfl
    split
    · rw [if_pos ‹_›] at this
      exact this
    · rw [if_neg ‹_›] at this
      exact this

theorem copyExceptF_books (a : A) (S D : PfxTable) (src : Nat) (hS : TableWF S) (hD : TableWF D) :
    PBooks a D (copyExceptF a S D src).1 (copyExceptF a S D src).2.1 := by
  have ok4 : ∀ r ∈ S.recs4, RecOK r := fun r hr => recOK_of_mem S hS r (by unfold PfxTable.recs; simp [hr])
  have ok6 : ∀ r ∈ S.recs6, RecOK r := fun r hr => recOK_of_mem S hS r (by unfold PfxTable.recs; simp [hr])
  have s1 := copyPass_books src S.recs4 a D false hD ok4
  refine copyExceptF_cases (φ := fun q => PBooks a D q.1 q.2.1) a S D src (fun _ e _ => e ▸ s1) (fun _ _ e _ e2 => ?_)
  subst e e2
  exact s1.trans (copyPass_books src S.recs6 _ _ false s1.inv ok6)

theorem copyExceptF_model (a : A) (S D : PfxTable) (src : Nat) :
    a.budget = none ∨ (copyExceptF a S D src).2.2 = .success →
    (copyExceptF a S D src).2 = PfxTable.copyExcept S D src ∧ (a.budget = none → (copyExceptF a S D src).1.budget = none) := by
  refine copyExceptF_cases (φ := fun q => a.budget = none ∨ q.2.2 = .success →
    q.2 = PfxTable.copyExcept S D src ∧ (a.budget = none → q.1.budget = none)) a S D src
    (fun s1 e h1 h => ?_) (fun s1 s2 e h1 e2 h => ?_) <;> rw [copyExcept_eq]
  · -- the call reports an error, so the hypothesis is that nothing is refused: the model's first pass ends flagged too
    have hn : a.budget = none := h.resolve_right (fun x => by cases x)
    obtain ⟨p1, p2⟩ := copyPass_model src S.recs4 a D false (Or.inl hn)
    rw [← e] at p1 p2
    refine ⟨?_, p2⟩
    simp only [← p1, h1, if_true]
  · obtain ⟨p1, p2⟩ := copyPass_model src S.recs4 a D false (Or.inr (e ▸ h1))
    rw [← e] at p1 p2
    have h2 : s1.1.budget = none ∨ s2.2.2 = false :=
      h.imp p2 (fun x => by
        cases hs : s2.2.2
        · rfl
        · rw [hs] at x
          cases x)
    obtain ⟨r1, r2⟩ := copyPass_model src S.recs6 s1.1 s1.2.1 false (e2 ▸ h2)
    rw [← e2] at r1 r2
    refine ⟨?_, fun hn => r2 (p2 hn)⟩
    simp only [← p1, ← r1, h1, Bool.false_eq_true, if_false]
    cases s2.2.2 <;> rfl

theorem copyExceptF_none (a : A) (S D : PfxTable) (src : Nat) (h : a.budget = none) :
    (copyExceptF a S D src).2 = PfxTable.copyExcept S D src ∧ (copyExceptF a S D src).1.budget = none :=
  ⟨(copyExceptF_model a S D src (Or.inl h)).1, (copyExceptF_model a S D src (Or.inl h)).2 h⟩

/-! ### spki_table_copy_except_socket -/

theorem kcopyLoopF_cons (src : Nat) (e : SpkiRec) (rest : List SpkiRec) (a : A) (D : SpkiTable) :
    kcopyLoopF src (e :: rest) a D =
      if e.src != src then
        if (kaddF a D e).2.2 = .success then kcopyLoopF src rest (kaddF a D e).1 (kaddF a D e).2.1
        else ((kaddF a D e).1, (kaddF a D e).2.1, .error)
      else kcopyLoopF src rest a D := by
  rw [kcopyLoopF]
  rcases kaddF a D e with ⟨a', D', rc⟩
  cases rc <;> rfl

theorem kcopyLoopF_books (src : Nat) : ∀ (L : List SpkiRec) (a : A) (D : SpkiTable), SInv D →
    KBooks a D (kcopyLoopF src L a D).1 (kcopyLoopF src L a D).2.1 := by
  intro L
  induction L with
  | nil => intro a D iv; exact Books.refl a iv
  | cons e rest ih =>
    intro a D iv
    have q := kaddF_books a iv e
    by_cases hp : (e.src != src) = true
    · by_cases hs : (kaddF a D e).2.2 = .success
      · rw [kcopyLoopF_cons, if_pos hp, if_pos hs]
        exact q.trans (ih _ _ q.inv)
      · rw [kcopyLoopF_cons, if_pos hp, if_neg hs]
        exact q
    · rw [kcopyLoopF_cons, if_neg hp]
      exact ih a D iv

theorem kcopyLoopF_none (src : Nat) : ∀ (L : List SpkiRec) (a : A) (D : SpkiTable), a.budget = none →
    (kcopyLoopF src L a D).2 = copyLoop src L D ∧ (kcopyLoopF src L a D).1.budget = none := by
  intro L
  induction L with
  | nil => intro a D h; exact ⟨rfl, h⟩
  | cons e rest ih =>
    intro a D h
    unfold kcopyLoopF copyLoop
    by_cases hp : (e.src != src) = true
    · simp only [hp, if_true]
      obtain ⟨q1, hb⟩ := (kaddF_ok a D e).none h
      rcases hq : kaddF a D e with ⟨a', D', rc⟩
      rw [hq] at q1 hb
      simp only at q1 hb
      rw [← q1]
      cases rc with
      | success => simp only; exact ih a' D' hb
      | error => exact ⟨rfl, hb⟩
      | duplicate => exact ⟨rfl, hb⟩
      | notFound => exact ⟨rfl, hb⟩
    · simp only [hp, Bool.false_eq_true, if_false]
      exact ih a D h

/-! ### successful copies are complete -/

theorem copyExceptF_success (a : A) (S D : PfxTable) (src : Nat) (hS : TableWF S) (hD : TableWF D) (hE : D.recs = [])
    (h : (copyExceptF a S D src).2.2 = .success) :
    (copyExceptF a S D src).2.1.recs.Perm (S.recs.filter fun r => r.src != src) := by
  rw [(copyExceptF_model a S D src (Or.inr h)).1]
  exact (copyExcept_spec S D src hS hD hE).recs

/-- an add that reports success appended the entry, whether or not the hash table grew -/
theorem kaddF_success {a : A} {D : SpkiTable} (iv : SInv D) {e : SpkiRec} (h : (kaddF a D e).2.2 = .success) :
    (kaddF a D e).2.1.list = D.list ++ [e] := by
  rcases kaddF_cases a iv e with c | c | ⟨c, hr⟩
  · rw [c] at h ⊢
    by_cases hin : e ∈ D.list
    · rw [add_dup iv e hin] at h
      cases h
    · exact (add_new_spec iv e hin).list
  · rw [c] at h
    cases h
  · rw [c, (addNoGrow_spec iv e hr).2.1]
    exact (add_new_spec iv e hr).list

theorem kcopyLoopF_success (src : Nat) : ∀ (L : List SpkiRec) (a : A) (D : SpkiTable), SInv D →
    (kcopyLoopF src L a D).2.2 = .success →
    (kcopyLoopF src L a D).2.1.list = D.list ++ L.filter (fun e => e.src != src) := by
  intro L
  induction L with
  | nil => intro a D _ _; simp [kcopyLoopF]
  | cons e rest ih =>
    intro a D iv h
    by_cases hp : (e.src != src) = true
    · rw [List.filter_cons_of_pos (p := fun e : SpkiRec => e.src != src) hp]
      by_cases hs : (kaddF a D e).2.2 = .success
      · rw [kcopyLoopF_cons, if_pos hp, if_pos hs] at h ⊢
        rw [ih _ _ (kaddF_books a iv e).inv h, kaddF_success iv hs, List.append_assoc]
        rfl
      · rw [kcopyLoopF_cons, if_pos hp, if_neg hs] at h
        cases h
    · rw [kcopyLoopF_cons, if_neg hp] at h ⊢
      rw [List.filter_cons_of_neg (p := fun e : SpkiRec => e.src != src) hp]
      exact ih a D iv h

end Alloc
end Rtr
