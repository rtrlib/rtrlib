/-
  BitsLink6: the literal IPv6 bit code of rtrlib/lib/ipv6.c (`ipv6GetBits`, the four-word cascade
  of `lrtr_ipv6_get_bits` over `lrtr_get_bits`) computes the abstract bit view (`bitAt`,
  `prefixEq`) the trie model is written against.  Companion of BitsLink (IPv4).

  The cascade is reduced to one closed form per call shape: for (first = lvl, quantity = 1) exactly
  the word `lvl / 32` is touched, with `getBits32` at offset `lvl % 32`; for (first = 0,
  quantity = len) word `k` receives `getBits32 w_k 0 (min (len - 32k) 32)`.  Bit `j` of word `k` of
  `V6.ofNat a` is bit `96 - 32k + j` of `a`, so the one-word lemmas of BitsLink apply.
-/
import RtrProofs.BitsLink

namespace Rtr

theorem ipv6GetBits_one (a : V6) (lvl : Nat) :
    ipv6GetBits a lvl 1 =
      if lvl ≤ 31 then ⟨getBits32 a.w0 lvl 1, 0, 0, 0⟩
      else if lvl ≤ 63 then ⟨0, getBits32 a.w1 (lvl - 32) 1, 0, 0⟩
      else if lvl ≤ 95 then ⟨0, 0, getBits32 a.w2 (lvl - 64) 1, 0⟩
      else if lvl ≤ 127 then ⟨0, 0, 0, getBits32 a.w3 (lvl - 96) 1⟩
      else ⟨0, 0, 0, 0⟩ := by
  unfold ipv6GetBits
  by_cases h1 : lvl ≤ 31
  · have a1 : ¬ (lvl ≤ 63 ∧ lvl + 1 > 32) := by omega
    have a2 : ¬ (lvl ≤ 95 ∧ lvl + 1 > 64) := by omega
    have a3 : ¬ (lvl ≤ 127 ∧ lvl + 1 > 96) := by omega
    simp [h1, a1, a2, a3]
  · by_cases h2 : lvl ≤ 63
    · have a1 : (lvl ≤ 63 ∧ lvl + 1 > 32) := by omega
      have a2 : ¬ (lvl ≤ 95 ∧ lvl + 1 > 64) := by omega
      have a3 : ¬ (lvl ≤ 127 ∧ lvl + 1 > 96) := by omega
      have b1 : ¬ lvl < 32 := by omega
      simp [h1, h2, a1, a2, a3, b1]
    · by_cases h3 : lvl ≤ 95
      · have a2 : (lvl ≤ 95 ∧ lvl + 1 > 64) := by omega
        have a3 : ¬ (lvl ≤ 127 ∧ lvl + 1 > 96) := by omega
        have b1 : ¬ lvl < 64 := by omega
        simp [h1, h2, h3, a2, a3, b1]
      · by_cases h4 : lvl ≤ 127
        · have a3 : (lvl ≤ 127 ∧ lvl + 1 > 96) := by omega
          have b1 : ¬ lvl < 96 := by omega
          simp [h1, h2, h3, h4, a3, b1]
        · simp [h1, h2, h3, h4]

theorem sub_min32 (x : Nat) : x - min x 32 = x - 32 := by omega

theorem ite_min32 (x : Nat) : (if x > 32 then 32 else x) = min x 32 := by split <;> omega

theorem min32_zero (x y : Nat) (h : x ≤ y) : min (x - y) 32 = 0 := by omega

/-- `lrtr_ipv6_get_bits(a, 0, len)`: word `k` receives its top `min (len - 32k) 32` bits
    (`bits_left` counts down by at most 32 per word; a skipped word is the 0-bit case) -/
theorem ipv6GetBits_prefix (a : V6) (len : Nat) :
    ipv6GetBits a 0 len =
      ⟨getBits32 a.w0 0 (min len 32), getBits32 a.w1 0 (min (len - 32) 32),
       getBits32 a.w2 0 (min (len - 64) 32), getBits32 a.w3 0 (min (len - 96) 32)⟩ := by
  unfold ipv6GetBits
  simp only [Nat.zero_le, true_and, Nat.zero_add, if_true, ite_min32, sub_min32,
    show (0 < 32) = True from by simp, show (0 < 64) = True from by simp, show (0 < 96) = True from by simp]
  by_cases c1 : len > 32
  · simp only [c1, if_true, Nat.sub_sub, Nat.reduceAdd]
    by_cases c2 : len > 64
    · simp only [c2, if_true]
      by_cases c3 : len > 96
      · simp only [c3, if_true]
      · simp only [c3, if_false, min32_zero len 96 (Nat.le_of_not_gt c3), getBits32_zero_num]
    · have l2 : len ≤ 64 := Nat.le_of_not_gt c2
      have c3 : ¬ len > 96 := fun h => c2 (Nat.lt_trans (by decide) h)
      simp only [c2, c3, if_false, min32_zero len 64 l2, min32_zero len 96 (Nat.le_trans l2 (by decide)), getBits32_zero_num]
  · have l1 : len ≤ 32 := Nat.le_of_not_gt c1
    have c2 : ¬ len > 64 := fun h => c1 (Nat.lt_trans (by decide) h)
    have c3 : ¬ len > 96 := fun h => c1 (Nat.lt_trans (by decide) h)
    simp only [c1, c2, c3, if_false, min32_zero len 32 l1, min32_zero len 64 (Nat.le_trans l1 (by decide)),
      min32_zero len 96 (Nat.le_trans l1 (by decide)), getBits32_zero_num]

theorem word_getLsbD (a s j : Nat) (hj : j < 32) :
    (BitVec.ofNat 32 (a / 2^s)).getLsbD j = a.testBit (s + j) := by
  rw [ofNat_getLsbD _ _ hj, Nat.testBit_div_two_pow, Nat.add_comm]

theorem V6_ofNat_w0 (a : Nat) : (V6.ofNat a).w0 = BitVec.ofNat 32 (a / 2^96) := rfl

theorem V6_ofNat_w1 (a : Nat) : (V6.ofNat a).w1 = BitVec.ofNat 32 (a / 2^64) := rfl

theorem V6_ofNat_w2 (a : Nat) : (V6.ofNat a).w2 = BitVec.ofNat 32 (a / 2^32) := rfl

theorem V6_ofNat_w3 (a : Nat) : (V6.ofNat a).w3 = BitVec.ofNat 32 (a / 2^0) := by
  simp [V6.ofNat]

theorem V6_isZero_mk (a b c d : BitVec 32) :
    (V6.mk a b c d).isZero = (a == 0 && b == 0 && c == 0 && d == 0) := rfl

/-- the word holding bits `lo .. lo+31` of the prefix (cut out at shift `96 - lo`), consulted at
    offset `lvl - lo`, answers bit `lvl` of the address -/
theorem one_word (a s lo lvl : Nat) (hs : s + lo = 96) (h1 : lo ≤ lvl) (h2 : lvl < lo + 32) :
    (getBits32 (BitVec.ofNat 32 (a / 2^s)) (lvl - lo) 1 == 0) =
      !(decide (lvl < 128) && a.testBit (128 - 1 - lvl)) := by
  rw [getBits32_one _ _ (by omega), word_getLsbD _ _ _ (by omega)]
  have e : s + (31 - (lvl - lo)) = 128 - 1 - lvl := by omega
  have hl : lvl < 128 := by omega
  simp [e, hl]

/-- no bound on `a` is needed: `V6.ofNat` keeps the low 128 bits, and so does `bitAt 128` -/
theorem isLeftChildC6_eq (a : Nat) (lvl : Nat) :
    isLeftChildC6 (V6.ofNat a) lvl = isLeft 128 a lvl := by
  unfold isLeftChildC6 isLeft bitAt
  rw [ipv6GetBits_one]
  by_cases h1 : lvl ≤ 31
  · rw [if_pos h1, V6_isZero_mk, V6_ofNat_w0]
    simp only [beq_self_eq_true, Bool.and_true]
    exact one_word a 96 0 lvl rfl (Nat.zero_le _) (by omega)
  · rw [if_neg h1]
    by_cases h2 : lvl ≤ 63
    · rw [if_pos h2, V6_isZero_mk, V6_ofNat_w1]
      simp only [beq_self_eq_true, Bool.and_true, Bool.true_and]
      exact one_word a 64 32 lvl rfl (by omega) (by omega)
    · rw [if_neg h2]
      by_cases h3 : lvl ≤ 95
      · rw [if_pos h3, V6_isZero_mk, V6_ofNat_w2]
        simp only [beq_self_eq_true, Bool.and_true, Bool.true_and]
        exact one_word a 32 64 lvl rfl (by omega) (by omega)
      · rw [if_neg h3]
        by_cases h4 : lvl ≤ 127
        · rw [if_pos h4, V6_isZero_mk, V6_ofNat_w3]
          simp only [beq_self_eq_true, Bool.true_and]
          exact one_word a 0 96 lvl rfl (by omega) (by omega)
        · rw [if_neg h4, V6_isZero_mk]
          have hl : ¬ lvl < 128 := by omega
          simp [hl]

theorem word_cover_shift (p q s n : Nat) (h : n ≤ 32) :
    getBits32 (BitVec.ofNat 32 (p / 2^s)) 0 n = getBits32 (BitVec.ofNat 32 (q / 2^s)) 0 n ↔
      ∀ j, j < 32 → 32 - n ≤ j → p.testBit (s + j) = q.testBit (s + j) := by
  rw [word_cover _ _ _ h]
  simp only [Nat.testBit_div_two_pow, Nat.add_comm]

/-- the condition of one word (the one holding bits `lo .. lo+31` of the prefix, cut out at shift
    `96 - lo`), in the numbering of the prefix bits -/
theorem word_window (P : Nat → Prop) (len lo : Nat) (hlo : lo ≤ 96) :
    (∀ j, j < 32 → 32 - min (len - lo) 32 ≤ j → P (96 - lo + j)) ↔
      ∀ i, lo ≤ i → i < lo + 32 → i < len → P (127 - i) := by
  constructor
  · intro h i h1 h2 h3
    have := h (lo + 31 - i) (by omega) (by omega)
    rwa [show 96 - lo + (lo + 31 - i) = 127 - i by omega] at this
  · intro h j h1 h2
    have := h (lo + 31 - j) (by omega) (by omega) (by omega)
    rwa [show 127 - (lo + 31 - j) = 96 - lo + j by omega] at this

theorem coversC6_iff (p q : Nat) (len : Nat) (h : len ≤ 128) :
    coversC6 (V6.ofNat p) len (V6.ofNat q) = true ↔
      ∀ i, i < len → p.testBit (127 - i) = q.testBit (127 - i) := by
  unfold coversC6
  rw [beq_iff_eq, ipv6GetBits_prefix, ipv6GetBits_prefix, V6.mk.injEq,
    V6_ofNat_w0, V6_ofNat_w1, V6_ofNat_w2, V6_ofNat_w3, V6_ofNat_w0, V6_ofNat_w1, V6_ofNat_w2, V6_ofNat_w3,
    word_cover_shift p q 96 _ (Nat.min_le_right _ _), word_cover_shift p q 64 _ (Nat.min_le_right _ _),
    word_cover_shift p q 32 _ (Nat.min_le_right _ _), word_cover_shift p q 0 _ (Nat.min_le_right _ _)]
  have k0 := word_window (fun i => p.testBit i = q.testBit i) len 0 (by omega)
  have k1 := word_window (fun i => p.testBit i = q.testBit i) len 32 (by omega)
  have k2 := word_window (fun i => p.testBit i = q.testBit i) len 64 (by omega)
  have k3 := word_window (fun i => p.testBit i = q.testBit i) len 96 (by omega)
  simp only [Nat.sub_zero, Nat.sub_self] at k0 k1 k2 k3
  rw [k0, k1, k2, k3]
  constructor
  · rintro ⟨a0, a1, a2, a3⟩ i hi
    by_cases c0 : i < 32
    · exact a0 i (by omega) (by omega) hi
    · by_cases c1 : i < 64
      · exact a1 i (by omega) (by omega) hi
      · by_cases c2 : i < 96
        · exact a2 i (by omega) (by omega) hi
        · exact a3 i (by omega) (by omega) hi
  · intro k
    exact ⟨fun i _ _ hi => k i hi, fun i _ _ hi => k i hi, fun i _ _ hi => k i hi, fun i _ _ hi => k i hi⟩

theorem coversC6_eq (p q : Nat) (hp : p < 2^128) (hq : q < 2^128) (len : Nat) (h : len ≤ 128) :
    coversC6 (V6.ofNat p) len (V6.ofNat q) = prefixEq 128 p q len := by
  have key : coversC6 (V6.ofNat p) len (V6.ofNat q) = true ↔ prefixEq 128 p q len = true := by
    rw [coversC6_iff p q len h, prefixEq_iff 128 p q len h hp hq]
    constructor
    · intro k i hi
      rw [bitAt_lt _ _ _ (by omega), bitAt_lt _ _ _ (by omega)]
      exact k i hi
    · intro k i hi
      have := k i hi
      rw [bitAt_lt _ _ _ (by omega), bitAt_lt _ _ _ (by omega)] at this
      exact this
  exact Bool.eq_iff_iff.2 key

end Rtr
