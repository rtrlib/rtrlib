/-
  CLinkConv: the whole-PDU byte-order conversions as translated from the C text = the hand-written list model `Rtr.Conv`
  (RtrModel/PduConv.lean), over which the C14 conversion theorems (inverse, in bounds) are stated and which tools/pduconvcheck.py runs
  against the compiled functions.
  The text of the header conversion is executed in one place, `Recv.convert_header_eq` (RtrProofs/CLinkRecv.lean: it is
  `Recv.hdrSwap` for every memory); here `Recv.hdrSwap` on a buffer is the list model (`hdrSwap_memOfList`).  The compositions
  are stated for the fixed-layout types; for IPv6 Prefix and Error Report the body conversion is linked in CLinkFooterModel.
  The declarations continue the namespace `Rtr.CLink.Footer` of CLinkFooter and CLinkFooterModel, whose memory vocabulary
  (`Mem`, `swapAt`, `need`) they are stated in.
-/
import RtrProofs.CLinkFooterModel
import RtrProofs.PduConv
import RtrProofs.CLinkRecv

namespace Rtr.CLink.Footer
open Rtr Rtr.Gen Rtr.CLink

theorem load16_store16 (m : Mem) (a : Nat) (v : BitVec 16) : C.load16 (C.store16 m a v) a = v := by
  unfold C.load16 C.store16
  simp
  rw [BitVec.extractLsb'_append_extractLsb'_eq_extractLsb' (by rfl)]
  simp

theorem hdrSwap_memOfList (raw : List Nat) (hb : Bytes raw) (h8 : 8 ≤ raw.length) :
    Recv.hdrSwap (C.memOfList raw) 0 = C.memOfList (Conv.convHeader raw) := by
  rw [Conv.convHeader_eq, memOfList_revFields _ _ (fun f hf => Nat.le_trans (Conv.hdrFields_lt raw f hf) h8)]
  have t9 : (C.memOfList raw (0 + 1) = 9#8) ↔ P.typeOf raw = 9 := memOfList_byte raw hb 1 9 (by decide)
  generalize C.memOfList raw = m at t9 ⊢
  -- both field lists end with the length field (4, 4); the 16-bit field (2, 2) in front of it is there unless the type is 9
  have hF : Conv.swapFields m (Conv.hdrFields raw) = Conv.swapField (if P.typeOf raw = 9 then m else Conv.swapField m 2 2) 4 4 := by
    unfold Conv.hdrFields
    by_cases ht : P.typeOf raw = 9
    · rw [if_neg (fun q => q ht), if_pos ht]
      rfl
    · rw [if_pos ht, if_neg ht]
      rfl
  rw [hF]
  funext x
  by_cases h47 : 4 ≤ x ∧ x < 8
  · -- a byte of the length field: `Recv.perm` mirrors it, whatever the type, and the 16-bit field lies below it
    obtain ⟨j, rfl⟩ : ∃ j, x = 4 + j := ⟨x - 4, by omega⟩
    have hp : Recv.perm (m (0 + 1)) (4 + j) = 4 + (4 - 1 - j) := by
      rcases (show j = 0 ∨ j = 1 ∨ j = 2 ∨ j = 3 by omega) with rfl | rfl | rfl | rfl <;> rfl
    rw [Conv.swapField_in _ 4 4 j (by omega), ← Nat.zero_add (4 + j), Recv.hdrSwap_at, hp, Nat.zero_add]
    by_cases ht : P.typeOf raw = 9
    · rw [if_pos ht]
    · rw [if_neg ht, Conv.swapField_out m 2 2 _ (by omega)]
  · -- below and behind the length field only bytes 2, 3 move, and only if the type is not 9
    rw [Conv.swapField_out _ 4 4 x (by omega), Recv.hdrSwap_low m 0 x (by omega)]
    by_cases ht : P.typeOf raw = 9
    · rw [if_pos ht, if_pos (t9.2 ht)]
    · rw [if_neg ht, if_neg (fun q => ht (t9.1 q))]
      by_cases h2 : x = 0 + 2
      · rw [if_pos h2, h2]
        exact (Conv.swapField_in m 2 2 0 (by decide)).symm
      rw [if_neg h2]
      by_cases h3 : x = 0 + 3
      · rw [if_pos h3, h3]
        exact (Conv.swapField_in m 2 2 1 (by decide)).symm
      rw [if_neg h3, Conv.swapField_out m 2 2 x (by omega)]

/-- C text = model: the header conversion (the same bytes move in both directions) -/
theorem header_C_eq_model (raw : List Nat) (hb : Bytes raw) (h8 : 8 ≤ raw.length) (tbo : BitVec 32) (htbo : tbo = 0#32 ∨ tbo = 1#32) :
    C.rtr_pdu_convert_header_byte_order (C.memOfList raw) raw.length 0 tbo = some (C.memOfList (Conv.convHeader raw)) := by
  rw [Recv.convert_header_eq _ _ 0 tbo htbo (by omega), hdrSwap_memOfList raw hb h8]

theorem revFields_bytes (fs : List (Nat × Nat)) (buf : List Nat) (hb : Bytes buf) : Bytes (Conv.revFields fs buf) := by
  induction fs generalizing buf with
  | nil => exact hb
  | cons f fs ih => exact ih _ (revAt_bytes buf hb f.1 f.2)

theorem convFooter_length (dir : Conv.Dir) (raw : List Nat) : (Conv.convFooter dir raw).length = raw.length := by
  obtain ⟨fs, e⟩ := Conv.convFooter_fields dir raw
  rw [e, Conv.length_revFields]

theorem convFooter_bytes (dir : Conv.Dir) (raw : List Nat) (hb : Bytes raw) : Bytes (Conv.convFooter dir raw) := by
  obtain ⟨fs, e⟩ := Conv.convFooter_fields dir raw
  rw [e]
  exact revFields_bytes fs raw hb

/-- C text = model: `rtr_pdu_to_network_byte_order` (what `rtr_send_pdu` applies to its copy of the PDU), fixed-layout types -/
theorem to_network_C_eq_model (raw : List Nat) (hb : Bytes raw) (h8 : 8 ≤ raw.length)
    (h6 : P.typeOf raw ≠ 6) (h10 : P.typeOf raw ≠ 10) (hn : need (C.memOfList raw 1) (C.memOfList raw 0) ≤ raw.length) :
    C.rtr_pdu_to_network_byte_order (C.memOfList raw) raw.length 0 = some (C.memOfList (Conv.toNetwork raw)) := by
  unfold C.rtr_pdu_to_network_byte_order C.rtr_pdu_header_to_network_byte_order Conv.toNetwork
  have e := footer_C_eq_model .toNetwork raw hb (by omega) h6 h10 hn
  simp only [dirCode] at e
  simp only [e]
  have hh := header_C_eq_model (Conv.convFooter .toNetwork raw) (convFooter_bytes _ raw hb) (by rw [convFooter_length]; omega) 0#32 (Or.inl rfl)
  rw [convFooter_length] at hh
  simp only [hh]

/-- C text = model: `rtr_pdu_footer_to_host_byte_order` (what `rtr_receive_pdu` applies after the header conversion), fixed-layout types -/
theorem footer_to_host_C_eq_model (raw : List Nat) (hb : Bytes raw) (h2 : 2 ≤ raw.length)
    (h6 : P.typeOf raw ≠ 6) (h10 : P.typeOf raw ≠ 10) (hn : need (C.memOfList raw 1) (C.memOfList raw 0) ≤ raw.length) :
    C.rtr_pdu_footer_to_host_byte_order (C.memOfList raw) raw.length 0 = some (C.memOfList (Conv.convFooter .toHost raw)) := by
  unfold C.rtr_pdu_footer_to_host_byte_order
  have e := footer_C_eq_model .toHost raw hb h2 h6 h10 hn
  simp only [dirCode] at e
  simp only [e]

/-- the header conversion undoes itself: the type byte, which decides whether bytes 2, 3 move, does not move -/
theorem hdrSwap_hdrSwap (m : Mem) (a : Nat) : Recv.hdrSwap (Recv.hdrSwap m a) a = m := by
  funext x
  by_cases ho : x < a + 2 ∨ a + 8 ≤ x
  · rw [Recv.hdrSwap_out _ a x ho, Recv.hdrSwap_out _ a x ho]
  · obtain ⟨k, rfl⟩ : ∃ k, x = a + k := ⟨x - a, by omega⟩
    rw [Recv.hdrSwap_at, Recv.hdrSwap_out m a (a + 1) (by omega), Recv.hdrSwap_at, Recv.perm_perm]

/-- `send_receive_roundtrip_C` at any address of any memory -/
theorem send_receive_roundtrip (mem : Mem) (msize pdu : Nat) (h8 : pdu + 8 ≤ msize) (h6 : mem (pdu + 1) ≠ 6#8)
    (h10 : mem (pdu + 1) ≠ 10#8) (hn : pdu + need (mem (pdu + 1)) (mem pdu) ≤ msize) :
    ((C.rtr_pdu_to_network_byte_order mem msize pdu).bind fun m1 =>
      (C.rtr_pdu_header_to_host_byte_order m1 msize pdu).bind fun m2 =>
        C.rtr_pdu_footer_to_host_byte_order m2 msize pdu) = some mem := by
  have rt := footer_fixed_round_trip mem msize pdu (by omega) h6 h10 hn
  have e0 := footer_fixed mem msize pdu 0#32 (Or.inl rfl) (by omega) h6 h10
  rw [if_pos hn] at e0
  rw [e0, Option.bind_some] at rt
  unfold C.rtr_pdu_to_network_byte_order C.rtr_pdu_footer_to_host_byte_order
  simp only [e0, Recv.to_network_eq _ msize pdu h8, Recv.to_host_eq _ msize pdu h8, Option.bind_some, hdrSwap_hdrSwap, rt]

/-- send then receive, as translated from the C text (fixed-layout types): converting a host-order PDU with
    `rtr_pdu_to_network_byte_order` (the sender's `rtr_send_pdu`) and then with `rtr_pdu_header_to_host_byte_order` and
    `rtr_pdu_footer_to_host_byte_order` (the receiver's `rtr_receive_pdu`) gives the PDU back, byte for byte; every step is defined -/
theorem send_receive_roundtrip_C (raw : List Nat) (hb : Bytes raw) (h8 : 8 ≤ raw.length)
    (h6 : P.typeOf raw ≠ 6) (h10 : P.typeOf raw ≠ 10) (hn : need (C.memOfList raw 1) (C.memOfList raw 0) ≤ raw.length) :
    ((C.rtr_pdu_to_network_byte_order (C.memOfList raw) raw.length 0).bind fun m1 =>
      (C.rtr_pdu_header_to_host_byte_order m1 raw.length 0).bind fun m2 =>
        C.rtr_pdu_footer_to_host_byte_order m2 raw.length 0) = some (C.memOfList raw) := by
  have ty (k : Nat) (hk : k < 256) (hne : P.typeOf raw ≠ k) : C.memOfList raw (0 + 1) ≠ BitVec.ofNat 8 k :=
    fun q => hne ((memOfList_byte raw hb 1 k hk).1 q)
  exact send_receive_roundtrip (C.memOfList raw) raw.length 0 (by omega) (ty 6 (by decide) h6) (ty 10 (by decide) h10)
    (by rw [Nat.zero_add, Nat.zero_add]; exact hn)

/-- the hypotheses of `send_receive_roundtrip_C` on length, type and `need` are satisfiable together: a 12-byte Serial
    Query (`Bytes raw` holds of it as well, every entry being below 256) -/
example : let raw := [1, 1, 0, 7, 0, 0, 0, 12, 0, 0, 0, 5]
    8 ≤ raw.length ∧ P.typeOf raw ≠ 6 ∧ P.typeOf raw ≠ 10 ∧ need (C.memOfList raw 1) (C.memOfList raw 0) ≤ raw.length := by
  decide

end Rtr.CLink.Footer
