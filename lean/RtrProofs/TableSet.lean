/-
  TableSet: the public prefix-table operations (both families) refine a set of records; the
  callback log mirrors every change.
-/
import RtrProofs.TrieSet
import RtrProofs.Validate

namespace Rtr
open PfxTable

def toRec (v6 : Bool) (x : Addr × Nat × Elem) : Rec := mkRec v6 x.1 x.2.1 x.2.2

theorem map_mkRec (v6 : Bool) (l : List (Addr × Nat × Elem)) :
    (l.map fun (ad, ln, e) => mkRec v6 ad ln e) = l.map (toRec v6) := rfl

theorem trieRecs_eq (v6 : Bool) (t : Trie) : trieRecs v6 t = t.elems.map (toRec v6) := by
  simp [trieRecs, Trie.elems, List.map_flatMap, toRec, Function.comp_def]

theorem toRec_inj (v6 : Bool) (x y : Addr × Nat × Elem) (h : toRec v6 x = toRec v6 y) : x = y := by
  obtain ⟨a, n, e⟩ := x; obtain ⟨b, m, f⟩ := y
  cases e; cases f
  simp [toRec, mkRec] at h
  simp [h]

theorem toRec_of (r : Rec) : toRec r.v6 (r.addr, r.len, r.elem) = r := by
  cases r; simp [toRec, mkRec, Rec.elem]

structure TableWF (T : PfxTable) : Prop where
  w4 : WF 32 T.v4 0
  w6 : WF 128 T.t6 0

/-- a record whose prefix is well formed for its family -/
def RecOK (r : Rec) : Prop := KeyOK r.width r.addr r.len

/-- host bits zero, as arithmetic (for concrete records) -/
theorem RecOK.of_mod {r : Rec} (h1 : r.len ≤ r.width) (h2 : r.addr < 2 ^ r.width)
    (h3 : r.addr % 2 ^ (r.width - r.len) = 0) : RecOK r :=
  ⟨h1, h2, hostZero_of_mod _ _ _ h3⟩

/-- `TableWF` is a definition of its own over `WF`; it is equivalent to `TableWFp NodeOK`
    (`TableWF_iff`), and that equivalence carries every `_p` result below over to it. -/
structure TableWFp (N : Nat → NodeC → Prop) (T : PfxTable) : Prop where
  w4 : WFp (N 32) 32 T.v4 0
  w6 : WFp (N 128) 128 T.t6 0

theorem TableWF_iff (T : PfxTable) : TableWF T ↔ TableWFp NodeOK T :=
  ⟨fun h => ⟨(WF_iff_WFp _ _ _).1 h.w4, (WF_iff_WFp _ _ _).1 h.w6⟩,
   fun h => ⟨(WF_iff_WFp _ _ _).2 h.w4, (WF_iff_WFp _ _ _).2 h.w6⟩⟩

theorem mem_trieRecs (v6 : Bool) (t : Trie) (r : Rec) :
    r ∈ trieRecs v6 t ↔ r.v6 = v6 ∧ (r.addr, r.len, r.elem) ∈ t.elems := by
  rw [trieRecs_eq, List.mem_map]
  constructor
  · rintro ⟨x, hx, rfl⟩
    obtain ⟨a, n, e⟩ := x
    cases e
    exact ⟨rfl, by simpa [toRec, mkRec, Rec.elem] using hx⟩
  · rintro ⟨h1, h2⟩
    exact ⟨_, h2, by rw [← h1]; exact toRec_of r⟩

theorem mem_recs (T : PfxTable) (r : Rec) :
    r ∈ T.recs ↔ (r.addr, r.len, r.elem) ∈ (T.root r.v6).elems := by
  unfold PfxTable.recs recs4 recs6 root
  rw [List.mem_append, mem_trieRecs, mem_trieRecs]
  cases r.v6 <;> simp

theorem recs_setRoot (T : PfxTable) (v6 : Bool) :
    ∃ rest, ∀ t, (T.setRoot v6 t).recs.Perm (t.elems.map (toRec v6) ++ rest) := by
  cases v6
  · exact ⟨T.recs6, fun t => by simp [setRoot, PfxTable.recs, recs4, recs6, trieRecs_eq]⟩
  · exact ⟨T.recs4, fun t => by
      simp only [setRoot, PfxTable.recs, recs4, recs6, if_true, trieRecs_eq]
      exact List.perm_append_comm⟩

theorem setRoot_WFp {N : Nat → NodeC → Prop} (T : PfxTable) (v6 : Bool) (t : Trie) (h : TableWFp N T)
    (ht : WFp (N (if v6 then 128 else 32)) (if v6 then 128 else 32) t 0) : TableWFp N (T.setRoot v6 t) := by
  cases v6
  · exact ⟨ht, h.w6⟩
  · exact ⟨h.w4, ht⟩

theorem root_WFp {N : Nat → NodeC → Prop} (T : PfxTable) (v6 : Bool) (h : TableWFp N T) :
    WFp (N (if v6 then 128 else 32)) (if v6 then 128 else 32) (T.root v6) 0 := by
  cases v6
  · exact h.w4
  · exact h.w6

theorem root_WF (T : PfxTable) (v6 : Bool) (h : TableWF T) : WF (if v6 then 128 else 32) (T.root v6) 0 :=
  (WF_iff_WFp _ _ _).2 (root_WFp T v6 ((TableWF_iff T).1 h))

theorem notify_fields (T : PfxTable) (b : Bool) (r : Rec) :
    (T.notify b r).v4 = T.v4 ∧ (T.notify b r).t6 = T.t6 ∧ (T.notify b r).hasCb = T.hasCb ∧
    (T.notify b r).log = (if T.hasCb then T.log ++ [(b, r)] else T.log) := by
  unfold notify; cases h : T.hasCb <;> simp [h]

theorem setRoot_fields (T : PfxTable) (v6 : Bool) (t : Trie) :
    (T.setRoot v6 t).hasCb = T.hasCb ∧ (T.setRoot v6 t).log = T.log := by
  cases v6 <;> exact ⟨rfl, rfl⟩

theorem notify_recs (T : PfxTable) (b : Bool) (r : Rec) : (T.notify b r).recs = T.recs := by
  simp only [PfxTable.recs, recs4, recs6, (notify_fields T b r).1, (notify_fields T b r).2.1]

theorem notify_WFp {N : Nat → NodeC → Prop} (T : PfxTable) (b : Bool) (r : Rec) (h : TableWFp N T) :
    TableWFp N (T.notify b r) :=
  ⟨by rw [(notify_fields T b r).1]; exact h.w4, by rw [(notify_fields T b r).2.1]; exact h.w6⟩

theorem recs_nodup_p {N : Nat → NodeC → Prop} (hN : ∀ w, NodeInv (N w)) (T : PfxTable) (h : TableWFp N T) :
    T.recs.Nodup := by
  unfold PfxTable.recs recs4 recs6
  rw [trieRecs_eq, trieRecs_eq, List.nodup_append]
  refine ⟨?_, ?_, ?_⟩
  · exact List.Pairwise.map _ (fun a b hab e => hab (toRec_inj false a b e)) (WFp_elems_nodup (hN 32) 32 _ 0 h.w4)
  · exact List.Pairwise.map _ (fun a b hab e => hab (toRec_inj true a b e)) (WFp_elems_nodup (hN 128) 128 _ 0 h.w6)
  · intro a ha b hb e
    subst e
    simp only [List.mem_map] at ha hb
    obtain ⟨x, _, hx⟩ := ha
    obtain ⟨y, _, hy⟩ := hb
    have : (toRec false x).v6 = (toRec true y).v6 := by rw [hx, hy]
    simp [toRec, mkRec] at this

theorem recs_nodup (T : PfxTable) (h : TableWF T) : T.recs.Nodup :=
  recs_nodup_p nodeInv_NodeOK T ((TableWF_iff T).1 h)

/-! ## what each public operation does to records, callback and log

The result structures take the table invariant `I` as a parameter, so that one statement serves
`I = TableWFp N` (proved, for every `N` with `NodeInv`) and `I = TableWF` (carried over by `TableWF_iff`). -/

/-! ### add -/

/-- `res = T.add r` -/
structure TAddOKp (I : PfxTable → Prop) (T : PfxTable) (r : Rec) (res : PfxTable × PfxRc) : Prop where
  wf : I res.1
  dup : r ∈ T.recs → res.2 = .duplicate ∧ res.1 = T
  ok : r ∉ T.recs → res.2 = .success ∧ res.1.recs.Perm (r :: T.recs) ∧
        res.1.log = (if T.hasCb then T.log ++ [(true, r)] else T.log) ∧ res.1.hasCb = T.hasCb

theorem setRoot_root (T : PfxTable) (v6 : Bool) : T.setRoot v6 (T.root v6) = T := by
  cases v6 <;> simp [setRoot, root]

theorem add_spec_p {N : Nat → NodeC → Prop} (hN : ∀ w, NodeInv (N w)) (T : PfxTable) (r : Rec)
    (h : TableWFp N T) (hr : N r.width ⟨r.addr, r.len, [r.elem]⟩) : TAddOKp (TableWFp N) T r (T.add r) := by
  have hw : r.width = (if r.v6 then 128 else 32) := rfl
  have spec := addTrie_spec (hN r.width) r.width (T.root r.v6) r.addr r.len r.elem (by rw [hw]; exact root_WFp T r.v6 h) hr
  unfold PfxTable.add
  generalize hres : addTrie r.width (T.root r.v6) r.addr r.len r.elem = res at spec
  obtain ⟨t', rc⟩ := res
  simp only
  have wf' : TableWFp N (T.setRoot r.v6 t') := setRoot_WFp T r.v6 t' h (by rw [← hw]; exact spec.wf)
  rcases spec.codes with hc | hc
  · simp only at hc; subst hc
    obtain ⟨hnot, hperm⟩ := spec.ok rfl
    simp only [if_true]
    refine ⟨notify_WFp _ _ _ wf', fun hin => absurd ((mem_recs T r).1 hin) hnot, fun _ => ⟨rfl, ?_, ?_, ?_⟩⟩
    · rw [notify_recs]
      obtain ⟨rest, hrest⟩ := recs_setRoot T r.v6
      have h0 := hrest (T.root r.v6)
      rw [setRoot_root] at h0
      refine (hrest t').trans (((hperm.map (toRec r.v6)).append_right rest).trans ?_)
      rw [List.map_cons, toRec_of]
      exact h0.symm.cons r
    · rw [(notify_fields _ _ _).2.2.2, (setRoot_fields T r.v6 t').1, (setRoot_fields T r.v6 t').2]
    · rw [(notify_fields _ _ _).2.2.1, (setRoot_fields T r.v6 t').1]
  · simp only at hc; subst hc
    obtain ⟨he, hin⟩ := spec.dup rfl
    simp only at he; subst he
    simp only [setRoot_root]
    refine ⟨h, fun _ => ⟨rfl, rfl⟩, fun hnot => absurd ((mem_recs T r).2 hin) hnot⟩

theorem add_spec (T : PfxTable) (r : Rec) (h : TableWF T) (hr : RecOK r) : TAddOKp TableWF T r (T.add r) :=
  have s := add_spec_p nodeInv_NodeOK T r ((TableWF_iff T).1 h) ⟨hr.len, hr.lt, hr.hz, by simp, by simp⟩
  ⟨(TableWF_iff _).2 s.wf, s.dup, s.ok⟩

/-! ### remove -/

/-- `res = T.remove r` -/
structure TRemOKp (I : PfxTable → Prop) (T : PfxTable) (r : Rec) (res : PfxTable × PfxRc) : Prop where
  wf : I res.1
  nf : r ∉ T.recs → res.2 = .notFound ∧ res.1 = T
  ok : r ∈ T.recs → res.2 = .success ∧ T.recs.Perm (r :: res.1.recs) ∧
        res.1.log = (if T.hasCb then T.log ++ [(false, r)] else T.log) ∧ res.1.hasCb = T.hasCb

theorem remove_spec_p {N : Nat → NodeC → Prop} (hN : ∀ w, NodeInv (N w)) (T : PfxTable) (r : Rec)
    (h : TableWFp N T) : TRemOKp (TableWFp N) T r (T.remove r) := by
  have hw : r.width = (if r.v6 then 128 else 32) := rfl
  have spec := removeTrie_spec (hN r.width) r.width (T.root r.v6) r.addr r.len r.elem (by rw [hw]; exact root_WFp T r.v6 h)
  unfold PfxTable.remove
  generalize hres : removeTrie r.width (T.root r.v6) r.addr r.len r.elem = res at spec
  obtain ⟨t', rc⟩ := res
  simp only
  have wf' : TableWFp N (T.setRoot r.v6 t') := setRoot_WFp T r.v6 t' h (by rw [← hw]; exact spec.wf)
  rcases spec.codes with hc | hc
  · simp only at hc; subst hc
    have hperm := spec.ok rfl
    simp only [if_true]
    have hin : r ∈ T.recs := (mem_recs T r).2 (hperm.mem_iff.2 (by simp))
    refine ⟨notify_WFp _ _ _ wf', fun hnot => absurd hin hnot, fun _ => ⟨rfl, ?_, ?_, ?_⟩⟩
    · rw [notify_recs]
      obtain ⟨rest, hrest⟩ := recs_setRoot T r.v6
      have h0 := hrest (T.root r.v6)
      rw [setRoot_root] at h0
      refine (h0.trans ((hperm.map (toRec r.v6)).append_right rest)).trans ?_
      rw [List.map_cons, toRec_of]
      exact (hrest t').symm.cons r
    · rw [(notify_fields _ _ _).2.2.2, (setRoot_fields T r.v6 t').1, (setRoot_fields T r.v6 t').2]
    · rw [(notify_fields _ _ _).2.2.1, (setRoot_fields T r.v6 t').1]
  · simp only at hc; subst hc
    obtain ⟨he, hnin⟩ := spec.nf rfl
    simp only at he; subst he
    simp only [setRoot_root]
    refine ⟨h, fun _ => ⟨rfl, rfl⟩, fun hin => absurd ((mem_recs T r).1 hin) hnin⟩

theorem remove_spec (T : PfxTable) (r : Rec) (h : TableWF T) : TRemOKp TableWF T r (T.remove r) :=
  have s := remove_spec_p nodeInv_NodeOK T r ((TableWF_iff T).1 h)
  ⟨(TableWF_iff _).2 s.wf, s.nf, s.ok⟩

theorem mem_remove_iff (T : PfxTable) (r : Rec) (h : TableWF T) (hin : r ∈ T.recs) (x : Rec) :
    x ∈ (T.remove r).1.recs ↔ ¬ x = r ∧ x ∈ T.recs := by
  have h2 := ((remove_spec T r h).ok hin).2.1
  have he := (List.nodup_cons.1 (h2.nodup_iff.1 (recs_nodup T h))).1
  rw [h2.mem_iff, List.mem_cons]
  exact ⟨fun hx => ⟨ne_of_mem_of_not_mem hx he, Or.inr hx⟩, fun hx => hx.2.resolve_left hx.1⟩

/-! ### notifyAll, srcRemove -/

theorem notifyAll_spec (b : Bool) : ∀ (rs : List Rec) (T : PfxTable),
    (T.notifyAll b rs).v4 = T.v4 ∧ (T.notifyAll b rs).t6 = T.t6 ∧ (T.notifyAll b rs).hasCb = T.hasCb ∧
    (T.notifyAll b rs).log = (if T.hasCb then T.log ++ rs.map (fun r => (b, r)) else T.log) := by
  intro rs
  induction rs with
  | nil => intro T; simp [notifyAll]
  | cons r rs ih =>
    intro T
    have := ih (T.notify b r)
    simp only [notifyAll, List.foldl_cons] at this ⊢
    obtain ⟨h1, h2, h3, h4⟩ := this
    obtain ⟨f1, f2, f3, f4⟩ := notify_fields T b r
    refine ⟨h1.trans f1, h2.trans f2, h3.trans f3, ?_⟩
    rw [h4, f3, f4]
    cases T.hasCb <;> simp

/-- `T' = T.srcRemove src`.  `gone`: the records of `src` in the order the two tries are walked, known
    up to permutation only -/
structure TSrcOKp (I : PfxTable → Prop) (T : PfxTable) (src : Nat) (T' : PfxTable) : Prop where
  wf : I T'
  recs : T'.recs.Perm (T.recs.filter fun r => r.src != src)
  cb : T'.hasCb = T.hasCb
  log : ∃ gone : List Rec, gone.Perm (T.recs.filter fun r => r.src == src) ∧
        T'.log = (if T.hasCb then T.log ++ gone.map (fun r => (false, r)) else T.log)

theorem filter_toRec (v6 : Bool) (p : Nat → Bool) (l : List (Addr × Nat × Elem)) :
    (l.map (toRec v6)).filter (fun r => p r.src) = (l.filter (fun x => p x.2.2.src)).map (toRec v6) := by
  rw [List.filter_map]; rfl

theorem srcRemove_spec_p {N : Nat → NodeC → Prop} (hN : ∀ w, NodeInv (N w)) (T : PfxTable) (src : Nat)
    (h : TableWFp N T) : TSrcOKp (TableWFp N) T src (T.srcRemove src) := by
  have s4 := removeId_spec (hN 32) 32 src T.v4 0 h.w4
  have s6 := removeId_spec (hN 128) 128 src T.t6 0 h.w6
  unfold PfxTable.srcRemove
  generalize h4 : removeId src T.v4 = r4 at s4
  obtain ⟨a, la⟩ := r4
  simp only
  have n1 := notifyAll_spec false (la.map fun (ad, ln, e) => mkRec false ad ln e) { T with v4 := a }
  generalize hT1 : ({ T with v4 := a } : PfxTable).notifyAll false (la.map fun (ad, ln, e) => mkRec false ad ln e) = T1 at n1
  obtain ⟨n11, n12, n13, n14⟩ := n1
  simp only at n11 n12 n13 n14
  rw [n12]
  generalize h6 : removeId src T.t6 = r6 at s6
  obtain ⟨b, lb⟩ := r6
  simp only
  have n2 := notifyAll_spec false (lb.map fun (ad, ln, e) => mkRec true ad ln e) { T1 with t6 := b }
  generalize hT2 : ({ T1 with t6 := b } : PfxTable).notifyAll false (lb.map fun (ad, ln, e) => mkRec true ad ln e) = T2 at n2
  obtain ⟨n21, n22, n23, n24⟩ := n2
  simp only at n21 n22 n23 n24
  refine ⟨⟨by rw [n21, n11]; exact s4.wf, by rw [n22]; exact s6.wf⟩, ?_, by rw [n23, n13], ?_⟩
  · simp only [PfxTable.recs, recs4, recs6, n21, n22, n11, trieRecs_eq, List.filter_append]
    rw [filter_toRec false (fun s => s != src), filter_toRec true (fun s => s != src)]
    exact (s4.kept.map _).append (s6.kept.map _)
  · refine ⟨la.map (toRec false) ++ lb.map (toRec true), ?_, ?_⟩
    · simp only [PfxTable.recs, recs4, recs6, trieRecs_eq, List.filter_append]
      rw [filter_toRec false (fun s => s == src), filter_toRec true (fun s => s == src)]
      exact (s4.gone.map _).append (s6.gone.map _)
    · rw [n24, n13, n14, map_mkRec, map_mkRec]
      cases T.hasCb <;> simp

theorem srcRemove_spec (T : PfxTable) (src : Nat) (h : TableWF T) : TSrcOKp TableWF T src (T.srcRemove src) :=
  have s := srcRemove_spec_p nodeInv_NodeOK T src ((TableWF_iff T).1 h)
  ⟨(TableWF_iff _).2 s.wf, s.recs, s.cb, s.log⟩

/-! ### free -/

theorem freeLog_perm : ∀ (t : Trie), (freeLog t).Perm t.elems
  | .nil => by rw [freeLog]; simp [Trie.elems, Trie.nodes]
  | .node c l r => by
    rw [freeLog]
    have ih := freeLog_perm (removeRoot (.node c l r))
    rw [elems_node]
    refine (List.Perm.append_left _ (ih.trans (removeRoot_elems_perm c l r))).trans ?_
    rw [← List.append_assoc]
    exact List.Perm.append_right _ List.perm_append_comm
termination_by t => t.size
decreasing_by exact removeRoot_size_lt c l r

/-- `T' = T.free`, for any table: no invariant is needed -/
structure TFreeOK (T T' : PfxTable) : Prop where
  v4 : T'.v4 = .nil
  t6 : T'.t6 = .nil
  cb : T'.hasCb = T.hasCb
  log : ∃ gone : List Rec, gone.Perm T.recs ∧
        T'.log = (if T.hasCb then T.log ++ gone.map (fun r => (false, r)) else T.log)

theorem free_spec (T : PfxTable) : TFreeOK T T.free := by
  unfold PfxTable.free
  have n1 := notifyAll_spec false ((freeLog T.v4).map fun (ad, ln, e) => mkRec false ad ln e) { T with v4 := .nil }
  generalize ({ T with v4 := .nil } : PfxTable).notifyAll false ((freeLog T.v4).map fun (ad, ln, e) => mkRec false ad ln e) = T1 at n1
  obtain ⟨n11, n12, n13, n14⟩ := n1
  simp only at n11 n12 n13 n14
  have n2 := notifyAll_spec false ((freeLog T.t6).map fun (ad, ln, e) => mkRec true ad ln e) { T1 with t6 := .nil }
  generalize ({ T1 with t6 := .nil } : PfxTable).notifyAll false ((freeLog T.t6).map fun (ad, ln, e) => mkRec true ad ln e) = T2 at n2
  obtain ⟨n21, n22, n23, n24⟩ := n2
  simp only at n21 n22 n23 n24
  refine ⟨by rw [n21, n11], n22, by rw [n23, n13],
    (freeLog T.v4).map (toRec false) ++ (freeLog T.t6).map (toRec true), ?_, ?_⟩
  · simp only [PfxTable.recs, recs4, recs6, trieRecs_eq]
    exact ((freeLog_perm T.v4).map _).append ((freeLog_perm T.t6).map _)
  · rw [n24, n13, n14, map_mkRec, map_mkRec]
    cases T.hasCb <;> simp

end Rtr
