/-
  CLinkFooterModel: the word-swap specification of CLinkFooter (to which the translated C text of
  `rtr_pdu_convert_footer_byte_order` is proved equal) IS the hand-written, statement-by-statement list model
  `Rtr.Conv.convFooter` (RtrModel/PduConv.lean) that tools/pduconvcheck.py runs against the compiled function and that the
  C14 theorems about byte-order conversion are stated over.  So for the body conversion the chain is
      C text → (translator) → generated Lean = word swaps (CLinkFooter) = Conv.convFooter (here),
  each `=` a theorem.  The list model is a list of fields reversed one after the other (`Conv.convFooter_eq`,
  RtrProofs/PduConv.lean); inside the buffer that is the same list reversed in memory (`memOfList_revFields`), and the two
  tables of fields agree (`footerFields_eq_words`).
-/
import RtrProofs.CLinkFooter
import RtrProofs.PduConv

namespace Rtr.CLink.Footer
open Rtr Rtr.Gen Rtr.CLink

theorem revAt_length (buf : List Nat) (off k : Nat) : (Conv.revAt buf off k).length = buf.length :=
  Conv.length_revAt buf off k

theorem memOfList_revAt (buf : List Nat) (off k : Nat) (h : off + k ≤ buf.length) :
    C.memOfList (Conv.revAt buf off k) = Conv.swapField (C.memOfList buf) off k := by
  funext x
  rw [Conv.swapField_apply]
  unfold C.memOfList
  rw [Conv.getD_revAt buf off k x h]

theorem memOfList_revAt4 (buf : List Nat) (off : Nat) (h : off + 4 ≤ buf.length) :
    C.memOfList (Conv.revAt buf off 4) = swapAt (C.memOfList buf) off := by
  rw [swapAt_eq, memOfList_revAt buf off 4 h]

theorem memOfList_revFields (fs : List (Nat × Nat)) (buf : List Nat) (h : ∀ f ∈ fs, f.1 + f.2 ≤ buf.length) :
    C.memOfList (Conv.revFields fs buf) = Conv.swapFields (C.memOfList buf) fs := by
  induction fs generalizing buf with
  | nil => rfl
  | cons f fs ih =>
    rw [Conv.revFields_cons, ih _ (fun g hg => by rw [Conv.length_revAt]; exact h g (List.mem_cons_of_mem _ hg)),
      memOfList_revAt buf f.1 f.2 (h f List.mem_cons_self)]
    rfl

theorem memOfList_byte (raw : List Nat) (hb : Bytes raw) (i k : Nat) (hk : k < 256) :
    (C.memOfList raw i = BitVec.ofNat 8 k) ↔ raw.getD i 0 = k := by
  unfold C.memOfList
  have := getD_lt_of_bytes hb i
  rw [← BitVec.toNat_inj, BitVec.toNat_ofNat, BitVec.toNat_ofNat]
  omega

theorem footerFields_eq_words (raw : List Nat) (hb : Bytes raw) (h10 : P.typeOf raw ≠ 10) :
    Conv.footerFields raw = wordFields 0 (words (C.memOfList raw 1) (C.memOfList raw 0)) := by
  have ty (k : Nat) (hk : k < 256) : (C.memOfList raw 1 = BitVec.ofNat 8 k) ↔ P.typeOf raw = k := memOfList_byte raw hb 1 k hk
  have vr : (C.memOfList raw 0 = 1#8) ↔ P.verOf raw = 1 := memOfList_byte raw hb 0 1 (by decide)
  -- one goal per row of `Conv.footerFields`; the hypothesis a row supplies (its type, or in the last row that the type is none of
  -- the others) is referred to by its statement, `‹_›`
  unfold Conv.footerFields
  split
  · rw [(ty 1 (by decide)).2 ‹_›]
    rfl
  · exact absurd ‹_› h10
  · rw [(ty 0 (by decide)).2 ‹_›]
    rfl
  · rw [(ty 7 (by decide)).2 ‹_›]
    show _ = wordFields 0 (if C.memOfList raw 0 = 1#8 then [20, 12, 16, 8] else [8])
    by_cases hv : P.verOf raw = 1
    · rw [if_pos hv, if_pos (vr.2 hv)]
      rfl
    · rw [if_neg hv, if_neg (fun q => hv (vr.1 q))]
      rfl
  · rw [(ty 4 (by decide)).2 ‹_›]
    rfl
  · rw [(ty 6 (by decide)).2 ‹_›]
    rfl
  · rw [(ty 9 (by decide)).2 ‹_›]
    rfl
  · have f (k : Nat) (hk : k < 256) (hne : ¬ P.typeOf raw = k) : ¬ C.memOfList raw 1 = BitVec.ofNat 8 k := fun q => hne ((ty k hk).1 q)
    unfold words
    rw [if_neg (fun q => q.elim (f 0 (by decide) ‹_›) (f 1 (by decide) ‹_›)), if_neg (f 4 (by decide) ‹_›),
      if_neg (f 6 (by decide) ‹_›), if_neg (f 7 (by decide) ‹_›), if_neg (f 9 (by decide) ‹_›)]
    rfl

theorem convFooter_eq_swapWords (dir : Conv.Dir) (raw : List Nat) (hb : Bytes raw) (h10 : P.typeOf raw ≠ 10)
    (hn : need (C.memOfList raw 1) (C.memOfList raw 0) ≤ raw.length) :
    C.memOfList (Conv.convFooter dir raw) = swapWords (C.memOfList raw) 0 (words (C.memOfList raw 1) (C.memOfList raw 0)) := by
  rw [Conv.convFooter_eq dir raw (Or.inr h10), swapWords_eq, footerFields_eq_words raw hb h10]
  apply memOfList_revFields
  intro f hf
  obtain ⟨o, ho, rfl⟩ := List.mem_map.1 hf
  have := ((words_spec _ _).1 o ho).2
  show 0 + o + 4 ≤ raw.length
  omega

/-- the direction argument of the C function -/
def dirCode : Conv.Dir → BitVec 32
  | .toNetwork => 0#32
  | .toHost => 1#32

/-- C text = hand-written model (fixed-layout types): on a buffer that holds the fields of its type, the translated
    `rtr_pdu_convert_footer_byte_order` returns exactly the bytes of `Conv.convFooter` -/
theorem footer_C_eq_model (dir : Conv.Dir) (raw : List Nat) (hb : Bytes raw) (h2 : 2 ≤ raw.length)
    (h6 : P.typeOf raw ≠ 6) (h10 : P.typeOf raw ≠ 10) (hn : need (C.memOfList raw 1) (C.memOfList raw 0) ≤ raw.length) :
    C.rtr_pdu_convert_footer_byte_order (C.memOfList raw) raw.length 0 (dirCode dir) = some (C.memOfList (Conv.convFooter dir raw)) := by
  have a6 : C.memOfList raw (0 + 1) ≠ 6#8 := fun q => h6 ((memOfList_byte raw hb 1 6 (by decide)).1 (by simpa using q))
  have a10 : C.memOfList raw (0 + 1) ≠ 10#8 := fun q => h10 ((memOfList_byte raw hb 1 10 (by decide)).1 (by simpa using q))
  have hd : dirCode dir = 0#32 ∨ dirCode dir = 1#32 := by cases dir <;> simp [dirCode]
  rw [footer_fixed (C.memOfList raw) raw.length 0 (dirCode dir) hd (by omega) a6 a10]
  simp only [Nat.zero_add]
  rw [if_pos hn, convFooter_eq_swapWords dir raw hb h10 hn]

/-- IPv6 Prefix: the same, for every address below the stack pages (the C function converts through a local copy) -/
theorem footer_C_eq_model_ipv6 (dir : Conv.Dir) (raw : List Nat) (hb : Bytes raw) (h6 : P.typeOf raw = 6)
    (hn : 32 ≤ raw.length) (hs : raw.length ≤ C.STACK) :
    ∃ m', C.rtr_pdu_convert_footer_byte_order (C.memOfList raw) raw.length 0 (dirCode dir) = some m' ∧
      ∀ x, x < C.STACK → m' x = C.memOfList (Conv.convFooter dir raw) x := by
  have t : C.memOfList raw (0 + 1) = 6#8 := by simpa using (memOfList_byte raw hb 1 6 (by decide)).2 h6
  have hd : dirCode dir = 0#32 ∨ dirCode dir = 1#32 := by cases dir <;> simp [dirCode]
  have h := footer_ipv6 (C.memOfList raw) raw.length 0 (dirCode dir) hd (by omega) hs t
  rw [if_pos (by omega)] at h
  obtain ⟨m', e, hx⟩ := h
  refine ⟨m', e, fun x hlt => ?_⟩
  -- `footer_ipv6` spells out the row of type 6; under `t` the tables `need` and `words` compute to it
  rw [Nat.zero_add] at t
  rw [hx x hlt, convFooter_eq_swapWords dir raw hb (by omega) (by rw [t]; exact hn), t]
  rfl

theorem load32_memOfList_toNat (raw : List Nat) (hb : Bytes raw) (a : Nat) :
    (C.load32 (C.memOfList raw) a).toNat = Conv.le32 raw a := by
  rw [load32_toNat]
  simp only [memOfList_toNat hb]
  unfold Conv.le32
  omega

theorem revAt_bytes (buf : List Nat) (hb : Bytes buf) (off k : Nat) : Bytes (Conv.revAt buf off k) := by
  unfold Conv.revAt
  split
  · intro x hx
    simp only [List.mem_append, List.mem_reverse] at hx
    rcases hx with (hx | hx) | hx
    · exact hb x (List.mem_of_mem_take hx)
    · exact hb x (List.mem_of_mem_drop (List.mem_of_mem_take hx))
    · exact hb x (List.mem_of_mem_drop hx)
  · exact hb

/-- C text = hand-written model, Error Report to network byte order -/
theorem footer_C_eq_model_error_to_network (raw : List Nat) (hb : Bytes raw) (h10 : P.typeOf raw = 10)
    (hn : 12 ≤ raw.length ∧ 12 + Conv.le32 raw 8 + 4 ≤ raw.length) :
    C.rtr_pdu_convert_footer_byte_order (C.memOfList raw) raw.length 0 0#32 = some (C.memOfList (Conv.convFooter .toNetwork raw)) := by
  have t : C.memOfList raw (0 + 1) = 10#8 := by simpa using (memOfList_byte raw hb 1 10 (by decide)).2 h10
  rw [footer_error_to_network (C.memOfList raw) raw.length 0 (by omega) t]
  simp only [Nat.zero_add]
  rw [load32_memOfList_toNat raw hb 8, if_pos hn]
  unfold Conv.convFooter
  have k1 : Gen.offsetof_pdu_error_len_enc_pdu = 8 := rfl
  have k2 : Gen.offsetof_pdu_error_rest = 12 := rfl
  simp only [h10, k1, k2]
  rw [memOfList_revAt4 _ _ (by rw [Conv.length_revAt]; omega), memOfList_revAt4 _ _ (by omega)]

/-- C text = hand-written model, Error Report to host byte order (the length is converted first and then locates the text-length word) -/
theorem footer_C_eq_model_error_to_host (raw : List Nat) (hb : Bytes raw) (h10 : P.typeOf raw = 10)
    (hn : 12 ≤ raw.length ∧ 12 + Conv.le32 (Conv.revAt raw 8 4) 8 + 4 ≤ raw.length) :
    C.rtr_pdu_convert_footer_byte_order (C.memOfList raw) raw.length 0 1#32 = some (C.memOfList (Conv.convFooter .toHost raw)) := by
  have t : C.memOfList raw (0 + 1) = 10#8 := by simpa using (memOfList_byte raw hb 1 10 (by decide)).2 h10
  have e : (C.bswap32 (C.load32 (C.memOfList raw) 8)).toNat = Conv.le32 (Conv.revAt raw 8 4) 8 := by
    rw [bswap32_load32_memOfList hb 8, Conv.le32_revAt_same raw 8 (by omega)]
  rw [footer_error_to_host (C.memOfList raw) raw.length 0 (by omega) t]
  simp only [Nat.zero_add]
  rw [e, if_pos hn]
  unfold Conv.convFooter
  have k1 : Gen.offsetof_pdu_error_len_enc_pdu = 8 := rfl
  have k2 : Gen.offsetof_pdu_error_rest = 12 := rfl
  simp only [h10, k1, k2]
  rw [memOfList_revAt4 _ _ (by rw [Conv.length_revAt]; omega), memOfList_revAt4 _ _ (by omega)]

/-- the hypotheses of `footer_C_eq_model` are satisfiable: a 20-byte IPv4 Prefix PDU -/
example : let raw := [1, 4, 0, 0, 0, 0, 0, 20, 1, 24, 24, 0, 10, 0, 0, 0, 0, 0, 253, 233]
    Bytes raw ∧ 2 ≤ raw.length ∧ P.typeOf raw ≠ 6 ∧ P.typeOf raw ≠ 10 ∧ need (C.memOfList raw 1) (C.memOfList raw 0) ≤ raw.length := by
  refine ⟨?_, by decide, by decide, by decide, by decide⟩
  intro x hx
  simp only [List.mem_cons, List.not_mem_nil, or_false] at hx
  omega

end Rtr.CLink.Footer
