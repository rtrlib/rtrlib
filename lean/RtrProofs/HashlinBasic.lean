/-
  HashlinBasic: arithmetic of masks / moduli, pointwise update, additive bucket functionals
  (they count the nodes of the valid buckets and the multiplicity of one node).
-/
import RtrModel.Hashlin

namespace Rtr

theorem upd_same {β : Type} (b : Nat → β) (i : Nat) (v : β) : upd b i v i = v := by
  simp [upd]

theorem upd_other {β : Type} (b : Nat → β) {i j : Nat} (v : β) (h : j ≠ i) : upd b i v j = b j := by
  simp [upd, h]

theorem and_two_pow_eq_zero_iff (x k : Nat) : (x &&& 2 ^ k = 0) ↔ x / 2 ^ k % 2 = 0 := by
  have hk : (x &&& 2 ^ k).testBit k = x.testBit k := by
    rw [Nat.testBit_and, Nat.testBit_two_pow_self, Bool.and_true]
  rw [← Nat.toNat_testBit]
  constructor
  · intro h
    rw [← hk, h, Nat.zero_testBit]
    rfl
  · intro h
    apply Nat.eq_of_testBit_eq
    intro i
    rw [Nat.testBit_and, Nat.testBit_two_pow, Nat.zero_testBit]
    by_cases hi : k = i
    · rw [← hi, Bool.toNat_eq_zero.mp h]
      rfl
    · rw [decide_eq_false hi, Bool.and_false]

theorem mod_two_mul (x m : Nat) : x % (2 * m) = if x / m % 2 = 0 then x % m else x % m + m := by
  rw [Nat.mul_comm 2 m, Nat.mod_mul]
  rcases Nat.mod_two_eq_zero_or_one (x / m) with h | h
  · rw [h, if_pos rfl]
    rfl
  · rw [h, if_neg Nat.one_ne_zero, Nat.mul_one]

theorem half_pred (m : Nat) : (2 * m - 1) / 2 = m - 1 := by
  omega

/-! ### additive functionals over bucket lists -/

/-- a measure of lists that is additive over concatenation (length, multiplicity of an element) -/
structure Additive {β : Type} (f : List β → Nat) : Prop where
  nil : f [] = 0
  append : ∀ a b, f (a ++ b) = f a + f b

theorem additive_length {β : Type} : Additive (List.length : List β → Nat) :=
  ⟨rfl, fun _ _ => List.length_append⟩

theorem additive_count {β : Type} [DecidableEq β] (x : β) : Additive (List.count x : List β → Nat) :=
  ⟨rfl, fun _ _ => List.count_append⟩

theorem Additive.cons {β : Type} {f : List β → Nat} (hf : Additive f) (a : β) (l : List β) :
    f (a :: l) = f [a] + f l := by
  have := hf.append [a] l
  simpa using this

theorem Additive.filter_split {β : Type} {f : List β → Nat} (hf : Additive f) (p q : β → Bool)
    (hpq : ∀ x, q x = !p x) (l : List β) : f (l.filter p) + f (l.filter q) = f l := by
  induction l with
  | nil => simp [hf.nil]
  | cons a l ih =>
    rw [hf.cons a l]
    by_cases hp : p a = true
    · have hq : q a = false := by rw [hpq, hp]; rfl
      rw [List.filter_cons_of_pos hp, List.filter_cons_of_neg (by simp [hq]), hf.cons a]
      omega
    · have hq : q a = true := by rw [hpq]; simp at hp; simp [hp]
      rw [List.filter_cons_of_neg hp, List.filter_cons_of_pos hq, hf.cons a (l.filter q)]
      omega

theorem Additive.remove_mid {β : Type} {f : List β → Nat} (hf : Additive f) (l1 l2 : List β) (n : β) :
    f (l1 ++ l2) + f [n] = f (l1 ++ n :: l2) := by
  rw [hf.append, hf.append, hf.cons n l2]
  omega

theorem Additive.eraseP {β : Type} {f : List β → Nat} (hf : Additive f) (p : β → Bool) (l : List β) (n : β)
    (h : l.find? p = some n) : f (l.eraseP p) + f [n] = f l := by
  obtain ⟨hp, l1, l2, e, hn⟩ := List.find?_eq_some_iff_append.mp h
  rw [e, List.eraseP_append_right _ (fun b hb => by simpa using hn b hb), List.eraseP_cons_of_pos hp]
  exact hf.remove_mid l1 l2 n

theorem Additive.erase {β : Type} [DecidableEq β] {f : List β → Nat} (hf : Additive f) {l : List β} {n : β}
    (h : n ∈ l) : f (l.erase n) + f [n] = f l := by
  obtain ⟨l1, l2, _, e1, e2⟩ := List.exists_erase_eq h
  rw [e2, e1]
  exact hf.remove_mid l1 l2 n

theorem count_single {β : Type} [DecidableEq β] (x n : β) : List.count x [n] = if x = n then 1 else 0 := by
  rw [List.count_singleton]
  by_cases h : x = n
  · rw [if_pos h, if_pos (beq_iff_eq.mpr h.symm)]
  · rw [if_neg h, if_neg fun e => h (beq_iff_eq.mp e).symm]

theorem count_filter_ite {β : Type} [DecidableEq β] (l : List β) (p : β → Bool) (x : β) :
    (l.filter p).count x = if p x then l.count x else 0 := by
  by_cases hp : p x = true
  · rw [if_pos hp, List.count_filter hp]
  · rw [if_neg hp, List.count_eq_zero]
    exact fun hx => hp (List.mem_filter.mp hx).2

/-- sum of `f` over the buckets `0 … n-1` -/
def sumB {β : Type} (f : List β → Nat) (b : Nat → List β) : Nat → Nat
  | 0 => 0
  | n + 1 => sumB f b n + f (b n)

theorem sumB_congr {β : Type} (f : List β → Nat) (b b' : Nat → List β) (n : Nat)
    (h : ∀ i, i < n → b i = b' i) : sumB f b n = sumB f b' n := by
  induction n with
  | zero => rfl
  | succ n ih =>
    simp only [sumB]
    rw [ih (fun i hi => h i (by omega)), h n (by omega)]

theorem sumB_zero {β : Type} (f : List β → Nat) (b : Nat → List β) (n : Nat) (hz : ∀ i, i < n → f (b i) = 0) :
    sumB f b n = 0 := by
  induction n with
  | zero => rfl
  | succ n ih => rw [sumB, ih fun i hi => hz i (Nat.lt_succ_of_lt hi), hz n (Nat.lt_succ_self n)]

theorem sumB_single {β : Type} (f : List β → Nat) (b : Nat → List β) (n j : Nat) (hj : j < n)
    (hz : ∀ i, i < n → i ≠ j → f (b i) = 0) : sumB f b n = f (b j) := by
  induction n with
  | zero => exact absurd hj (Nat.not_lt_zero j)
  | succ n ih =>
    rw [sumB]
    by_cases hjn : j = n
    · subst hjn
      rw [sumB_zero f b j fun i hi => hz i (Nat.lt_succ_of_lt hi) (Nat.ne_of_lt hi), Nat.zero_add]
    · rw [ih (by omega) fun i hi hne => hz i (Nat.lt_succ_of_lt hi) hne,
        hz n (Nat.lt_succ_self n) fun h => hjn h.symm, Nat.add_zero]

theorem sumB_upd_ge {β : Type} (f : List β → Nat) (b : Nat → List β) (i n : Nat) (v : List β) (h : n ≤ i) :
    sumB f (upd b i v) n = sumB f b n :=
  sumB_congr f _ _ n (fun j hj => upd_other b v (by omega))

theorem sumB_upd_lt {β : Type} (f : List β → Nat) (b : Nat → List β) (i n : Nat) (v : List β) (h : i < n) :
    sumB f (upd b i v) n + f (b i) = sumB f b n + f v := by
  induction n with
  | zero => omega
  | succ n ih =>
    simp only [sumB]
    by_cases hin : i = n
    · subst hin
      rw [sumB_upd_ge f b i i v (Nat.le_refl _), upd_same]; omega
    · have := ih (by omega)
      rw [upd_other b v (Ne.symm hin)]; omega

theorem sumB_count_pos {β : Type} [DecidableEq β] (x : β) (b : Nat → List β) (n : Nat) :
    0 < sumB (List.count x) b n ↔ ∃ i, i < n ∧ x ∈ b i := by
  induction n with
  | zero => simp [sumB]
  | succ n ih =>
    simp only [sumB]
    constructor
    · intro h
      by_cases h1 : 0 < sumB (List.count x) b n
      · obtain ⟨i, hi, hx⟩ := ih.mp h1
        exact ⟨i, by omega, hx⟩
      · have : 0 < List.count x (b n) := by omega
        exact ⟨n, by omega, List.count_pos_iff.mp this⟩
    · rintro ⟨i, hi, hx⟩
      by_cases hin : i = n
      · subst hin
        have := List.count_pos_iff.mpr hx; omega
      · have := ih.mpr ⟨i, by omega, hx⟩; omega

end Rtr
