/-
  AllocPfx: the prefix-table operations under the allocator oracle — outcome by cases of the budget
  (passes / is hit), and the block accounting `net trace = blocks after − blocks before`.
  At the end `growBy`: one block grown step by step, the shape of the reason array of
  `pfx_table_validate_r` and of the key table's result arrays.
-/
import RtrProofs.AllocBasic
import RtrProofs.TableSet

namespace Rtr
namespace Alloc
open PfxTable

/-! ### blocks of a trie as a sum over its nodes -/

def wt (c : NodeC) : Nat := if c.data.isEmpty then 2 else 3
def nb (l : List NodeC) : Nat := (l.map wt).sum

theorem trieBlocks_eq (t : Trie) : trieBlocks t = nb t.nodes := rfl

theorem nb_perm {a b : List NodeC} (h : a.Perm b) : nb a = nb b := (h.map wt).sum_nat
@[simp] theorem nb_nil : nb [] = 0 := rfl
@[simp] theorem nb_cons (c : NodeC) (l : List NodeC) : nb (c :: l) = wt c + nb l := by simp [nb]
@[simp] theorem nb_append (a b : List NodeC) : nb (a ++ b) = nb a + nb b := by simp [nb, List.sum_append]

theorem trieBlocks_node (c : NodeC) (l r : Trie) : trieBlocks (.node c l r) = trieBlocks l + wt c + trieBlocks r := by
  simp only [trieBlocks_eq, Trie.nodes, nb_append, nb_cons]; omega

@[simp] theorem trieBlocks_nil : trieBlocks .nil = 0 := rfl

theorem wt_nonempty {c : NodeC} (h : c.data ≠ []) : wt c = 3 := by
  unfold wt; cases hd : c.data <;> simp_all

theorem blocks_modifyAt (t : Trie) (p : List Bool) (h : ∃ c l r, t.subAt p = .node c l r) (f : Trie → Trie) :
    trieBlocks (t.modifyAt p f) + trieBlocks (t.subAt p) = trieBlocks t + trieBlocks (f (t.subAt p)) := by
  obtain ⟨rest, h1, h2⟩ := modifyAt_nodes t p h
  simp only [trieBlocks_eq]
  rw [nb_perm h1, nb_perm (h2 f), nb_append, nb_append]; omega

theorem blocks_modifyAt_node (t : Trie) (p : List Bool) (c : NodeC) (l r : Trie) (hsub : t.subAt p = .node c l r)
    (f : Trie → Trie) :
    trieBlocks (t.modifyAt p f) + (trieBlocks l + wt c + trieBlocks r) = trieBlocks t + trieBlocks (f (.node c l r)) := by
  have := blocks_modifyAt t p ⟨c, l, r, hsub⟩ f
  rw [hsub, trieBlocks_node] at this
  exact this

theorem trieBlocks_removeRoot (c : NodeC) (l r : Trie) :
    trieBlocks (removeRoot (.node c l r)) = trieBlocks l + trieBlocks r := by
  have hp := nb_perm (removeRoot_nodes_perm _ c l r rfl)
  simp only [trieBlocks_eq]
  rw [hp, nb_append]

theorem wt_len (c : NodeC) : wt c = if c.data.length = 0 then 2 else 3 := by
  unfold wt; cases c.data <;> simp

/-- in a well-formed trie no node is empty: three blocks each -/
theorem trieBlocks_wf (w : Nat) : ∀ (t : Trie) (d : Nat), WF w t d → trieBlocks t = 3 * t.nodes.length := by
  intro t
  induction t with
  | nil => intro _ _; rfl
  | node c l r ihl ihr =>
    intro d ⟨hc, _, _, wl, wr⟩
    rw [trieBlocks_node, ihl _ wl, ihr _ wr, wt_nonempty hc.2.2.2.1]
    simp [Trie.nodes]; omega

theorem pfxBlocks_wf {T : PfxTable} (h : TableWF T) : pfxBlocks T = 3 * (T.v4.nodes.length + T.t6.nodes.length) := by
  simp only [pfxBlocks, trieBlocks_wf 32 _ 0 h.w4, trieBlocks_wf 128 _ 0 h.w6]; omega

/-! ### pfx_table_create_node -/

theorem ite_bnot {α : Type} (b : Bool) (x y : α) : (if (!b) = true then x else y) = if b = true then y else x := by
  cases b <;> rfl

theorem createNodeReq_reqs (a : A) : Reqs a (createNodeReq a) 3 := by
  unfold createNodeReq
  simp only [ite_bnot]
  exact (malloc_reqs a .node 1).cons
    ((malloc_reqs _ .ndata 1).cons
      ((realloc_reqs _ .ary 0 1).cons (Reqs.nil _) ((free_span _ .ndata 1).trans (free_span _ .node 1)))
      (free_span _ .node 1))
    (Span.refl _)

theorem createNodeReq_bal (a : A) : Bal a (createNodeReq a).2 (if (createNodeReq a).1 then 3 else 0) := by
  unfold createNodeReq
  simp only [ite_bnot]
  -- `u`: the blocks held before a step, `d`: what it brings; unification does not find them under the `if`s.
  -- `Bal.cons` has no base case of its own: the innermost stretch is `(true, _)`, which does nothing (`Bal.refl`)
  exact (malloc_bal a .node 1).cons (u := 0)
    ((malloc_bal _ .ndata 1).cons (u := 1)
      (((realloc_bal _ .ary 0 1).cast (by simp)).cons (d := 1) (u := 2) (r := (true, _)) (Bal.refl _)
        ((free_bal _ .ndata 1).trans (free_bal _ .node 1)))
      (free_bal _ .node 1))
    (Bal.refl _)

/-! ### pfx_table_add -/

def AddSite.reqs : AddSite → Nat
  | .none => 0 | .append _ => 1 | .create => 3

/-- blocks gained by a successful add -/
def AddSite.gain : AddSite → Nat
  | .none => 0 | .append n => if n = 0 then 1 else 0 | .create => 3

theorem addTrie_blocks {N : NodeC → Prop} (w : Nat) (t : Trie) (addr : Addr) (len : Nat) (e : Elem) (h : WFp N w t 0) :
    trieBlocks (addTrie w t addr len e).1 = trieBlocks t + (addSite w t addr len e).gain := by
  cases t with
  | nil =>
    simp [addTrie, addSite, AddSite.gain, trieBlocks_node, wt]
  | node c0 l0 r0 =>
    have spec := lookupExact_spec_p w addr len (.node c0 l0 r0) 0 h
    unfold addTrie addSite
    simp only
    cases hlx : lookupExact w addr len (.node c0 l0 r0) 0 with
    | up => simp [AddSite.gain]
    | «at» p f =>
      rw [hlx] at spec
      cases f with
      | true =>
        simp only
        cases hsub : (Trie.node c0 l0 r0).subAt p with
        | nil => simp [AddSite.gain]
        | node c l r =>
          simp only
          by_cases hd : (findElem c.data e).isSome
          · simp [hd, AddSite.gain]
          · simp only [hd, Bool.false_eq_true, if_false]
            have key := blocks_modifyAt_node (.node c0 l0 r0) p c l r hsub
            have w1 : wt { c with data := c.data ++ [e] } = 3 := wt_nonempty (by simp)
            simp only [AddSite.gain]
            apply Nat.add_right_cancel (m := trieBlocks l + wt c + trieBlocks r)
            rw [key]
            dsimp only
            rw [trieBlocks_node { c with data := c.data ++ [e] } l r, w1, wt_len c]
            split <;> omega
      | false =>
        simp only [LxSpec] at spec
        obtain ⟨c, l, r, hsub⟩ := spec.2 (by simp)
        have hm := blocks_modifyAt (.node c0 l0 r0) p ⟨c, l, r, hsub⟩
          (fun s => insert w s ⟨addr, len, [e]⟩ p.length)
        have hi := nb_perm (insert_nodes_perm w ((Trie.node c0 l0 r0).subAt p) ⟨addr, len, [e]⟩ p.length)
        simp only [trieBlocks_eq] at hm ⊢
        rw [hi, nb_cons] at hm
        have w1 : wt ⟨addr, len, [e]⟩ = 3 := wt_nonempty (by simp)
        rw [w1] at hm
        simp only [AddSite.gain]
        omega

theorem pfxBlocks_setRoot (T : PfxTable) (v6 : Bool) (t : Trie) :
    pfxBlocks (T.setRoot v6 t) + trieBlocks (T.root v6) = pfxBlocks T + trieBlocks t := by
  cases v6 <;> simp [pfxBlocks, setRoot, root] <;> omega

@[simp] theorem pfxBlocks_notify (T : PfxTable) (b : Bool) (r : Rec) : pfxBlocks (T.notify b r) = pfxBlocks T := by
  unfold notify; split <;> rfl

theorem add_blocks (T : PfxTable) (r : Rec) (h : TableWF T) :
    pfxBlocks (T.add r).1 = pfxBlocks T + (addSite r.width (T.root r.v6) r.addr r.len r.elem).gain := by
  have hw : r.width = (if r.v6 then 128 else 32) := rfl
  have hb := addTrie_blocks r.width (T.root r.v6) r.addr r.len r.elem (by rw [hw]; exact root_WFp T r.v6 ((TableWF_iff T).1 h))
  have hs := pfxBlocks_setRoot T r.v6 (addTrie r.width (T.root r.v6) r.addr r.len r.elem).1
  unfold PfxTable.add
  generalize addTrie r.width (T.root r.v6) r.addr r.len r.elem = res at hb hs
  obtain ⟨t', rc⟩ := res
  simp only at hb hs ⊢
  split <;> simp only [pfxBlocks_notify] <;> omega

theorem addF_ok (a : A) (T : PfxTable) (r : Rec) :
    Guarded a (addSite r.width (T.root r.v6) r.addr r.len r.elem).reqs (addF a T r) (T.add r) (T, .error) := by
  unfold addF
  cases addSite r.width (T.root r.v6) r.addr r.len r.elem with
  | none => exact Guarded.quiet a _ _
  | append n => exact Guarded.of_reqs (realloc_reqs a .ary n (n + 1)) _ _
  | create => exact Guarded.of_reqs (createNodeReq_reqs a) _ _

theorem addF_bal (a : A) (T : PfxTable) (r : Rec) (h : TableWF T) :
    Bal a (addF a T r).1 (pfxBlocks (addF a T r).2.1 - pfxBlocks T : Int) := by
  have hblk := add_blocks T r h
  unfold addF
  generalize addSite r.width (T.root r.v6) r.addr r.len r.elem = s at hblk ⊢
  cases s with
  | none => exact (Bal.refl a).cast (by simp [hblk, AddSite.gain])
  | append n =>
    refine Bal.of_reqs (g := (AddSite.append n).gain) ((realloc_bal a .ary n (n + 1)).cast ?_)
      (fun q : PfxTable × PfxRc => (pfxBlocks q.1 : Int)) (by rw [hblk]; rfl) rfl
    by_cases h0 : n = 0 <;> simp [h0, AddSite.gain]
  | create =>
    exact Bal.of_reqs (createNodeReq_bal a) (fun q : PfxTable × PfxRc => (pfxBlocks q.1 : Int)) (by rw [hblk]; rfl) rfl

/-- unlike `addF_bal` this asks nothing of the table: which events are recorded does not depend on its shape -/
theorem addF_nolibc (a : A) (T : PfxTable) (r : Rec) (h : NoLibc a.trace) : NoLibc (addF a T r).1.trace := by
  unfold addF
  cases addSite r.width (T.root r.v6) r.addr r.len r.elem with
  | none => exact h
  | append n =>
    dsimp only
    split <;> exact (realloc_bal a .ary n (n + 1)).nolibc h
  | create =>
    dsimp only
    split <;> exact (createNodeReq_bal a).nolibc h

/-! ### pfx_table_remove -/

def RemSite.frees : RemSite → Nat
  | .last => 3 | _ => 0

theorem removeTrie_blocks (w : Nat) (t : Trie) (addr : Addr) (len : Nat) (e : Elem) :
    trieBlocks (removeTrie w t addr len e).1 + (remSite w t addr len e).frees = trieBlocks t := by
  unfold removeTrie remSite
  cases hlx : lookupExact w addr len t 0 with
  | up => simp [RemSite.frees]
  | «at» p f =>
    cases f with
    | false => simp [RemSite.frees]
    | true =>
      simp only
      cases hsub : t.subAt p with
      | nil => simp [RemSite.frees]
      | node c l r =>
        simp only
        cases hf : findElem c.data e with
        | none => simp [RemSite.frees]
        | some i =>
          simp only
          obtain ⟨hi, _⟩ := findElem_some c.data e i hf
          have hne : c.data ≠ [] := by intro h0; rw [h0] at hi; simp at hi
          have key := blocks_modifyAt_node t p c l r hsub
          by_cases hd : (delElem c.data i).isEmpty
          · simp only [hd, if_true, RemSite.frees]
            apply Nat.add_right_cancel (m := trieBlocks l + wt c + trieBlocks r)
            rw [Nat.add_right_comm, key]
            dsimp only
            rw [trieBlocks_removeRoot, wt_nonempty hne]
            omega
          · simp only [hd, Bool.false_eq_true, if_false, RemSite.frees]
            have hne2 : delElem c.data i ≠ [] := by
              intro h0; rw [h0] at hd; simp at hd
            apply Nat.add_right_cancel (m := trieBlocks l + wt c + trieBlocks r)
            rw [Nat.add_right_comm, key]
            dsimp only
            rw [trieBlocks_node { c with data := delElem c.data i } l r,
              wt_nonempty (c := { c with data := delElem c.data i }) hne2, wt_nonempty hne]
            omega

theorem remActs_site (T : PfxTable) (r : Rec) :
    frees (remActs T r) = (remSite r.width (T.root r.v6) r.addr r.len r.elem).frees := by
  unfold remActs
  cases remSite r.width (T.root r.v6) r.addr r.len r.elem <;> rfl

theorem remActs_frees (T : PfxTable) (r : Rec) : frees (remActs T r) + pfxBlocks (T.remove r).1 = pfxBlocks T := by
  have hb := removeTrie_blocks r.width (T.root r.v6) r.addr r.len r.elem
  have hs := pfxBlocks_setRoot T r.v6 (removeTrie r.width (T.root r.v6) r.addr r.len r.elem).1
  rw [remActs_site]
  unfold PfxTable.remove
  generalize removeTrie r.width (T.root r.v6) r.addr r.len r.elem = res at hb hs
  obtain ⟨t', rc⟩ := res
  simp only at hb hs ⊢
  split <;> simp only [pfxBlocks_notify] <;> omega

/-- `pfx_table_remove` under the oracle (fixed code): the table result never depends on the oracle -/
theorem removeF_result (a : A) (T : PfxTable) (r : Rec) : (removeF a T r).2 = T.remove r := rfl

theorem removeF_bal (a : A) (T : PfxTable) (r : Rec) :
    Bal a (removeF a T r).1 (pfxBlocks (removeF a T r).2.1 - pfxBlocks T : Int) :=
  run_releases (remActs_frees T r) a

/-! ### pfx_table_remove_id / pfx_table_src_remove -/

/-- of the `g` calls of `pfx_table_del_elem` on an array of `n` elements only one that empties it releases it -/
theorem delActs_frees (n g : Nat) (hg : g ≤ n) : frees (delActs n g) = if g = n ∧ 0 < n then 1 else 0 := by
  unfold delActs
  induction g with
  | zero =>
    have : ¬ (0 = n ∧ 0 < n) := by omega
    rw [if_neg this]
    rfl
  | succ g ih =>
    rw [List.range_succ, List.map_append, frees_append, ih (by omega), if_neg (by omega)]
    by_cases hlast : n - g = 1
    · rw [if_pos (by omega)]
      simp [hlast, frees_cons, Act.isShrink]
    · rw [if_neg (by omega)]
      simp [hlast, frees_cons, Act.isShrink]

theorem length_filter_add {α : Type} (p : α → Bool) (l : List α) :
    (l.filter p).length + (l.filter fun x => !p x).length = l.length := by
  rw [← List.length_append, (List.filter_append_perm p l).length_eq]

/-- one visit of `pfx_table_remove_id`: the array is released exactly when no element is kept -/
theorem node_frees (c : NodeC) (src : Nat) :
    frees (delActs c.data.length (c.data.filter fun e => e.src == src).length) +
      wt { c with data := c.data.filter fun e => e.src != src } = wt c := by
  have hlen := length_filter_add (fun e : Elem => e.src == src) c.data
  have hk : (c.data.filter fun e => !(e.src == src)) = c.data.filter (fun e => e.src != src) := rfl
  rw [hk] at hlen
  rw [delActs_frees _ _ (List.length_filter_le _ _), wt_len, wt_len c]
  dsimp only
  split <;> split <;> split <;> omega

theorem eq_nil_of_isNil {t : Trie} (h : t.isNil = true) : t = .nil := by
  cases t with
  | nil => rfl
  | node c l r => cases h

theorem removeIdActs_frees (src : Nat) : ∀ (t : Trie),
    frees (removeIdActs src t) + trieBlocks (removeId src t).1 = trieBlocks t
  | .nil => by
    rw [removeIdActs, removeId]
    rfl
  | .node c l r => by
    have hn := node_frees c src
    rw [removeIdActs, removeId, trieBlocks_node]
    dsimp only
    split
    · rename_i hkept
      rw [List.isEmpty_iff.mp hkept] at hn
      have w0 : wt { c with data := [] } = 2 := rfl
      split
      · rename_i hleaf
        rw [Bool.and_eq_true] at hleaf
        rw [eq_nil_of_isNil hleaf.1, eq_nil_of_isNil hleaf.2, frees_append]
        show _ + 2 + 0 = 0 + wt c + 0
        omega
      · have ih := removeIdActs_frees src (removeRoot (.node { c with data := [] } l r))
        rw [trieBlocks_removeRoot] at ih
        rw [frees_append, frees_append]
        dsimp only
        show _ + 2 + _ + _ = _
        omega
    · have ihl := removeIdActs_frees src l
      have ihr := removeIdActs_frees src r
      rw [frees_append, frees_append]
      show _ + trieBlocks (.node { c with data := c.data.filter fun e => e.src != src } (removeId src l).1 (removeId src r).1) = _
      rw [trieBlocks_node]
      omega
termination_by t => t.size
decreasing_by
  all_goals first
    | exact removeRoot_size_lt { c with data := [] } l r
    | (simp [Trie.size]; omega)

@[simp] theorem pfxBlocks_notifyAll (b : Bool) (rs : List Rec) (T : PfxTable) : pfxBlocks (T.notifyAll b rs) = pfxBlocks T := by
  obtain ⟨h1, h2, _, _⟩ := notifyAll_spec b rs T
  simp [pfxBlocks, h1, h2]

theorem srcRemove_blocks (T : PfxTable) (src : Nat) :
    frees (removeIdActs src T.v4 ++ removeIdActs src T.t6) + pfxBlocks (T.srcRemove src) = pfxBlocks T := by
  have h4 := removeIdActs_frees src T.v4
  have h6 := removeIdActs_frees src T.t6
  rw [frees_append]
  unfold PfxTable.srcRemove
  dsimp only
  rw [pfxBlocks_notifyAll, (notifyAll_spec false _ _).2.1]
  simp only [pfxBlocks, (notifyAll_spec false _ _).1]
  omega

theorem srcRemoveF_result (a : A) (T : PfxTable) (src : Nat) : (srcRemoveF a T src).2 = (T.srcRemove src, .success) := rfl

theorem srcRemoveF_bal (a : A) (T : PfxTable) (src : Nat) :
    Bal a (srcRemoveF a T src).1 (pfxBlocks (srcRemoveF a T src).2.1 - pfxBlocks T : Int) := by
  show Bal a ((a.run (removeIdActs src T.v4)).run (removeIdActs src T.t6)) _
  rw [← run_append]
  exact run_releases (srcRemove_blocks T src) a

/-! ### pfx_table_free -/

theorem freeActs_frees : ∀ (t : Trie), frees (freeActs t) = trieBlocks t
  | .nil => by rw [freeActs]; rfl
  | .node c l r => by
    rw [freeActs, frees_append, frees_append, freeActs_frees (removeRoot (.node c l r)), trieBlocks_removeRoot,
      trieBlocks_node, wt]
    cases c.data <;> simp [frees_cons, Act.isShrink] <;> omega
termination_by t => t.size
decreasing_by exact removeRoot_size_lt c l r

theorem free_blocks (T : PfxTable) : pfxBlocks T.free = 0 := by
  rw [pfxBlocks, (free_spec T).v4, (free_spec T).t6]
  rfl

theorem freeF_bal (a : A) (T : PfxTable) : Bal a (freeF a T).1 (-(pfxBlocks T : Int)) := by
  refine ((run_bal (freeActs T.v4) a).trans (run_bal (freeActs T.t6) _)).cast ?_
  rw [freeActs_frees, freeActs_frees, pfxBlocks]
  omega

/-! ### a block grown step by step (reason array of `pfx_table_validate_r`, result arrays of the key table) -/

/-- `realloc` from `cur` elements by each of `ds` in turn; the block is released when a step is refused -/
def growBy (b : Blk) : List Nat → Nat → A → Bool × A
  | [], _, a => (true, a)
  | d :: ds, cur, a =>
    let q := a.realloc b cur (cur + d)
    if q.1 then growBy b ds (cur + d) q.2 else (false, q.2.freeIf b cur)

/-- the records collected when the walk is over: `acc` so far and the payload of the nodes `cs` still to visit -/
def total (acc : Nat) (cs : List NodeC) : Nat := acc + (cs.map fun c => c.data.length).sum

theorem reasonReqs_eq : ∀ (cs : List NodeC) (a : A) (acc : Nat),
    reasonReqs a acc cs = growBy .reason (cs.map fun c => c.data.length) acc a
  | [], _, _ => rfl
  | c :: cs, a, acc => by
    rw [reasonReqs, List.map_cons, growBy, reasonReqs_eq cs]

theorem growBy_reqs (b : Blk) : ∀ (ds : List Nat) (cur : Nat) (a : A), Reqs a (growBy b ds cur a) ds.length
  | [], _, a => Reqs.nil a
  | d :: ds, cur, a => by
    rw [growBy, List.length_cons, Nat.add_comm ds.length 1]
    exact (realloc_reqs a b cur (cur + d)).cons (growBy_reqs b ds (cur + d) _) (freeIf_span _ b cur)

/-- `pfx_table_validate_r` with a reason array: one required request per visited covering node -/
theorem validateF_ok (a : A) (T : PfxTable) (v6 : Bool) (asn : Nat) (q : Addr) (n : Nat) :
    Guarded a (validateR (if v6 then 128 else 32) q n asn (T.root v6)).2.length (validateF a T v6 asn q n)
      (.success, T.validate v6 asn q n) (.error, .notFound, []) := by
  have h := growBy_reqs .reason ((validateR (if v6 then 128 else 32) q n asn (T.root v6)).2.map fun c => c.data.length) 0 a
  rw [← reasonReqs_eq, List.length_map] at h
  exact Guarded.of_reqs h _ _

theorem growBy_nolibc (b : Blk) : ∀ (ds : List Nat) (cur : Nat) (a : A), NoLibc a.trace → NoLibc (growBy b ds cur a).2.trace
  | [], _, _, h => h
  | d :: ds, cur, a, h => by
    have hq := (realloc_bal a b cur (cur + d)).nolibc h
    rw [growBy]
    split
    · exact growBy_nolibc b ds (cur + d) _ hq
    · exact (freeIf_live _ b cur).nolibc hq

/-- granted: the caller owns one block iff anything was collected; refused: nothing stays, the block held before is
    released too (F16d) -/
theorem growBy_bal (b : Blk) : ∀ (ds : List Nat) (cur : Nat) (a : A), (∀ d ∈ ds, d ≠ 0) →
    Bal a (growBy b ds cur a).2 (if (growBy b ds cur a).1 then (live (cur + ds.sum) : Int) - live cur else -live cur)
  | [], cur, a, _ => (Bal.refl a).cast (by simp [growBy])
  | d :: ds, cur, a, hne => by
    have hd : d ≠ 0 := hne d (List.mem_cons_self ..)
    have ih := growBy_bal b ds (cur + d) (a.realloc b cur (cur + d)).2 (fun x hx => hne x (List.mem_cons_of_mem _ hx))
    rw [growBy]
    refine ((realloc_live a b cur (cur + d) (by omega)).cons (u := live cur)
      (e := (live (cur + d + ds.sum) : Int) - live (cur + d)) (ih.cast ?_) (freeIf_live _ b cur)).cast ?_
    · congr 1
      omega
    · rw [List.sum_cons, Nat.add_assoc]
      congr 1
      omega

/-- unlike `validateF_bal`, for any table -/
theorem validateF_nolibc (a : A) (T : PfxTable) (v6 : Bool) (asn : Nat) (q : Addr) (n : Nat) (h : NoLibc a.trace) :
    NoLibc (validateF a T v6 asn q n).1.trace := by
  have := growBy_nolibc .reason ((validateR (if v6 then 128 else 32) q n asn (T.root v6)).2.map fun c => c.data.length) 0 a h
  rw [← reasonReqs_eq] at this
  unfold validateF
  generalize (if v6 then 128 else 32) = w at this ⊢
  dsimp only
  split <;> exact this

/-- the caller owns the reason array exactly when the call succeeds and a record was collected (the visited nodes
    are nodes of a well-formed trie, so none is empty and every step of the array grows it) -/
theorem validateF_bal (a : A) (T : PfxTable) (v6 : Bool) (asn : Nat) (q : Addr) (n : Nat) (h : TableWF T) :
    Bal a (validateF a T v6 asn q n).1
      (if (validateF a T v6 asn q n).2.1 = .success ∧
          total 0 (validateR (if v6 then 128 else 32) q n asn (T.root v6)).2 ≠ 0 then 1 else 0) := by
  have hn := growBy_bal .reason ((validateR (if v6 then 128 else 32) q n asn (T.root v6)).2.map fun c => c.data.length) 0 a
    (fun d hd => by
      obtain ⟨c, hc, rfl⟩ := List.mem_map.mp hd
      have hm := walkR_sub _ q n asn (T.root v6) 0 false c hc
      exact fun h0 => ((All_iff _).1 (WF_nodeOK _ _ 0 (root_WF T v6 h)) c hm).2.2.2.1 (List.eq_nil_of_length_eq_zero h0))
  rw [← reasonReqs_eq] at hn
  unfold validateF total
  dsimp only
  by_cases hq : (reasonReqs a 0 (validateR (if v6 then 128 else 32) q n asn (T.root v6)).2).1 = true
  · rw [if_pos hq] at hn ⊢
    refine hn.cast ?_
    simp only [live, Nat.zero_add, true_and]
    generalize (List.map (fun c : NodeC => c.data.length) _).sum = m
    by_cases hm : m = 0 <;> simp [hm]
  · rw [if_neg hq] at hn ⊢
    exact hn.cast (by simp [live])

end Alloc
end Rtr
