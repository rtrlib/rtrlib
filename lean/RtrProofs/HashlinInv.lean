/-
  HashlinInv: the representation invariant of the tommy_hashlin model, kept by every grow / shrink step.

  The one arithmetic fact behind both resize directions is `index_succ`: raising `split` by one
  re-indexes exactly the keys of bucket `split`, by their bit `low_max`.  A grow step moves the
  nodes of that bucket accordingly, a shrink step moves them back.  Entering and leaving a resize
  changes neither buckets nor indices (`index_full`: a full split is the table of twice the size).
-/
import RtrProofs.HashlinBasic

namespace Rtr
namespace Hashlin
variable {α : Type}

/-- the bucket index of a key, written with moduli: the specification of `bucketPos` -/
def index (h : Hashlin α) (k : Nat) : Nat :=
  if k % h.lowMax < h.split then k % (2 * h.lowMax) else k % h.lowMax

/-- every node stored in a valid bucket is stored in the bucket its key is indexed to -/
def Filed (h : Hashlin α) : Prop := ∀ i, i < h.valid → ∀ n, n ∈ h.bucket i → h.index n.key = i

/-- the representation invariant without the node count -/
structure Wf (h : Hashlin α) : Prop where
  bit_ge : hashlinBit ≤ h.bucketBit
  max_eq : h.bucketMax = 2 ^ h.bucketBit
  mask_eq : h.bucketMask = h.bucketMax - 1
  lowmask_eq : h.lowMask = h.lowMax - 1
  shape : (h.state = .stable ∧ h.lowMax = h.bucketMax ∧ h.split = 0) ∨
          (h.state ≠ .stable ∧ hashlinBit < h.bucketBit ∧ h.bucketMax = 2 * h.lowMax ∧
            0 < h.split ∧ h.split < h.lowMax)
  filed : h.Filed

/-- the representation invariant (DESIGN §5 C10) -/
structure Inv (h : Hashlin α) : Prop extends Wf h where
  count_eq : h.count = sumB List.length h.bucket h.valid

/-- a resize in progress, including the states inside the step loops
    (`split = 0` right after a grow set-up, `split = low_max` right after a shrink set-up) -/
structure Resizing (h : Hashlin α) : Prop where
  bit_gt : hashlinBit < h.bucketBit
  max_eq : h.bucketMax = 2 ^ h.bucketBit
  mask_eq : h.bucketMask = h.bucketMax - 1
  lowmask_eq : h.lowMask = h.lowMax - 1
  max_low : h.bucketMax = 2 * h.lowMax
  split_le : h.split ≤ h.lowMax
  filed : h.Filed

/-- what the index arithmetic needs -/
structure Num (h : Hashlin α) : Prop where
  pow : ∃ k, h.lowMax = 2 ^ k
  lowmask_eq : h.lowMask = h.lowMax - 1
  mask_eq : 0 < h.split → h.bucketMask = 2 * h.lowMax - 1
  split_le : h.split ≤ h.lowMax

theorem Resizing.lowMax_pow {h : Hashlin α} (r : Resizing h) : h.lowMax = 2 ^ (h.bucketBit - 1) := by
  have h1 := r.max_eq
  have h2 := r.max_low
  have h3 := Nat.two_pow_pred_mul_two (Nat.zero_lt_of_lt r.bit_gt)
  omega

theorem Resizing.num {h : Hashlin α} (r : Resizing h) : Num h :=
  ⟨⟨_, r.lowMax_pow⟩, r.lowmask_eq, fun _ => by rw [r.mask_eq, r.max_low], r.split_le⟩

theorem resizing_of_wf {h : Hashlin α} (w : Wf h) (hst : h.state ≠ .stable) :
    Resizing h ∧ 0 < h.split ∧ h.split < h.lowMax := by
  rcases w.shape with ⟨hs, _, _⟩ | ⟨_, hb, hm, hs0, hs1⟩
  · exact absurd hs hst
  · exact ⟨⟨hb, w.max_eq, w.mask_eq, w.lowmask_eq, hm, Nat.le_of_lt hs1, w.filed⟩, hs0, hs1⟩

theorem wf_of_resizing {h : Hashlin α} (r : Resizing h) (hst : h.state ≠ .stable) (h0 : 0 < h.split)
    (h1 : h.split < h.lowMax) : Wf h :=
  ⟨Nat.le_of_lt r.bit_gt, r.max_eq, r.mask_eq, r.lowmask_eq, Or.inr ⟨hst, r.bit_gt, r.max_low, h0, h1⟩, r.filed⟩

theorem Wf.num {h : Hashlin α} (w : Wf h) : Num h := by
  rcases w.shape with ⟨_, hl, hs⟩ | ⟨hst, _⟩
  · exact ⟨⟨h.bucketBit, by rw [hl, w.max_eq]⟩, w.lowmask_eq, fun h0 => by omega, by omega⟩
  · exact (resizing_of_wf w hst).1.num

theorem Num.lowMax_pos {h : Hashlin α} (n : Num h) : 0 < h.lowMax := by
  obtain ⟨k, hk⟩ := n.pow
  rw [hk]
  exact Nat.two_pow_pos k

/-! ### the index -/

/-- `tommy_hashlin_bucket_ref` computes `index` -/
theorem bucketPos_eq_index {h : Hashlin α} (n : Num h) (key : Nat) : h.bucketPos key = h.index key := by
  obtain ⟨k, hk⟩ := n.pow
  have h1 : key &&& h.lowMask = key % h.lowMax := by
    rw [n.lowmask_eq, hk]
    exact Nat.and_two_pow_sub_one_eq_mod key k
  unfold bucketPos index
  simp only [h1]
  split
  · rename_i hlt
    rw [n.mask_eq (Nat.zero_lt_of_lt hlt), hk, ← Nat.pow_succ']
    exact Nat.and_two_pow_sub_one_eq_mod key (k + 1)
  · rfl

theorem index_lt {h : Hashlin α} (hm : 0 < h.lowMax) (key : Nat) :
    h.index key < h.valid := by
  have h1 := Nat.mod_lt key hm
  unfold index valid
  split
  · rw [mod_two_mul]
    split
    · omega
    · omega
  · omega

theorem index_lt_valid {h : Hashlin α} (n : Num h) (key : Nat) : h.index key < h.valid :=
  index_lt n.lowMax_pos key

theorem index_succ {h h' : Hashlin α} (hm : h'.lowMax = h.lowMax) (hs : h'.split = h.split + 1)
    (hlt : h.split < h.lowMax) (k : Nat) :
    h'.index k = if h.index k = h.split then
        (if k / h.lowMax % 2 = 0 then h.split else h.split + h.lowMax) else h.index k := by
  have hq := Nat.mod_lt k (Nat.zero_lt_of_lt hlt)
  unfold index
  rw [hm, hs, mod_two_mul]
  by_cases ht : k / h.lowMax % 2 = 0
  · -- bit clear: indexed to `k % low_max` whatever the split
    simp only [if_pos ht, ite_self]
    split
    · assumption
    · rfl
  · -- bit set: a bucket `k % low_max` below the split has gone to `k % low_max + low_max`
    simp only [if_neg ht]
    rcases Nat.lt_trichotomy (k % h.lowMax) h.split with hc | hc | hc
    · have hne : ¬ k % h.lowMax + h.lowMax = h.split := by omega
      rw [if_pos hc, if_pos (Nat.lt_succ_of_lt hc), if_neg hne]
    · have hge : ¬ k % h.lowMax < h.split := by omega
      rw [if_neg hge, if_pos hc, if_pos (Nat.lt_succ_of_le (Nat.le_of_eq hc)), hc]
    · have hge : ¬ k % h.lowMax < h.split := by omega
      have hne : ¬ k % h.lowMax = h.split := by omega
      have hge' : ¬ k % h.lowMax < h.split + 1 := by omega
      rw [if_neg hge, if_neg hne, if_neg hge']

theorem index_pred {h h' : Hashlin α} (hm : h'.lowMax = h.lowMax) (hs : h'.split = h.split + 1)
    (hlt : h.split < h.lowMax) (k : Nat) :
    h.index k = if h'.index k = h.split + h.lowMax then h.split else h'.index k := by
  have hl : h.index k < h.lowMax + h.split := index_lt (Nat.zero_lt_of_lt hlt) k
  rw [index_succ hm hs hlt k]
  by_cases hc : h.index k = h.split
  · rw [if_pos hc]
    by_cases ht : k / h.lowMax % 2 = 0
    · have hne : ¬ h.split = h.split + h.lowMax := by omega
      rw [if_pos ht, if_neg hne, hc]
    · rw [if_neg ht, if_pos rfl, hc]
  · have hne : ¬ h.index k = h.split + h.lowMax := by omega
    rw [if_neg hc, if_neg hne]

theorem index_full {h h' : Hashlin α} (hm : h'.lowMax = 2 * h.lowMax) (hs' : h'.split = 0)
    (hs : h.split = h.lowMax) (hpos : 0 < h.lowMax) (k : Nat) : h'.index k = h.index k := by
  unfold index
  rw [hm, hs', hs, if_neg (Nat.not_lt_zero _), if_pos (Nat.mod_lt k hpos)]

theorem index_congr {h h' : Hashlin α} (hm : h'.lowMax = h.lowMax) (hs : h'.split = h.split) (k : Nat) :
    h'.index k = h.index k := by
  unfold index
  rw [hm, hs]

theorem Filed.congr {h h' : Hashlin α} (f : Filed h) (hb : h'.bucket = h.bucket) (hv : h'.valid = h.valid)
    (hi : ∀ k, h'.index k = h.index k) : Filed h' := by
  intro i hlt n hn
  rw [hi]
  rw [hv] at hlt
  rw [hb] at hn
  exact f i hlt n hn

/-! ### the stored nodes -/

/-- `h'` holds the nodes of `h`: same count, same value of every additive measure of the valid
    buckets (so the same length and the same multiplicity of every node: `Keeps.inv`, `Keeps.mult`
    in HashlinOps) -/
structure Keeps (h h' : Hashlin α) : Prop where
  count : h'.count = h.count
  sum : ∀ f : List (HNode α) → Nat, Additive f → sumB f h'.bucket h'.valid = sumB f h.bucket h.valid

theorem Keeps.refl (h : Hashlin α) : Keeps h h := ⟨rfl, fun _ _ => rfl⟩

theorem Keeps.trans {h h' h'' : Hashlin α} (a : Keeps h h') (b : Keeps h' h'') : Keeps h h'' :=
  ⟨b.count.trans a.count, fun f hf => (b.sum f hf).trans (a.sum f hf)⟩

theorem Keeps.of_eq {h h' : Hashlin α} (hc : h'.count = h.count) (hb : h'.bucket = h.bucket)
    (hv : h'.valid = h.valid) : Keeps h h' :=
  ⟨hc, fun f _ => by rw [hb, hv]⟩

/-! ### one grow step, one shrink step -/

theorem growOne_valid (h : Hashlin α) : (growOne h).valid = h.valid + 1 := rfl

theorem growOne_filed {h : Hashlin α} (pow : ∃ e, h.lowMax = 2 ^ e) (hs : h.split < h.lowMax) (f : Filed h) :
    Filed (growOne h) := by
  intro i hi n hn
  have hi' : i < h.lowMax + h.split + 1 := hi
  have hx := index_succ (h := h) (h' := growOne h) rfl rfl hs n.key
  obtain ⟨e, he⟩ := pow
  have hbit := and_two_pow_eq_zero_iff n.key e
  rw [← he] at hbit
  change n ∈ upd (upd h.bucket h.split _) (h.split + h.lowMax) _ i at hn
  by_cases h1 : i = h.split + h.lowMax
  · subst h1
    rw [upd_same] at hn
    obtain ⟨hn1, hn2⟩ := List.mem_filter.mp hn
    have ht : ¬ n.key / h.lowMax % 2 = 0 := fun h0 => by simp [hbit.mpr h0] at hn2
    rw [hx, if_pos (f _ (by unfold valid; omega) n hn1), if_neg ht]
  · rw [upd_other _ _ h1] at hn
    by_cases h2 : i = h.split
    · subst h2
      rw [upd_same] at hn
      obtain ⟨hn1, hn2⟩ := List.mem_filter.mp hn
      have ht : n.key / h.lowMax % 2 = 0 := hbit.mp (by simpa using hn2)
      rw [hx, if_pos (f _ (by unfold valid; omega) n hn1), if_pos ht]
    · rw [upd_other _ _ h2] at hn
      rw [hx, f i (by unfold valid; omega) n hn, if_neg h2]

theorem growOne_keeps {h : Hashlin α} (hm : 0 < h.lowMax) : Keeps h (growOne h) := by
  refine ⟨rfl, fun f hf => ?_⟩
  rw [growOne_valid]
  simp only [sumB, growOne, valid]
  rw [show h.lowMax + h.split = h.split + h.lowMax by omega, upd_same,
    sumB_upd_ge f _ _ _ _ (Nat.le_refl _)]
  have h1 := sumB_upd_lt f h.bucket h.split (h.split + h.lowMax)
    (h.bucket h.split |>.filter fun n => (n.key &&& h.lowMax) == 0) (by omega)
  have h2 := hf.filter_split (fun n : HNode α => (n.key &&& h.lowMax) == 0)
    (fun n => (n.key &&& h.lowMax) != 0) (fun x => rfl) (h.bucket h.split)
  omega

theorem shrinkOne_valid {h : Hashlin α} (hs : 0 < h.split) : (shrinkOne h).valid + 1 = h.valid := by
  simp [shrinkOne, valid]; omega

theorem shrinkOne_filed {h : Hashlin α} (hs : 0 < h.split) (hle : h.split ≤ h.lowMax) (f : Filed h) :
    Filed (shrinkOne h) := by
  intro i hi n hn
  -- `split - 1` gets a name, so that `index_pred` can be used at `split = s + 1`
  obtain ⟨s, hs1⟩ : ∃ s, h.split - 1 = s := ⟨_, rfl⟩
  have hsp : h.split = s + 1 := by omega
  have hx := index_pred (h := shrinkOne h) (h' := h) rfl (hsp.trans (congrArg (· + 1) hs1.symm))
    (show h.split - 1 < h.lowMax by omega) n.key
  change i < h.lowMax + (h.split - 1) at hi
  change n ∈ upd h.bucket (h.split - 1) (h.bucket (h.split - 1) ++ h.bucket (h.split - 1 + h.lowMax)) i at hn
  rw [show (shrinkOne h).split = s from hs1, show (shrinkOne h).lowMax = h.lowMax from rfl] at hx
  rw [hs1] at hi hn
  rw [hx]
  by_cases h1 : i = s
  · rw [h1, upd_same] at hn
    rcases List.mem_append.mp hn with hn | hn
    · have hne : ¬ s = s + h.lowMax := by omega
      rw [f s (show s < h.lowMax + h.split by omega) n hn, if_neg hne, h1]
    · rw [f _ (show s + h.lowMax < h.lowMax + h.split by omega) n hn, if_pos rfl, h1]
  · have hne : ¬ i = s + h.lowMax := by omega
    rw [upd_other _ _ h1] at hn
    rw [f i (show i < h.lowMax + h.split by omega) n hn, if_neg hne]

theorem shrinkOne_keeps {h : Hashlin α} (hs : 0 < h.split) (hm : 0 < h.lowMax) : Keeps h (shrinkOne h) := by
  refine ⟨rfl, fun f hf => ?_⟩
  have hv : h.valid = (h.lowMax + (h.split - 1)) + 1 := by unfold valid; omega
  rw [hv]
  simp only [sumB, shrinkOne, valid]
  have h1 := sumB_upd_lt f h.bucket (h.split - 1) (h.lowMax + (h.split - 1))
    (h.bucket (h.split - 1) ++ h.bucket (h.split - 1 + h.lowMax)) (by omega)
  rw [hf.append] at h1
  rw [show h.lowMax + (h.split - 1) = h.split - 1 + h.lowMax by omega] at h1 ⊢
  omega

/-! ### leaving a resize -/

theorem stable_of_grown {h : Hashlin α} (r : Resizing h) (hs : h.split = h.lowMax) :
    Wf (stable h) ∧ Keeps h (stable h) := by
  have hm := r.max_low
  have hv : h.bucketMax + 0 = h.lowMax + h.split := by omega
  exact ⟨⟨Nat.le_of_lt r.bit_gt, r.max_eq, r.mask_eq, r.mask_eq, Or.inl ⟨rfl, rfl, rfl⟩,
    r.filed.congr rfl hv (index_full hm rfl hs r.num.lowMax_pos)⟩, Keeps.of_eq rfl rfl hv⟩

theorem shrinkFinish_spec {h : Hashlin α} (r : Resizing h) (hs : h.split = 0) :
    Wf (shrinkFinish h) ∧ Keeps h (shrinkFinish h) := by
  have hp : 1 <<< (h.bucketBit - 1) = h.lowMax := by rw [Nat.one_shiftLeft, r.lowMax_pow]
  have hv : 1 <<< (h.bucketBit - 1) + 0 = h.lowMax + h.split := by omega
  exact ⟨⟨Nat.le_sub_one_of_lt r.bit_gt, Nat.one_shiftLeft _, rfl, rfl, Or.inl ⟨rfl, rfl, rfl⟩,
    r.filed.congr rfl hv (index_congr hp hs.symm)⟩, Keeps.of_eq rfl rfl hv⟩

/-! ### the step loops -/

theorem growLoop_zero (target : Nat) (h : Hashlin α) : growLoop 0 target h = h := rfl

theorem growLoop_succ (fuel target : Nat) (h : Hashlin α) :
    growLoop (fuel + 1) target h =
      if h.split + h.lowMax < target then
        (if (growOne h).split = (growOne h).lowMax then stable (growOne h) else growLoop fuel target (growOne h))
      else h := by
  rw [growLoop]
  simp only [beq_iff_eq]

/-- the grow loop: started in a grow state it ends in a state satisfying the invariant, with the
    same nodes.  `hgo`: right after a set-up from stable `split = 0`, where `Wf` does not hold (it
    asks `0 < split` of a resize in progress); the loop repairs that only if it runs at least once,
    and it does because a grow is set up only when `low_max < 2 * count` -/
theorem growLoop_spec (fuel target : Nat) (h : Hashlin α) (r : Resizing h) (hst : h.state = .grow)
    (hs : h.split < h.lowMax) (hgo : 0 < h.split ∨ (0 < fuel ∧ h.split + h.lowMax < target)) :
    Wf (growLoop fuel target h) ∧ Keeps h (growLoop fuel target h) := by
  have hne : h.state ≠ .stable := by simp [hst]
  induction fuel generalizing h with
  | zero =>
    rw [growLoop_zero]
    exact ⟨wf_of_resizing r hne (by omega) hs, Keeps.refl h⟩
  | succ fuel ih =>
    rw [growLoop_succ]
    by_cases hc : h.split + h.lowMax < target
    · have r1 : Resizing (growOne h) :=
        ⟨r.bit_gt, r.max_eq, r.mask_eq, r.lowmask_eq, r.max_low, hs, growOne_filed r.num.pow hs r.filed⟩
      have k1 := growOne_keeps (Nat.zero_lt_of_lt hs)
      rw [if_pos hc]
      by_cases hd : (growOne h).split = (growOne h).lowMax
      · rw [if_pos hd]
        exact ⟨(stable_of_grown r1 hd).1, k1.trans (stable_of_grown r1 hd).2⟩
      · rw [if_neg hd]
        obtain ⟨w, k⟩ := ih (growOne h) r1 hst (Nat.lt_of_le_of_ne hs hd) (Or.inl (Nat.succ_pos _)) hne
        exact ⟨w, k1.trans k⟩
    · rw [if_neg hc]
      exact ⟨wf_of_resizing r hne (by omega) hs, Keeps.refl h⟩

theorem shrinkLoop_zero (target : Nat) (h : Hashlin α) : shrinkLoop 0 target h = h := rfl

theorem shrinkLoop_succ (fuel target : Nat) (h : Hashlin α) :
    shrinkLoop (fuel + 1) target h =
      if h.split + h.lowMax > target then
        (if (shrinkOne h).split = 0 then shrinkFinish (shrinkOne h) else shrinkLoop fuel target (shrinkOne h))
      else h := by
  rw [shrinkLoop]
  simp only [beq_iff_eq]

/-- the shrink loop, likewise.  `hgo`: right after a set-up from stable `split = low_max`, where
    `Wf` does not hold (it asks `split < low_max`); one iteration is needed, and it runs because a
    shrink is set up only when `2 * low_max > 8 * count` -/
theorem shrinkLoop_spec (fuel target : Nat) (h : Hashlin α) (r : Resizing h) (hst : h.state = .shrink)
    (hs : 0 < h.split) (hgo : h.split < h.lowMax ∨ (0 < fuel ∧ h.split + h.lowMax > target)) :
    Wf (shrinkLoop fuel target h) ∧ Keeps h (shrinkLoop fuel target h) := by
  have hne : h.state ≠ .stable := by simp [hst]
  induction fuel generalizing h with
  | zero =>
    rw [shrinkLoop_zero]
    exact ⟨wf_of_resizing r hne hs (by omega), Keeps.refl h⟩
  | succ fuel ih =>
    have hle := r.split_le
    rw [shrinkLoop_succ]
    by_cases hc : h.split + h.lowMax > target
    · have r1 : Resizing (shrinkOne h) :=
        ⟨r.bit_gt, r.max_eq, r.mask_eq, r.lowmask_eq, r.max_low, Nat.le_trans (Nat.sub_le _ _) hle,
          shrinkOne_filed hs hle r.filed⟩
      have k1 := shrinkOne_keeps hs r.num.lowMax_pos
      rw [if_pos hc]
      by_cases hd : (shrinkOne h).split = 0
      · rw [if_pos hd]
        exact ⟨(shrinkFinish_spec r1 hd).1, k1.trans (shrinkFinish_spec r1 hd).2⟩
      · rw [if_neg hd]
        have hs1 : h.split - 1 < h.lowMax := by omega
        obtain ⟨w, k⟩ := ih (shrinkOne h) r1 hst (Nat.pos_of_ne_zero hd) (Or.inl hs1) hne
        exact ⟨w, k1.trans k⟩
    · rw [if_neg hc]
      exact ⟨wf_of_resizing r hne hs (by omega), Keeps.refl h⟩

end Hashlin
end Rtr
