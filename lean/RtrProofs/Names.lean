/-
  Proofs about the to-string function IR (C20): if the extracted body passes the finite, decidable side conditions
  `ToStrFn.Sound`, then for EVERY integer argument the function returns the name of the converted argument when that is
  a declared enumerator value, NULL otherwise, and never reads outside the table (`ToStrFn.run_spec`).
-/
import RtrModel.NamesIR

namespace Rtr.NamesIR

/-- specification: the identifier of the enumerator whose value is `v`, if any -/
def specName (enums : List (String × Int)) (v : Int) : Option String :=
  (enums.find? (fun e => e.2 == v)).map (·.1)

theorem two_pow_pos (b : Nat) : (0 : Int) < 2 ^ b := Int.pow_pos (by decide)

theorem two_pow_succ_pred (b : Nat) (h : 1 ≤ b) : (2 : Int) ^ b = 2 * 2 ^ (b - 1) := by
  obtain ⟨k, rfl⟩ : ∃ k, b = k + 1 := ⟨b - 1, by omega⟩
  simp [Int.pow_succ, Int.mul_comm]

theorem two_pow_mono {a b : Nat} (h : a ≤ b) : (2 : Int) ^ a ≤ 2 ^ b := by
  have : (2 : Nat) ^ a ≤ 2 ^ b := Nat.pow_le_pow_right (by decide) h
  exact_mod_cast this

/-- every value of a type lies in `[-2^(bits-1), 2^bits)`, the range in which `wrap_unsigned` / `wrap_signed` say what a
    conversion does, of every type `u` at least as wide -/
theorem wrap_range (t u : CInt) (hb : 1 ≤ t.bits) (htu : t.bits ≤ u.bits) (v : Int) :
    -(2 ^ (u.bits - 1)) ≤ t.wrap v ∧ t.wrap v < 2 ^ u.bits := by
  have hm := two_pow_pos t.bits
  have h2 := two_pow_succ_pred t.bits hb
  have m1 := two_pow_mono (a := t.bits - 1) (b := u.bits - 1) (by omega)
  have m2 := two_pow_mono htu
  have r0 := Int.emod_nonneg v (Int.ne_of_gt hm)
  have r1 := Int.emod_lt_of_pos v hm
  unfold CInt.wrap
  simp only
  split <;> omega

theorem emod_of_range (m v : Int) (h1 : -m ≤ v) (h2 : v < m) : v % m = if v < 0 then v + m else v := by
  split
  · have : (v + m) % m = v + m := Int.emod_eq_of_lt (by omega) (by omega)
    rw [← this, Int.add_emod_right]
  · exact Int.emod_eq_of_lt (by omega) h2

theorem wrap_unsigned (t : CInt) (hu : t.signed = false) (v : Int)
    (h1 : -(2 ^ t.bits) ≤ v) (h2 : v < 2 ^ t.bits) :
    t.wrap v = if v < 0 then v + 2 ^ t.bits else v := by
  unfold CInt.wrap
  simp only [hu, Bool.false_eq_true, false_and, if_false]
  exact emod_of_range _ _ h1 h2

theorem wrap_signed (t : CInt) (hs : t.signed = true) (hb : 1 ≤ t.bits) (v : Int)
    (h1 : -(2 ^ (t.bits - 1)) ≤ v) (h2 : v < 2 ^ t.bits) :
    t.wrap v = if v < 2 ^ (t.bits - 1) then v else v - 2 ^ t.bits := by
  have hh := two_pow_pos (t.bits - 1)
  have e2 := two_pow_succ_pred t.bits hb
  unfold CInt.wrap
  simp only [hs, true_and]
  rw [emod_of_range _ v (by omega) h2]
  by_cases hv : v < 0
  · rw [if_pos hv, if_pos (by omega), if_pos (by omega)]
    omega
  · rw [if_neg hv]
    split <;> split <;> omega

/-- guards of the form `(T)p >= c` / `(T)p > c-1`: the type `T` and the bound `c` -/
def Guard.upper? (g : Guard) : Option (CInt × Int) :=
  match g.convs, g.op with
  | [t], .ge => some (t, g.const)
  | [t], .gt => some (t, g.const + 1)
  | _, _ => none

/-- is `g` an upper-bound check with bound `B` performed in an unsigned type at least as wide as
    the parameter type (so that it also catches negative parameter values)? -/
def Guard.isUpper (g : Guard) (p : CInt) (B : Nat) : Bool :=
  match g.upper? with
  | some (t, c) => !t.signed && decide (1 ≤ p.bits) && decide (p.bits ≤ t.bits) && decide (c = (B : Int))
      && decide ((B : Int) ≤ 2 ^ (t.bits - 1))
  | none => false

/-- are `g1`, `g2` the pair `(T)p < 0`, `(T)p >= B` performed in one signed type `T` at least as wide as
    the parameter type? -/
def Guard.isLowerUpper (g1 g2 : Guard) (p : CInt) (B : Nat) : Bool :=
  match g1.convs, g1.op, g2.upper? with
  | [t], .lt, some (t2, c) => decide (g1.const = 0) && decide (t = t2) && t.signed && decide (1 ≤ p.bits)
      && decide (p.bits ≤ t.bits) && decide (c = (B : Int)) && decide ((B : Int) ≤ 2 ^ (t.bits - 1))
  | _, _, _ => false

/-- the bound of the first upper-bound check -/
def ToStrFn.bound (f : ToStrFn) : Nat :=
  match f.guards.filterMap (fun g => g.upper?) with
  | (_, c) :: _ => c.toNat
  | [] => 0

/-- finite, decidable side conditions under which the function meets its specification -/
def ToStrFn.Sound (f : ToStrFn) (tbl : List (Option String)) (enums : List (String × Int)) : Bool :=
  f.shape == .guarded
  && (f.guards.any (fun g => g.isUpper f.paramTy f.bound)
      || f.guards.any (fun g1 => f.guards.any (fun g2 => g1.isLowerUpper g2 f.paramTy f.bound)))
  && (List.range f.bound).all (fun n => f.runV tbl (n : Int) == .ok (specName enums (n : Int)))
  && enums.all (fun e => decide (0 ≤ e.2) && decide (e.2 < (f.bound : Int)))

theorem Guard.upper_fires (g : Guard) (t : CInt) (c : Int) (hup : g.upper? = some (t, c)) (v : Int) :
    g.fires v = decide (t.wrap v ≥ c) := by
  unfold Guard.upper? at hup
  unfold Guard.fires
  split at hup
  next t' hc' ho =>
    simp only [Option.some.injEq, Prod.mk.injEq] at hup
    obtain ⟨rfl, rfl⟩ := hup
    rw [hc', ho]
    rfl
  next t' hc' ho =>
    simp only [Option.some.injEq, Prod.mk.injEq] at hup
    obtain ⟨rfl, rfl⟩ := hup
    rw [hc', ho]
    simp only [List.foldl_cons, List.foldl_nil, Cmp.eval]
    by_cases h : t'.wrap v > g.const <;> simp [h] <;> omega
  next => exact absurd hup (by simp)

theorem Guard.isUpper_fires (g : Guard) (p : CInt) (B : Nat) (h : g.isUpper p B = true) (i : Int) :
    g.fires (p.wrap i) = true ↔ ¬ (0 ≤ p.wrap i ∧ p.wrap i < B) := by
  unfold Guard.isUpper at h
  split at h
  next t c hup =>
    simp only [Bool.and_eq_true, Bool.not_eq_true', decide_eq_true_eq] at h
    obtain ⟨⟨⟨⟨hu, hp1⟩, hpt⟩, hc⟩, hB⟩ := h
    have hr := wrap_range p t hp1 hpt i
    have ht1 : 1 ≤ t.bits := by omega
    have h2 := two_pow_succ_pred t.bits ht1
    have hh := two_pow_pos (t.bits - 1)
    have hw := wrap_unsigned t hu (p.wrap i) (by omega) (by omega)
    rw [g.upper_fires t c hup, hw, decide_eq_true_eq]
    split <;> omega
  next => exact absurd h (by simp)

theorem Guard.isLowerUpper_fires (g1 g2 : Guard) (p : CInt) (B : Nat) (h : g1.isLowerUpper g2 p B = true) (i : Int)
    (hv : ¬ (0 ≤ p.wrap i ∧ p.wrap i < B)) : g1.fires (p.wrap i) = true ∨ g2.fires (p.wrap i) = true := by
  unfold Guard.isLowerUpper at h
  split at h
  next t t2 c hc1 ho1 hup =>
    simp only [Bool.and_eq_true, decide_eq_true_eq] at h
    obtain ⟨⟨⟨⟨⟨⟨h0, rfl⟩, hs⟩, hp1⟩, hpt⟩, hc⟩, hB⟩ := h
    have hr := wrap_range p t hp1 hpt i
    have ht1 : 1 ≤ t.bits := by omega
    have e2 := two_pow_succ_pred t.bits ht1
    have hh := two_pow_pos (t.bits - 1)
    have hw := wrap_signed t hs ht1 (p.wrap i) (by omega) (by omega)
    have f2 := g2.upper_fires t c hup (p.wrap i)
    have f1 : g1.fires (p.wrap i) = decide (t.wrap (p.wrap i) < 0) := by
      unfold Guard.fires
      rw [hc1, ho1, h0]
      rfl
    rw [f1, f2, hw]
    simp only [decide_eq_true_eq]
    split <;> omega
  next => exact absurd h (by simp)

theorem specName_none_of_bound (enums : List (String × Int)) (B : Int)
    (h : enums.all (fun e => decide (0 ≤ e.2) && decide (e.2 < B)) = true) (v : Int)
    (hv : ¬ (0 ≤ v ∧ v < B)) : specName enums v = none := by
  unfold specName
  rw [Option.map_eq_none_iff, List.find?_eq_none]
  intro e he
  have := List.all_eq_true.mp h e he
  simp only [Bool.and_eq_true, decide_eq_true_eq] at this
  simp only [beq_iff_eq]
  omega

theorem ToStrFn.run_spec (f : ToStrFn) (tbl : List (Option String)) (enums : List (String × Int))
    (h : f.Sound tbl enums = true) (i : Int) :
    f.run tbl i = .ok (specName enums (f.paramTy.wrap i)) := by
  unfold ToStrFn.Sound at h
  simp only [Bool.and_eq_true] at h
  obtain ⟨⟨⟨hs, hw⟩, hfin⟩, hen⟩ := h
  have hcover : ¬ (0 ≤ f.paramTy.wrap i ∧ f.paramTy.wrap i < f.bound) →
      f.guards.any (·.fires (f.paramTy.wrap i)) = true := by
    intro hv
    rcases (Bool.or_eq_true _ _).mp hw with hw | hw
    · obtain ⟨g, hg, hup⟩ := List.any_eq_true.mp hw
      exact List.any_eq_true.mpr ⟨g, hg, (g.isUpper_fires f.paramTy f.bound hup i).mpr hv⟩
    · obtain ⟨g1, hg1, hw2⟩ := List.any_eq_true.mp hw
      obtain ⟨g2, hg2, hp⟩ := List.any_eq_true.mp hw2
      rcases g1.isLowerUpper_fires g2 f.paramTy f.bound hp i hv with h | h
      · exact List.any_eq_true.mpr ⟨g1, hg1, h⟩
      · exact List.any_eq_true.mpr ⟨g2, hg2, h⟩
  unfold ToStrFn.run
  by_cases hv : 0 ≤ f.paramTy.wrap i ∧ f.paramTy.wrap i < f.bound
  · have hn := List.all_eq_true.mp hfin (f.paramTy.wrap i).toNat (by
      rw [List.mem_range]; omega)
    have : ((f.paramTy.wrap i).toNat : Int) = f.paramTy.wrap i := by omega
    rw [this] at hn
    exact eq_of_beq hn
  · have hany := hcover hv
    rw [specName_none_of_bound enums f.bound hen _ hv]
    unfold ToStrFn.runV
    have hs' : f.shape = .guarded := eq_of_beq hs
    rw [hs']
    simp only [hany, if_true]

/-- For arguments that are values of a 32-bit `int` or `unsigned int`, conversion to a 32-bit enum
    type does not change which enumerator (if any) is named. -/
theorem specName_wrap32 (p : CInt) (hp : p.bits = 32) (enums : List (String × Int)) (B : Int)
    (hB : B ≤ 2 ^ 31)
    (hen : enums.all (fun e => decide (0 ≤ e.2) && decide (e.2 < B)) = true)
    (i : Int) (h1 : -(2 ^ 31) ≤ i) (h2 : i < 2 ^ 32) :
    specName enums (p.wrap i) = specName enums i := by
  have key : p.wrap i = i ∨ (¬ (0 ≤ p.wrap i ∧ p.wrap i < B) ∧ ¬ (0 ≤ i ∧ i < B)) := by
    have e32 : (2 : Int) ^ p.bits = 2 * 2 ^ 31 := by rw [hp]; decide
    have e31 : (2 : Int) ^ (p.bits - 1) = 2 ^ 31 := by rw [hp]
    have hh := two_pow_pos 31
    by_cases hs : p.signed = true
    · rw [wrap_signed p hs (by omega) i (by omega) (by omega)]
      split <;> omega
    · rw [wrap_unsigned p (Bool.eq_false_iff.mpr hs) i (by omega) (by omega)]
      split <;> omega
  rcases key with h | ⟨ha, hb⟩
  · rw [h]
  · rw [specName_none_of_bound enums B hen _ ha, specName_none_of_bound enums B hen _ hb]

/-- what a C caller sees: for a 32-bit enum type and a table of at most 2^31 names, the conversion of the argument
    drops out of `run_spec` for every `int` and every `unsigned int` -/
theorem ToStrFn.run_spec_int (f : ToStrFn) (tbl : List (Option String)) (enums : List (String × Int))
    (h : f.Sound tbl enums = true) (hp : f.paramTy.bits = 32) (hB : (f.bound : Int) ≤ 2 ^ 31)
    (i : Int) (h1 : -(2 ^ 31) ≤ i) (h2 : i < 2 ^ 32) :
    f.run tbl i = .ok (specName enums i) := by
  have hen : enums.all (fun e => decide (0 ≤ e.2) && decide (e.2 < (f.bound : Int))) = true := by
    unfold ToStrFn.Sound at h
    simp only [Bool.and_eq_true] at h
    exact h.2
  rw [f.run_spec tbl enums h i, specName_wrap32 f.paramTy hp enums f.bound hB hen i h1 h2]

end Rtr.NamesIR
