/-
  Invariants of the interleaving semantics (`RtrModel/Locks.lean`) and the generic theorems of C16 (race freedom,
  snapshots), for any number of threads running any paths.

  Two layers.  What concerns ONE thread is a fact about a path cut in two, `d ++ r`: the events `d`
  behind the thread, which its lock set has followed (`d.foldl updHeld h`), and the events `r` ahead
  (first sections: lists only, no system).  `Steps.split` says that every thread of a running system
  stands at such a cut.  What couples the threads is the ownership invariant `Inv`.
-/
import RtrModel.Locks

namespace Rtr.Locks

/-! ### lock sets -/

theorem holds_iff {h : Held} {l : Nat} : holds h l = true ↔ ∃ m, (l, m) ∈ h := by
  simp only [holds, List.any_eq_true, beq_iff_eq]
  constructor
  · rintro ⟨⟨l', m⟩, hm, rfl⟩; exact ⟨m, hm⟩
  · rintro ⟨m, hm⟩; exact ⟨(l, m), hm, rfl⟩

theorem holdsW_iff {h : Held} {l : Nat} : holdsW h l = true ↔ (l, Mode.W) ∈ h := by
  simp only [holdsW, List.any_eq_true, Bool.and_eq_true, beq_iff_eq]
  constructor
  · rintro ⟨⟨l', m⟩, hm, rfl, rfl⟩; exact hm
  · intro hm; exact ⟨(l, Mode.W), hm, rfl, rfl⟩

theorem mem_filter_ne {h : Held} {l l' : Nat} {m : Mode} :
    (l', m) ∈ h.filter (fun e => e.1 != l) ↔ (l', m) ∈ h ∧ l' ≠ l := by
  simp [List.mem_filter]

theorem mem_updHeld_acq {h : Held} {l l' : Nat} {m m' : Mode} :
    (l', m') ∈ updHeld h (.acq m l) ↔ (l' = l ∧ m' = m) ∨ (l', m') ∈ h := by
  simp only [updHeld, List.mem_cons, Prod.mk.injEq]

theorem mem_updHeld_W {h : Held} {e : Ev} {L : Nat} (hm : (L, Mode.W) ∈ updHeld h e) :
    (L, Mode.W) ∈ h ∨ e = .acq .W L := by
  cases e with
  | acq m l =>
    rcases mem_updHeld_acq.mp hm with ⟨rfl, rfl⟩ | hm
    · exact Or.inr rfl
    · exact Or.inl hm
  | rel l => exact Or.inl (mem_filter_ne.mp hm).1
  | rd | wr | bad => exact Or.inl hm

/-! ### a path cut in two -/

theorem runHeld_cons_some {strict : Bool} {h : Held} {e : Ev} {r : List Ev}
    (hg : (runHeld strict h (e :: r)).isSome = true) :
    okEv strict h e = true ∧ (runHeld strict (updHeld h e) r).isSome = true := by
  simp only [runHeld] at hg
  split at hg
  · rename_i hok; exact ⟨hok, hg⟩
  · simp at hg

theorem runHeld_split {strict : Bool} {r : List Ev} (d : List Ev) :
    ∀ h, (runHeld strict h (d ++ r)).isSome = true →
      (runHeld strict h d).isSome = true ∧ (runHeld strict (d.foldl updHeld h) r).isSome = true := by
  induction d with
  | nil => exact fun h hg => ⟨rfl, hg⟩
  | cons e d ih =>
    intro h hg
    obtain ⟨hok, hgr⟩ := runHeld_cons_some hg
    simp only [runHeld, hok, if_true, List.foldl_cons]
    exact ih _ hgr

/-! ### acquisitions on a path, counted by a selector -/

theorem countAcq_cons (sel : Mode → Nat → Bool) (e : Ev) (π : List Ev) :
    countAcq sel (e :: π) = countAcq sel π + (if isAcq sel e then 1 else 0) := by
  simp [countAcq, List.countP_cons]

theorem countAcq_append (sel : Mode → Nat → Bool) (π₁ π₂ : List Ev) :
    countAcq sel (π₁ ++ π₂) = countAcq sel π₁ + countAcq sel π₂ := by
  simp [countAcq, List.countP_append]

theorem isAcq_selL_iff {L : Nat} {e : Ev} : isAcq (selL L) e = true ↔ e = .acq .W L := by
  cases e with
  | acq m l => cases m <;> simp [isAcq, selL]
  | rel | rd | wr | bad => simp [isAcq]

theorem isAcq_selL_false {L : Nat} {e : Ev} (h : e ≠ .acq .W L) : isAcq (selL L) e = false :=
  Bool.eq_false_iff.mpr fun h' => h (isAcq_selL_iff.mp h')

theorem countAcq_selL_le_anyW (L : Nat) (π : List Ev) : countAcq (selL L) π ≤ countAcq anyW π := by
  apply List.countP_mono_left
  intro e _ he
  rw [isAcq_selL_iff.mp he]
  rfl

theorem mem_foldl_updHeld_W {L : Nat} (d : List Ev) :
    ∀ h, (L, Mode.W) ∈ d.foldl updHeld h → (L, Mode.W) ∈ h ∨ countAcq (selL L) d ≠ 0 := by
  induction d with
  | nil => exact fun h hm => Or.inl hm
  | cons e d ih =>
    intro h hm
    rw [countAcq_cons]
    rcases ih _ hm with hm | hc
    · rcases mem_updHeld_W hm with hm | rfl
      · exact Or.inl hm
      · rw [if_pos (isAcq_selL_iff.mpr rfl)]
        exact Or.inr (by omega)
    · exact Or.inr (by omega)

theorem noW_split {L : Nat} {h : Held} {d r : List Ev} (hn : (L, Mode.W) ∉ h)
    (hc : countAcq (selL L) (d ++ r) = 0) : (L, Mode.W) ∉ d.foldl updHeld h ∧ countAcq (selL L) r = 0 := by
  rw [countAcq_append] at hc
  refine ⟨fun hm => ?_, by omega⟩
  rcases mem_foldl_updHeld_W d h hm with hm | hne
  · exact hn hm
  · omega

/-! ### a lock set names no lock twice -/

def NodupNames (h : Held) : Prop := (h.map (·.1)).Nodup

theorem NodupNames.cons {h : Held} {l : Nat} {m : Mode} (hn : NodupNames h) (hl : holds h l = false) :
    NodupNames ((l, m) :: h) := by
  unfold NodupNames at *
  simp only [List.map_cons, List.nodup_cons]
  refine ⟨?_, hn⟩
  intro hmem
  rw [List.mem_map] at hmem
  obtain ⟨⟨l', m'⟩, hm, rfl⟩ := hmem
  have : holds h l' = true := holds_iff.mpr ⟨m', hm⟩
  simp [this] at hl

theorem NodupNames.filter {h : Held} (l : Nat) (hn : NodupNames h) :
    NodupNames (h.filter (fun e => e.1 != l)) := by
  unfold NodupNames at *
  exact List.Nodup.sublist (List.Sublist.map _ List.filter_sublist) hn

theorem NodupNames.mode_unique {h : Held} (hn : NodupNames h) {l : Nat} {m₁ m₂ : Mode}
    (h₁ : (l, m₁) ∈ h) (h₂ : (l, m₂) ∈ h) : m₁ = m₂ := by
  induction h with
  | nil => simp at h₁
  | cons a t ih =>
    unfold NodupNames at hn
    simp only [List.map_cons, List.nodup_cons, List.mem_map] at hn
    obtain ⟨hna, hnt⟩ := hn
    rcases List.mem_cons.mp h₁ with e₁ | e₁ <;> rcases List.mem_cons.mp h₂ with e₂ | e₂
    · rw [← e₁] at e₂; exact (Prod.mk.inj e₂).2.symm ▸ rfl
    · exact absurd ⟨(l, m₂), e₂, by rw [← e₁]⟩ hna
    · exact absurd ⟨(l, m₁), e₁, by rw [← e₂]⟩ hna
    · exact ih hnt e₁ e₂

/-! ### the invariant -/

/-- consistency of the ghost lock sets with the lock state, rwlock exclusion, and guardedness
    of what every thread still has to run (`σ i` = strictness of thread `i`) -/
structure Inv (σ : Nat → Bool) (s : Sys) : Prop where
  guarded : ∀ i, (runHeld (σ i) (s.thr i).held (s.thr i).rest).isSome = true
  -- With `NodupNames.mode_unique`: a thread holds a lock in one mode only.  Part of the invariant for whoever
  -- builds on `Inv`; nothing in this development consumes it (race freedom and the snapshot theorems go through
  -- `guarded`, `wIff`, `rIff` and `excl`; `rNodup` is what makes a release remove its thread from `readers`).
  nodup : ∀ i, NodupNames (s.thr i).held
  wIff : ∀ i l, (l, Mode.W) ∈ (s.thr i).held ↔ s.writer l = some i
  rIff : ∀ i l, (l, Mode.R) ∈ (s.thr i).held ↔ i ∈ s.readers l
  excl : ∀ l i, s.writer l = some i → s.readers l = []
  rNodup : ∀ l, (s.readers l).Nodup

theorem inv_init {σ : Nat → Bool} {store : Loc → Nat} {paths : Nat → List Ev}
    (hg : ∀ i, Guarded (σ i) (paths i)) : Inv σ (init store paths) where
  guarded := fun i => hg i
  nodup := fun _ => by simp [init, NodupNames]
  wIff := fun _ _ => by simp [init]
  rIff := fun _ _ => by simp [init]
  excl := fun _ _ h => by simp [init] at h
  rNodup := fun _ => by simp [init]

/-! ### a function updated at one point -/

theorem upd_same {α β : Type} [DecidableEq α] (f : α → β) (a : α) (b : β) : upd f a b a = b := by
  simp [upd]

theorem upd_other {α β : Type} [DecidableEq α] (f : α → β) (a : α) (b : β) {x : α} (h : x ≠ a) :
    upd f a b x = f x := by
  simp [upd, h]

/-! ### one step: the thread table, who owns which lock, the invariant -/

theorem fire_thr {s s' : Sys} {i : Nat} (hf : fire s i = some s') :
    ∃ e r, (s.thr i).rest = e :: r ∧ enabled s i e = true ∧ s' = apply s i e r := by
  unfold fire at hf
  split at hf
  · simp at hf
  · rename_i e r hr
    split at hf
    · rename_i hen
      simp only [Option.some.injEq] at hf
      exact ⟨e, r, hr, hen, hf.symm⟩
    · simp at hf

theorem apply_thr (s : Sys) (i : Nat) (e : Ev) (r : List Ev) :
    (apply s i e r).thr = upd s.thr i ⟨updHeld (s.thr i).held e, r⟩ := by
  unfold apply
  cases e with
  | acq m l => cases m <;> rfl
  | rel l =>
    simp only
    split <;> rfl
  | rd | wr | bad => rfl

theorem apply_thr_same (s : Sys) (i : Nat) (e : Ev) (r : List Ev) :
    (apply s i e r).thr i = ⟨updHeld (s.thr i).held e, r⟩ := by
  rw [apply_thr, upd_same]

theorem apply_thr_other (s : Sys) (i : Nat) (e : Ev) (r : List Ev) {j : Nat} (h : j ≠ i) :
    (apply s i e r).thr j = s.thr j := by
  rw [apply_thr, upd_other _ _ _ h]

theorem NodupNames.updHeld {strict : Bool} {h : Held} {e : Ev} (hn : NodupNames h) (hok : okEv strict h e = true) :
    NodupNames (updHeld h e) := by
  cases e with
  | acq m l => exact hn.cons (by simpa [okEv] using hok)
  | rel l => exact hn.filter l
  | rd | wr | bad => exact hn

/-- thread `j` holds lock `l` in mode `m`, according to the lock state -/
def owns (s : Sys) (l : Nat) : Mode → Nat → Prop
  | .W, j => s.writer l = some j
  | .R, j => j ∈ s.readers l

theorem Inv.mem_held {σ : Nat → Bool} {s : Sys} (hI : Inv σ s) (j l : Nat) (m : Mode) :
    (l, m) ∈ (s.thr j).held ↔ owns s l m j := by
  cases m with
  | R => exact hI.rIff j l
  | W => exact hI.wIff j l

theorem owns_apply_acq {s : Sys} {i l : Nat} {m : Mode} {r : List Ev} (hen : enabled s i (.acq m l) = true)
    (l' : Nat) (m' : Mode) (j : Nat) :
    owns (apply s i (.acq m l) r) l' m' j ↔ (l' = l ∧ m' = m ∧ j = i) ∨ owns s l' m' j := by
  by_cases hl : l' = l
  · subst hl
    cases m with
    | W =>
      have hw : s.writer l' = none := by
        simp only [enabled, Bool.and_eq_true, Option.isNone_iff_eq_none] at hen
        exact hen.1
      cases m' <;> simp [owns, apply, upd, hw, eq_comm]
    | R => cases m' <;> simp [owns, apply, upd]
  · cases m <;> cases m' <;> simp [owns, apply, upd, hl]

theorem owns_apply_rel {σ : Nat → Bool} {s : Sys} (hI : Inv σ s) (i l : Nat) (r : List Ev)
    (l' : Nat) (m' : Mode) (j : Nat) :
    owns (apply s i (.rel l) r) l' m' j ↔ owns s l' m' j ∧ ¬ (l' = l ∧ j = i) := by
  by_cases hl : l' = l
  · subst hl
    by_cases hwi : s.writer l' = some i
    · -- a write lock is released: there were no readers
      have hrd := hI.excl l' i hwi
      cases m' <;> simp [owns, apply, upd, hwi, hrd, eq_comm]
    · cases m' with
      | W =>
        simp only [owns, apply, hwi, if_false, true_and]
        constructor
        · intro h
          exact ⟨h, fun hj => hwi (hj ▸ h)⟩
        · exact fun h => h.1
      | R => simp [owns, apply, upd, hwi, (hI.rNodup l').mem_erase_iff, and_comm]
  · simp only [apply]
    split <;> cases m' <;> simp [owns, upd, hl]

theorem inv_step {σ : Nat → Bool} {s s' : Sys} {i : Nat} (hI : Inv σ s) (hf : fire s i = some s') : Inv σ s' := by
  obtain ⟨e, r, hr, hen, rfl⟩ := fire_thr hf
  have hgi := hI.guarded i
  rw [hr] at hgi
  obtain ⟨hok, hgr⟩ := runHeld_cons_some hgi
  have hguard : ∀ j, (runHeld (σ j) ((apply s i e r).thr j).held ((apply s i e r).thr j).rest).isSome = true := by
    intro j
    by_cases hj : j = i
    · subst hj; rw [apply_thr_same]; exact hgr
    · rw [apply_thr_other s i e r hj]; exact hI.guarded j
  have hnodup : ∀ j, NodupNames ((apply s i e r).thr j).held := by
    intro j
    by_cases hj : j = i
    · subst hj; rw [apply_thr_same]; exact (hI.nodup j).updHeld hok
    · rw [apply_thr_other s i e r hj]; exact hI.nodup j
  -- `wIff` and `rIff` follow from one statement about `owns`
  suffices h : (∀ j l m, (l, m) ∈ ((apply s i e r).thr j).held ↔ owns (apply s i e r) l m j) ∧
      (∀ l k, (apply s i e r).writer l = some k → (apply s i e r).readers l = []) ∧
      (∀ l, ((apply s i e r).readers l).Nodup) from
    ⟨hguard, hnodup, fun j l => h.1 j l .W, fun j l => h.1 j l .R, h.2.1, h.2.2⟩
  cases e with
  | acq m l =>
    have hnl : ∀ m', ¬ owns s l m' i := fun m' ho => by
      have := holds_iff.mpr ⟨m', (hI.mem_held i l m').mpr ho⟩
      simp [okEv, this] at hok
    refine ⟨?_, ?_, ?_⟩
    · intro j l' m'
      rw [owns_apply_acq hen, ← hI.mem_held]
      by_cases hj : j = i
      · subst hj
        rw [apply_thr_same, mem_updHeld_acq]
        simp
      · rw [apply_thr_other s i _ r hj]
        simp [hj]
    · intro l' k hk
      have hk' := (owns_apply_acq hen l' .W k (r := r)).mp hk
      cases m with
      | W =>
        simp only [enabled, Bool.and_eq_true, List.isEmpty_iff] at hen
        by_cases hl : l' = l
        · subst hl; simpa [apply] using hen.2
        · simp only [hl, false_and, false_or] at hk'
          simpa [apply, upd, hl] using hI.excl l' k hk'
      | R =>
        simp only [reduceCtorEq, false_and, and_false, false_or] at hk'
        have hl : l' ≠ l := fun hl => by
          simp only [enabled, Option.isNone_iff_eq_none] at hen
          rw [hl] at hk'
          rw [show s.writer l = some k from hk'] at hen
          cases hen
        simpa [apply, upd, hl] using hI.excl l' k hk'
    · intro l'
      cases m with
      | W => exact hI.rNodup l'
      | R =>
        simp only [apply]
        by_cases hl : l' = l
        · subst hl
          simp only [upd, if_true, List.nodup_cons]
          exact ⟨hnl .R, hI.rNodup l'⟩
        · simp only [upd, hl, if_false]
          exact hI.rNodup l'
  | rel l =>
    refine ⟨?_, ?_, ?_⟩
    · intro j l' m'
      rw [owns_apply_rel hI, ← hI.mem_held]
      by_cases hj : j = i
      · subst hj
        rw [apply_thr_same]
        simp [updHeld]
      · rw [apply_thr_other s i _ r hj]
        simp [hj]
    · intro l' k hk
      have hk' := ((owns_apply_rel hI i l r l' .W k).mp hk).1
      have hrd := hI.excl l' k hk'
      simp only [apply]
      split
      · exact hrd
      · by_cases hl : l' = l
        · subst hl
          simp [upd, hrd]
        · simpa [upd, hl] using hrd
    · intro l'
      simp only [apply]
      split
      · exact hI.rNodup l'
      · by_cases hl : l' = l
        · subst hl
          simp only [upd, if_true]
          exact (hI.rNodup l').erase i
        · simp only [upd, hl, if_false]
          exact hI.rNodup l'
  | rd | wr =>
    -- an access changes neither the lock state nor the lock sets
    refine ⟨fun j l m => ?_, hI.excl, hI.rNodup⟩
    show _ ↔ owns s l m j
    rw [← hI.mem_held]
    by_cases hj : j = i
    · subst hj
      rw [apply_thr_same]
      rfl
    · rw [apply_thr_other s i _ r hj]
  | bad => simp [okEv] at hok

theorem Steps.trans {s t u : Sys} (h₁ : Steps s t) (h₂ : Steps t u) : Steps s u := by
  induction h₂ with
  | refl => exact h₁
  | tail _ hst ih => exact .tail ih hst

theorem inv_steps {σ : Nat → Bool} {s s' : Sys} (hI : Inv σ s) (hs : Steps s s') : Inv σ s' := by
  induction hs with
  | refl => exact hI
  | tail _ hst ih => obtain ⟨i, hf⟩ := hst; exact inv_step ih hf

theorem inv_reach {σ : Nat → Bool} {store : Loc → Nat} {paths : Nat → List Ev}
    (hg : ∀ i, Guarded (σ i) (paths i)) {s : Sys} (hr : Reach store paths s) : Inv σ s :=
  inv_steps (inv_init hg) hr

/-! ### the thread view -/

/-- what thread `j` has done between two states: the events `d`; its lock set has followed them -/
theorem Steps.split {s s' : Sys} (hs : Steps s s') (j : Nat) :
    ∃ d, (s.thr j).rest = d ++ (s'.thr j).rest ∧ (s'.thr j).held = d.foldl updHeld (s.thr j).held := by
  induction hs with
  | refl => exact ⟨[], rfl, rfl⟩
  | @tail t _ _ hst ih =>
    obtain ⟨d, hd, hh⟩ := ih
    obtain ⟨i, hf⟩ := hst
    obtain ⟨e, r, hr, _, rfl⟩ := fire_thr hf
    by_cases hj : j = i
    · subst hj
      refine ⟨d ++ [e], ?_, ?_⟩
      · rw [apply_thr_same, hd, hr, List.append_assoc]
        rfl
      · rw [apply_thr_same, List.foldl_append, ← hh]
        rfl
    · rw [apply_thr_other t i e r hj]
      exact ⟨d, hd, hh⟩

theorem Reach.split {store : Loc → Nat} {paths : Nat → List Ev} {s : Sys} (hr : Reach store paths s) (j : Nat) :
    ∃ d, paths j = d ++ (s.thr j).rest ∧ (s.thr j).held = d.foldl updHeld [] :=
  Steps.split hr j

theorem Steps.guarded {s s' : Sys} (hs : Steps s s') {strict : Bool} {j : Nat}
    (hg : (runHeld strict (s.thr j).held (s.thr j).rest).isSome = true) :
    (runHeld strict (s'.thr j).held (s'.thr j).rest).isSome = true := by
  obtain ⟨d, hd, hh⟩ := hs.split j
  rw [hd] at hg
  rw [hh]
  exact (runHeld_split d _ hg).2

theorem Steps.noW {s s' : Sys} (hs : Steps s s') {j L : Nat} (hn : (L, Mode.W) ∉ (s.thr j).held)
    (hc : countAcq (selL L) (s.thr j).rest = 0) :
    (L, Mode.W) ∉ (s'.thr j).held ∧ countAcq (selL L) (s'.thr j).rest = 0 := by
  obtain ⟨d, hd, hh⟩ := hs.split j
  rw [hd] at hc
  rw [hh]
  exact noW_split hn hc

/-! ### consequences of the invariant -/

theorem Inv.next_ok {σ : Nat → Bool} {s : Sys} (hI : Inv σ s) {i : Nat} {e : Ev} (hn : next s i = some e) :
    okEv (σ i) (s.thr i).held e = true := by
  unfold next at hn
  have hg := hI.guarded i
  cases hr : (s.thr i).rest with
  | nil =>
    rw [hr] at hn
    cases hn
  | cons e' r =>
    rw [hr] at hn hg
    cases hn
    exact (runHeld_cons_some hg).1

theorem Inv.writer_alone {σ : Nat → Bool} {s : Sys} (hI : Inv σ s) {i j : Nat} {l : Nat} {m : Mode}
    (hw : (l, Mode.W) ∈ (s.thr i).held) (hj : (l, m) ∈ (s.thr j).held) : i = j := by
  have hwi := (hI.wIff i l).mp hw
  cases m with
  | W =>
    have := (hI.wIff j l).mp hj
    rw [hwi] at this
    exact Option.some.inj this
  | R =>
    have := (hI.rIff j l).mp hj
    rw [hI.excl l i hwi] at this
    simp at this

/-- a thread about to write excludes every conflicting partner: the partner would hold the
    location's lock in some mode -/
theorem Inv.no_conflict_wr {σ : Nat → Bool} {s : Sys} (hI : Inv σ s) {i j : Nat} {x : Loc} {v : Nat} {e₂ : Ev}
    (hij : i ≠ j) (h₁ : next s i = some (.wr x v)) (h₂ : next s j = some e₂)
    (hsj : (∃ y, e₂ = .rd y) → σ j = true) :
    conflict (.wr x v) e₂ = false ∧ conflict e₂ (.wr x v) = false := by
  have hw₁ : (x.tbl, Mode.W) ∈ (s.thr i).held := holdsW_iff.mp (hI.next_ok h₁)
  have ok₂ := hI.next_ok h₂
  have key : ∀ m, (x.tbl, m) ∉ (s.thr j).held := fun m hm => hij (hI.writer_alone hw₁ hm)
  cases e₂ with
  | wr y w =>
    have hxy : x ≠ y := fun hxy => key .W (hxy ▸ holdsW_iff.mp ok₂)
    simp [conflict, hxy, Ne.symm hxy]
  | rd y =>
    have hh : holds (s.thr j).held y.tbl = true := by simpa [okEv, hsj ⟨y, rfl⟩] using ok₂
    obtain ⟨m, hm⟩ := holds_iff.mp hh
    have hxy : x ≠ y := fun hxy => key m (hxy ▸ hm)
    simp [conflict, hxy, Ne.symm hxy]
  | acq | rel | bad => exact ⟨rfl, rfl⟩

theorem Inv.no_race {σ : Nat → Bool} {s : Sys} (hI : Inv σ s)
    (hstrict : ∀ a b x v, a ≠ b → next s a = some (.wr x v) → σ b = true) : ¬ Race s := by
  rintro ⟨i, j, e₁, e₂, hij, h₁, h₂, hc⟩
  cases e₁ with
  | wr x v =>
    rw [(hI.no_conflict_wr hij h₁ h₂ fun _ => hstrict i j x v hij h₁).1] at hc
    cases hc
  | rd x =>
    cases e₂ with
    | wr y v =>
      rw [(hI.no_conflict_wr (Ne.symm hij) h₂ h₁ fun _ => hstrict j i y v (Ne.symm hij) h₂).2] at hc
      cases hc
    | rd | acq | rel | bad => cases hc
  | acq | rel | bad => cases hc

/-- If every access of every thread is guarded (reads under R or W of the
    location's lock, writes under W), then in every reachable state of every interleaving no two
    conflicting accesses of different threads are simultaneously enabled.  Any number of
    threads, any paths. -/
theorem guarded_no_race {store : Loc → Nat} {paths : Nat → List Ev}
    (hg : ∀ i, Guarded true (paths i)) {s : Sys} (hr : Reach store paths s) : ¬ Race s :=
  (inv_reach (σ := fun _ => true) hg hr).no_race fun _ _ _ _ _ _ => rfl

/-! ### the store changes only under the write lock -/

/-- effect of one event on the abstract value of table `L` -/
def applyEv (L : Nat) (e : Ev) (a : Part → Nat) : Part → Nat :=
  match e with
  | .wr x v => if x.tbl = L then upd a x.part v else a
  | _ => a

theorem abs_apply (s : Sys) (i : Nat) (e : Ev) (r : List Ev) (L : Nat) :
    abs (apply s i e r) L = applyEv L e (abs s L) := by
  cases e with
  | wr x v =>
    funext p
    obtain ⟨xt, xp⟩ := x
    simp only [abs, apply, applyEv, upd, Loc.mk.injEq]
    by_cases h : xt = L
    · subst h
      by_cases hp : p = xp
      · simp [hp, upd]
      · simp [hp, upd, abs]
    · have : ¬ (L = xt) := fun h' => h h'.symm
      simp [h, this, abs]
  | acq m l => cases m <;> rfl
  | rel l => simp only [applyEv]; unfold abs apply; simp only; split <;> rfl
  | rd x => rfl
  | bad => rfl

theorem applyEv_of_not_held {strict : Bool} {h : Held} {e : Ev} {L : Nat} (a : Part → Nat)
    (hok : okEv strict h e = true) (hn : (L, Mode.W) ∉ h) : applyEv L e a = a := by
  cases e with
  | wr x v =>
    have hw : (x.tbl, Mode.W) ∈ h := holdsW_iff.mp hok
    have : x.tbl ≠ L := fun hx => hn (hx ▸ hw)
    simp [applyEv, this]
  | acq | rel | rd | bad => rfl

theorem abs_changes_only_under_W {σ : Nat → Bool} {s s' : Sys} {i : Nat} (hI : Inv σ s)
    (hf : fire s i = some s') {l : Nat} (hne : abs s' l ≠ abs s l) : s.writer l = some i := by
  obtain ⟨e, r, hr, _, rfl⟩ := fire_thr hf
  have hok := hI.next_ok (show next s i = some e by simp [next, hr])
  apply (hI.wIff i l).mp
  apply Classical.byContradiction
  intro hnw
  rw [abs_apply, applyEv_of_not_held _ hok hnw] at hne
  exact hne rfl

theorem abs_frozen_under_R {σ : Nat → Bool} {s s' : Sys} {i j : Nat} (hI : Inv σ s)
    (hf : fire s i = some s') {l : Nat} (hj : j ∈ s.readers l) : abs s' l = abs s l :=
  -- a change would make `i` the writer of `l`, which then has no reader
  Classical.byContradiction fun h => List.not_mem_nil (hI.excl l i (abs_changes_only_under_W hI hf h) ▸ hj)

theorem abs_frozen_under_W {σ : Nat → Bool} {s s' : Sys} {i j : Nat} (hI : Inv σ s)
    (hf : fire s i = some s') {l : Nat} (hj : s.writer l = some j) (hij : i ≠ j) : abs s' l = abs s l :=
  Classical.byContradiction fun h => hij (Option.some.inj ((abs_changes_only_under_W hI hf h).symm.trans hj))

/-- a run during which `P` holds in every state before a step -/
inductive StepsWhile (P : Sys → Prop) : Sys → Sys → Prop where
  | refl (s) : StepsWhile P s s
  | tail {s t u} : StepsWhile P s t → P t → Step t u → StepsWhile P s u

theorem StepsWhile.steps {P : Sys → Prop} {s s' : Sys} (h : StepsWhile P s s') : Steps s s' := by
  induction h with
  | refl => exact .refl _
  | tail _ _ hst ih => exact .tail ih hst

/-- From the moment thread `j` holds the read lock of table `l`, for
    as long as it keeps holding it (whatever all threads do meanwhile), the abstract value of `l`
    is the one at the beginning — in particular the one right after `j`'s acquisition, an instant
    between the call and the return of the reading function. -/
theorem read_section_snapshot {σ : Nat → Bool} {s s' : Sys} {j l : Nat} (hI : Inv σ s)
    (hrun : StepsWhile (fun t => j ∈ t.readers l) s s') : abs s' l = abs s l := by
  induction hrun with
  | refl => rfl
  | tail hpre hP hst ih =>
    obtain ⟨i, hf⟩ := hst
    rw [← ih]
    exact abs_frozen_under_R (inv_steps hI hpre.steps) hf hP

theorem read_observes_snapshot {σ : Nat → Bool} {s s' : Sys} {j l : Nat} (hI : Inv σ s)
    (hrun : StepsWhile (fun t => j ∈ t.readers l) s s') {k : Nat} {x : Loc} {v : Nat} (hx : x.tbl = l)
    (hobs : observes s' k = some (x, v)) : v = abs s l x.part := by
  have hsnap := read_section_snapshot hI hrun
  unfold observes at hobs
  split at hobs
  · rename_i y _
    simp only [Option.some.injEq, Prod.mk.injEq] at hobs
    obtain ⟨rfl, rfl⟩ := hobs
    subst hx
    have := congrFun hsnap y.part
    simpa [abs] using this
  · simp at hobs

/-- One thread `w` whose *writes* are guarded (its reads need not be),
    all other threads strictly guarded and never write-acquiring: no data race in any reachable
    state.  (Covers the synchronising thread, whose `spki_table_notify_diff` walks the table
    lists without a lock.) -/
theorem single_writer_no_race {store : Loc → Nat} {paths : Nat → List Ev} (w : Nat)
    (hw : Guarded false (paths w)) (hg : ∀ j, j ≠ w → Guarded true (paths j))
    (hro : ∀ j, j ≠ w → countAcq anyW (paths j) = 0)
    {s : Sys} (hr : Reach store paths s) : ¬ Race s := by
  let σ : Nat → Bool := fun j => decide (j ≠ w)
  have hgσ : ∀ i, Guarded (σ i) (paths i) := by
    intro i
    by_cases hi : i = w
    · subst hi; simpa [σ] using hw
    · simpa [σ, hi] using hg i hi
  have hI : Inv σ s := inv_reach hgσ hr
  -- only `w` is ever about to write, so the partner of a write is a strict thread
  refine hI.no_race fun a b x v hab hn => ?_
  have hheld : (x.tbl, Mode.W) ∈ (s.thr a).held := holdsW_iff.mp (hI.next_ok hn)
  have haw : a = w := Classical.byContradiction fun h =>
    -- a thread with no write acquisition on its path never holds a write lock
    (Steps.noW hr (j := a) List.not_mem_nil
      (Nat.le_zero.mp (hro a h ▸ countAcq_selL_le_anyW x.tbl (paths a)))).1 hheld
  exact decide_eq_true (haw ▸ hab.symm)

end Rtr.Locks
