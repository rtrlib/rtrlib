/-
  BitsLink: the literal IPv4 bit code of rtrlib/lib/utils.c (`getBits32`) computes the abstract
  bit view (`bitAt`, `prefixEq`) the trie model is written against.
-/
import RtrProofs.TrieWF

namespace Rtr

/-- `lrtr_get_bits(val, from, number)` keeps exactly the bits `from .. from + number - 1` of `val`, counted from
    the most significant one: bit `i` (counted from the least significant one) survives iff
    `from ≤ 31 - i < from + number`.  The mask `~(~0 >> number) >> from` has exactly these bits set; `number = 0`,
    `number = 32` and `from > 31` are the cases the C text treats apart. -/
theorem getBits32_getLsbD (v : BitVec 32) (f n i : Nat) (hn : n ≤ 32) (hi : i < 32) :
    (getBits32 v f n).getLsbD i = (decide (32 ≤ i + f + n ∧ i + f ≤ 31) && v.getLsbD i) := by
  unfold getBits32
  by_cases h0 : n = 0 ∨ f > 31
  · rw [if_pos h0, decide_eq_false (by omega), BitVec.getLsbD_zero, Bool.false_and]
  · rw [if_neg h0]
    by_cases e : n = 32
    · subst e
      simp only [bne_self_eq_false, Bool.false_eq_true, if_false, BitVec.getLsbD_and, BitVec.getLsbD_ushiftRight,
        BitVec.getLsbD_allOnes]
      congr 1
      rw [decide_eq_decide]
      omega
    · have : (n != 32) = true := by simpa using e
      simp only [this, if_true, BitVec.getLsbD_and, BitVec.getLsbD_ushiftRight, BitVec.getLsbD_not,
        BitVec.getLsbD_allOnes]
      congr 1
      rw [Bool.eq_iff_iff]
      simp only [Bool.and_eq_true, Bool.not_eq_true', decide_eq_true_eq, decide_eq_false_iff_not]
      omega

theorem zero_getLsbD (i : Nat) : (0 : BitVec 32).getLsbD i = false := BitVec.getLsbD_zero

theorem getBits32_one (a : BitVec 32) (lvl : Nat) (h : lvl ≤ 31) :
    (getBits32 a lvl 1 == 0) = !a.getLsbD (31 - lvl) := by
  have bit := getBits32_getLsbD a lvl 1 (31 - lvl) (by omega) (by omega)
  rw [decide_eq_true (by omega), Bool.true_and] at bit
  cases hb : a.getLsbD (31 - lvl)
  · rw [Bool.not_false, beq_iff_eq]
    apply BitVec.eq_of_getLsbD_eq
    intro i hi
    rw [zero_getLsbD]
    by_cases c : i = 31 - lvl
    · rw [c, bit, hb]
    · rw [getBits32_getLsbD a lvl 1 i (by omega) hi, decide_eq_false (by omega), Bool.false_and]
  · rw [Bool.not_true, beq_eq_false_iff_ne]
    intro e
    rw [e, hb, zero_getLsbD] at bit
    cases bit

theorem isLeftChildC4_eq (a : Nat) (lvl : Nat) :
    isLeftChildC4 (BitVec.ofNat 32 a) lvl = isLeft 32 a lvl := by
  unfold isLeftChildC4 isLeft bitAt
  by_cases h : lvl ≤ 31
  · rw [getBits32_one _ _ h]
    have h1 : lvl < 32 := by omega
    have h2 : 31 - lvl < 32 := by omega
    simp only [h1, decide_true, Bool.true_and]
    congr 1
    rw [BitVec.getLsbD_ofNat]
    simp [h2]
  · have h1 : ¬ lvl < 32 := by omega
    simp only [h1, decide_false, Bool.false_and, Bool.not_false]
    rw [beq_iff_eq]
    apply BitVec.eq_of_getLsbD_eq
    intro i hi
    rw [getBits32_getLsbD _ lvl 1 i (by omega) hi, decide_eq_false (by omega), Bool.false_and, zero_getLsbD]

theorem ofNat_getLsbD (p i : Nat) (hi : i < 32) : (BitVec.ofNat 32 p).getLsbD i = p.testBit i := by
  rw [BitVec.getLsbD_ofNat]; simp [hi]

theorem getBits32_zero_num (v : BitVec 32) (f : Nat) : getBits32 v f 0 = 0#32 := by
  simp [getBits32]

theorem word_cover (P Q n : Nat) (h : n ≤ 32) :
    getBits32 (BitVec.ofNat 32 P) 0 n = getBits32 (BitVec.ofNat 32 Q) 0 n ↔
      ∀ j, j < 32 → 32 - n ≤ j → P.testBit j = Q.testBit j := by
  constructor
  · intro e j hj hle
    have := congrArg (fun x => x.getLsbD j) e
    simp only [getBits32_getLsbD _ 0 n j h hj, ofNat_getLsbD _ j hj] at this
    rw [decide_eq_true (by omega)] at this
    simpa using this
  · intro e
    apply BitVec.eq_of_getLsbD_eq
    intro i hi
    rw [getBits32_getLsbD _ 0 n i h hi, getBits32_getLsbD _ 0 n i h hi, ofNat_getLsbD _ i hi, ofNat_getLsbD _ i hi]
    by_cases c : 32 - n ≤ i
    · rw [e i hi c]
    · rw [decide_eq_false (by omega)]
      rfl

theorem coversC4_eq (p q : Nat) (hp : p < 2^32) (hq : q < 2^32) (len : Nat) (h : len ≤ 32) :
    coversC4 (BitVec.ofNat 32 p) len (BitVec.ofNat 32 q) = prefixEq 32 p q len := by
  have key : coversC4 (BitVec.ofNat 32 p) len (BitVec.ofNat 32 q) = true ↔ prefixEq 32 p q len = true := by
    unfold coversC4
    rw [beq_iff_eq, word_cover p q len h, prefixEq_iff 32 p q len h hp hq]
    constructor
    · intro k j hj
      rw [bitAt_lt _ _ _ (by omega), bitAt_lt _ _ _ (by omega)]
      exact k (32 - 1 - j) (by omega) (by omega)
    · intro k i hi hle
      have := k (31 - i) (by omega)
      rw [bitAt_lt _ _ _ (by omega), bitAt_lt _ _ _ (by omega)] at this
      rwa [show 32 - 1 - (31 - i) = i by omega] at this
  exact Bool.eq_iff_iff.2 key

end Rtr
