/-
  What one operation of the group manager is.  A socket event has three shapes: swallowed, its group
  becomes ESTABLISHED (`be_*`), or a report (`Reports`, an upper bound; the error branch exactly: `event_error_spec`).
-/
import RtrModel.Mgr
import RtrProofs.MgrSort
import RtrProofs.MgrCb

namespace Rtr.Mgr

/-- the group after the socket update of an effective event -/
def evGroup (g : Group) (i : Nat) (s : Sock) (st : SockState) (sy : Bool) : Group :=
  { g with socks := g.socks.set i { s with synced := sy, state := st } }

/-- `event` unfolded, with `mgrCb` left standing; `event_shapes` goes on from here, and
    `event_error_spec` uses this form because it needs the error branch exactly -/
theorem event_cases {gs : List Group} {p i : Nat} {st : SockState} {sy : Bool} {r : List Group × List Ev}
    (h : event gs p i st sy = some r) :
    ∃ g s, findG gs p = some g ∧ g.socks[i]? = some s ∧
      (((s.state = st ∨ s.state = .shutdown) ∧
          r = (modG gs p (fun g => { g with socks := g.socks.set i { s with synced := sy } }), [])) ∨
       (s.state ≠ st ∧ s.state ≠ .shutdown ∧
          r = mgrCb (modG gs p fun _ => evGroup g i s st sy) (evGroup g i s st sy) i st)) := by
  unfold event at h
  split at h
  · cases h
  · rename_i g hg
    split at h
    · cases h
    · rename_i s hs
      refine ⟨g, s, hg, hs, ?_⟩
      simp only at h
      split at h
      · rename_i hc
        left
        exact ⟨hc, (Option.some.inj h).symm⟩
      · rename_i hc
        right
        refine ⟨fun e => hc (Or.inl e), fun e => hc (Or.inr e), (Option.some.inj h).symm⟩

theorem mgrCb_error {st : SockState} (h : st.isError = true) (gs2 : List Group) (g2 : Group) (i : Nat) :
    mgrCb gs2 g2 i st = cbError gs2 g2 i := by
  cases st
  case errFatal => rfl
  case errTransport => rfl
  case errNoData => rfl
  all_goals cases h

/-! ### a group becomes ESTABLISHED -/

theorem be_prefs (gs2 : List Group) (p i : Nat) : prefs (becomeEstablished gs2 p i).1 = prefs gs2 := by
  show prefs (closeLess p (some (p, i)) (setStatus gs2 p .established)).1 = _
  rw [closeLess_eq, prefs_map (closeOne_pref p _), prefs_setStatus]

theorem be_mem {gs2 : List Group} {p i : Nat} {g' : Group} (h : g' ∈ (becomeEstablished gs2 p i).1) :
    ∃ g ∈ gs2, g'.pref = g.pref ∧
      ((g.pref < p ∧ g' = g) ∨ (g.pref = p ∧ g' = { g with status := .established }) ∨
       (p < g.pref ∧ g'.status = .closed ∧ (g' = g ∨ ∀ s ∈ g'.socks, s.thread = false))) := by
  have h' : g' ∈ (closeLess p (some (p, i)) (setStatus gs2 p .established)).1 := h
  rw [closeLess_eq] at h'
  obtain ⟨x, hx, rfl⟩ := List.mem_map.mp h'
  rcases mem_modG.mp hx with ⟨h1, hne⟩ | ⟨g, hg, hgp, rfl⟩
  · refine ⟨x, h1, closeOne_pref .., ?_⟩
    rcases Nat.lt_or_gt_of_ne hne with hlt | hgt
    · rw [closeOne_of_le (Nat.le_of_lt hlt)]
      exact Or.inl ⟨hlt, rfl⟩
    · exact Or.inr (Or.inr ⟨hgt, closeOne_closed hgt, closeOne_threads ..⟩)
  · refine ⟨g, hg, closeOne_pref .., Or.inr (Or.inl ⟨hgp, ?_⟩)⟩
    rw [closeOne_of_le (g := { g with status := .established }) (Nat.le_of_eq hgp)]

theorem be_post_eq {gs2 : List Group} {p i : Nat} {g' : Group} (h : g' ∈ (becomeEstablished gs2 p i).1)
    (hp : g'.pref = p) : ∃ g ∈ gs2, g.pref = p ∧ g' = { g with status := .established } := by
  obtain ⟨g, hg, hgp, ⟨hlt, _⟩ | ⟨he, hk⟩ | ⟨hgt, _⟩⟩ := be_mem h
  · omega
  · exact ⟨g, hg, he, hk⟩
  · omega

theorem be_post_gt {gs2 : List Group} {p i : Nat} {g' : Group} (h : g' ∈ (becomeEstablished gs2 p i).1)
    (hp : p < g'.pref) : g'.status = .closed := by
  obtain ⟨g, _, hgp, ⟨hlt, _⟩ | ⟨he, _⟩ | ⟨_, hc, _⟩⟩ := be_mem h
  · omega
  · omega
  · exact hc

theorem be_post_lt {gs2 : List Group} {p i : Nat} {g' : Group} (h : g' ∈ (becomeEstablished gs2 p i).1)
    (hp : g'.pref < p) : g' ∈ gs2 := by
  obtain ⟨g, hg, hgp, ⟨_, rfl⟩ | ⟨he, _⟩ | ⟨hgt, _⟩⟩ := be_mem h
  · exact hg
  · omega
  · omega

theorem be_emits {gs2 : List Group} {p i : Nat} {g : Group} (hg : g ∈ gs2) (hp : p < g.pref)
    (hs : g.status ≠ .closed) :
    Ev.status g.pref .closed (some (p, i)) ∈ (becomeEstablished gs2 p i).2 ∧
    ∀ j, j < g.socks.length → Ev.stop g.pref j ∈ (becomeEstablished gs2 p i).2 := by
  have hsub : ∀ e ∈ (closeOne p (some (p, i)) g).2, e ∈ (becomeEstablished gs2 p i).2 := by
    intro e he
    apply List.mem_cons_of_mem
    rw [closeLess_eq]
    exact List.mem_flatMap.mpr ⟨g, mem_modG.mpr (Or.inl ⟨hg, by omega⟩), he⟩
  have := closeOne_emits (sock := some (p, i)) hp hs
  exact ⟨hsub _ this.1, fun j hj => hsub _ (this.2 j hj)⟩

theorem be_log {gs2 : List Group} {p i : Nat} {e : Ev} (h : e ∈ (becomeEstablished gs2 p i).2) :
    e = Ev.status p .established (some (p, i)) ∨
    ∃ g ∈ gs2, p < g.pref ∧ g.status ≠ .closed ∧ StopEv g.pref g.status e := by
  unfold becomeEstablished at h
  rcases List.mem_cons.mp h with rfl | h
  · exact Or.inl rfl
  · right
    rw [closeLess_eq] at h
    obtain ⟨x, hx, hx'⟩ := List.mem_flatMap.mp h
    have := closeOne_log hx'
    rcases mem_modG.mp hx with ⟨h1, _⟩ | ⟨g, _, hgp, rfl⟩
    · exact ⟨x, h1, this⟩
    · have := this.1
      simp only at this
      omega

/-! ### the shapes of an event -/

/-- the status `st'` with which a callback for socket state `st` that does not make its group
    ESTABLISHED leaves the group, whose status was `old`: the old one, or a new one that is not
    ESTABLISHED, and CLOSED only on RTR_SHUTDOWN -/
def Reported (st : SockState) (old st' : Status) : Prop :=
  st' = old ∨ (st' ≠ .established ∧ (st' = .closed → st = .shutdown))

theorem Reported.est {st : SockState} {old : Status} (h : Reported st old .established) : old = .established := by
  rcases h with h | ⟨h, _⟩
  · exact h.symm
  · exact absurd rfl h

theorem Reported.closed {st : SockState} {old : Status} (h : Reported st old .closed) :
    old = .closed ∨ st = .shutdown :=
  h.imp Eq.symm fun h => h.2 rfl

/-- What such a callback does to `gs`, in which `g2` stands for the event's group: it leaves the
    group with a status `st'`, reports that or not, and hands at most one group to
    rtr_mgr_start_sockets.  This is an upper bound, enough for everything that holds of all events
    alike (`Reports.prefs`, `Reports.forall`, `Reports.log`).  Deliberately lost: which status it is,
    whether it is reported, which group is started and when; `event_error_spec` has that for the
    error states, from `event_cases`. -/
def Reports (gs : List Group) (g2 : Group) (i : Nat) (st : SockState) (r : List Group × List Ev) : Prop :=
  ∃ st', Reported st g2.status st' ∧
    (∃ l, StartedOne (modG gs g2.pref fun _ => { g2 with status := st' }) r.1 l) ∧
    ∀ e ∈ r.2, e = Ev.status g2.pref st' (some (g2.pref, i)) ∨ ∃ q j ok, e = Ev.start q j ok

theorem mgrCb_shapes (gs : List Group) (g2 : Group) (i : Nat) (st : SockState) {r : List Group × List Ev}
    (hr : mgrCb (modG gs g2.pref fun _ => g2) g2 i st = r) :
    (st = .established ∧ (g2.status = .connecting ∨ g2.status = .error) ∧ g2.isSynced = true ∧
        r = becomeEstablished (modG gs g2.pref fun _ => g2) g2.pref i) ∨
    Reports gs g2 i st r := by
  -- `set_status(st')`, then what `hl` says
  have report : ∀ st' gs' l, Reported st g2.status st' →
      StartedOne (setStatus (modG gs g2.pref fun _ => g2) g2.pref st') gs' l →
      (gs', Ev.status g2.pref st' (some (g2.pref, i)) :: l) = r → Reports gs g2 i st r := by
    intro st' gs' l hst' hl e
    rw [setStatus, modG_const_modG rfl] at hl
    subst e
    refine ⟨st', hst', ⟨l, hl⟩, fun e he => ?_⟩
    exact (List.mem_cons.mp he).imp_right (startedOne_log hl)
  have same : (setStatus (modG gs g2.pref fun _ => g2) g2.pref g2.status,
      [Ev.status g2.pref g2.status (some (g2.pref, i))]) = r → Reports gs g2 i st r :=
    report g2.status _ [] (Or.inl rfl) (.refl _)
  by_cases he : st.isError = true
  · rw [mgrCb_error he, cbError] at hr
    have herr : Reported st g2.status .error := Or.inr ⟨nofun, nofun⟩
    by_cases hsome : someEstablished (setStatus (modG gs g2.pref fun _ => g2) g2.pref .error) = true
    · rw [if_pos hsome] at hr
      exact Or.inr (report .error _ [] herr (.refl _) hr)
    · rw [if_neg hsome] at hr
      exact Or.inr (report .error _ _ herr (startBest_shape ..) hr)
  cases st
  case shutdown =>
    refine Or.inr (report _ _ [] ?_ (.refl _) hr)
    split
    · exact Or.inr ⟨by decide, fun _ => rfl⟩
    · exact Or.inl rfl
  case established =>
    rw [show mgrCb _ g2 i .established = cbEstablished _ g2 i from rfl] at hr
    unfold cbEstablished at hr
    by_cases h1 : g2.status = .connecting
    · rw [if_pos h1] at hr
      by_cases h2 : g2.isSynced = true
      · rw [if_pos h2] at hr
        exact Or.inl ⟨rfl, Or.inl h1, h2, hr.symm⟩
      · rw [if_neg h2] at hr
        exact Or.inr (report _ _ [] (Or.inl h1.symm) (.refl _) hr)
    · rw [if_neg h1] at hr
      by_cases h3 : g2.status = .error
      · rw [if_pos h3] at hr
        by_cases h4 : allErrorBefore (modG gs g2.pref fun _ => g2) g2.pref = true ∧ g2.isSynced = true
        · rw [if_pos h4] at hr
          exact Or.inl ⟨rfl, Or.inr h3, h4.2, hr.symm⟩
        · rw [if_neg h4] at hr
          exact Or.inr (report _ _ [] (Or.inl h3.symm) (.refl _) hr)
      · rw [if_neg h3] at hr
        subst hr
        exact Or.inr ⟨g2.status, Or.inl rfl, ⟨[], .refl _⟩, nofun⟩
  case connecting =>
    refine Or.inr (report _ _ [] ?_ (.refl _) hr)
    split
    · rename_i h
      exact Or.inl h.symm
    · exact Or.inr ⟨by decide, by decide⟩
  case errFatal => exact absurd rfl he
  case errTransport => exact absurd rfl he
  case errNoData => exact absurd rfl he
  all_goals exact Or.inr (same hr)

/-- The three things a socket event can be: swallowed by rtr_change_socket_state (same state, or
    the socket is RTR_SHUTDOWN), the RTR_ESTABLISHED event that makes its group ESTABLISHED, or a report. -/
theorem event_shapes {gs : List Group} {p i : Nat} {st : SockState} {sy : Bool} {r : List Group × List Ev}
    (h : event gs p i st sy = some r) :
    ∃ g s, findG gs p = some g ∧ g.socks[i]? = some s ∧
      (((s.state = st ∨ s.state = .shutdown) ∧
          r = (modG gs p (fun g => { g with socks := g.socks.set i { s with synced := sy } }), [])) ∨
       (st = .established ∧ (g.status = .connecting ∨ g.status = .error) ∧
          (evGroup g i s st sy).isSynced = true ∧
          r = becomeEstablished (modG gs p fun _ => evGroup g i s st sy) p i) ∨
       Reports gs (evGroup g i s st sy) i st r) := by
  obtain ⟨g, s, hg, hs, ⟨hq, hr⟩ | ⟨_, _, hr⟩⟩ := event_cases h
  · exact ⟨g, s, hg, hs, Or.inl ⟨hq, hr⟩⟩
  · have hp : (evGroup g i s st sy).pref = p := (findG_some hg).2
    subst hp
    exact ⟨g, s, hg, hs, Or.inr (mgrCb_shapes gs (evGroup g i s st sy) i st hr.symm)⟩

theorem Reports.forall {gs : List Group} {g2 : Group} {i : Nat} {st : SockState} {r : List Group × List Ev}
    (h : Reports gs g2 i st r) {P : Group → Prop} (h0 : ∀ g ∈ gs, P g)
    (hown : ∀ st', Reported st g2.status st' → P { g2 with status := st' })
    (hstart : ∀ g, P g → P g.startSockets.1) : ∀ g' ∈ r.1, P g' := by
  obtain ⟨st', hst', ⟨l, hl⟩, _⟩ := h
  have hmod : ∀ x ∈ modG gs g2.pref (fun _ => { g2 with status := st' }), P x := by
    intro x hx
    rcases mem_modG_const hx with ⟨h1, _⟩ | rfl
    · exact h0 x h1
    · exact hown st' hst'
  exact startedOne_forall hl hmod hstart

theorem Reports.prefs {gs : List Group} {g2 : Group} {i : Nat} {st : SockState} {r : List Group × List Ev}
    (h : Reports gs g2 i st r) : prefs r.1 = prefs gs := by
  obtain ⟨st', _, ⟨l, hl⟩, _⟩ := h
  rw [startedOne_prefs hl]
  exact prefs_modG (fun x hx => hx.symm)

theorem Reports.log {gs : List Group} {g2 : Group} {i : Nat} {st : SockState} {r : List Group × List Ev}
    (h : Reports gs g2 i st r) {e : Ev} (he : e ∈ r.2) :
    (∃ st', Reported st g2.status st' ∧ e = Ev.status g2.pref st' (some (g2.pref, i))) ∨
    ∃ q j ok, e = Ev.start q j ok := by
  obtain ⟨st', hst', _, hlog⟩ := h
  exact (hlog e he).imp_left fun h => ⟨st', hst', h⟩

theorem event_prefs {gs : List Group} {p i : Nat} {st : SockState} {sy : Bool} {r : List Group × List Ev}
    (h : event gs p i st sy = some r) : prefs r.1 = prefs gs := by
  obtain ⟨g, s, hg, _, ⟨_, rfl⟩ | ⟨_, _, _, rfl⟩ | hrep⟩ := event_shapes h
  · exact prefs_modG (fun _ _ => rfl)
  · rw [be_prefs]
    exact prefs_modG (fun x hx => (findG_some hg).2.trans hx.symm)
  · exact hrep.prefs

/-! ### a group enters ERROR: the best CLOSED group is started -/

theorem someEstablished_iff {gs : List Group} :
    someEstablished gs = true ↔ ∃ g ∈ gs, g.status = .established := by
  simp only [someEstablished, List.any_eq_true, beq_iff_eq]

/-- An effective error event on a sorted list sets group `p` to ERROR — giving `gs1`, whose other
    groups are those of `gs`, so that `is_some_rtr_mgr_group_established` asks whether a group of `gs`
    other than `p` is ESTABLISHED — and, unless one is, starts the best CLOSED group. -/
theorem event_error_spec {gs : List Group} {p i : Nat} {st : SockState} {sy : Bool} {r : List Group × List Ev}
    (h : event gs p i st sy = some r) (hst : st.isError = true) (hs : Sorted gs)
    {g : Group} {s : Sock} (hg : g ∈ gs) (hp : g.pref = p) (hsock : g.socks[i]? = some s)
    (h1 : s.state ≠ st) (h2 : s.state ≠ .shutdown) :
    ∃ gs1, Sorted gs1 ∧ (∀ c, c.pref ≠ p → (c ∈ gs1 ↔ c ∈ gs)) ∧ (∀ c ∈ gs1, c.pref = p → c.status = .error) ∧
      (someEstablished gs1 = true ↔ ∃ c ∈ gs, c.pref ≠ p ∧ c.status = .established) ∧
      r = if someEstablished gs1 then (gs1, [Ev.status p .error (some (p, i))])
          else ((startBest p gs1).1, Ev.status p .error (some (p, i)) :: (startBest p gs1).2) := by
  subst hp
  obtain ⟨g0, s0, hg0, hs0, hc⟩ := event_cases h
  rw [findG_of_mem hs hg] at hg0
  cases hg0
  rw [hsock] at hs0
  cases hs0
  rcases hc with ⟨hc, _⟩ | ⟨_, _, rfl⟩
  · rcases hc with hc | hc
    · exact absurd hc h1
    · exact absurd hc h2
  · have hmem : ∀ c, c.pref ≠ g.pref →
        (c ∈ setStatus (modG gs g.pref fun _ => evGroup g i s st sy) g.pref .error ↔ c ∈ gs) := by
      intro c hc
      unfold setStatus
      rw [mem_modG_iff_of_ne (f := fun x => { x with status := .error }) (fun _ h => h) hc,
        mem_modG_iff_of_ne (p := g.pref) (f := fun _ => evGroup g i s st sy) (fun _ _ => rfl) hc]
    have herr : ∀ c ∈ setStatus (modG gs g.pref fun _ => evGroup g i s st sy) g.pref .error,
        c.pref = g.pref → c.status = .error := by
      intro c hm hcp
      rcases mem_modG.mp hm with ⟨_, hne⟩ | ⟨_, _, _, rfl⟩
      · exact absurd hcp hne
      · rfl
    refine ⟨_, ?_, hmem, herr, ?_, ?_⟩
    · exact sorted_of_prefs_eq ((prefs_setStatus ..).trans (prefs_modG fun x hx => hx.symm)) hs
    · rw [someEstablished_iff]
      constructor
      · rintro ⟨c, hc, hce⟩
        have hcp : c.pref ≠ g.pref := by
          intro e
          rw [herr c hc e] at hce
          cases hce
        exact ⟨c, (hmem c hcp).mp hc, hcp, hce⟩
      · rintro ⟨c, hc, hcp, hce⟩
        exact ⟨c, (hmem c hcp).mpr hc, hce⟩
    · rw [mgrCb_error hst]
      rfl

/-! ### rtr_mgr_init -/

theorem init_some {specs : List (Nat × Nat)} {gs : List Group} (h : init specs = some gs) :
    specs ≠ [] ∧ gs = sortG (specs.map fun s => mkGroup s.1 s.2) ∧ Sorted gs ∧
    (∀ g ∈ gs, g.socks.length ≠ 0) := by
  unfold init at h
  split at h
  · cases h
  · rename_i hne
    simp only at h
    split at h
    · rename_i hc
      obtain ⟨hs, hsock⟩ := (initCheck_none_iff (sortG_sortedLe _)).mp hc
      rw [sortG_of_sorted hs] at h
      cases h
      exact ⟨by intro e; subst e; exact hne rfl, rfl, hs, hsock⟩
    · cases h

structure InitOk (specs : List (Nat × Nat)) (gs : List Group) : Prop where
  ne_nil : specs ≠ []
  socks : ∀ s ∈ specs, s.2 ≠ 0
  nodup : (specs.map (·.1)).Nodup
  sorted : Sorted gs
  perm : (prefs gs).Perm (specs.map (·.1))
  closed : ∀ g ∈ gs, g.status = .closed
  threadless : ∀ g ∈ gs, ∀ s ∈ g.socks, s.thread = false

theorem init_ok {specs : List (Nat × Nat)} {gs : List Group} (h : init specs = some gs) : InitOk specs gs := by
  obtain ⟨hne, hgs, hs, hsock⟩ := init_some h
  have hperm := sortG_perm (specs.map fun s => mkGroup s.1 s.2)
  rw [← hgs] at hperm
  have hp : (prefs gs).Perm (specs.map (·.1)) := by
    have := hperm.map (·.pref)
    simpa [prefs, mkGroup, List.map_map, Function.comp_def] using this
  have hmem : ∀ g ∈ gs, ∃ s ∈ specs, g = mkGroup s.1 s.2 := by
    intro g hg
    obtain ⟨s, hs', rfl⟩ := List.mem_map.mp (hperm.mem_iff.mp hg)
    exact ⟨s, hs', rfl⟩
  refine ⟨hne, ?_, hp.nodup_iff.mp hs.nodup, hs, hp, ?_, ?_⟩
  · intro s hs' h0
    have : mkGroup s.1 s.2 ∈ gs := hperm.mem_iff.mpr (List.mem_map.mpr ⟨s, hs', rfl⟩)
    have := hsock _ this
    simp [mkGroup, h0] at this
  · intro g hg
    obtain ⟨s, _, rfl⟩ := hmem g hg
    rfl
  · intro g hg x hx
    obtain ⟨s, _, rfl⟩ := hmem g hg
    simp only [mkGroup, List.mem_replicate] at hx
    rw [hx.2]

theorem init_accepts {specs : List (Nat × Nat)} (hne : specs ≠ []) (hsock : ∀ s ∈ specs, s.2 ≠ 0)
    (hnd : (specs.map (·.1)).Nodup) : ∃ gs, init specs = some gs := by
  have hnd' : (prefs (specs.map fun s => mkGroup s.1 s.2)).Nodup := by
    simpa [prefs, mkGroup, List.map_map, Function.comp_def] using hnd
  have hs := sortG_sorted hnd'
  have hperm := sortG_perm (specs.map fun s => mkGroup s.1 s.2)
  have hc : initCheck none (sortG (specs.map fun s => mkGroup s.1 s.2)) = true := by
    refine (initCheck_none_iff (sortG_sortedLe _)).mpr ⟨hs, ?_⟩
    intro g hg
    obtain ⟨s, hs', rfl⟩ := List.mem_map.mp (hperm.mem_iff.mp hg)
    simpa [mkGroup] using hsock s hs'
  refine ⟨sortG (sortG (specs.map fun s => mkGroup s.1 s.2)), ?_⟩
  unfold init
  rw [if_neg (by simpa using hne)]
  simp only [hc, if_true]

/-! ### rtr_mgr_add_group, rtr_mgr_remove_group -/

theorem addRefusal_ne_zero (gs : List Group) (p k : Nat) : addRefusal gs p k ≠ some 0 := by
  unfold addRefusal
  repeat' split
  all_goals nofun

theorem any_pref_iff {gs : List Group} {p : Nat} :
    gs.any (fun g => g.pref == p) = true ↔ ∃ g ∈ gs, g.pref = p := by
  simp only [List.any_eq_true, beq_iff_eq]

theorem addRefusal_none_iff (gs : List Group) (p k : Nat) :
    addRefusal gs p k = none ↔
      ((∀ g ∈ gs, g.pref ≠ p) ∧ k ≠ 1 ∧ ivsOk (pickIvs defaultIvs gs) = true ∧ k ≠ 2) := by
  unfold addRefusal
  by_cases h1 : gs.any (fun g => g.pref == p) = true
  · rw [if_pos h1]
    obtain ⟨g, hg, hp⟩ := any_pref_iff.mp h1
    exact ⟨nofun, fun h => absurd hp (h.1 g hg)⟩
  · rw [if_neg h1]
    have h1' : ∀ g ∈ gs, g.pref ≠ p := fun g hg hp => h1 (any_pref_iff.mpr ⟨g, hg, hp⟩)
    by_cases h2 : k = 1
    · rw [if_pos h2]
      exact ⟨nofun, fun h => absurd h2 h.2.1⟩
    · rw [if_neg h2]
      cases h3 : ivsOk (pickIvs defaultIvs gs) with
      | false =>
        rw [if_pos rfl]
        exact ⟨nofun, fun h => nomatch h.2.2.1⟩
      | true =>
        rw [if_neg nofun]
        by_cases h4 : k = 2
        · rw [if_pos h4]
          exact ⟨nofun, fun h => absurd h4 h.2.2.2⟩
        · rw [if_neg h4]
          exact ⟨fun _ => ⟨h1', h2, rfl, h4⟩, fun _ => rfl⟩

theorem addRefusal_dup {gs : List Group} {p : Nat} (h : ∃ g ∈ gs, g.pref = p) (k : Nat) :
    addRefusal gs p k = some (-2) := by
  unfold addRefusal
  rw [if_pos (any_pref_iff.mpr h)]

theorem addRefusal_ivs {gs : List Group} {p k : Nat} (hf : ∀ g ∈ gs, g.pref ≠ p) (hk : k ≠ 1)
    (hiv : ivsOk (pickIvs defaultIvs gs) = false) : addRefusal gs p k = some (-2) := by
  unfold addRefusal
  rw [if_neg fun hc => (any_pref_iff.mp hc).elim fun g hg => hf g hg.1 hg.2, if_neg hk, if_pos hiv]

/-- the group list of an accepted add before the most preferable group is started: ordered
    insertion of the new group with the picked intervals -/
def addedList (gs : List Group) (p n : Nat) : List Group :=
  sortG (gs ++ [mkGroupIv p n (pickIvs defaultIvs gs)])

theorem mem_addedList {gs : List Group} {p n : Nat} {g : Group} :
    g ∈ addedList gs p n ↔ g ∈ gs ∨ g = mkGroupIv p n (pickIvs defaultIvs gs) := by
  unfold addedList
  rw [(sortG_perm _).mem_iff, List.mem_append, List.mem_singleton]

theorem addedList_length (gs : List Group) (p n : Nat) : (addedList gs p n).length = gs.length + 1 := by
  unfold addedList
  rw [(sortG_perm _).length_eq, List.length_append]
  rfl

theorem prefs_addedList (gs : List Group) (p n : Nat) : (prefs (addedList gs p n)).Perm (p :: prefs gs) := by
  refine ((sortG_perm _).map _).trans ?_
  unfold prefs
  rw [List.map_append]
  exact List.perm_append_singleton p _

theorem addedList_sorted {gs : List Group} (hs : Sorted gs) {p : Nat} (hf : ∀ g ∈ gs, g.pref ≠ p) (n : Nat) :
    Sorted (addedList gs p n) := by
  apply sorted_of_le_nodup (sortG_sortedLe _)
  apply (prefs_addedList gs p n).nodup_iff.mpr
  refine List.nodup_cons.mpr ⟨?_, hs.nodup⟩
  intro hm
  obtain ⟨g, hg, hgp⟩ := List.mem_map.mp hm
  exact hf g hg hgp

theorem add_refused {gs : List Group} {p k : Nat} {rc : Int} (h : addRefusal gs p k = some rc) (n : Nat) :
    add gs p n k = (gs, [], rc) := by
  unfold add
  rw [h]

theorem add_accepted {gs : List Group} {p k : Nat} (h : addRefusal gs p k = none) (n : Nat) :
    add gs p n k = ((startFirstIfClosed (addedList gs p n)).1, (startFirstIfClosed (addedList gs p n)).2, 0) := by
  unfold add
  rw [h]
  rfl

theorem add_cases (gs : List Group) (p n k : Nat) :
    (∃ rc, rc ≠ 0 ∧ addRefusal gs p k = some rc ∧ add gs p n k = (gs, [], rc)) ∨
    (addRefusal gs p k = none ∧ (∀ g ∈ gs, g.pref ≠ p) ∧
      add gs p n k = ((startFirstIfClosed (addedList gs p n)).1, (startFirstIfClosed (addedList gs p n)).2, 0)) := by
  cases h : addRefusal gs p k with
  | some rc => exact Or.inl ⟨rc, fun e => addRefusal_ne_zero gs p k (by rw [h, e]), rfl, add_refused h n⟩
  | none => exact Or.inr ⟨rfl, ((addRefusal_none_iff gs p k).mp h).1, add_accepted h n⟩

theorem add_rc_zero_iff (gs : List Group) (p n k : Nat) : (add gs p n k).2.2 = 0 ↔ addRefusal gs p k = none := by
  rcases add_cases gs p n k with ⟨rc, hrc, h1, h⟩ | ⟨h1, _, h⟩
  · rw [h, h1]
    exact ⟨fun e => absurd e hrc, nofun⟩
  · rw [h, h1]
    exact ⟨fun _ => rfl, fun _ => rfl⟩

theorem remove_last {gs : List Group} (h : gs.length = 1) (p : Nat) : remove gs p = (gs, [], -1) := by
  unfold remove
  rw [if_pos h]

theorem remove_cases (gs : List Group) (p : Nat) :
    remove gs p = (gs, [], -1) ∨
    ∃ g ∈ gs, g.pref = p ∧ gs.length ≠ 1 ∧
      remove gs p = ((startFirstIfClosed (eraseG p gs)).1,
        (if g.status ≠ .closed then g.stopAll.2 ++ [Ev.status p .closed none] else []) ++
          (startFirstIfClosed (eraseG p gs)).2, 0) := by
  by_cases hl : gs.length = 1
  · exact Or.inl (remove_last hl p)
  · unfold remove
    rw [if_neg hl]
    cases hg : findG gs p with
    | none => exact Or.inl rfl
    | some g => exact Or.inr ⟨g, (findG_some hg).1, (findG_some hg).2, hl, rfl⟩

end Rtr.Mgr
