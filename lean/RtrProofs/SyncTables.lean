/-
  The table part of the End of Data branch (`tablesOut`, TableEqs.lean) is atomic on the update tables.
  A run applies a part of the PDUs in order (`run_ls`) and its forward undo restores (`run_restore`), so
  success applies every buffered PDU in order, and failure either restores the tables (every undo step
  succeeded) or leaves this socket's records to be purged (`applyTablesU_atomic`).
-/
import RtrProofs.Undo
import RtrProofs.TableEqs

namespace Rtr.P

/-! ## list-sets -/

section ListSet
variable {α : Type} [DecidableEq α]

def memF (t : List α) : α → Bool := fun r => decide (r ∈ t)

def SameSet (a b : List α) : Prop := ∀ x, x ∈ a ↔ x ∈ b

omit [DecidableEq α] in
theorem SameSet.refl (l : List α) : SameSet l l := fun _ => Iff.rfl

theorem lsApply_success (t : List α) (f : Bool) (r : α) (hn : t.Nodup) (t' : List α)
    (h : lsApply t f r = (t', .success)) :
    t'.Nodup ∧ Undo.apply1 (memF t) f r = some (memF t') := by
  unfold lsApply at h
  cases f
  · simp only [Bool.false_eq_true, if_false] at h
    split at h
    · rename_i hin
      simp only [Prod.mk.injEq, and_true] at h
      subst h
      refine ⟨hn.sublist List.erase_sublist, ?_⟩
      unfold Undo.apply1 memF
      simp only [hin, decide_true, Bool.true_eq_false, if_false, Option.some.injEq]
      funext x
      by_cases e : x = r
      · subst e; simp [List.Nodup.mem_erase_iff hn]
      · simp [e, List.mem_erase_of_ne e]
    · simp at h
  · simp only [if_true] at h
    split at h
    · simp at h
    · rename_i hin
      simp only [Prod.mk.injEq, and_true] at h
      subst h
      refine ⟨List.nodup_cons.2 ⟨hin, hn⟩, ?_⟩
      unfold Undo.apply1 memF
      simp only [hin, decide_false, Bool.false_eq_true, if_false, Option.some.injEq]
      funext x
      by_cases e : x = r
      · subst e; simp
      · simp [e]

theorem lsApply_fail (t : List α) (f : Bool) (r : α) (t' : List α) (rc : PfxRc)
    (h : lsApply t f r = (t', rc)) (hrc : rc ≠ .success) : t' = t := by
  unfold lsApply at h
  cases f
  · simp only [Bool.false_eq_true, if_false] at h
    split at h
    · simp only [Prod.mk.injEq] at h
      exact absurd h.2.symm hrc
    · simp only [Prod.mk.injEq] at h
      exact h.1.symm
  · simp only [if_true] at h
    split at h
    · simp only [Prod.mk.injEq] at h
      exact h.1.symm
    · simp only [Prod.mk.injEq] at h
      exact absurd h.2.symm hrc

def lsApplyAll (t : List α) : List (Bool × α) → Option (List α)
  | [] => some t
  | (f, r) :: ops => match lsApply t f r with
    | (t', .success) => lsApplyAll t' ops
    | _ => none

/-- in forward order, like the undo loops of `rtr_sync_receive_and_store_pdus` -/
def lsUndoAll (t : List α) : List (Bool × α) → Option (List α)
  | [] => some t
  | (f, r) :: ops => match lsApply t (!f) r with
    | (t', .success) => lsUndoAll t' ops
    | _ => none

theorem lsApplyAll_abs : ∀ (ops : List (Bool × α)) (t t' : List α), t.Nodup → lsApplyAll t ops = some t' →
    t'.Nodup ∧ Undo.applyAll (memF t) ops = some (memF t') := by
  intro ops
  induction ops with
  | nil => intro t t' hn h; simp [lsApplyAll] at h; subst h; exact ⟨hn, rfl⟩
  | cons op ops ih =>
    intro t t' hn h
    obtain ⟨f, r⟩ := op
    simp only [lsApplyAll] at h
    split at h
    · rename_i t1 heq
      obtain ⟨n1, a1⟩ := lsApply_success t f r hn t1 heq
      obtain ⟨n2, a2⟩ := ih t1 t' n1 h
      exact ⟨n2, by simp [Undo.applyAll, a1, a2]⟩
    · cases h

theorem lsUndoAll_eq : ∀ (ops : List (Bool × α)) (t : List α),
    lsUndoAll t ops = lsApplyAll t (ops.map fun o => (!o.1, o.2)) := by
  intro ops
  induction ops with
  | nil => intro t; rfl
  | cons o ops ih =>
    intro t
    obtain ⟨f, r⟩ := o
    simp only [lsUndoAll, List.map_cons, lsApplyAll]
    generalize lsApply t (!f) r = x
    obtain ⟨t', rc⟩ := x
    cases rc
    · exact ih t'
    all_goals rfl

theorem lsApplyAll_cons {s : List α} {op : Bool × α} (h : (lsApply s op.1 op.2).2 = .success) (l : List (Bool × α)) :
    lsApplyAll s (op :: l) = lsApplyAll (lsApply s op.1 op.2).1 l := by
  obtain ⟨f, x⟩ := op
  rcases hl : lsApply s f x with ⟨t', rc⟩
  rw [hl] at h
  dsimp only at h
  rw [lsApplyAll, hl, h]

theorem lsUndoAll_cons {s : List α} {op : Bool × α} (h : (lsApply s (!op.1) op.2).2 = .success) (l : List (Bool × α)) :
    lsUndoAll s (op :: l) = lsUndoAll (lsApply s (!op.1) op.2).1 l := by
  rw [lsUndoAll_eq, lsUndoAll_eq, List.map_cons]
  exact lsApplyAll_cons (op := (!op.1, op.2)) h _

theorem lsUndoAll_abs (ops : List (Bool × α)) (t t' : List α) (hn : t.Nodup) (h : lsUndoAll t ops = some t') :
    t'.Nodup ∧ Undo.undoAll (memF t) ops = some (memF t') := by
  rw [lsUndoAll_eq] at h
  rw [Undo.undoAll_eq]
  exact lsApplyAll_abs _ t t' hn h

theorem ls_forward_undo (ops : List (Bool × α)) (t t' t'' : List α) (hn : t.Nodup)
    (ha : lsApplyAll t ops = some t') (hu : lsUndoAll t' ops = some t'') : t''.Nodup ∧ SameSet t'' t := by
  obtain ⟨n1, a1⟩ := lsApplyAll_abs ops t t' hn ha
  obtain ⟨n2, a2⟩ := lsUndoAll_abs ops t' t'' n1 hu
  have := Undo.forward_undo ops (memF t) (memF t') (memF t'') a1 a2
  refine ⟨n2, fun x => ?_⟩
  have e := congrFun this x
  simp only [memF, decide_eq_decide] at e
  exact e

theorem lsApply_other (t : List α) (f : Bool) (r : α) (t' : List α) (rc : PfxRc) (h : lsApply t f r = (t', rc))
    (x : α) (hx : x ≠ r) : x ∈ t' ↔ x ∈ t := by
  unfold lsApply at h
  cases f <;> simp only [Bool.false_eq_true, if_false, if_true] at h <;> split at h <;>
    simp only [Prod.mk.injEq] at h <;> obtain ⟨h1, _⟩ := h <;> subst h1
  · exact List.mem_erase_of_ne hx
  · rfl
  · rfl
  · simp [hx]

end ListSet

theorem lsApply_nodup {α : Type} [DecidableEq α] (t : List α) (f : Bool) (r : α) (t' : List α) (rc : PfxRc)
    (h : lsApply t f r = (t', rc)) (hn : t.Nodup) : t'.Nodup := by
  cases rc
  · exact (lsApply_success t f r hn t' h).1
  all_goals (rw [lsApply_fail t f r t' _ h (by simp)]; exact hn)

/-! ## runs on one table -/

section OneTable
variable {α : Type} [DecidableEq α]

/-- The induction of `Verdict.run_split` once more, with what `lsVerdict_accept` says of every accepted step carried
    along: a step invariant as a parameter of `run_split` costs its other users what it would save here. -/
theorem run_ls (bad : List Nat → Option (List Nat)) (op : List Nat → Bool × α) :
    ∀ (ps : List (List Nat)) (l : List α) (done : List (List Nat)),
    ∃ a b, ps = a ++ b ∧ (Verdict.run (lsVerdict bad op) l ps done).2.1 = done ++ a ∧ (∀ p ∈ a, bad p = none) ∧
      lsApplyAll l (a.map op) = some (Verdict.run (lsVerdict bad op) l ps done).1 ∧
      ((Verdict.run (lsVerdict bad op) l ps done).2.2 = none → b = []) := by
  intro ps
  induction ps with
  | nil => intro l done; exact ⟨[], [], rfl, (List.append_nil _).symm, (fun _ h => nomatch h), rfl, fun _ => rfl⟩
  | cons p ps ih =>
    intro l done
    simp only [Verdict.run]
    cases hv : lsVerdict bad op l p with
    | refuse r => exact ⟨[], p :: ps, rfl, (List.append_nil _).symm, (fun _ h => nomatch h), rfl, (fun h => nomatch h)⟩
    | accept l' =>
      obtain ⟨hb, hres⟩ := (lsVerdict_accept bad op l l' p).1 hv
      obtain ⟨a, b, h1, h2, h3, h4, h5⟩ := ih l' (done ++ [p])
      refine ⟨p :: a, b, by rw [h1]; rfl, by rw [h2, List.append_assoc]; rfl, ?_, ?_, h5⟩
      · intro q hq
        rcases List.mem_cons.1 hq with rfl | hq
        · exact hb
        · exact h3 q hq
      · simp only [List.map_cons, lsApplyAll, hres]
        exact h4

theorem run_undo (op : List Nat → Bool × α) (ps : List (List Nat)) (l : List α)
    (h : (Verdict.run (lsVerdict (fun _ => none) (inv op)) l ps []).2.2 = none) :
    lsUndoAll l (ps.map op) = some (Verdict.run (lsVerdict (fun _ => none) (inv op)) l ps []).1 := by
  obtain ⟨a, b, h1, _, _, h4, h5⟩ := run_ls (fun _ => none) (inv op) ps l []
  rw [h5 h, List.append_nil] at h1
  subst h1
  rw [lsUndoAll_eq, List.map_map]
  exact h4

/-- `src x ≠ 0`: a record of another socket -/
def PresL (src : α → Nat) (l l' : List α) : Prop := (l.Nodup → l'.Nodup) ∧ ∀ x, src x ≠ 0 → (x ∈ l' ↔ x ∈ l)

omit [DecidableEq α] in
theorem PresL.refl (src : α → Nat) (l : List α) : PresL src l l := ⟨id, fun _ _ => Iff.rfl⟩

omit [DecidableEq α] in
theorem PresL.trans {src : α → Nat} {a b c : List α} (h1 : PresL src a b) (h2 : PresL src b c) : PresL src a c :=
  ⟨fun h => h2.1 (h1.1 h), fun x hx => (h2.2 x hx).trans (h1.2 x hx)⟩

theorem run_ls_pres (src : α → Nat) (bad : List Nat → Option (List Nat)) (op : List Nat → Bool × α)
    (hop : ∀ p, src (op p).2 = 0) (ps : List (List Nat)) (l : List α) (done : List (List Nat)) :
    PresL src l (Verdict.run (lsVerdict bad op) l ps done).1 := by
  refine Verdict.run_rel (lsVerdict bad op) (PresL src) (PresL.refl src) PresL.trans ?_ ps l done
  intro l p l' h
  obtain ⟨_, hres⟩ := (lsVerdict_accept bad op l l' p).1 h
  exact ⟨lsApply_nodup _ _ _ _ _ hres, fun x hx => lsApply_other _ _ _ _ _ hres x (fun e => hx (e ▸ hop p))⟩

theorem run_restore (src : α → Nat) (bad : List Nat → Option (List Nat)) (op : List Nat → Bool × α)
    (hop : ∀ p, src (op p).2 = 0) (ps : List (List Nat)) (l : List α) (hn : l.Nodup) (l1 : List α) (d : List (List Nat))
    (x : Option (List Nat × Rej)) (h : Verdict.run (lsVerdict bad op) l ps [] = (l1, d, x)) :
    PresL src l (Verdict.run (lsVerdict (fun _ => none) (inv op)) l1 d []).1 ∧
    ((Verdict.run (lsVerdict (fun _ => none) (inv op)) l1 d []).2.2 = none →
      SameSet (Verdict.run (lsVerdict (fun _ => none) (inv op)) l1 d []).1 l) := by
  obtain ⟨a, _, _, hd, _, hap, _⟩ := run_ls bad op ps l []
  have pa := run_ls_pres src bad op hop ps l []
  rw [h] at hd hap pa
  simp only [List.nil_append] at hd
  subst hd
  refine ⟨pa.trans (run_ls_pres src _ (inv op) hop d l1 []), fun hu => ?_⟩
  exact (ls_forward_undo (d.map op) l l1 _ hn hap (run_undo op d l1 hu)).2

theorem run_ls_complete (bad : List Nat → Option (List Nat)) (op : List Nat → Bool × α) :
    ∀ (ps : List (List Nat)) (l l' : List α) (done : List (List Nat)), (∀ p ∈ ps, bad p = none) →
    lsApplyAll l (ps.map op) = some l' → Verdict.run (lsVerdict bad op) l ps done = (l', done ++ ps, none) := by
  intro ps
  induction ps with
  | nil =>
    intro l l' done _ h
    injection h with h
    rw [h, List.append_nil]
    rfl
  | cons p ps ih =>
    intro l l' done hk h
    rw [List.map_cons] at h
    simp only [lsApplyAll] at h
    generalize h1 : lsApply l (op p).1 (op p).2 = x at h
    obtain ⟨l1, rc⟩ := x
    cases rc
    · simp only [Verdict.run, (lsVerdict_accept bad op l l1 p).2 ⟨hk p List.mem_cons_self, h1⟩]
      rw [ih l1 l' (done ++ [p]) (fun q hq => hk q (List.mem_cons_of_mem _ hq)) h, List.append_assoc]
      rfl
    all_goals cases h

end OneTable

/-! ## the whole table part, on the update tables alone -/

/-- result of the table part on the update tables: `ok` = every buffered PDU was applied; `undone` = no
    undo step failed (so `true` on success, where nothing is undone); `u` = the update tables afterwards -/
structure URes where
  ok : Bool
  undone : Bool
  u : Upd

def TablesOut.ures : TablesOut → URes
  | .applied u => ⟨true, true, u⟩
  | .refused _ _ _ undone u => ⟨false, undone, u⟩

/-- `tablesOut` as a `URes` (what the examples of C03 evaluate) -/
def applyTablesU (u0 : Upd) (v4 v6 keys : List (List Nat)) : URes := (tablesOut u0 v4 v6 keys).ures

/-- from `u` to `u'` duplicate-freeness is kept and the records of other sockets (`src ≠ 0`) are the same -/
def Pres (u u' : Upd) : Prop :=
  (u.pt.Nodup → u'.pt.Nodup) ∧ (u.kt.Nodup → u'.kt.Nodup) ∧
  (∀ x : Rec, x.src ≠ 0 → (x ∈ u'.pt ↔ x ∈ u.pt)) ∧ (∀ x : KeyRec, x.src ≠ 0 → (x ∈ u'.kt ↔ x ∈ u.kt))

theorem pfxRecOf_src (raw : List Nat) : (pfxRecOf raw).src = 0 := by unfold pfxRecOf; split <;> rfl
theorem keyRecOf_src (raw : List Nat) : (keyRecOf raw).src = 0 := rfl

theorem pres_of (u : Upd) (pt : List Rec) (kt : List KeyRec) (h1 : PresL Rec.src u.pt pt) (h2 : PresL KeyRec.src u.kt kt) :
    Pres u ⟨pt, kt⟩ := ⟨h1.1, h2.1, h1.2, h2.2⟩

/-! ## atomicity of the table part on the update tables -/

/-- all or nothing on the update tables: success = every PDU applied in order and acceptable; failure
    with a complete undo = the same records as in `u0` -/
structure UAtomic (u0 : Upd) (v4 v6 keys : List (List Nat)) (R : URes) : Prop where
  pres : Pres u0 R.u
  success : R.ok = true →
    lsApplyAll u0.pt ((v4 ++ v6).map pfxOp) = some R.u.pt ∧ lsApplyAll u0.kt (keys.map keyOp) = some R.u.kt ∧
    (∀ p ∈ v4 ++ v6, pfxOK p) ∧ (∀ p ∈ keys, keyOK p)
  restored : R.ok = false → R.undone = true → SameSet R.u.pt u0.pt ∧ SameSet R.u.kt u0.kt

theorem applyTablesU_atomic (u0 : Upd) (v4 v6 keys : List (List Nat)) (hp : u0.pt.Nodup) (hk : u0.kt.Nodup) :
    UAtomic u0 v4 v6 keys (applyTablesU u0 v4 v6 keys) := by
  unfold applyTablesU tablesOut
  obtain ⟨a, b, e, hd, hok, hap, hfull⟩ := run_ls pfxBad pfxOp (v4 ++ v6) u0.pt []
  have pp := run_ls_pres Rec.src pfxBad pfxOp pfxRecOf_src (v4 ++ v6) u0.pt []
  have rp := run_restore Rec.src pfxBad pfxOp pfxRecOf_src (v4 ++ v6) u0.pt hp
  generalize Verdict.run pfxV u0.pt (v4 ++ v6) [] = X at *
  obtain ⟨pt, donep, xp⟩ := X
  obtain ⟨pu, hu⟩ := rp pt donep xp rfl
  cases xp with
  | some x =>
    exact ⟨pres_of u0 _ u0.kt pu (PresL.refl _ _), (fun h => nomatch h),
      fun _ hun => ⟨hu (Option.isNone_iff_eq_none.1 hun), SameSet.refl _⟩⟩
  | none =>
    have hb := hfull rfl
    subst hb
    simp only [List.nil_append, List.append_nil] at hd e
    subst e hd
    obtain ⟨ak, bk, ek, _, hokk, hapk, hfullk⟩ := run_ls keyBad keyOp keys u0.kt []
    have pk := run_ls_pres KeyRec.src keyBad keyOp keyRecOf_src keys u0.kt []
    have rk := run_restore KeyRec.src keyBad keyOp keyRecOf_src keys u0.kt hk
    generalize Verdict.run keyV u0.kt keys [] = X at *
    obtain ⟨kt, donek, xk⟩ := X
    obtain ⟨puk, huk⟩ := rk kt donek xk rfl
    cases xk with
    | some x =>
      -- all Prefix PDUs and the applied Router Key PDUs are undone
      dsimp only
      generalize Verdict.run pfxUndoV pt (v4 ++ v6) [] = Y at *
      obtain ⟨pt', d', r'⟩ := Y
      cases r' with
      | some y => exact ⟨pres_of u0 pt' kt pu pk, (fun h => nomatch h), (fun _ h => nomatch h)⟩
      | none =>
        exact ⟨pres_of u0 pt' _ pu puk, (fun h => nomatch h),
          fun _ hun => ⟨hu rfl, huk (Option.isNone_iff_eq_none.1 hun)⟩⟩
    | none =>
      have hb := hfullk rfl
      subst hb
      rw [List.append_nil] at ek
      subst ek
      exact ⟨pres_of u0 pt kt pp pk, fun _ => ⟨hap, hapk, fun p h => (pfxBad_none p).1 (hok p h),
        fun p h => (keyBad_none p).1 (hokk p h)⟩, (fun h => nomatch h)⟩

theorem tablesOut_complete (u0 : Upd) (v4 v6 keys : List (List Nat)) (pt' : List Rec) (kt' : List KeyRec)
    (hk4 : ∀ p ∈ v4, pfxOK p) (hk6 : ∀ p ∈ v6, pfxOK p) (hkk : ∀ p ∈ keys, keyOK p)
    (hp : lsApplyAll u0.pt ((v4 ++ v6).map pfxOp) = some pt') (hkt : lsApplyAll u0.kt (keys.map keyOp) = some kt') :
    tablesOut u0 v4 v6 keys = .applied ⟨pt', kt'⟩ := by
  unfold tablesOut
  rw [run_ls_complete pfxBad pfxOp (v4 ++ v6) u0.pt pt' [] ?_ hp, run_ls_complete keyBad keyOp keys u0.kt kt' [] ?_ hkt]
  · exact fun p hp => (keyBad_none p).2 (hkk p hp)
  · intro p hp
    rcases List.mem_append.1 hp with h | h
    · exact (pfxBad_none p).2 (hk4 p h)
    · exact (pfxBad_none p).2 (hk6 p h)

end Rtr.P
