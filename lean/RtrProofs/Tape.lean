/-
  `flat` is the byte-level view of a tape (every `rx` chunk exploded into its bytes, the other events kept
  in place); two tapes have the same `mergeRx` iff they have the same `flat`.  `specGo` is `tr_recv_all`
  computed on that view alone, and `recvAll_spec` shows that the loop over the real, chunked tape computes
  exactly that, whatever the chunking.  The statements about `tr_recv_all` on particular tapes are read
  off `specGo_cases` (what `specGo` does on any stream) and `specGo_skip` (what it passes over).
-/
import RtrModel.Rtr

namespace Rtr.P

/-! ## the lines a `tr_recv` call writes to the trace -/

/-- a trace line written by `trRecv` (they all start with "R ") -/
def isRecvLine (s : String) : Bool := s.toList.take 2 == ['R', ' ']

def dropRecv (tr : List String) : List String := tr.filter fun l => !isRecvLine l

theorem isRecvLine_append (s t : String) (h : isRecvLine s = true) : isRecvLine (s ++ t) = true := by
  unfold isRecvLine at *
  rw [String.toList_append]
  have hl : 2 ≤ s.toList.length := by
    have := congrArg List.length (eq_of_beq h)
    simp only [List.length_take, List.length_cons, List.length_nil] at this
    omega
  rw [List.take_append_of_le_length hl]
  exact h

theorem isRecvLine_R (t : String) : isRecvLine ("R " ++ t) = true := by
  unfold isRecvLine
  rw [String.toList_append]
  rfl

/-- (`s!` builds a trace line by appending) -/
theorem isRecvLine_foldl : ∀ (ts : List String) (s : String), isRecvLine s = true →
    isRecvLine (ts.foldl (· ++ ·) s) = true
  | [], _, h => h
  | t :: ts, s, h => isRecvLine_foldl ts (s ++ t) (isRecvLine_append s t h)

theorem dropRecv_cons_recv (l : String) (tr : List String) (h : isRecvLine l = true) :
    dropRecv (l :: tr) = dropRecv tr := by
  simp [dropRecv, h]

theorem dropRecv_cons_congr (l : String) {tr tr' : List String} (h : dropRecv tr = dropRecv tr') :
    dropRecv (l :: tr) = dropRecv (l :: tr') := by
  simp only [dropRecv, List.filter_cons] at *
  rw [h]

/-! ## the byte-level view of a tape -/

inductive Sym where
  | byte (b : Nat)
  | dt (d : Nat)
  | err | block | intr | closed
deriving DecidableEq, Repr

def symOf : TapeEv → List Sym
  | .rx bs => bs.map Sym.byte
  | .dt d => [.dt d]
  | .err => [.err]
  | .block => [.block]
  | .intr => [.intr]
  | .closed => [.closed]

/-- every chunk exploded into its bytes -/
def flat : List TapeEv → List Sym
  | [] => []
  | e :: t => symOf e ++ flat t

def symBytes : List Sym → List Nat
  | [] => []
  | .byte b :: s => b :: symBytes s
  | _ :: s => symBytes s

def tapeBytes : List TapeEv → List Nat
  | [] => []
  | .rx bs :: t => bs ++ tapeBytes t
  | _ :: t => tapeBytes t

/-- no empty chunk (a successful `tr_recv` delivers at least one byte) -/
def TapeOk (t : List TapeEv) : Prop := ∀ bs, TapeEv.rx bs ∈ t → bs ≠ []

/-- only data and time: no transport fault -/
def Sym.quiet : Sym → Bool
  | .byte _ => true
  | .dt _ => true
  | _ => false

def Sym.code : Sym → Int
  | .err => -1 | .block => -2 | .intr => -3 | .closed => -4 | _ => 0

def TapeEv.quiet : TapeEv → Bool
  | .rx bs => !bs.isEmpty
  | .dt _ => true
  | _ => false

def TapeEv.isData : TapeEv → Bool
  | .rx bs => !bs.isEmpty
  | _ => false

def TapeEv.isFault : TapeEv → Bool
  | .err => true | .block => true | .intr => true | .closed => true | _ => false

/-- the `tr_rtvals` code a fault event makes `tr_recv` return -/
def TapeEv.code : TapeEv → Int
  | .err => -1 | .block => -2 | .intr => -3 | .closed => -4 | _ => 0

/-- a tape of non-empty chunks and clock advances only -/
def Quiet (t : List TapeEv) : Prop := ∀ e ∈ t, e.quiet = true

/-- a tape of non-empty chunks only -/
def FaultFree (t : List TapeEv) : Prop := ∀ e ∈ t, e.isData = true

instance (t : List TapeEv) : Decidable (Quiet t) := by unfold Quiet; infer_instance
instance (t : List TapeEv) : Decidable (FaultFree t) := by unfold FaultFree; infer_instance

theorem tapeOk_nil : TapeOk [] := by intro bs h; cases h

theorem tapeOk_cons (e : TapeEv) (t : List TapeEv) :
    TapeOk (e :: t) ↔ (∀ bs, e = .rx bs → bs ≠ []) ∧ TapeOk t := by
  unfold TapeOk
  constructor
  · intro h
    exact ⟨fun bs he => h bs (by rw [he]; exact List.mem_cons_self), fun bs hm => h bs (List.mem_cons_of_mem _ hm)⟩
  · intro h bs hm
    rcases List.mem_cons.1 hm with he | hm
    · exact h.1 bs he.symm
    · exact h.2 bs hm

theorem tapeOk_tail {e : TapeEv} {t : List TapeEv} (h : TapeOk (e :: t)) : TapeOk t :=
  ((tapeOk_cons e t).1 h).2

theorem TapeEv.cases (e : TapeEv) : (∃ bs, e = .rx bs) ∨ (∃ d, e = .dt d) ∨
    (e.isFault = true ∧ e.quiet = false ∧ e.isData = false ∧
      ∃ f, symOf e = [f] ∧ f.quiet = false ∧ f.code = e.code) := by
  cases e with
  | rx bs => exact Or.inl ⟨bs, rfl⟩
  | dt d => exact Or.inr (Or.inl ⟨d, rfl⟩)
  | err | block | intr | closed => exact Or.inr (Or.inr ⟨rfl, rfl, rfl, _, rfl, rfl, rfl⟩)

theorem Sym.quiet_cases {x : Sym} (h : x.quiet = true) : (∃ b, x = .byte b) ∨ ∃ d, x = .dt d := by
  cases x with
  | byte b => exact Or.inl ⟨b, rfl⟩
  | dt d => exact Or.inr ⟨d, rfl⟩
  | err | block | intr | closed => cases h

theorem Quiet.tapeOk {t : List TapeEv} (h : Quiet t) : TapeOk t := by
  intro bs hm hb
  have := h _ hm
  rw [hb] at this
  cases this

theorem FaultFree.quiet {t : List TapeEv} (h : FaultFree t) : Quiet t := by
  intro e hm
  have := h e hm
  rcases e.cases with ⟨bs, rfl⟩ | ⟨d, rfl⟩ | ⟨_, _, hd, _⟩
  · exact this
  · rfl
  · rw [hd] at this
    cases this

theorem symBytes_append (a b : List Sym) : symBytes (a ++ b) = symBytes a ++ symBytes b := by
  induction a with
  | nil => rfl
  | cons x a ih => cases x <;> simp [symBytes, ih]

theorem symBytes_length_le (s : List Sym) : (symBytes s).length ≤ s.length := by
  induction s with
  | nil => exact Nat.le_refl _
  | cons x s ih =>
    cases x <;> simp only [symBytes, List.length_cons] <;> omega

theorem symBytes_map_byte (bs : List Nat) : symBytes (bs.map Sym.byte) = bs := by
  induction bs with
  | nil => rfl
  | cons b bs ih => simp [symBytes, ih]

theorem tapeBytes_eq (t : List TapeEv) : tapeBytes t = symBytes (flat t) := by
  induction t with
  | nil => rfl
  | cons e t ih =>
    cases e <;> simp [tapeBytes, flat, symOf, symBytes_append, symBytes_map_byte, symBytes, ih]

theorem flat_append (a b : List TapeEv) : flat (a ++ b) = flat a ++ flat b := by
  induction a with
  | nil => rfl
  | cons e a ih => simp [flat, ih]

theorem tapeBytes_append (a b : List TapeEv) : tapeBytes (a ++ b) = tapeBytes a ++ tapeBytes b := by
  rw [tapeBytes_eq, tapeBytes_eq, tapeBytes_eq, flat_append, symBytes_append]

theorem forall_mem_flat {P : Sym → Prop} {t : List TapeEv} :
    (∀ x ∈ flat t, P x) ↔ ∀ e ∈ t, ∀ x ∈ symOf e, P x := by
  induction t with
  | nil => exact ⟨fun _ _ he => (nomatch he), fun _ _ hx => (nomatch hx)⟩
  | cons e t ih =>
    constructor
    · intro h e' he' x hx
      rcases List.mem_cons.1 he' with rfl | he'
      · exact h x (List.mem_append_left _ hx)
      · exact ih.1 (fun y hy => h y (List.mem_append_right _ hy)) e' he' x hx
    · intro h x hx
      rcases List.mem_append.1 hx with hx | hx
      · exact h e List.mem_cons_self x hx
      · exact ih.2 (fun e' he' => h e' (List.mem_cons_of_mem _ he')) x hx

theorem TapeEv.quiet_iff {e : TapeEv} (hne : ∀ bs, e = .rx bs → bs ≠ []) :
    e.quiet = true ↔ ∀ x ∈ symOf e, x.quiet = true := by
  rcases e.cases with ⟨bs, rfl⟩ | ⟨d, rfl⟩ | ⟨_, hq, _, f, hs, hf, _⟩
  · refine ⟨fun _ x hx => ?_, fun _ => ?_⟩
    · obtain ⟨b, _, rfl⟩ := List.mem_map.1 hx
      rfl
    · cases bs with
      | nil => exact absurd rfl (hne [] rfl)
      | cons b bs => rfl
  · exact ⟨fun _ x hx => by rw [List.mem_singleton.1 hx]; rfl, fun _ => rfl⟩
  · rw [hq, hs]
    exact ⟨fun h => (nomatch h), fun h => hf.symm.trans (h f List.mem_cons_self)⟩

theorem TapeEv.isData_iff {e : TapeEv} (hne : ∀ bs, e = .rx bs → bs ≠ []) :
    e.isData = true ↔ ∀ x ∈ symOf e, ∃ b, x = Sym.byte b := by
  rcases e.cases with ⟨bs, rfl⟩ | ⟨d, rfl⟩ | ⟨_, _, hd, f, hs, hf, _⟩
  · refine ⟨fun _ x hx => ?_, fun _ => ?_⟩
    · obtain ⟨b, _, rfl⟩ := List.mem_map.1 hx
      exact ⟨b, rfl⟩
    · cases bs with
      | nil => exact absurd rfl (hne [] rfl)
      | cons b bs => rfl
  · refine ⟨fun h => (nomatch h), fun h => ?_⟩
    obtain ⟨b, hb⟩ := h (.dt d) List.mem_cons_self
    cases hb
  · rw [hd, hs]
    refine ⟨fun h => (nomatch h), fun h => ?_⟩
    obtain ⟨b, rfl⟩ := h f List.mem_cons_self
    cases hf

theorem quiet_iff_flat {t : List TapeEv} (hok : TapeOk t) : Quiet t ↔ ∀ x ∈ flat t, x.quiet = true := by
  rw [forall_mem_flat]
  exact ⟨fun h e he => (TapeEv.quiet_iff fun bs hb => hok bs (hb ▸ he)).1 (h e he),
    fun h e he => (TapeEv.quiet_iff fun bs hb => hok bs (hb ▸ he)).2 (h e he)⟩

theorem faultFree_iff_flat {t : List TapeEv} (hok : TapeOk t) :
    FaultFree t ↔ ∀ x ∈ flat t, ∃ b, x = Sym.byte b := by
  rw [forall_mem_flat]
  exact ⟨fun h e he => (TapeEv.isData_iff fun bs hb => hok bs (hb ▸ he)).1 (h e he),
    fun h e he => (TapeEv.isData_iff fun bs hb => hok bs (hb ▸ he)).2 (h e he)⟩

theorem flat_eq_nil {t : List TapeEv} (hok : TapeOk t) (h : flat t = []) : t = [] := by
  cases t with
  | nil => rfl
  | cons e t =>
    have he : symOf e = [] := (List.append_eq_nil_iff.1 h).1
    rcases e.cases with ⟨bs, rfl⟩ | ⟨d, rfl⟩ | ⟨_, _, _, f, hs, _⟩
    · exact absurd (List.map_eq_nil_iff.1 he) (hok bs List.mem_cons_self)
    · cases he
    · rw [hs] at he
      cases he

theorem flat_split (a b : List Nat) (t : List TapeEv) :
    flat (.rx a :: .rx b :: t) = flat (.rx (a ++ b) :: t) := by
  simp [flat, symOf]

/-! ## adjacent chunks merged -/

def unflat : List Sym → List TapeEv
  | [] => []
  | .byte b :: s =>
    match unflat s with
    | .rx bs :: t => .rx (b :: bs) :: t
    | t => .rx [b] :: t
  | .dt d :: s => .dt d :: unflat s
  | .err :: s => .err :: unflat s
  | .block :: s => .block :: unflat s
  | .intr :: s => .intr :: unflat s
  | .closed :: s => .closed :: unflat s

/-- the tape with every run of adjacent `rx` chunks merged into one chunk -/
def mergeRx (t : List TapeEv) : List TapeEv := unflat (flat t)

theorem flat_unflat (s : List Sym) : flat (unflat s) = s := by
  induction s with
  | nil => rfl
  | cons x s ih =>
    cases x with
    | byte b =>
      simp only [unflat]
      split
      · rename_i bs t h
        rw [h] at ih
        simp only [flat, symOf, List.map_cons, List.cons_append] at ih ⊢
        rw [ih]
      · rename_i h
        simp only [flat, symOf, List.map_cons, List.map_nil, List.cons_append, List.nil_append]
        rw [ih]
    | dt d | err | block | intr | closed => simp [unflat, flat, symOf, ih]

theorem flat_mergeRx (t : List TapeEv) : flat (mergeRx t) = flat t := flat_unflat _

theorem mergeRx_eq_iff (t t' : List TapeEv) : mergeRx t = mergeRx t' ↔ flat t = flat t' := by
  constructor
  · intro h
    have := congrArg flat h
    rwa [flat_mergeRx, flat_mergeRx] at this
  · intro h; unfold mergeRx; rw [h]

theorem mergeRx_idem (t : List TapeEv) : mergeRx (mergeRx t) = mergeRx t := by
  unfold mergeRx; rw [flat_unflat]

theorem mergeRx_split (a b : List Nat) (t : List TapeEv) :
    mergeRx (.rx a :: .rx b :: t) = mergeRx (.rx (a ++ b) :: t) := by
  unfold mergeRx; rw [flat_split]

/-! ## `tr_recv_all` on the byte-level view

  `SpecRes` is what a call leaves: result code, bytes delivered, the stream still to be read, the
  clock, and whether a stop request was seen. -/

structure SpecRes where
  rc : Int
  bytes : List Nat
  rest : List Sym
  now : Int
  stop : Bool

/-- `tr_recv_all(len)` on a byte-level stream: `now` = the clock, `cn` = the clock when the pending
    `tr_recv` call was made (the timeout handed to it is `endTime - cn`), `acc` = bytes so far -/
def specGo (len : Nat) (endTime : Int) (thr : Bool) : List Sym → Int → Int → List Nat → SpecRes
  | [], now, _, acc =>
    if acc.length < len then ⟨-1, acc, [], now, thr⟩ else ⟨acc.length, acc, [], now, false⟩
  | .byte b :: s, now, _, acc =>
    if acc.length < len then specGo len endTime thr s now now (acc ++ [b])
    else ⟨acc.length, acc, .byte b :: s, now, false⟩
  | .dt d :: s, now, cn, acc =>
    if acc.length < len then specGo len endTime thr s (now + d) cn acc
    else ⟨acc.length, acc, .dt d :: s, now, false⟩
  | .err :: s, now, _, acc =>
    if acc.length < len then ⟨-1, acc, s, now, false⟩ else ⟨acc.length, acc, .err :: s, now, false⟩
  | .block :: s, now, cn, acc =>
    if acc.length < len then ⟨-2, acc, s, if endTime - cn > 0 then now + (endTime - cn) else now, false⟩
    else ⟨acc.length, acc, .block :: s, now, false⟩
  | .intr :: s, now, _, acc =>
    if acc.length < len then ⟨-3, acc, s, now, false⟩ else ⟨acc.length, acc, .intr :: s, now, false⟩
  | .closed :: s, now, _, acc =>
    if acc.length < len then ⟨-4, acc, s, now, false⟩ else ⟨acc.length, acc, .closed :: s, now, false⟩

section
variable {len : Nat} {endTime : Int} {thr : Bool} {s : List Sym} {now cn : Int} {acc : List Nat}

theorem specGo_done (h : ¬ acc.length < len) :
    specGo len endTime thr s now cn acc = ⟨acc.length, acc, s, now, false⟩ := by
  cases s with
  | nil => rw [specGo, if_neg h]
  | cons x s => cases x <;> rw [specGo, if_neg h]

theorem specGo_nil (h : acc.length < len) : specGo len endTime thr [] now cn acc = ⟨-1, acc, [], now, thr⟩ := by
  rw [specGo, if_pos h]

theorem specGo_byte (h : acc.length < len) (b : Nat) :
    specGo len endTime thr (.byte b :: s) now cn acc = specGo len endTime thr s now now (acc ++ [b]) := by
  rw [specGo, if_pos h]

theorem specGo_dt (h : acc.length < len) (d : Nat) :
    specGo len endTime thr (.dt d :: s) now cn acc = specGo len endTime thr s (now + d) cn acc := by
  rw [specGo, if_pos h]

end

theorem specGo_fault {len : Nat} {acc : List Nat} (h : acc.length < len) {f : Sym} (hf : f.quiet = false)
    (endTime : Int) (thr : Bool) (s : List Sym) (now cn : Int) :
    ∃ w, specGo len endTime thr (f :: s) now cn acc = ⟨f.code, acc, s, w, false⟩ := by
  cases f with
  | byte b | dt d => cases hf
  | err | block | intr | closed => exact ⟨_, by rw [specGo, if_pos h]; rfl⟩

theorem specGo_bytes (len : Nat) (endTime : Int) (thr : Bool) (s : List Sym) (now : Int) :
    ∀ (bs : List Nat) (cn : Int) (acc : List Nat), bs ≠ [] → acc.length + bs.length ≤ len →
      specGo len endTime thr (bs.map Sym.byte ++ s) now cn acc = specGo len endTime thr s now now (acc ++ bs) := by
  intro bs
  induction bs with
  | nil => intro _ _ h; exact absurd rfl h
  | cons b bs ih =>
    intro cn acc _ h
    rw [List.length_cons] at h
    rw [List.map_cons, List.cons_append, specGo_byte (by omega)]
    cases bs with
    | nil => rfl
    | cons b' bs =>
      rw [ih now (acc ++ [b]) (List.cons_ne_nil _ _) (by rw [List.length_append, List.length_singleton]; omega)]
      rw [List.append_assoc]
      rfl

/-! ## one `tr_recv` call, read on the byte-level view -/

theorem emit_trace (n : Net) (l : String) : (n.emit l).trace = l :: n.trace := rfl

/-- the fields of `b` that a recv call leaves alone are those of `a` -/
structure SameRest (a b : Net) : Prop where
  sendQ : b.sendQ = a.sendQ
  openQ : b.openQ = a.openQ
  threaded : b.threaded = a.threaded
  trace : dropRecv b.trace = dropRecv a.trace

theorem SameRest.refl (a : Net) : SameRest a a := ⟨rfl, rfl, rfl, rfl⟩

theorem SameRest.trans {a b c : Net} (h1 : SameRest a b) (h2 : SameRest b c) : SameRest a c :=
  ⟨h2.sendQ.trans h1.sendQ, h2.openQ.trans h1.openQ, h2.threaded.trans h1.threaded, h2.trace.trans h1.trace⟩

theorem SameRest.emit_recv (n0 : Net) (t : List TapeEv) (w : Int) {l : String} (hl : isRecvLine l = true) :
    SameRest n0 (({ n0 with tape := t, now := w }).emit l) :=
  ⟨rfl, rfl, rfl, dropRecv_cons_recv l _ hl⟩

/-- what one `tr_recv` call (result `r`) does, seen from `specGo` on the stream `s` it was made on:
    a failing call ends `specGo` with its code; a successful one delivers at least one byte and
    `specGo` goes on from there -/
def RecvStep (n0 : Net) (len : Nat) (endTime cn : Int) (acc : List Nat) (s : List Sym) (now : Int)
    (r : Int × List Nat × Net × Bool) : Prop :=
  TapeOk r.2.2.1.tape ∧ SameRest n0 r.2.2.1 ∧
  (0 ≤ r.1 → r.1 = r.2.1.length ∧ 0 < r.2.1.length ∧ acc.length + r.2.1.length ≤ len) ∧
  specGo len endTime n0.threaded s now cn acc =
    if r.1 < 0 then ⟨r.1, acc, flat r.2.2.1.tape, r.2.2.1.now, r.2.2.2⟩
    else specGo len endTime n0.threaded (flat r.2.2.1.tape) r.2.2.1.now r.2.2.1.now (acc ++ r.2.1)

theorem RecvStep.neg (n0 : Net) {len : Nat} {endTime cn now w : Int} {acc : List Nat} {s : List Sym}
    {t : List TapeEv} {l : String} {rc : Int} {stop : Bool} (hl : isRecvLine l = true) (ht : TapeOk t) (hrc : rc < 0)
    (hs : specGo len endTime n0.threaded s now cn acc = ⟨rc, acc, flat t, w, stop⟩) :
    RecvStep n0 len endTime cn acc s now (rc, [], ({ n0 with tape := t, now := w }).emit l, stop) :=
  ⟨ht, .emit_recv n0 t w hl, fun h => absurd h (Int.not_le.2 hrc), by rw [if_pos hrc]; exact hs⟩

theorem trRecvGo_chunk_spec (n0 : Net) (len : Nat) (endTime cn : Int) (acc : List Nat) (hacc : acc.length < len) :
    ∀ (tape : List TapeEv) (now : Int), TapeOk tape →
      RecvStep n0 len endTime cn acc (flat tape) now (trRecvGo n0 (len - acc.length) (endTime - cn) tape now) := by
  intro tape
  induction tape with
  | nil =>
    intro now _
    exact .neg n0 (isRecvLine_foldl [_, _, _] _ (isRecvLine_R _)) tapeOk_nil (by decide) (specGo_nil hacc)
  | cons e rest ih =>
    intro now hok
    have hrest := tapeOk_tail hok
    cases e with
    | dt d =>
      have := ih (now + d) hrest
      rwa [RecvStep, ← specGo_dt hacc d] at this
    | rx bytes =>
      have hb : bytes ≠ [] := ((tapeOk_cons _ _).1 hok).1 bytes rfl
      have hbl : 0 < bytes.length := List.length_pos_iff.2 hb
      -- the call delivers the first `k` bytes of the chunk and leaves the others on the tape
      generalize hk : min bytes.length (len - acc.length) = k
      have hk0 : 0 < k := by omega
      have hgot : (bytes.take k).length = k := by
        rw [List.length_take]
        omega
      obtain ⟨t', ht', hok', hflat⟩ : ∃ t', (if (bytes.drop k).isEmpty then rest else .rx (bytes.drop k) :: rest) = t' ∧
          TapeOk t' ∧ flat t' = (bytes.drop k).map Sym.byte ++ flat rest := by
        by_cases he : (bytes.drop k).isEmpty
        · rw [if_pos he, List.isEmpty_iff.1 he]
          exact ⟨rest, rfl, hrest, rfl⟩
        · rw [if_neg he]
          refine ⟨_, rfl, (tapeOk_cons _ _).2 ⟨fun bs hbs h0 => he ?_, hrest⟩, rfl⟩
          cases hbs
          rw [h0]
          rfl
      have hsplit : flat (.rx bytes :: rest) = (bytes.take k).map Sym.byte ++ flat t' := by
        rw [hflat, ← List.append_assoc, ← List.map_append, List.take_append_drop]
        rfl
      simp only [trRecvGo, hk, ht']
      refine ⟨hok', .emit_recv n0 _ now (isRecvLine_foldl [_, _, _, _, _, _] _ (isRecvLine_R _)), ?_, ?_⟩
      · intro _
        rw [hgot]
        exact ⟨rfl, hk0, by omega⟩
      · dsimp only [Net.emit]
        rw [if_neg (by omega), hsplit]
        exact specGo_bytes len endTime n0.threaded _ now _ cn acc
          (List.ne_nil_of_length_pos (by rw [hgot]; exact hk0)) (by rw [hgot]; omega)
    | _ =>
      -- a transport fault: the call fails with its code, `specGo` ends with the same
      refine .neg n0 (isRecvLine_foldl [_, _, _] _ (isRecvLine_R _)) hrest (by decide) ?_
      rw [flat, symOf, List.singleton_append, specGo, if_pos hacc]

/-! ## the loop of `tr_recv_all` computes `specGo` -/

theorem recvAllLoop_spec (len : Nat) (endTime : Int) :
    ∀ (fuel : Nat) (n : Net) (acc : List Nat), TapeOk n.tape → acc.length ≤ len → len - acc.length < fuel →
    ∀ (rc : Int) (got : List Nat) (n' : Net) (stop : Bool),
      recvAllLoop len endTime fuel n acc = (rc, got, n', stop) →
      TapeOk n'.tape ∧ SameRest n n' ∧
      specGo len endTime n.threaded (flat n.tape) n.now n.now acc = ⟨rc, got, flat n'.tape, n'.now, stop⟩ := by
  intro fuel
  induction fuel with
  | zero => intro n acc _ _ hf; omega
  | succ fuel ih =>
    intro n acc hok hle hf rc got n' stop h
    unfold recvAllLoop at h
    by_cases hlt : acc.length < len
    · rw [if_pos hlt] at h
      have hstep := trRecvGo_chunk_spec n len endTime n.now acc hlt n.tape n.now hok
      rcases hr : trRecv n (len - acc.length) (endTime - n.now) with ⟨rc1, got1, n1, stop1⟩
      rw [hr] at h
      rw [← trRecv, hr] at hstep
      obtain ⟨hok1, hsr1, hlen1, hspec1⟩ := hstep
      simp only at h hlen1 hspec1
      by_cases hneg : rc1 < 0
      · rw [if_pos hneg] at h hspec1
        cases h
        exact ⟨hok1, hsr1, hspec1⟩
      · rw [if_neg hneg] at h hspec1
        obtain ⟨_, hpos, hbound⟩ := hlen1 (by omega)
        obtain ⟨hok2, hsr2, hspec2⟩ := ih n1 (acc ++ got1) hok1 (by rw [List.length_append]; omega)
          (by rw [List.length_append]; omega) rc got n' stop h
        exact ⟨hok2, hsr1.trans hsr2, by rw [hspec1, ← hsr1.threaded, hspec2]⟩
    · rw [if_neg hlt] at h
      cases h
      exact ⟨hok, SameRest.refl _, specGo_done hlt⟩

/-- `tr_recv_all` is a function of the byte-level view; the trace only gains lines of recv calls -/
theorem recvAll_spec (n : Net) (len : Nat) (timeout : Int) (hok : TapeOk n.tape)
    (rc : Int) (got : List Nat) (n' : Net) (stop : Bool) (h : recvAll n len timeout = (rc, got, n', stop)) :
    TapeOk n'.tape ∧ SameRest n n' ∧
    specGo len (n.now + timeout) n.threaded (flat n.tape) n.now n.now [] = ⟨rc, got, flat n'.tape, n'.now, stop⟩ :=
  recvAllLoop_spec len (n.now + timeout) (len + 1) n [] hok (Nat.zero_le _) (by simp) rc got n' stop h

/-! ## facts about `specGo` -/

theorem Sym.code_of_fault {f : Sym} (hf : f.quiet = false) : -4 ≤ f.code ∧ f.code ≤ -1 := by
  cases f with
  | byte b | dt d => cases hf
  | err | block | intr | closed => decide

/-- `pre`: the stretch of data and clock advances consumed; then the `len` bytes are there, or a fault
    (consumed), or the end of the script -/
theorem specGo_cases (len : Nat) (endTime : Int) (thr : Bool) :
    ∀ (s : List Sym) (now cn : Int) (acc : List Nat), acc.length ≤ len →
    ∀ r, specGo len endTime thr s now cn acc = r →
    ∃ pre, (∀ x ∈ pre, x.quiet = true) ∧ r.bytes = acc ++ symBytes pre ∧
      ((s = pre ++ r.rest ∧ r.rc = len ∧ r.bytes.length = len ∧ r.stop = false) ∨
       (∃ f, f.quiet = false ∧ s = pre ++ f :: r.rest ∧ r.rc = f.code ∧ r.bytes.length < len ∧ r.stop = false) ∨
       (s = pre ∧ r.rest = [] ∧ r.rc = -1 ∧ r.bytes.length < len ∧ r.stop = thr)) := by
  intro s
  induction s with
  | nil =>
    intro now cn acc hle r hr
    refine ⟨[], fun _ hx => (nomatch hx), ?_⟩
    by_cases h : acc.length < len
    · rw [specGo_nil h] at hr
      subst hr
      exact ⟨(List.append_nil _).symm, Or.inr (Or.inr ⟨rfl, rfl, rfl, h, rfl⟩)⟩
    · rw [specGo_done h] at hr
      subst hr
      exact ⟨(List.append_nil _).symm, Or.inl ⟨rfl, by rw [Nat.le_antisymm hle (Nat.not_lt.1 h)],
        Nat.le_antisymm hle (Nat.not_lt.1 h), rfl⟩⟩
  | cons x s ih =>
    intro now cn acc hle r hr
    by_cases h : acc.length < len
    · cases hx : x.quiet with
      | false =>
        obtain ⟨w, hw⟩ := specGo_fault h hx endTime thr s now cn
        rw [hw] at hr
        subst hr
        exact ⟨[], fun _ hy => (nomatch hy), (List.append_nil _).symm, Or.inr (Or.inl ⟨x, hx, rfl, rfl, h, rfl⟩)⟩
      | true =>
        -- a byte or a clock advance: `specGo` goes on with the rest of the stream, `pre` grows by `x`
        obtain ⟨now', cn', acc', hle', he, hb⟩ : ∃ now' cn' acc', acc'.length ≤ len ∧
            specGo len endTime thr (x :: s) now cn acc = specGo len endTime thr s now' cn' acc' ∧
            acc' = acc ++ symBytes [x] := by
          rcases Sym.quiet_cases hx with ⟨b, rfl⟩ | ⟨d, rfl⟩
          · exact ⟨now, now, acc ++ [b], by rw [List.length_append]; exact h, specGo_byte h b, rfl⟩
          · exact ⟨now + d, cn, acc, hle, specGo_dt h d, (List.append_nil _).symm⟩
        obtain ⟨pre, hq, hbytes, hc⟩ := ih now' cn' acc' hle' r (he ▸ hr)
        refine ⟨x :: pre, ?_, ?_, ?_⟩
        · intro y hy
          rcases List.mem_cons.1 hy with rfl | hy
          · exact hx
          · exact hq y hy
        · rw [hbytes, hb, List.append_assoc, ← symBytes_append]
          rfl
        · rcases hc with ⟨e, hr⟩ | ⟨f, hf, e, hr⟩ | ⟨e, hr⟩
          · exact Or.inl ⟨congrArg (x :: ·) e, hr⟩
          · exact Or.inr (Or.inl ⟨f, hf, congrArg (x :: ·) e, hr⟩)
          · exact Or.inr (Or.inr ⟨congrArg (x :: ·) e, hr⟩)
    · rw [specGo_done h] at hr
      subst hr
      exact ⟨[], fun _ hy => (nomatch hy), (List.append_nil _).symm,
        Or.inl ⟨rfl, by rw [Nat.le_antisymm hle (Nat.not_lt.1 h)], Nat.le_antisymm hle (Nat.not_lt.1 h), rfl⟩⟩

theorem specGo_rc (len : Nat) (endTime : Int) (thr : Bool) :
    ∀ (s : List Sym) (now cn : Int) (acc : List Nat), acc.length ≤ len →
      (specGo len endTime thr s now cn acc).rc = len ∨ (specGo len endTime thr s now cn acc).rc = -1 ∨
      (specGo len endTime thr s now cn acc).rc = -2 ∨ (specGo len endTime thr s now cn acc).rc = -3 ∨
      (specGo len endTime thr s now cn acc).rc = -4 := by
  intro s now cn acc hle
  obtain ⟨_, _, _, ⟨_, hr, _⟩ | ⟨f, hf, _, hr, _⟩ | ⟨_, _, hr, _⟩⟩ :=
    specGo_cases len endTime thr s now cn acc hle _ rfl
  · exact Or.inl hr
  · have := Sym.code_of_fault hf
    omega
  · exact Or.inr (Or.inl hr)

theorem specGo_skip (len : Nat) (endTime : Int) (thr : Bool) (rest : List Sym) :
    ∀ (pre : List Sym) (now cn : Int) (acc : List Nat), (∀ x ∈ pre, x.quiet = true) →
      acc.length + (symBytes pre).length < len →
      ∃ now' cn', specGo len endTime thr (pre ++ rest) now cn acc =
        specGo len endTime thr rest now' cn' (acc ++ symBytes pre) := by
  intro pre
  induction pre with
  | nil =>
    intro now cn acc _ _
    exact ⟨now, cn, by rw [symBytes, List.append_nil]; rfl⟩
  | cons x pre ih =>
    intro now cn acc hq hlt
    have hq' : ∀ y ∈ pre, y.quiet = true := fun y hy => hq y (List.mem_cons_of_mem _ hy)
    rcases Sym.quiet_cases (hq x List.mem_cons_self) with ⟨b, rfl⟩ | ⟨d, rfl⟩
    · rw [symBytes, List.length_cons] at hlt
      obtain ⟨now', cn', e⟩ := ih now now (acc ++ [b]) hq'
        (by simp only [List.length_append, List.length_cons, List.length_nil]; omega)
      exact ⟨now', cn', by rw [List.cons_append, specGo_byte (by omega), e, List.append_assoc]; rfl⟩
    · obtain ⟨now', cn', e⟩ := ih (now + d) cn acc hq' hlt
      exact ⟨now', cn', by rw [List.cons_append, specGo_dt (by omega), e]; rfl⟩

theorem specGo_now_bytes (len : Nat) (endTime : Int) (thr : Bool) :
    ∀ (s : List Sym) (now cn : Int) (acc : List Nat), (∀ x ∈ s, ∃ b, x = Sym.byte b) →
      (specGo len endTime thr s now cn acc).now = now := by
  intro s
  induction s with
  | nil =>
    intro now cn acc _
    by_cases h : acc.length < len
    · rw [specGo_nil h]
    · rw [specGo_done h]
  | cons x s ih =>
    intro now cn acc hb
    obtain ⟨b, rfl⟩ := hb x List.mem_cons_self
    by_cases h : acc.length < len
    · rw [specGo_byte h]
      exact ih now now _ (fun y hy => hb y (List.mem_cons_of_mem _ hy))
    · rw [specGo_done h]

/-! ## `tr_recv_all` on tapes with enough data, or with too little before a fault or the end of the script -/

theorem recvAll_chunking_quiet (n : Net) (len : Nat) (timeout : Int) (hq : Quiet n.tape)
    (hen : len ≤ (tapeBytes n.tape).length) :
    ∃ n', recvAll n len timeout = ((len : Int), (tapeBytes n.tape).take len, n', false) ∧
      Quiet n'.tape ∧ tapeBytes n'.tape = (tapeBytes n.tape).drop len ∧ SameRest n n' ∧
      (FaultFree n.tape → FaultFree n'.tape ∧ n'.now = n.now) := by
  rcases hr : recvAll n len timeout with ⟨rc, got, n', stop⟩
  obtain ⟨hok', hsr, hspec⟩ := recvAll_spec n len timeout hq.tapeOk rc got n' stop hr
  have hqf := (quiet_iff_flat hq.tapeOk).1 hq
  obtain ⟨pre, _, hbytes, hc⟩ := specGo_cases len (n.now + timeout) n.threaded (flat n.tape) n.now n.now []
    (Nat.zero_le _) _ hspec
  dsimp only [List.nil_append] at hbytes hc
  -- no fault on a quiet tape, and the script does not end before `len` bytes
  rcases hc with ⟨hpre, hrc, hblen, hstop⟩ | ⟨f, hf, hpre, _⟩ | ⟨hpre, _, _, hblen, _⟩
  · have htb : tapeBytes n.tape = got ++ tapeBytes n'.tape := by
      rw [tapeBytes_eq, tapeBytes_eq, hpre, symBytes_append, ← hbytes]
    have hrestq : ∀ x ∈ flat n'.tape, x ∈ flat n.tape := by
      intro x hx
      rw [hpre]
      exact List.mem_append_right _ hx
    refine ⟨n', ?_, ?_, ?_, hsr, ?_⟩
    · rw [hrc, hstop, htb, List.take_left' hblen]
    · exact (quiet_iff_flat hok').2 (fun x hx => hqf x (hrestq x hx))
    · rw [htb, List.drop_left' hblen]
    · intro hff
      have hb := (faultFree_iff_flat hq.tapeOk).1 hff
      refine ⟨(faultFree_iff_flat hok').2 (fun x hx => hb x (hrestq x hx)), ?_⟩
      have := specGo_now_bytes len (n.now + timeout) n.threaded (flat n.tape) n.now n.now [] hb
      rw [hspec] at this
      exact this
  · have := hqf f (by rw [hpre]; exact List.mem_append_right _ List.mem_cons_self)
    rw [hf] at this
    cases this
  · rw [tapeBytes_eq, hpre, ← hbytes] at hen
    omega

theorem recvAll_short_fault (n : Net) (len : Nat) (timeout : Int) (pre rest : List TapeEv) (e : TapeEv)
    (htape : n.tape = pre ++ e :: rest) (hq : Quiet pre) (hokr : TapeOk rest) (he : e.isFault = true)
    (hlt : (tapeBytes pre).length < len) :
    ∃ n', recvAll n len timeout = (e.code, tapeBytes pre, n', false) ∧ flat n'.tape = flat rest ∧
      TapeOk n'.tape ∧ SameRest n n' := by
  rcases hr : recvAll n len timeout with ⟨rc, got, n', stop⟩
  obtain ⟨f, hf, hfq, hfc⟩ : ∃ f, symOf e = [f] ∧ f.quiet = false ∧ f.code = e.code := by
    rcases e.cases with ⟨bs, rfl⟩ | ⟨d, rfl⟩ | ⟨_, _, _, h⟩
    · cases he
    · cases he
    · exact h
  have hok : TapeOk n.tape := by
    rw [htape]
    intro bs hm
    rcases List.mem_append.1 hm with hm | hm
    · exact hq.tapeOk bs hm
    · rcases List.mem_cons.1 hm with hm | hm
      · rw [← hm] at he
        cases he
      · exact hokr bs hm
  obtain ⟨hok', hsr, hspec⟩ := recvAll_spec n len timeout hok rc got n' stop hr
  have hflat : flat n.tape = flat pre ++ f :: flat rest := by
    rw [htape, flat_append, flat, hf]
    rfl
  have hlt' : ([] : List Nat).length + (symBytes (flat pre)).length < len := by
    rw [← tapeBytes_eq, List.length_nil, Nat.zero_add]
    exact hlt
  -- the bytes before the fault are passed over, the fault ends the call
  obtain ⟨now', cn', e⟩ := specGo_skip len (n.now + timeout) n.threaded (f :: flat rest) (flat pre) n.now n.now []
    ((quiet_iff_flat hq.tapeOk).1 hq) hlt'
  obtain ⟨w, hw⟩ := specGo_fault (by rw [List.length_append]; exact hlt') hfq (n.now + timeout) n.threaded (flat rest) now' cn'
  rw [← hflat, hspec, hw] at e
  injection e with h1 h3 h2 _ h4
  refine ⟨n', ?_, h2, hok', hsr⟩
  rw [h1, h3, h4, hfc, List.nil_append, ← tapeBytes_eq]

theorem recvAll_short_eof (n : Net) (len : Nat) (timeout : Int) (hq : Quiet n.tape)
    (hlt : (tapeBytes n.tape).length < len) :
    ∃ n', recvAll n len timeout = (-1, tapeBytes n.tape, n', n.threaded) ∧ n'.tape = [] ∧ SameRest n n' := by
  rcases hr : recvAll n len timeout with ⟨rc, got, n', stop⟩
  obtain ⟨hok', hsr, hspec⟩ := recvAll_spec n len timeout hq.tapeOk rc got n' stop hr
  have hlt' : ([] : List Nat).length + (symBytes (flat n.tape)).length < len := by
    rw [← tapeBytes_eq, List.length_nil, Nat.zero_add]
    exact hlt
  -- the bytes are passed over, then the script ends
  obtain ⟨now', cn', e⟩ := specGo_skip len (n.now + timeout) n.threaded [] (flat n.tape) n.now n.now []
    ((quiet_iff_flat hq.tapeOk).1 hq) hlt'
  rw [List.append_nil, hspec, specGo_nil (by rw [List.length_append]; exact hlt')] at e
  injection e with h1 h3 h2 _ h4
  refine ⟨n', ?_, flat_eq_nil hok' h2, hsr⟩
  rw [h1, h3, h4, List.nil_append, ← tapeBytes_eq]

/-! ## decidable checks for concrete tapes

  `TapeOk` quantifies over all chunks and has no `Decidable` instance; `tapeOkB` is the Boolean test
  that the examples evaluate. -/

def tapeOkB : List TapeEv → Bool
  | [] => true
  | .rx bs :: t => !bs.isEmpty && tapeOkB t
  | _ :: t => tapeOkB t

theorem tapeOk_of_tapeOkB : ∀ (t : List TapeEv), tapeOkB t = true → TapeOk t := by
  intro t
  induction t with
  | nil => intro _; exact tapeOk_nil
  | cons e t ih =>
    intro h
    rw [tapeOk_cons]
    cases e with
    | rx bs =>
      simp only [tapeOkB, Bool.and_eq_true, Bool.not_eq_true', List.isEmpty_eq_false_iff] at h
      refine ⟨?_, ih h.2⟩
      intro bs' hb
      cases hb
      exact h.1
    | dt d | err | block | intr | closed => exact ⟨fun _ hb => (by cases hb), ih h⟩

end Rtr.P
