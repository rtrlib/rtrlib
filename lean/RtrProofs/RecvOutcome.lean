/-
  RecvOutcome: what one `tr_recv_all` and one `rtr_receive_pdu` do to the stream, for a single run on
  any tape without empty chunks: which stretch of the byte-level view is consumed (`Consumed`), that
  sending and state changes leave the tape alone (`tapeKept`), and `receivePdu_cases`, the outcome of
  `rtr_receive_pdu` read off the ways through it (`receivePdu_path`, Receive.lean): a result code, or a
  PDU that passed the size check and is exactly the next bytes of the stream.
-/
import RtrProofs.Tape
import RtrProofs.Receive
import RtrProofs.SentPdus
import RtrProofs.CheckSize

namespace Rtr.P

/-- live downgrade on the first PDU of a connection (the function `downgraded` of Receive.lean under the name
    the Error Report statements use; the two are the same term (`downgrade_eq`), and proofs pass between them by that) -/
def downgrade (c : Conn) (hdr : List Nat) : Conn :=
  if !c.hasReceived then
    let v := if c.version = 1 ∧ verOf hdr = 0 ∧ typeOf hdr ≠ 10 then 0 else c.version
    { c with version := v, hasReceived := true }
  else c

theorem downgrade_eq (c : Conn) (hdr : List Nat) : downgrade c hdr = downgraded c hdr := rfl

theorem downgrade_state (c : Conn) (hdr : List Nat) : (downgrade c hdr).state = c.state :=
  downgraded_state c hdr

theorem recvAll_facts (n : Net) (len : Nat) (timeout : Int) (hok : TapeOk n.tape)
    (rc : Int) (got : List Nat) (m : Net) (stop : Bool) (hr : recvAll n len timeout = (rc, got, m, stop)) :
    TapeOk m.tape ∧ SameRest n m ∧
    (∃ pre, flat n.tape = pre ++ flat m.tape ∧ (0 < len → n.tape ≠ [] → pre ≠ []) ∧
      (0 ≤ rc → got = symBytes pre)) ∧
    (0 ≤ rc → rc = len ∧ got.length = len ∧ stop = false ∧ tapeBytes n.tape = got ++ tapeBytes m.tape) := by
  obtain ⟨hok', hsr, hspec⟩ := recvAll_spec n len timeout hok rc got m stop hr
  obtain ⟨pre, _, hbytes, hc⟩ := specGo_cases len (n.now + timeout) n.threaded (flat n.tape) n.now n.now []
    (Nat.zero_le _) _ hspec
  dsimp only [List.nil_append] at hbytes hc
  refine ⟨hok', hsr, ?_⟩
  rcases hc with ⟨hpre, hrc, hblen, hstop⟩ | ⟨f, hf, hpre, hrc, _⟩ | ⟨hpre, hrest, hrc, _⟩
  · refine ⟨⟨pre, hpre, fun hl _ hp => ?_, fun _ => hbytes⟩, fun _ => ⟨hrc, hblen, hstop, ?_⟩⟩
    · rw [hbytes, hp] at hblen
      exact absurd hblen (Nat.ne_of_lt hl)
    · rw [tapeBytes_eq, tapeBytes_eq, hpre, symBytes_append, hbytes]
  · have := Sym.code_of_fault hf
    refine ⟨⟨pre ++ [f], ?_, fun _ _ => List.append_ne_nil_of_right_ne_nil _ (List.cons_ne_nil _ _), ?_⟩, ?_⟩
    · rw [hpre, List.append_assoc]
      rfl
    · intro h
      omega
    · intro h
      omega
  · refine ⟨⟨pre, ?_, fun _ hn hp => hn (flat_eq_nil hok (hpre.trans hp)), ?_⟩, ?_⟩
    · rw [hrest, List.append_nil]
      exact hpre
    · intro h
      omega
    · intro h
      omega

theorem tapeKept : EmitRel fun n n' => n'.tape = n.tape where
  refl _ := rfl
  trans h1 h2 := h2.trans h1
  emit _ _ := rfl
  send n b := by rw [trSend_call]

theorem sendErrorPdu_tape (c : Conn) (n : Net) (enc : List Nat) (code : Nat) (text : List Nat) :
    (sendErrorPdu c n enc code text).2.tape = n.tape :=
  sendErrorPdu_steps tapeKept.sendRel c n enc code text

theorem failFatal_out (c : Conn) (n : Net) (own : Nat) (hdr txt : List Nat) :
    (failFatal c n own hdr txt).1 = .rc (-1) ∧ (failFatal c n own hdr txt).2.2.tape = n.tape :=
  ⟨rfl, failFatal_steps tapeKept.sendRel c n own hdr txt⟩

theorem recvTransportError_out (c : Conn) (n : Net) (own : Nat) (code : Int) :
    (∃ k, (recvTransportError c n own code).1 = .rc k ∧ (code = -1 → k = -1)) ∧
    (recvTransportError c n own code).2.2.tape = n.tape := by
  refine ⟨⟨(errExit code).1, by rw [recvTransportError_eq], fun h => ?_⟩, recvTransportError_steps tapeKept.sendRel c n own code⟩
  rw [h]
  rfl

def Consumed (n m : Net) : Prop := ∃ pre, flat n.tape = pre ++ flat m.tape

theorem Consumed.refl (n : Net) : Consumed n n := ⟨[], rfl⟩
theorem Consumed.of_tape_eq {n m : Net} (h : m.tape = n.tape) : Consumed n m := ⟨[], by rw [h]; rfl⟩
theorem Consumed.trans {a b c : Net} (h1 : Consumed a b) (h2 : Consumed b c) : Consumed a c := by
  obtain ⟨p1, e1⟩ := h1
  obtain ⟨p2, e2⟩ := h2
  exact ⟨p1 ++ p2, by rw [e1, e2, List.append_assoc]⟩
theorem Consumed.length_le {n m : Net} (h : Consumed n m) : (flat m.tape).length ≤ (flat n.tape).length := by
  obtain ⟨p, e⟩ := h
  rw [e, List.length_append]; omega

theorem be32_append_left (a b : List Nat) (off : Nat) (h : off + 4 ≤ a.length) : be32 (a ++ b) off = be32 a off := by
  unfold be32
  rw [getD_append_left' a b off (by omega), getD_append_left' a b (off+1) (by omega),
    getD_append_left' a b (off+2) (by omega), getD_append_left' a b (off+3) (by omega)]

theorem hdr_fields (hdr body : List Nat) (h : hdr.length = 8) :
    lenOf (hdr ++ body) = lenOf hdr ∧ verOf (hdr ++ body) = verOf hdr ∧ typeOf (hdr ++ body) = typeOf hdr := by
  refine ⟨be32_append_left hdr body 4 (by omega), ?_, ?_⟩
  · exact getD_append_left' hdr body 0 (by omega)
  · exact getD_append_left' hdr body 1 (by omega)

/-- on a tape without faults `tr_recv_all` can only fail by reaching the end of the script -/
theorem recvAll_quiet (n : Net) (len : Nat) (timeout : Int) (hq : Quiet n.tape)
    (rc : Int) (got : List Nat) (m : Net) (stop : Bool) (hr : recvAll n len timeout = (rc, got, m, stop)) :
    Quiet m.tape ∧ (rc < 0 → rc = -1) := by
  obtain ⟨hok', _, hspec⟩ := recvAll_spec n len timeout hq.tapeOk rc got m stop hr
  have hqf := (quiet_iff_flat hq.tapeOk).1 hq
  obtain ⟨pre, _, _, hc⟩ := specGo_cases len (n.now + timeout) n.threaded (flat n.tape) n.now n.now []
    (Nat.zero_le _) _ hspec
  dsimp only at hc
  rcases hc with ⟨hpre, hrc, _⟩ | ⟨f, hf, hpre, _⟩ | ⟨_, hrest, hrc, _⟩
  · refine ⟨(quiet_iff_flat hok').2 fun x hx => hqf x ?_, fun h => by omega⟩
    rw [hpre]
    exact List.mem_append_right _ hx
  · have := hqf f (by rw [hpre]; exact List.mem_append_right _ List.mem_cons_self)
    rw [hf] at this
    cases this
  · refine ⟨(quiet_iff_flat hok').2 fun x hx => ?_, fun _ => hrc⟩
    rw [hrest] at hx
    cases hx

theorem receivePdu_cases (c : Conn) (n : Net) (own : Nat) (timeout : Int) (hok : TapeOk n.tape)
    (res : RecvRes) (c1 : Conn) (m : Net) (hr : receivePdu c n own timeout = (res, c1, m)) :
    Consumed n m ∧
    ((∃ k, res = .rc k ∧ (Quiet n.tape → k = -1) ∧
        (c.state = .shutdown ∨ n.tape = [] ∨ (flat m.tape).length < (flat n.tape).length)) ∨
     (∃ raw, res = .ok raw ∧ checkSize raw = true ∧ 8 ≤ lenOf raw ∧ lenOf raw ≤ Gen.RTR_MAX_PDU_LEN ∧
        raw.length = lenOf raw ∧ (verOf raw = c1.version ∨ typeOf raw = 10) ∧
        tapeBytes n.tape = raw ++ tapeBytes m.tape ∧ TapeOk m.tape)) := by
  rcases receivePdu_path c n own timeout with ⟨hs, e⟩ | ⟨_, rc, hdr, n1, stop, h1, hp⟩
  · rw [e] at hr
    cases hr
    exact ⟨Consumed.refl _, Or.inl ⟨_, rfl, fun _ => rfl, Or.inl hs⟩⟩
  obtain ⟨hok1, _, ⟨pre, hpre, hne, _⟩, hsucc⟩ := recvAll_facts n 8 timeout hok rc hdr n1 stop h1
  -- A way that ends in a result code `k`, the tape being as `n2` has it, where `n2` is `n1` or what the
  -- `tr_recv_all` for the payload left.  Every way reads the header first, so unless the tape was empty the
  -- stream has become shorter.
  have fail : ∀ {n2 : Net} {k : Int}, Consumed n1 n2 → res = .rc k → m.tape = n2.tape → (Quiet n.tape → k = -1) →
      Consumed n m ∧ ∃ k, res = .rc k ∧ (Quiet n.tape → k = -1) ∧
        (c.state = .shutdown ∨ n.tape = [] ∨ (flat m.tape).length < (flat n.tape).length) := by
    intro n2 k hc hk ht hq
    have hc1 : Consumed n1 m := hc.trans (.of_tape_eq ht)
    refine ⟨.trans ⟨pre, hpre⟩ hc1, k, hk, hq, Or.inr ?_⟩
    by_cases hn : n.tape = []
    · exact Or.inl hn
    · right
      have := hc1.length_le
      have := List.length_pos_iff.2 (hne (by decide) hn)
      rw [hpre, List.length_append]
      omega
  rcases hp with ⟨hneg, e⟩ | ⟨hrc, hp⟩
  · obtain ⟨⟨k, hk, hk1⟩, ht⟩ := recvTransportError_out (applyStop c stop) n1 own rc
    rw [← e, hr] at hk ht
    exact (fail (Consumed.refl n1) hk ht fun hq => hk1 ((recvAll_quiet n 8 timeout hq _ _ _ _ h1).2 hneg)).imp id Or.inl
  obtain ⟨_, hl8, _, htb⟩ := hsucc hrc
  generalize receivePdu c n own timeout = out at hp hr
  cases hp with
  | lenSmall hl =>
    obtain ⟨hk, ht⟩ := failFatal_out c n1 own hdr txtCorrupt
    rw [hr] at hk ht
    exact (fail (Consumed.refl n1) hk ht fun _ => rfl).imp id Or.inl
  | lenBig hl =>
    obtain ⟨hk, ht⟩ := failFatal_out c n1 own hdr txtTooBig
    rw [hr] at hk ht
    exact (fail (Consumed.refl n1) hk ht fun _ => rfl).imp id Or.inl
  | version h8 hm hv =>
    cases hr
    exact (fail (Consumed.refl n1) rfl (sendErrorPdu_tape _ n1 hdr 8 []) fun _ => rfl).imp id Or.inl
  | @payloadFault hh rc2 body n2 stop2 h2 hneg =>
    obtain ⟨_, _, ⟨pre2, hpre2, _, _⟩, _⟩ := recvAll_facts n1 _ _ hok1 rc2 body n2 stop2 h2
    obtain ⟨⟨k, hk, hk1⟩, ht⟩ := recvTransportError_out (applyStop (downgraded c hdr) stop2) n2 own rc2
    rw [hr] at hk ht
    exact (fail ⟨pre2, hpre2⟩ hk ht fun hq =>
      hk1 ((recvAll_quiet n1 _ _ (recvAll_quiet n 8 timeout hq _ _ _ _ h1).1 _ _ _ _ h2).2 hneg)).imp id Or.inl
  | @sizeCheck hh rc2 body n2 h2 hrc2 hcs =>
    obtain ⟨_, _, ⟨pre2, hpre2, _, _⟩, _⟩ := recvAll_facts n1 _ _ hok1 rc2 body n2 false h2
    obtain ⟨hk, ht⟩ := failFatal_out (downgraded c hdr) n2 own hdr txtCorrupt
    rw [hr] at hk ht
    exact (fail ⟨pre2, hpre2⟩ hk ht fun _ => rfl).imp id Or.inl
  | @delivered hh rc2 body n2 h2 hrc2 hcs =>
    obtain ⟨hok2, _, ⟨pre2, hpre2, _, _⟩, hsucc2⟩ := recvAll_facts n1 _ _ hok1 rc2 body n2 false h2
    obtain ⟨_, hbl, _, htb2⟩ := hsucc2 hrc2
    cases hr
    obtain ⟨f1, f2, f3⟩ := hdr_fields hdr body hl8
    obtain ⟨h8, hmax, hver⟩ := hh
    refine ⟨.trans ⟨pre, hpre⟩ ⟨pre2, hpre2⟩, Or.inr ⟨hdr ++ body, rfl, hcs, by omega, by omega, ?_, ?_,
      by rw [htb, htb2, List.append_assoc], hok2⟩⟩
    · rw [f1, List.length_append, hl8, hbl]
      omega
    · rw [f2, f3]
      by_cases hv : verOf hdr = (downgraded c hdr).version
      · exact Or.inl hv
      · exact Or.inr (Decidable.byContradiction fun ht => hver ⟨hv, ht⟩)

/-- the PDU handed over would be the first `lenOf` bytes of the stream, so it is never handed over;
    without faults on the tape every other outcome is RTR_ERROR -/
theorem bad_length_rejected_quiet (c : Conn) (n : Net) (own : Nat) (timeout : Int) (hq : Quiet n.tape)
    (hbad : be32 (tapeBytes n.tape) 4 < 8 ∨ be32 (tapeBytes n.tape) 4 > Gen.RTR_MAX_PDU_LEN ∨
      (be32 (tapeBytes n.tape) 4 ≤ (tapeBytes n.tape).length ∧
        checkSize ((tapeBytes n.tape).take (be32 (tapeBytes n.tape) 4)) = false)) :
    (receivePdu c n own timeout).1 = .rc (-1) := by
  rcases hr : receivePdu c n own timeout with ⟨res, c1, m⟩
  obtain ⟨_, ⟨k, hk, hk1, _⟩ | ⟨raw, hres, hcs, hge, hle, hlen, _, htb, _⟩⟩ :=
    receivePdu_cases c n own timeout hq.tapeOk res c1 m hr
  · rw [hk, hk1 hq]
  · exfalso
    have hl : be32 (tapeBytes n.tape) 4 = lenOf raw := by
      rw [htb]
      exact be32_append_left raw _ 4 (by omega)
    rcases hbad with hb | hb | ⟨_, hb⟩
    · omega
    · omega
    · rw [hl, htb, List.take_left' hlen, hcs] at hb
      cases hb

end Rtr.P
