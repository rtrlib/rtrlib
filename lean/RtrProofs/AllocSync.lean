/-
  AllocSync: rtr_sync_receive_and_store_pdus under the allocator oracle, whatever the oracle does.
  One relation, `Rep`, ties the two tables to a duplicate-free list of records and to the allocator's trace,
  so that every function of the table part is walked once, for contents and blocks together.
-/
import RtrProofs.AllocOps
import RtrProofs.AllocStore
import RtrProofs.SyncTables

namespace Rtr
namespace Alloc
open PfxTable SpkiTable

/-- a payload PDU of this socket whose prefix is well formed -/
def Item.OK : Item → Prop
  | .p4 _ r => RecOK r ∧ r.src = 0
  | .p6 _ r => RecOK r ∧ r.src = 0
  | .key _ r => r.src = 0

/-! ### the shadow tables -/

theorem freeShadowP_bal (a : A) (S : PfxTable) : Bal a (freeShadowP a S) (-(pfxBlocks S : Int) - 1) :=
  ((freeF_bal a S).trans (free_bal _ .ptab 1)).cast (by omega)

theorem freeShadowK_bal (a : A) (S : SpkiTable) : Bal a (freeShadowK a S) (-(spkiBlocks S : Int) - 1) :=
  ((kfreeF_bal a S).trans (free_bal _ .ktab 1)).cast (by omega)

theorem pdiffActs_frees (src : Nat) : ∀ (rs : List Rec) (N O : PfxTable),
    frees (pdiffActs src rs O) + pfxBlocks (rs.foldl (ndStep src) (N, O)).2 = pfxBlocks O := by
  intro rs
  induction rs with
  | nil => intro N O; simp [pdiffActs]
  | cons r rs ih =>
    intro N O
    rw [List.foldl_cons]
    unfold pdiffActs
    by_cases hs : (r.src == src) = true
    · have hb := remActs_frees O r
      have e : ∃ N', ndStep src (N, O) r = (N', (O.remove r).1) := by
        unfold ndStep
        simp only [hs, if_true]
        split <;> exact ⟨_, rfl⟩
      obtain ⟨N', e⟩ := e
      rw [if_pos hs, e, frees_append]
      have := ih N' (O.remove r).1
      omega
    · have e : ndStep src (N, O) r = (N, O) := by
        unfold ndStep
        simp only [hs, Bool.false_eq_true, if_false]
      rw [if_neg hs, e]
      exact ih N O

theorem kdiffActs_frees (src : Nat) : ∀ (L : List SpkiRec) (N O : SpkiTable), SInv O →
    frees (kdiffActs src L O) + spkiBlocks (diffLoop src L (N, O)).2 = spkiBlocks O := by
  intro L
  induction L with
  | nil => intro N O iv; simp [kdiffActs, diffLoop]
  | cons e rest ih =>
    intro N O iv
    unfold kdiffActs diffLoop
    split
    · have c1 := kremActs_frees iv e
      have iv1 := sinv_remove iv e
      rw [frees_append]
      dsimp only
      split
      · have := ih (N.notify true e) (O.remove e).1 iv1
        omega
      · have := ih N (O.remove e).1 iv1
        omega
    · exact ih N O iv

theorem pfxBlocks_of_roots (A' B' : PfxTable) (h4 : A'.v4 = B'.v4) (h6 : A'.t6 = B'.t6) : pfxBlocks A' = pfxBlocks B' := by
  simp [pfxBlocks, h4, h6]

theorem spkiBlocks_of_parts (A' B' : SpkiTable) (h1 : A'.ht = B'.ht) (h2 : A'.list = B'.list) :
    spkiBlocks A' = spkiBlocks B' := by
  simp [spkiBlocks, h1, h2]

/-- `pfx_table_notify_diff(new, old)` under the oracle, called only if someone listens -/
def diffP (a : A) (N O : PfxTable) : A × PfxTable × PfxTable :=
  if N.hasCb then (a.run (pdiffActs 0 (N.recs4 ++ N.recs6) { O with hasCb := false }), PfxTable.notifyDiff N O 0)
  else (a, N, O)

/-- `spki_table_notify_diff(new, old)` under the oracle -/
def diffK (a : A) (N O : SpkiTable) : A × SpkiTable × SpkiTable :=
  if N.hasCb then (a.run (kdiffActs 0 N.list { O with hasCb := false }), SpkiTable.notifyDiff N O 0)
  else (a, N, O)

/-- the new table keeps its records and blocks; what the diff released has left the old one -/
theorem diffP_ok (a : A) (N O : PfxTable) (wN : TableWF N) (wO : TableWF O) :
    TableWF (diffP a N O).2.1 ∧ pfxBlocks (diffP a N O).2.1 = pfxBlocks N ∧
    Bal a (diffP a N O).1 ((pfxBlocks (diffP a N O).2.2 : Int) - pfxBlocks O) ∧ (diffP a N O).2.1.recs = N.recs := by
  unfold diffP
  by_cases hcb : N.hasCb = true
  · rw [if_pos hcb]
    have nd := notifyDiff_spec N O 0 wN wO
    have c := pdiffActs_frees 0 N.recs N { O with hasCb := false }
    have b3 : pfxBlocks (PfxTable.notifyDiff N O 0).2 =
        pfxBlocks (N.recs.foldl (ndStep 0) (N, { O with hasCb := false })).2 := by
      rw [notifyDiff_eq]
      exact pfxBlocks_of_roots _ _ rfl rfl
    have b4 : pfxBlocks ({ O with hasCb := false } : PfxTable) = pfxBlocks O := pfxBlocks_of_roots _ _ rfl rfl
    exact ⟨WF_of_roots _ _ nd.v4 nd.t6 wN, pfxBlocks_of_roots _ _ nd.v4 nd.t6,
      run_releases (by rw [b3]; exact c.trans b4) a, recs_of_roots _ _ nd.v4 nd.t6⟩
  · rw [if_neg hcb]
    exact ⟨wN, rfl, (Bal.refl a).cast (by dsimp only; omega), rfl⟩

theorem diffK_ok (a : A) (N O : SpkiTable) (iN : SInv N) (iO : SInv O) :
    SInv (diffK a N O).2.1 ∧ spkiBlocks (diffK a N O).2.1 = spkiBlocks N ∧
    Bal a (diffK a N O).1 ((spkiBlocks (diffK a N O).2.2 : Int) - spkiBlocks O) ∧ (diffK a N O).2.1.list = N.list := by
  unfold diffK
  by_cases hcb : N.hasCb = true
  · rw [if_pos hcb]
    have nd := SpkiTable.notifyDiff_spec N O iN iO 0
    have c := kdiffActs_frees 0 N.list N { O with hasCb := false } (iO.of_parts rfl rfl)
    have b3 : spkiBlocks (SpkiTable.notifyDiff N O 0).2 =
        spkiBlocks (diffLoop 0 N.list (N, { O with hasCb := false })).2 := spkiBlocks_of_parts _ _ rfl rfl
    have b4 : spkiBlocks ({ O with hasCb := false } : SpkiTable) = spkiBlocks O := spkiBlocks_of_parts _ _ rfl rfl
    exact ⟨nd.sinvN, spkiBlocks_of_parts _ _ nd.ht nd.list, run_releases (by rw [b3]; exact c.trans b4) a, nd.list⟩
  · rw [if_neg hcb]
    exact ⟨iN, rfl, (Bal.refl a).cast (by dsimp only; omega), rfl⟩

/-! ## the two tables as one set, with the books kept

  The two tables are read as ONE duplicate-free list over `Rec ⊕ SpkiRec`, so that the key lemma of C03
  (`ls_forward_undo`: a forward-order undo that succeeds at every step restores the set) applies to
  the interleaved sequence of prefix and router-key updates directly.  `Rep` ties the tables to such a
  list and to the allocator's trace at once, so that the code is walked once for contents and blocks. -/

open Rtr.P (lsApply lsApplyAll lsUndoAll ls_forward_undo lsApply_other lsApplyAll_cons lsUndoAll_cons)

/-- abstract contents of the two tables -/
def absS (P : PfxTable) (K : SpkiTable) : List (Rec ⊕ SpkiRec) := P.recs.map .inl ++ K.list.map .inr

/-- the announcement / withdrawal a payload PDU stands for -/
def Item.op : Item → Bool × (Rec ⊕ SpkiRec)
  | .p4 f r => (f, .inl r)
  | .p6 f r => (f, .inl r)
  | .key f r => (f, .inr r)

def srcOf : Rec ⊕ SpkiRec → Nat
  | .inl r => r.src
  | .inr k => k.src

/-- at `a` the tables `P`, `K` are well formed and hold the records `s`; since `a0` the number of live blocks has
    changed by `c` plus the blocks of `P` and `K` (`c`: minus what the tables held at `a0`, plus what else is live) -/
structure Rep (a0 : A) (c : Int) (a : A) (P : PfxTable) (K : SpkiTable) (s : List (Rec ⊕ SpkiRec)) : Prop where
  wf : TableWF P
  inv : SInv K
  perm : (absS P K).Perm s
  bal : Bal a0 a (c + pfxBlocks P + spkiBlocks K)

theorem absS_nodup {P : PfxTable} {K : SpkiTable} (hP : TableWF P) (hK : SInv K) : (absS P K).Nodup := by
  unfold absS
  rw [List.nodup_append]
  refine ⟨List.Pairwise.map _ (fun a b hab e => hab (Sum.inl.inj e)) (recs_nodup P hP),
    List.Pairwise.map _ (fun a b hab e => hab (Sum.inr.inj e)) hK.nodup, ?_⟩
  intro x hx y hy e
  simp only [List.mem_map] at hx hy
  obtain ⟨_, _, rfl⟩ := hx
  obtain ⟨_, _, rfl⟩ := hy
  cases e

theorem mem_absS_inl (P : PfxTable) (K : SpkiTable) (r : Rec) : Sum.inl r ∈ absS P K ↔ r ∈ P.recs := by
  simp [absS]

theorem mem_absS_inr (P : PfxTable) (K : SpkiTable) (k : SpkiRec) : Sum.inr k ∈ absS P K ↔ k ∈ K.list := by
  simp [absS]

section
variable {a0 a a' : A} {c : Int} {P P' : PfxTable} {K K' : SpkiTable} {s s' : List (Rec ⊕ SpkiRec)}

/-- the tables as they are when the table part is entered -/
theorem Rep.start (a : A) (hP : TableWF P) (hK : SInv K) :
    Rep a (-(pfxBlocks P : Int) - spkiBlocks K) a P K (absS P K) :=
  ⟨hP, hK, List.Perm.refl _, (Bal.refl a).cast (by omega)⟩

theorem Rep.nodup (h : Rep a0 c a P K s) : s.Nodup := h.perm.nodup_iff.mp (absS_nodup h.wf h.inv)

theorem Rep.mem_inl (h : Rep a0 c a P K s) (r : Rec) : Sum.inl r ∈ s ↔ r ∈ P.recs := by
  rw [← h.perm.mem_iff, mem_absS_inl]

theorem Rep.mem_inr (h : Rep a0 c a P K s) (k : SpkiRec) : Sum.inr k ∈ s ↔ k ∈ K.list := by
  rw [← h.perm.mem_iff, mem_absS_inr]

theorem Rep.toP (h : Rep a0 c a P K s) (k : PBooks a P a' P') (hp : (absS P' K).Perm s') : Rep a0 c a' P' K s' :=
  ⟨k.inv, h.inv, hp, (h.bal.trans k.bal).cast (by omega)⟩

theorem Rep.toK (h : Rep a0 c a P K s) (k : KBooks a K a' K') (hp : (absS P K').Perm s') : Rep a0 c a' P K' s' :=
  ⟨h.wf, k.inv, hp, (h.bal.trans k.bal).cast (by omega)⟩

end

theorem absS_perm_P {P P' : PfxTable} (K : SpkiTable) {r : Rec} (h : P'.recs.Perm (r :: P.recs)) :
    (absS P' K).Perm (Sum.inl r :: absS P K) := by
  unfold absS
  have := (h.map (Sum.inl : Rec → Rec ⊕ SpkiRec)).append_right (K.list.map Sum.inr)
  simpa using this

theorem absS_perm_K (P : PfxTable) {K K' : SpkiTable} {k : SpkiRec} (h : K'.list.Perm (k :: K.list)) :
    (absS P K').Perm (Sum.inr k :: absS P K) := by
  unfold absS
  have := (h.map (Sum.inr : SpkiRec → Rec ⊕ SpkiRec)).append_left (P.recs.map Sum.inl)
  refine this.trans ?_
  simp only [List.map_cons]
  exact List.perm_middle

/-- what one update (or its inverse) does, abstractly: a successful step is the set operation `lsApply · f x`,
    an unsuccessful one — whatever the reason, including a refused allocation — leaves the contents alone; the
    books are kept either way -/
structure Stepped (a0 : A) (c : Int) (s : List (Rec ⊕ SpkiRec)) (f : Bool) (x : Rec ⊕ SpkiRec) (a' : A) (P' : PfxTable)
    (K' : SpkiTable) (ok : Bool) : Prop where
  applied : ok = true → (lsApply s f x).2 = .success ∧ Rep a0 c a' P' K' (lsApply s f x).1
  refused : ok = false → Rep a0 c a' P' K' s

section
variable {a0 a' : A} {c : Int} {P' : PfxTable} {K' : SpkiTable} {s : List (Rec ⊕ SpkiRec)} {f : Bool}
  {x : Rec ⊕ SpkiRec} {ok : Bool}

theorem Stepped.failed (hb : ok = false) (h : Rep a0 c a' P' K' s) : Stepped a0 c s f x a' P' K' ok :=
  ⟨fun e => absurd (hb.symm.trans e) Bool.false_ne_true, fun _ => h⟩

theorem Stepped.done (hb : ok = true) (e : (lsApply s f x).2 = .success) (h : Rep a0 c a' P' K' (lsApply s f x).1) :
    Stepped a0 c s f x a' P' K' ok :=
  ⟨fun _ => ⟨e, h⟩, fun e => absurd (e.symm.trans hb) Bool.false_ne_true⟩

end

section
variable {α : Type} [DecidableEq α] {s t t' : List α} {x : α}

theorem ls_added (hp : t.Perm s) (hx : x ∉ s) (hp' : t'.Perm (x :: t)) :
    (lsApply s true x).2 = .success ∧ t'.Perm (lsApply s true x).1 := by
  have e : lsApply s true x = (x :: s, .success) := by simp [lsApply, hx]
  rw [e]
  exact ⟨rfl, hp'.trans (List.Perm.cons x hp)⟩

theorem ls_removed (hp : t.Perm s) (hx : x ∈ s) (hp' : t.Perm (x :: t')) :
    (lsApply s false x).2 = .success ∧ t'.Perm (lsApply s false x).1 := by
  have e : lsApply s false x = (s.erase x, .success) := by simp [lsApply, hx]
  rw [e]
  exact ⟨rfl, ((hp'.symm.trans hp).trans (List.perm_cons_erase hx)).cons_inv⟩

end

theorem beq_success_iff (rc : PfxRc) : (rc == PfxRc.success) = true ↔ rc = .success := by
  cases rc <;> decide

theorem kbeq_success_iff (rc : SpkiRc) : (rc == SpkiRc.success) = true ↔ rc = .success := by
  cases rc <;> decide

theorem pfxStep_rep {a0 a : A} {c : Int} {P : PfxTable} {K : SpkiTable} {s : List (Rec ⊕ SpkiRec)}
    (h : Rep a0 c a P K s) (f : Bool) (r : Rec) (hr : RecOK r) :
    Stepped a0 c s f (.inl r) (if f then addF a P r else removeF a P r).1 (if f then addF a P r else removeF a P r).2.1 K
      ((if f then addF a P r else removeF a P r).2.2 == .success) := by
  cases f with
  | true =>
    rw [if_pos rfl]
    have sp := add_spec P r h.wf hr
    have k := addF_books a P r h.wf hr
    rcases (addF_ok a P r).cases with e | e
    · rw [e] at k ⊢
      by_cases hin : r ∈ P.recs
      · obtain ⟨d1, d2⟩ := sp.dup hin
        rw [d2] at k
        rw [d1, d2]
        exact .failed rfl (h.toP k h.perm)
      · obtain ⟨o1, o2, _⟩ := sp.ok hin
        obtain ⟨l1, l2⟩ := ls_added h.perm (fun hx => hin ((h.mem_inl r).1 hx)) (absS_perm_P K o2)
        rw [o1]
        exact .done rfl l1 (h.toP k l2)
    · rw [e] at k ⊢
      exact .failed rfl (h.toP k h.perm)
  | false =>
    rw [if_neg Bool.false_ne_true]
    have sp := remove_spec P r h.wf
    have k := removeF_books a P r h.wf
    rw [removeF_result] at k ⊢
    by_cases hin : r ∈ P.recs
    · obtain ⟨o1, o2, _⟩ := sp.ok hin
      obtain ⟨l1, l2⟩ := ls_removed h.perm ((h.mem_inl r).2 hin) (absS_perm_P K o2)
      rw [o1]
      exact .done rfl l1 (h.toP k l2)
    · obtain ⟨n1, n2⟩ := sp.nf hin
      rw [n2] at k
      rw [n1, n2]
      exact .failed rfl (h.toP k h.perm)

theorem keyStep_rep {a0 a : A} {c : Int} {P : PfxTable} {K : SpkiTable} {s : List (Rec ⊕ SpkiRec)}
    (h : Rep a0 c a P K s) (f : Bool) (r : SpkiRec) :
    Stepped a0 c s f (.inr r) (if f then kaddF a K r else kremoveF a K r).1 P (if f then kaddF a K r else kremoveF a K r).2.1
      ((if f then kaddF a K r else kremoveF a K r).2.2 == .success) := by
  cases f with
  | true =>
    rw [if_pos rfl]
    have k := kaddF_books a h.inv r
    rcases kaddF_cases a h.inv r with e | e | ⟨e, hr⟩
    · rw [e] at k ⊢
      by_cases hin : r ∈ K.list
      · rw [add_dup h.inv r hin] at k ⊢
        exact .failed rfl (h.toK k h.perm)
      · have ad := add_new_spec h.inv r hin
        obtain ⟨l1, l2⟩ := ls_added h.perm (fun hx => hin ((h.mem_inr r).1 hx))
          (absS_perm_K P (ad.list ▸ List.perm_append_singleton r K.list))
        rw [ad.rc]
        exact .done rfl l1 (h.toK k l2)
    · rw [e] at k ⊢
      exact .failed rfl (h.toK k h.perm)
    · rw [e] at k ⊢
      obtain ⟨_, n2, _⟩ := addNoGrow_spec h.inv r hr
      rw [(add_new_spec h.inv r hr).list] at n2
      obtain ⟨l1, l2⟩ := ls_added h.perm (fun hx => hr ((h.mem_inr r).1 hx))
        (absS_perm_K P (n2 ▸ List.perm_append_singleton r K.list))
      exact .done rfl l1 (h.toK k l2)
  | false =>
    rw [if_neg Bool.false_ne_true]
    have k := kremoveF_books a h.inv r
    rw [kremoveF_result] at k ⊢
    by_cases hin : r ∈ K.list
    · have rm := remove_present_spec h.inv r hin
      obtain ⟨l1, l2⟩ := ls_removed h.perm ((h.mem_inr r).2 hin)
        (absS_perm_K (K := (K.remove r).1) P (rm.list ▸ List.perm_cons_erase hin))
      rw [rm.rc]
      exact .done rfl l1 (h.toK k l2)
    · rw [remove_absent h.inv r hin] at k ⊢
      exact .failed rfl (h.toK k h.perm)

theorem applyItem_rep {a0 a : A} {c : Int} {P : PfxTable} {K : SpkiTable} {s : List (Rec ⊕ SpkiRec)}
    (h : Rep a0 c a P K s) (undo : Bool) (it : Item) (hit : it.OK) :
    Stepped a0 c s (it.op.1 != undo) it.op.2 (applyItem undo a P K it).1 (applyItem undo a P K it).2.1
      (applyItem undo a P K it).2.2.1 (applyItem undo a P K it).2.2.2 := by
  cases it with
  | p4 add r => exact pfxStep_rep h (add != undo) r hit.1
  | p6 add r => exact pfxStep_rep h (add != undo) r hit.1
  | key add r => exact keyStep_rep h (add != undo) r

/-! ### the update and undo loops -/

/-- records of the other sockets are the same in both lists -/
def SameOthers (s s0 : List (Rec ⊕ SpkiRec)) : Prop := ∀ x, srcOf x ≠ 0 → (x ∈ s ↔ x ∈ s0)

theorem SameOthers.refl (s : List (Rec ⊕ SpkiRec)) : SameOthers s s := fun _ _ => Iff.rfl
theorem SameOthers.trans {a b c : List (Rec ⊕ SpkiRec)} (h1 : SameOthers a b) (h2 : SameOthers b c) : SameOthers a c :=
  fun x hx => (h1 x hx).trans (h2 x hx)

theorem Rep.others {a0 a : A} {c : Int} {P : PfxTable} {K : SpkiTable} {s t : List (Rec ⊕ SpkiRec)} (h : Rep a0 c a P K s)
    (ho : SameOthers s t) : SameOthers (absS P K) t :=
  fun x hx => h.perm.mem_iff.trans (ho x hx)

theorem item_src (it : Item) (hit : it.OK) : srcOf it.op.2 = 0 := by
  cases it with
  | p4 add r => exact hit.2
  | p6 add r => exact hit.2
  | key add r => exact hit

theorem lsApply_others (s : List (Rec ⊕ SpkiRec)) (f : Bool) (it : Item) (hit : it.OK) :
    SameOthers (lsApply s f it.op.2).1 s := by
  intro x hx
  refine lsApply_other s f it.op.2 _ _ rfl x (fun e => hx ?_)
  rw [e, item_src it hit]

section
variable {a0 : A} {c : Int}

/-- what the apply loops have done when they return `q`: the PDUs `pre` before the failing one — all of `ops` if none
    fails — have been applied, in order, and `s` has become `s'`; only records of this socket are touched; the books
    are kept -/
structure Applied (a0 : A) (c : Int) (s : List (Rec ⊕ SpkiRec)) (ops done : List Item)
    (q : A × PfxTable × SpkiTable × Option (List Item)) (pre : List Item) (s' : List (Rec ⊕ SpkiRec)) : Prop where
  run : lsApplyAll s (pre.map Item.op) = some s'
  others : SameOthers s' s
  ok : ∀ it ∈ pre, it.OK
  rep : Rep a0 c q.1 q.2.1 q.2.2.1 s'
  all : q.2.2.2 = none → pre = ops
  part : ∀ d, q.2.2.2 = some d → d = done ++ pre

/-- what the undo loops have done when they return `q`: the inverses of the PDUs `pre` before the failing one — of
    all of `ops` if none fails — have been applied -/
structure Undone (a0 : A) (c : Int) (s : List (Rec ⊕ SpkiRec)) (ops : List Item) (q : A × PfxTable × SpkiTable × Bool)
    (pre : List Item) (s' : List (Rec ⊕ SpkiRec)) : Prop where
  run : lsUndoAll s (pre.map Item.op) = some s'
  others : SameOthers s' s
  rep : Rep a0 c q.1 q.2.1 q.2.2.1 s'
  all : q.2.2.2 = true → pre = ops

theorem applyAll_rep : ∀ (ops done : List Item) (a : A) (P : PfxTable) (K : SpkiTable) (s : List (Rec ⊕ SpkiRec)),
    Rep a0 c a P K s → (∀ it ∈ ops, it.OK) → ∃ pre s', Applied a0 c s ops done (applyAll ops done a P K) pre s' := by
  intro ops
  induction ops with
  | nil =>
    intro done a P K s h _
    exact ⟨[], s, rfl, SameOthers.refl s, nofun, h, fun _ => rfl, nofun⟩
  | cons it rest ih =>
    intro done a P K s h hok
    have hit := hok it (List.mem_cons_self ..)
    have st := applyItem_rep h false it hit
    have hflag : (it.op.1 != false) = it.op.1 := by cases it.op.1 <;> rfl
    unfold applyAll
    dsimp only
    by_cases hs : (applyItem false a P K it).2.2.2 = true
    · rw [if_pos hs]
      obtain ⟨r1, r2⟩ := st.applied hs
      rw [hflag] at r1 r2
      obtain ⟨pre, s', ap⟩ := ih (done ++ [it]) _ _ _ _ r2 (fun x hx => hok x (List.mem_cons_of_mem _ hx))
      refine ⟨it :: pre, s', by rw [List.map_cons, lsApplyAll_cons r1]; exact ap.run,
        ap.others.trans (lsApply_others s _ it hit), List.forall_mem_cons.2 ⟨hit, ap.ok⟩, ap.rep,
        fun h => by rw [ap.all h], fun d h => ?_⟩
      rw [ap.part d h, List.append_assoc]
      rfl
    · rw [if_neg hs]
      rw [Bool.not_eq_true] at hs
      exact ⟨[], s, rfl, SameOthers.refl s, nofun, st.refused hs, nofun,
        fun d hd => by rw [← Option.some.inj hd, List.append_nil]⟩

theorem undoAll_rep : ∀ (ops : List Item) (a : A) (P : PfxTable) (K : SpkiTable) (s : List (Rec ⊕ SpkiRec)),
    Rep a0 c a P K s → (∀ it ∈ ops, it.OK) → ∃ pre s', Undone a0 c s ops (undoAll ops a P K) pre s' := by
  intro ops
  induction ops with
  | nil =>
    intro a P K s h _
    exact ⟨[], s, rfl, SameOthers.refl s, h, fun _ => rfl⟩
  | cons it rest ih =>
    intro a P K s h hok
    have hit := hok it (List.mem_cons_self ..)
    have st := applyItem_rep h true it hit
    have hflag : (it.op.1 != true) = !it.op.1 := by cases it.op.1 <;> rfl
    unfold undoAll
    dsimp only
    by_cases hs : (applyItem true a P K it).2.2.2 = true
    · rw [if_pos hs]
      obtain ⟨r1, r2⟩ := st.applied hs
      rw [hflag] at r1 r2
      obtain ⟨pre, s', un⟩ := ih _ _ _ _ r2 (fun x hx => hok x (List.mem_cons_of_mem _ hx))
      exact ⟨it :: pre, s', by rw [List.map_cons, lsUndoAll_cons r1]; exact un.run,
        un.others.trans (lsApply_others s _ it hit), un.rep, fun h => by rw [un.all h]⟩
    · rw [if_neg hs]
      rw [Bool.not_eq_true] at hs
      exact ⟨[], s, rfl, SameOthers.refl s, st.refused hs, fun h => absurd h Bool.false_ne_true⟩

end

/-! ### the outcome of the table part -/

/-- this socket's records are gone, everything else is as in `P`, `K` -/
def Purged (P : PfxTable) (K : SpkiTable) (P' : PfxTable) (K' : SpkiTable) : Prop :=
  P'.recs.Perm (P.recs.filter fun r => r.src != 0) ∧ ∀ x, x ∈ K'.list ↔ (x ∈ K.list ∧ x.src ≠ 0)

theorem purge_of_others {P Pu : PfxTable} {K Ku : SpkiTable} (hP : TableWF P) (hPu : TableWF Pu) (hKu : SInv Ku)
    (ho : SameOthers (absS Pu Ku) (absS P K)) : Purged P K (Pu.srcRemove 0) (Ku.srcRemove 0).1 := by
  constructor
  · refine (srcRemove_spec Pu 0 hPu).recs.trans ?_
    refine perm_filter_of_mem_iff _ _ (recs_nodup Pu hPu) (recs_nodup P hP) (fun x => and_congr_left fun hs => ?_)
    have hne : srcOf (Sum.inl x) ≠ 0 := by simpa [srcOf] using hs
    exact (mem_absS_inl Pu Ku x).symm.trans ((ho _ hne).trans (mem_absS_inl P K x))
  · intro x
    rw [(SpkiTable.srcRemove_spec hKu 0).mem x]
    exact and_congr_left fun hs => (mem_absS_inr Pu Ku x).symm.trans ((ho (Sum.inr x) hs).trans (mem_absS_inr P K x))

/-- `rtr_purge_records_after_failed_undo`: well-formed tables, the blocks follow them -/
theorem purgeF_spec (a : A) (P : PfxTable) (K : SpkiTable) (hP : TableWF P) (hK : SInv K) :
    TableWF (purgeF a P K).2.1 ∧ SInv (purgeF a P K).2.2 ∧
    Bal a (purgeF a P K).1 ((pfxBlocks (purgeF a P K).2.1 : Int) - pfxBlocks P + ((spkiBlocks (purgeF a P K).2.2 : Int) - spkiBlocks K)) :=
  ⟨(srcRemoveF_books a P 0 hP).inv, (ksrcRemoveF_books (srcRemoveF a P 0).1 hK 0).inv,
    (srcRemoveF_books a P 0 hP).bal.trans (ksrcRemoveF_books (srcRemoveF a P 0).1 hK 0).bal⟩

/-- what the table part leaves behind, for every behaviour of the oracle:
    `base` is what the updates are applied to (the tables, or — full reload — the other sockets' records) -/
structure Outcome (P : PfxTable) (K : SpkiTable) (base : List (Rec ⊕ SpkiRec)) (ops : List Item)
    (q : A × PfxTable × SpkiTable × SyncRes) : Prop where
  /-- success: every payload PDU was applied, in order -/
  ok : q.2.2.2.ok = true → q.2.2.2.purged = false ∧
        ∃ s', lsApplyAll base (ops.map Item.op) = some s' ∧ (absS q.2.1 q.2.2.1).Perm s'
  /-- error, not purged: both tables hold what they held -/
  same : q.2.2.2.ok = false → q.2.2.2.purged = false → (absS q.2.1 q.2.2.1).Perm (absS P K)
  /-- error, purged: exactly this socket's records are gone -/
  purged : q.2.2.2.ok = false → q.2.2.2.purged = true → Purged P K q.2.1 q.2.2.1

/-- the table part of a synchronisation entered with PDU buffers `b` alive: tables well formed,
    nothing temporary left, buffers released -/
structure SyncOK (a : A) (b : Bufs) (P : PfxTable) (K : SpkiTable) (q : A × PfxTable × SpkiTable × SyncRes) : Prop where
  wf : TableWF q.2.1
  inv : SInv q.2.2.1
  bal : Bal a q.1 (-(bufsLive b : Int) + ((pfxBlocks q.2.1 : Int) - pfxBlocks P) + ((spkiBlocks q.2.2.1 : Int) - spkiBlocks K))

/-- what the table part guarantees, whatever the oracle does -/
structure SyncSpec (a : A) (b : Bufs) (P : PfxTable) (K : SpkiTable) (base : List (Rec ⊕ SpkiRec)) (ops : List Item)
    (q : A × PfxTable × SpkiTable × SyncRes) : Prop where
  ok : SyncOK a b P K q
  out : Outcome P K base ops q

section
variable {a x : A} {b : Bufs} {P P' : PfxTable} {K K' : SpkiTable} {base : List (Rec ⊕ SpkiRec)} {ops : List Item}

/-- leaving through `cleanup:` with the socket's tables untouched and everything temporary released -/
theorem SyncSpec.abort (b : Bufs) (hP : TableWF P) (hK : SInv K) (h : Bal a x 0) :
    SyncSpec a b P K base ops (freeBufs x b, P, K, ⟨false, false⟩) :=
  ⟨⟨hP, hK, (h.trans (freeBufs_bal x b)).cast (by dsimp only; omega)⟩,
    ⟨fun h => (by cases h), fun _ _ => List.Perm.refl _, fun _ h => (by cases h)⟩⟩

/-- leaving through `cleanup:` with tables `P'`, `K'` to which the blocks are accounted -/
theorem SyncOK.finish (b : Bufs) (wf : TableWF P') (inv : SInv K') (res : SyncRes)
    (h : Bal a x ((pfxBlocks P' : Int) - pfxBlocks P + ((spkiBlocks K' : Int) - spkiBlocks K))) :
    SyncOK a b P K (freeBufs x b, P', K', res) :=
  ⟨wf, inv, (h.trans (freeBufs_bal x b)).cast (by dsimp only; omega)⟩

end

/-- an incremental update.  The updates are applied to the socket's tables in order; if one fails, the inverses of
    those before it are applied in the same order: when all of them succeed `ls_forward_undo` says the tables hold
    what they held, when one fails this socket's records are purged and — every step having touched records of
    this socket only (`SameOthers`) — the others' are as they were -/
theorem syncUpdate_spec (a : A) (b : Bufs) (P : PfxTable) (K : SpkiTable) (ops : List Item) (hP : TableWF P)
    (hK : SInv K) (hok : ∀ it ∈ ops, it.OK) : SyncSpec a b P K (absS P K) ops (syncUpdate a b P K ops) := by
  have h0 := Rep.start a hP hK
  obtain ⟨pre, s', ap⟩ := applyAll_rep ops [] a P K _ h0 hok
  unfold syncUpdate
  rcases hq : applyAll ops [] a P K with ⟨a1, P1, K1, o⟩
  rw [hq] at ap
  have r1 : Rep a _ a1 P1 K1 s' := ap.rep
  have e1 := ap.run
  cases o with
  | none =>
    rw [ap.all rfl] at e1
    exact ⟨.finish b r1.wf r1.inv _ (r1.bal.cast (by omega)),
      fun _ => ⟨rfl, s', e1, r1.perm⟩, fun h => (by cases h), fun h => (by cases h)⟩
  | some done =>
    dsimp only
    rw [ap.part done rfl, List.nil_append]
    obtain ⟨pre2, s'', un⟩ := undoAll_rep pre a1 P1 K1 s' r1 ap.ok
    have r2 := un.rep
    by_cases hs : (undoAll pre a1 P1 K1).2.2.2 = true
    · rw [if_pos hs]
      have e2 := un.run
      rw [un.all hs] at e2
      obtain ⟨_, same⟩ := ls_forward_undo (pre.map Item.op) (absS P K) s' s'' h0.nodup e1 e2
      exact ⟨.finish b r2.wf r2.inv _ (r2.bal.cast (by omega)), fun h => (by cases h),
        fun _ _ => r2.perm.trans ((List.perm_ext_iff_of_nodup r2.nodup h0.nodup).2 same), fun _ h => (by cases h)⟩
    · rw [if_neg hs]
      obtain ⟨g1, g2, g3⟩ := purgeF_spec (undoAll pre a1 P1 K1).1 _ _ r2.wf r2.inv
      refine ⟨.finish b g1 g2 _ ((r2.bal.trans g3).cast (by omega)), fun h => (by cases h), fun _ h => (by cases h),
        fun _ _ => purge_of_others hP r2.wf r2.inv (r2.others (un.others.trans ap.others))⟩

def othersOf (P : PfxTable) (K : SpkiTable) : List (Rec ⊕ SpkiRec) :=
  (P.recs.filter fun r => r.src != 0).map .inl ++ (K.list.filter fun e => e.src != 0).map .inr

/-! ### a full reload -/

/-- the End of Data part of a full reload, entered with the complete shadow tables `SP0`, `SK0`: the last
    `match` of the model's `syncReset` verbatim (`diffP`, `diffK` name its two `if hasCb` blocks), so that
    `syncReset_cases` can hand over to it by unfolding -/
def resetEnd (a : A) (b : Bufs) (P : PfxTable) (K : SpkiTable) (SP0 : PfxTable) (SK0 : SpkiTable) (ops : List Item) :
    A × PfxTable × SpkiTable × SyncRes :=
  match applyAll ops [] a SP0 SK0 with
  | (a1, SP, SK, none) =>
    let dp := diffP a1 (PfxTable.swap P SP).1 (PfxTable.swap P SP).2
    let dk := diffK dp.1 (SpkiTable.swap K SK).1 (SpkiTable.swap K SK).2
    (freeBufs (freeShadowK (freeShadowP dk.1 dp.2.2) dk.2.2) b, dp.2.1, dk.2.1, ⟨true, false⟩)
  | (a1, SP, SK, some done) =>
    let u := undoAll done a1 SP SK
    if u.2.2.2 then (freeBufs (freeShadowK (freeShadowP u.1 u.2.1) u.2.2.1) b, P, K, ⟨false, false⟩)
    else
      let g := purgeF u.1 P K
      (freeBufs (freeShadowK (freeShadowP g.1 u.2.1) u.2.2.1) b, g.2.1, g.2.2, ⟨false, true⟩)

theorem kinitF_some {a : A} {cb : Bool} {K0 : SpkiTable} (h : (kinitF a cb).2 = some K0) : K0 = SpkiTable.init cb := by
  unfold kinitF at h
  dsimp only at h
  split at h
  · exact (Option.some.inj h).symm
  · cases h

/-- building the shadow tables: either a request is refused on the way — then everything obtained so far
    has been released again and the socket's tables have not been touched — or the End of Data part is
    entered with well-formed shadow tables holding exactly the other sockets' records, two table structs
    and the shadows' blocks being live -/
theorem syncReset_cases {φ : A × PfxTable × SpkiTable × SyncRes → Prop} (a : A) (b : Bufs) (P : PfxTable)
    (K : SpkiTable) (ops : List Item) (hP : TableWF P)
    (abort : ∀ x, Bal a x 0 → φ (freeBufs x b, P, K, ⟨false, false⟩))
    (built : ∀ x SP0 SK0, Rep a 2 x SP0 SK0 (othersOf P K) → φ (resetEnd x b P K SP0 SK0 ops)) :
    φ (syncReset a b P K ops) := by
  unfold syncReset
  have q1 := malloc_bal a .ptab 1
  -- the `if` stands directly under `φ`; `split` would search all of `syncReset` for it
  refine iteInduction (fun h1 => ?_) (fun h1 => ?_)
  · rw [Bool.not_eq_true'] at h1
    rw [h1, if_neg Bool.false_ne_true] at q1
    exact abort _ q1
  rw [Bool.not_eq_true', Bool.not_eq_false] at h1
  rw [h1, if_pos rfl] at q1
  have w0 : TableWF ({ hasCb := false } : PfxTable) := ⟨trivial, trivial⟩
  have c1 := copyExceptF_books (a.malloc .ptab 1).2 P { hasCb := false } 0 hP w0
  have cs1 := copyExceptF_success (a.malloc .ptab 1).2 P { hasCb := false } 0 hP w0 rfl
  have n1 := q1.trans c1.bal
  have b0 : pfxBlocks ({ hasCb := false } : PfxTable) = 0 := rfl
  rw [b0] at n1
  generalize copyExceptF (a.malloc .ptab 1).2 P { hasCb := false } 0 = C1 at c1 cs1 n1 ⊢
  refine iteInduction (fun hrc1 => ?_) (fun hrc1 => ?_)
  · exact abort _ ((n1.trans (freeShadowP_bal _ C1.2.1)).cast (by omega))
  rw [bne_iff_ne, Decidable.not_not] at hrc1
  have q2 := malloc_bal C1.1 .ktab 1
  refine iteInduction (fun h2 => ?_) (fun h2 => ?_)
  · rw [Bool.not_eq_true'] at h2
    rw [h2, if_neg Bool.false_ne_true] at q2
    exact abort _ (((n1.trans q2).trans (freeShadowP_bal _ C1.2.1)).cast (by omega))
  rw [Bool.not_eq_true', Bool.not_eq_false] at h2
  rw [h2, if_pos rfl] at q2
  have ki := kinitF_bal (C1.1.malloc .ktab 1).2 false
  dsimp only
  cases hk : (kinitF (C1.1.malloc .ktab 1).2 false).2 with
  | none =>
    rw [hk, Option.isSome_none, if_neg Bool.false_ne_true] at ki
    exact abort _ (((((n1.trans q2).trans ki).trans (free_bal _ .ktab 1)).trans (freeShadowP_bal _ C1.2.1)).cast (by omega))
  | some K0 =>
    dsimp only
    rw [hk, Option.isSome_some, if_pos rfl] at ki
    have iv0 : SInv K0 := kinitF_some hk ▸ SpkiTable.sinv_init false
    have e0 : K0.list = [] := kinitF_some hk ▸ rfl
    have b1 : spkiBlocks K0 = 1 := kinitF_some hk ▸ rfl
    have c2 : KBooks _ K0 (kcopyExceptF (kinitF (C1.1.malloc .ktab 1).2 false).1 K K0 0).1
        (kcopyExceptF (kinitF (C1.1.malloc .ktab 1).2 false).1 K K0 0).2.1 := kcopyLoopF_books 0 K.list _ K0 iv0
    have cs2 : (kcopyExceptF (kinitF (C1.1.malloc .ktab 1).2 false).1 K K0 0).2.2 = .success →
        (kcopyExceptF (kinitF (C1.1.malloc .ktab 1).2 false).1 K K0 0).2.1.list =
          K0.list ++ K.list.filter (fun e => e.src != 0) :=
      kcopyLoopF_success 0 K.list _ K0 iv0
    have n2 := ((n1.trans q2).trans ki).trans c2.bal
    rw [b1] at n2
    rw [e0, List.nil_append] at cs2
    generalize kcopyExceptF (kinitF (C1.1.malloc .ktab 1).2 false).1 K K0 0 = C2 at c2 cs2 n2 ⊢
    refine iteInduction (fun hrc2 => ?_) (fun hrc2 => ?_)
    · exact abort _ (((n2.trans (freeShadowP_bal _ C1.2.1)).trans (freeShadowK_bal _ C2.2.1)).cast (by omega))
    rw [bne_iff_ne, Decidable.not_not] at hrc2
    refine built C2.1 C1.2.1 C2.2.1 ⟨c1.inv, c2.inv, ?_, n2.cast (by omega)⟩
    unfold absS othersOf
    rw [cs2 hrc2]
    exact ((cs1 hrc1).map _).append_right _

/-- the End of Data part of a full reload.  The updates go to the shadow tables, which hold the other sockets' records
    (`h`): if all succeed the shadows are swapped in and the old contents released; if one fails the socket's own
    tables have not been touched: they stay as they are when the undo on the shadows succeeds and are purged
    when it fails; the shadows are released on every path -/
theorem resetEnd_spec (a0 a : A) (b : Bufs) (P : PfxTable) (K : SpkiTable) (SP0 : PfxTable) (SK0 : SpkiTable)
    (ops : List Item) (hP : TableWF P) (hK : SInv K) (hok : ∀ it ∈ ops, it.OK) (h : Rep a0 2 a SP0 SK0 (othersOf P K)) :
    SyncSpec a0 b P K (othersOf P K) ops (resetEnd a b P K SP0 SK0 ops) := by
  obtain ⟨pre, s', ap⟩ := applyAll_rep ops [] a SP0 SK0 _ h hok
  unfold resetEnd
  rcases hq : applyAll ops [] a SP0 SK0 with ⟨a1, SP, SK, o⟩
  rw [hq] at ap
  have r1 : Rep a0 2 a1 SP SK s' := ap.rep
  have e1 := ap.run
  cases o with
  | none =>
    dsimp only
    rw [ap.all rfl] at e1
    obtain ⟨iN, iO⟩ := sinv_swap hK r1.inv
    -- the swapped tables have the roots of `SP` and `P` but are other terms: `TableWF` is rebuilt from the roots
    obtain ⟨p1, p2, p3, pr⟩ := diffP_ok a1 (PfxTable.swap P SP).1 (PfxTable.swap P SP).2 ⟨r1.wf.w4, r1.wf.w6⟩ ⟨hP.w4, hP.w6⟩
    obtain ⟨t1, t2, t3, kl⟩ := diffK_ok (diffP a1 (PfxTable.swap P SP).1 (PfxTable.swap P SP).2).1 _ _ iN iO
    refine ⟨⟨p1, t1, (((((r1.bal.trans p3).trans t3).trans (freeShadowP_bal _ _)).trans (freeShadowK_bal _ _)).trans
      (freeBufs_bal _ b)).cast ?_⟩, fun _ => ⟨rfl, s', e1, ?_⟩, fun h => (by cases h), fun h => (by cases h)⟩
    · have b1 : pfxBlocks (PfxTable.swap P SP).1 = pfxBlocks SP ∧ pfxBlocks (PfxTable.swap P SP).2 = pfxBlocks P := ⟨rfl, rfl⟩
      have b2 : spkiBlocks (SpkiTable.swap K SK).1 = spkiBlocks SK ∧ spkiBlocks (SpkiTable.swap K SK).2 = spkiBlocks K :=
        ⟨rfl, rfl⟩
      dsimp only
      rw [p2, t2]
      omega
    · unfold absS
      rw [pr, kl]
      exact r1.perm
  | some done =>
    dsimp only
    obtain ⟨_, _, un⟩ := undoAll_rep done a1 SP SK s' r1 (by rw [ap.part done rfl, List.nil_append]; exact ap.ok)
    have nu := un.rep.bal
    generalize undoAll done a1 SP SK = U at nu ⊢
    by_cases hu : U.2.2.2 = true
    · rw [if_pos hu]
      exact .abort b hP hK (((nu.trans (freeShadowP_bal _ _)).trans (freeShadowK_bal _ _)).cast (by omega))
    · rw [if_neg hu]
      obtain ⟨g1, g2, g3⟩ := purgeF_spec U.1 P K hP hK
      exact ⟨.finish b g1 g2 _ ((((nu.trans g3).trans (freeShadowP_bal _ _)).trans (freeShadowK_bal _ _)).cast (by omega)),
        fun h => (by cases h), fun _ h => (by cases h), fun _ _ => purge_of_others hP hP hK (SameOthers.refl _)⟩

theorem syncReset_spec (a : A) (b : Bufs) (P : PfxTable) (K : SpkiTable) (ops : List Item) (hP : TableWF P)
    (hK : SInv K) (hok : ∀ it ∈ ops, it.OK) : SyncSpec a b P K (othersOf P K) ops (syncReset a b P K ops) :=
  syncReset_cases a b P K ops hP (fun _ h => .abort b hP hK h)
    (fun x SP0 SK0 h => resetEnd_spec a x b P K SP0 SK0 ops hP hK hok h)

theorem syncF_spec (a : A) (P : PfxTable) (K : SpkiTable) (reset : Bool) (items : List Item) (hP : TableWF P)
    (hK : SInv K) (hok : ∀ it ∈ items, it.OK) :
    SyncSpec a {} P K (if reset then othersOf P K else absS P K)
      (items.filter Item.isP4 ++ items.filter Item.isP6 ++ items.filter Item.isKey) (syncF a P K reset items) := by
  have st := storeLoop_bal items a {}
  have hops : ∀ it ∈ items.filter Item.isP4 ++ items.filter Item.isP6 ++ items.filter Item.isKey, it.OK := by
    intro it hit
    simp only [List.mem_append, List.mem_filter] at hit
    rcases hit with (h | h) | h <;> exact hok it h.1
  have lift : ∀ base ops q, SyncSpec (storeLoop items a {}).2.1 (storeLoop items a {}).2.2 P K base ops q →
      SyncSpec a {} P K base ops q :=
    fun _ _ q h => ⟨⟨h.ok.wf, h.ok.inv, (st.trans h.ok.bal).cast (by omega)⟩, h.out⟩
  unfold syncF
  dsimp only
  by_cases hst : (!(storeLoop items a {}).1) = true
  · rw [if_pos hst]
    exact lift _ _ _ (.abort _ hP hK (Bal.refl _))
  · rw [if_neg hst]
    cases reset with
    | true => exact lift _ _ _ (syncReset_spec _ _ P K _ hP hK hops)
    | false => exact lift _ _ _ (syncUpdate_spec _ _ P K _ hP hK hops)

end Alloc
end Rtr
