/-
  BGPsec signing (C12): a path built by a chain of registered speakers validates (`buildPath_valid`).  `Signer`,
  `forward`, `buildPath`, `Chained`, `Registered` and `KeyPair` are vocabulary of the property statements.
-/
import RtrProofs.Bgpsec

namespace Rtr.Bgpsec
open Rtr.Rfc8205

/-- a BGPsec speaker: its Secure_Path Segment (pCount, flags, own AS), the SKI of its router
    certificate, its private key and the matching public key (SubjectPublicKeyInfo octets) -/
structure Signer (SK : Type) where
  seg : PathSeg
  ski : List Nat
  sk : SK
  spki : List Nat

section
variable {H SK : Type} (hash : List Nat → H) (verify : List Nat → H → List Nat → VRes) (sign : SK → H → List Nat)

/-- What speaker `x` does with rtrlib when it propagates `d` to AS `target`:
    `rtr_bgpsec_prepend_sec_path_seg` (own segment in front), set `target_as`,
    `rtr_bgpsec_generate_signature` (= `sign` over the hash of the SIGNING alignment, see
    `generateSignature_cases`), copy its SKI into the new segment, `rtr_bgpsec_prepend_sig_seg`. -/
def forward (d : Data) (x : Signer SK) (target : Nat) : Data :=
  let d1 : Data := { d with path := x.seg :: d.path, targetAs := target }
  { d1 with sigs := ⟨x.ski, sign x.sk (hash (alignBytes .signing d1))⟩ :: d.sigs }

/-- the UPDATE after the hops `hops` (most recent first; each with the AS it sends to), starting
    from the origin (last element) -/
def buildPath (base : Data) : List (Signer SK × Nat) → Data
  | [] => { base with path := [], sigs := [] }
  | (x, t) :: older => forward hash sign (buildPath base older) x t

/-- each speaker is the AS the previous one sent the UPDATE to -/
def Chained : List (Signer SK × Nat) → Prop
  | [] => True
  | [_] => True
  | (x, _) :: (x', t') :: older => t' = x.seg.asn ∧ Chained ((x', t') :: older)

theorem tailBytes_forward (d : Data) (x : Signer SK) (t : Nat) : tailBytes (forward hash sign d x t) = tailBytes d := rfl

theorem tailBytes_buildPath (base : Data) : ∀ hops : List (Signer SK × Nat), tailBytes (buildPath hash sign base hops) = tailBytes base
  | [] => rfl
  | (_, _) :: older => tailBytes_buildPath base older

theorem buildPath_target (base : Data) (x : Signer SK) (t : Nat) (older : List (Signer SK × Nat)) :
    (buildPath hash sign base ((x, t) :: older)).targetAs = t := rfl

theorem buildPath_fields (base : Data) : ∀ hops : List (Signer SK × Nat),
    (buildPath hash sign base hops).alg = base.alg ∧ (buildPath hash sign base hops).nlri = base.nlri
  | [] => ⟨rfl, rfl⟩
  | (_, _) :: older => buildPath_fields base older

/-- the router key of speaker `x` is in the table where the key selection of mode `m` looks for it -/
def Registered (m : KeyMode) (T : Table) (x : Signer SK) : Prop :=
  ∃ k ∈ T, keyOk m x.ski x.seg.asn k = true ∧ k.spki = x.spki

/-- assumption on the crypto: a signature made with `x.sk` verifies under `x.spki` -/
def KeyPair (x : Signer SK) : Prop := ∀ h : H, verify x.spki h (sign x.sk h) = .valid

end

section
variable {H SK : Type} {hash : List Nat → H} {verify : List Nat → H → List Nat → VRes} {sign : SK → H → List Nat}
  {m : KeyMode} {T : Table} {base : Data}

theorem chained_tail {h : Signer SK × Nat} {t : List (Signer SK × Nat)} (hc : Chained (h :: t)) : Chained t := by
  cases t with
  | nil => trivial
  | cons y ys => exact hc.2

theorem buildPath_lengths : ∀ hops : List (Signer SK × Nat),
    (buildPath hash sign base hops).path.length = hops.length ∧ (buildPath hash sign base hops).sigs.length = hops.length
  | [] => ⟨rfl, rfl⟩
  | (_, _) :: older => ⟨congrArg Nat.succ (buildPath_lengths older).1, congrArg Nat.succ (buildPath_lengths older).2⟩

theorem buildPath_sigs : ∀ {hops : List (Signer SK × Nat)},
    ∀ s ∈ (buildPath hash sign base hops).sigs, ∃ x ∈ hops, ∃ h, s = ⟨x.1.ski, sign x.1.sk h⟩
  | [], _, hs => nomatch hs
  | (x, t) :: older, s, hs => by
    rcases List.mem_cons.mp hs with rfl | hs
    · exact ⟨(x, t), List.mem_cons_self, _, rfl⟩
    · obtain ⟨y, hy, e⟩ := buildPath_sigs s hs
      exact ⟨y, List.mem_cons_of_mem _ hy, e⟩

/-- every hop of a path built by repeated signing verifies: the newest signature was made over the SIGNING
    alignment, which is the RFC sequence of hop 0; the older hops keep their sequences, and the target of the
    previous hop is this speaker's AS -/
theorem buildPath_hopsOk : ∀ {hops : List (Signer SK × Nat)},
    Chained hops → (∀ h ∈ hops, Registered m T h.1 ∧ KeyPair verify sign h.1) →
    HopsOk hash verify m (fun _ => T) (buildPath hash sign base hops) 0 (buildPath hash sign base hops).targetAs
      (buildPath hash sign base hops).path (buildPath hash sign base hops).sigs
  | [], _, _ => hopsOk_nil
  | (x, t) :: older, hch, hreg => by
    have ih := buildPath_hopsOk (chained_tail hch) (fun h hh => hreg h (List.mem_cons_of_mem _ hh))
    have hlen := buildPath_lengths (hash := hash) (sign := sign) (base := base) older
    obtain ⟨⟨k, hk, hok, hspki⟩, hpair⟩ := hreg (x, t) List.mem_cons_self
    refine hopsOk_cons.mpr ⟨⟨k, hk, hok, ?_⟩, ?_⟩
    · rw [hspki]
      show verify x.spki _ (sign x.sk (hash (alignBytes .signing _))) = .valid
      rw [alignBytes_signing _ (by rw [List.length_cons, hlen.1, hlen.2])]
      exact hpair _
    · have ht : tailBytes (buildPath hash sign base ((x, t) :: older)) = tailBytes (buildPath hash sign base older) := rfl
      rw [hopsOk_const (0 + 1) 0, hopsOk_congr ht]
      cases older with
      | nil => exact hopsOk_nil
      | cons y ys =>
        obtain ⟨y, t'⟩ := y
        obtain rfl : t' = x.seg.asn := hch.1
        exact ih

theorem chained_drop : ∀ (k : Nat) (hops : List (Signer SK × Nat)), Chained hops → Chained (hops.drop k)
  | 0, _, h => h
  | _ + 1, [], _ => trivial
  | k + 1, _ :: t, h => chained_drop k t (chained_tail h)

/-- The path a non-empty chain of speakers builds is VALID, for either key selection and either loop bound.
    `hne`: without any segment the answer is INVALID_ARGUMENTS.  `hsig` is `NoOverrun` for whatever `sign` may
    return, since the last signature of the path is one of its outputs; the repository's loop needs nothing. -/
theorem buildPath_valid {stop : Bool} {hops : List (Signer SK × Nat)} (hne : hops ≠ [])
    (halg : base.alg = 1) (hafi : base.nlri.afi = 1 ∨ base.nlri.afi = 2)
    (hch : Chained hops) (hski : ∀ h ∈ hops, h.1.ski.length = 20)
    (hreg : ∀ h ∈ hops, Registered m T h.1 ∧ KeyPair verify sign h.1)
    (hsig : stop = true ∨ ∀ sk h, base.nlri.bytes.length < 13 + (sign sk h).length) :
    validate hash verify m stop (buildPath hash sign base hops) T = .valid := by
  have hlen := buildPath_lengths (hash := hash) (sign := sign) (base := base) hops
  have hfld := buildPath_fields hash sign base hops
  have hskis : ∀ s ∈ (buildPath hash sign base hops).sigs, s.ski.length = 20 := fun s hs => by
    obtain ⟨x, hx, _, rfl⟩ := buildPath_sigs s hs
    exact hski x hx
  rw [validate_iff hskis]
  · refine ⟨⟨?_, ?_, hlen.1.trans hlen.2.symm, hfld.1.trans halg, hfld.2 ▸ hafi⟩, buildPath_hopsOk hch hreg⟩
    · exact fun h => hne (List.eq_nil_of_length_eq_zero (hlen.1.symm.trans (congrArg List.length h)))
    · exact fun h => hne (List.eq_nil_of_length_eq_zero (hlen.2.symm.trans (congrArg List.length h)))
  · refine hsig.imp id fun hsig s hs => ?_
    obtain ⟨_, _, h, rfl⟩ := buildPath_sigs s (List.mem_of_getLast? hs)
    rw [hfld.2]
    exact hsig _ h

end

/-! ## `rtr_bgpsec_generate_signature` -/

section
variable {H SK : Type} (hash : List Nat → H) (loadKey : List Nat → Option SK) (sign : SK → H → List Nat)

/-- a signature is handed out only together with `SUCCESS`, and it is then `ECDSA_sign`'s non-empty result over the
    hash of the SIGNING alignment -/
theorem generateSignature_cases (d : Option Data) (key : Option (List Nat)) (o : Bool) :
    ((generateSignature hash loadKey sign d key o).1 ≠ .success ∧ (generateSignature hash loadKey sign d key o).2 = none) ∨
    ∃ d' sk, d = some d' ∧ 1 ≤ (sign sk (hash (alignBytes .signing d'))).length ∧
      generateSignature hash loadKey sign d key o = (.success, some (sign sk (hash (alignBytes .signing d')))) := by
  cases d with
  | none => exact Or.inl ⟨nofun, rfl⟩
  | some d =>
    cases key with
    | none => exact Or.inl ⟨nofun, rfl⟩
    | some key =>
      rw [generateSignature]
      by_cases h1 : d.path = [] ∨ o = false
      · rw [if_pos h1]
        exact Or.inl ⟨nofun, rfl⟩
      by_cases h2 : d.alg ≠ 1
      · rw [if_neg h1, if_pos h2]
        exact Or.inl ⟨nofun, rfl⟩
      by_cases h3 : d.nlri.afi ≠ 1 ∧ d.nlri.afi ≠ 2
      · rw [if_neg h1, if_neg h2, if_pos h3]
        exact Or.inl ⟨nofun, rfl⟩
      by_cases h4 : d.path.length ≠ d.sigs.length + 1
      · rw [if_neg h1, if_neg h2, if_neg h3, if_pos h4]
        exact Or.inl ⟨nofun, rfl⟩
      rw [if_neg h1, if_neg h2, if_neg h3, if_neg h4]
      cases loadKey key with
      | none => exact Or.inl ⟨nofun, rfl⟩
      | some sk =>
        dsimp only
        by_cases hl : (sign sk (hash (alignBytes .signing d))).length < 1
        · rw [if_pos hl]
          exact Or.inl ⟨nofun, rfl⟩
        · rw [if_neg hl]
          exact Or.inr ⟨d, sk, rfl, Nat.le_of_not_lt hl, rfl⟩

end

end Rtr.Bgpsec
