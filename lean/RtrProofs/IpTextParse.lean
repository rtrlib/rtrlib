/-
  IpTextParse: the `while (*a)` loop of `lrtr_ipv6_str_to_addr` (model `loop`): fuel irrelevance,
  one-step equations over groups / `::` / dotted quad, the shape invariant of `words[]`, and the
  specification of the `::` expansion (`finish`).
-/
import RtrProofs.IpTextDigits

namespace Rtr.IpText

theorem scanHex_len : ∀ (s : Str) (j l v : Nat) (rest : Str), scanHex s j l = some (v, rest) → rest.length ≤ s.length := by
  intro s
  induction s with
  | nil => intro j l v rest h; simp [scanHex] at h; simp [h.2.symm]
  | cons c cs ih =>
    intro j l v rest h
    unfold scanHex at h
    cases hc : hexVal? c with
    | none => simp [hc] at h; simp [h.2.symm]
    | some k =>
      simp only [hc] at h
      split at h
      · cases h
      · have := ih _ _ _ _ h; simp; omega

theorem loop_fuel (chk : Bool) : ∀ (f f' : Nat) (s : Str) (st : PSt), s.length < f → s.length < f' →
    loop chk f s st = loop chk f' s st := by
  intro f
  induction f with
  | zero => intro f' s st h; omega
  | succ f ih =>
    intro f' s st h h'
    cases f' with
    | zero => omega
    | succ f' =>
      cases s with
      | nil => simp [loop]
      | cons c cs =>
        simp only [List.length_cons] at h h'
        simp only [loop]
        by_cases hc : c = ':'
        · simp only [hc, if_true]
          by_cases hh : st.hfil.isSome = true
          · simp [hh]
          · simp only [hh]
            exact ih f' cs _ (by omega) (by omega)
        · simp only [hc, if_false]
          cases hs : scanHex (c :: cs) 0 0 with
          | none => rfl
          | some p =>
            obtain ⟨j, rest⟩ := p
            have hl := scanHex_len _ _ _ _ _ hs
            simp only [List.length_cons] at hl
            cases rest with
            | nil => rfl
            | cons d ds =>
              simp only [List.length_cons] at hl
              simp only
              by_cases h1 : d = ':' ∧ ds ≠ []
              · rw [if_pos h1, if_pos h1]
                by_cases h8 : st.i ≥ 8
                · simp [h8]
                · simp only [h8, if_false]
                  exact ih f' ds _ (by omega) (by omega)
              · rw [if_neg h1, if_neg h1]

/-- the loop with exactly the fuel `parse6Core` would give it -/
def run (chk : Bool) (s : Str) (st : PSt) : PRes := loop chk (s.length + 1) s st

theorem loop_eq_run (chk : Bool) (f : Nat) (s : Str) (st : PSt) (h : s.length < f) : loop chk f s st = run chk s st :=
  loop_fuel chk _ _ _ _ h (by omega)

theorem run_nil (chk : Bool) (st : PSt) : run chk [] st = finish chk st := rfl

theorem run_colon (chk : Bool) (cs : Str) (st : PSt) (h : st.hfil = none) :
    run chk (':' :: cs) st = run chk cs { st with hfil := some st.i } := by
  unfold run
  simp only [List.length_cons, loop, if_true, h, Option.isSome_none]
  exact loop_eq_run chk _ _ _ (by omega)

theorem groupOk_cons {g : Str} (h : groupOk g = true) : ∃ c cs, g = c :: cs ∧ c ≠ ':' := by
  obtain ⟨h1, _, hh⟩ := (groupOk_iff g).mp h
  cases g with
  | nil => simp at h1
  | cons c cs =>
    refine ⟨c, cs, rfl, ?_⟩
    intro hc
    have := hh c (by simp)
    rw [hc, hexVal_colon] at this
    cases this

theorem run_group_colon (chk : Bool) {g : Str} (hg : groupOk g = true) {ds : Str} (hds : ds ≠ []) {st : PSt}
    (hi : st.i < 8) : run chk (g ++ ':' :: ds) st = run chk ds (push st (groupVal g)) := by
  obtain ⟨c, cs, rfl, hc⟩ := groupOk_cons hg
  have hs := scanHex_groupOk hg (noHexHead_cons hexVal_colon ds)
  unfold run
  simp only [List.cons_append, List.length_cons, loop, hc, if_false]
  rw [show c :: (cs ++ ':' :: ds) = (c :: cs) ++ ':' :: ds from rfl, hs]
  simp only [hds, ne_eq, not_false_eq_true, and_self, if_true, show ¬ st.i ≥ 8 by omega, if_false]
  exact loop_eq_run chk _ _ _ (by simp; omega)

theorem run_group_end (chk : Bool) {g : Str} (hg : groupOk g = true) {st : PSt} (hi : st.i < 8) :
    run chk g st = finish chk (push st (groupVal g)) := by
  obtain ⟨c, cs, rfl, hc⟩ := groupOk_cons hg
  have hs := scanHex_groupOk hg noHexHead_nil
  rw [List.append_nil] at hs
  unfold run
  simp only [List.length_cons, loop, hc, if_false, hs, show ¬ st.i ≥ 8 by omega]

/-- `hi`: the positions at which the C condition allows a dotted quad -/
theorem run_quad (chk : Bool) {q : Nat × Nat × Nat × Nat} (hq : quadOk q = true) {st : PSt}
    (hi : st.i = 6 ∨ (st.i < 6 ∧ st.hfil.isSome = true)) :
    run chk (quadStr q) st =
      finish chk (push (push st (q.1 * 256 + q.2.1)) (q.2.2.1 * 256 + q.2.2.2)) := by
  have hp := parse4_quadStr hq noDigitHead_nil
  rw [List.append_nil] at hp
  obtain ⟨a, b, c, d⟩ := q
  have hq' := hq
  simp only [quadOk, Bool.and_eq_true, decide_eq_true_eq] at hq'
  obtain ⟨⟨⟨ha, hb⟩, hc⟩, hd⟩ := hq'
  obtain ⟨x, xs, hx, hxc⟩ := groupOk_cons (groupOk_dec8 a)
  have hs := scanHex_groupOk (groupOk_dec8 a) (noHexHead_cons hexVal_dot (dec8 b ++ '.' :: (dec8 c ++ '.' :: dec8 d)))
  unfold run
  simp only [quadStr] at hp hs ⊢
  rw [hx] at hp hs ⊢
  simp only [List.cons_append, List.length_cons, loop, hxc, if_false] at hp hs ⊢
  rw [hs]
  have h2 : ¬ (('.' : Char) = ':' ∧ dec8 b ++ '.' :: (dec8 c ++ '.' :: dec8 d) ≠ []) := by
    intro h; exact absurd h.1 (by decide)
  simp only [h2, if_false, hi, and_self, if_true, hp]
  congr 2
  · congr 1; omega
  · omega

theorem set_append_length {α : Type} (l : List α) (x v : α) (r : List α) :
    (l ++ x :: r).set l.length v = l ++ v :: r := by
  rw [List.set_append_right _ _ (Nat.le_refl _), Nat.sub_self, List.set_cons_zero]

theorem getD_append_length {α : Type} (l : List α) (x d : α) (r : List α) :
    (l ++ x :: r).getD l.length d = x := by
  rw [List.getD_eq_getElem?_getD, List.getElem?_append_right (Nat.le_refl _), Nat.sub_self]
  rfl

theorem getD_append_left {α : Type} (l r : List α) (d : α) {k : Nat} (h : k < l.length) :
    (l ++ r).getD k d = l.getD k d := by
  simp only [List.getD_eq_getElem?_getD, List.getElem?_append_left h]

theorem snoc_of_length {α : Type} {l : List α} {n : Nat} (h : l.length = n + 1) :
    ∃ init last, l = init ++ [last] ∧ init.length = n := by
  rcases List.eq_nil_or_concat l with rfl | ⟨init, last, rfl⟩
  · cases h
  · refine ⟨init, last, List.concat_eq_append, ?_⟩
    simpa using h

/-! ## the `words[]` array: slots below `i` written, the rest never written -/

def blank (n : Nat) : List (Option Nat) := List.replicate n none

/-- the state after the words `vals` have been stored, in this order, from slot 0 on: they fill the slots below
    `i = vals.length`, every slot from `i` on has never been written. `hfil` is left open: `push` extends `vals` by
    one word (`shape_push`), seeing the `::` changes nothing here. -/
structure Shape (st : PSt) (vals : List Nat) : Prop where
  words : st.words = vals.map some ++ blank (8 - vals.length)
  i : st.i = vals.length
  le : vals.length ≤ 8

theorem shape_init : Shape initSt [] := ⟨rfl, rfl, by decide⟩

theorem shape_push {st : PSt} {vals : List Nat} (h : Shape st vals) (hlt : vals.length < 8) (v : Nat) :
    Shape (push st v) (vals ++ [v]) := by
  refine ⟨?_, ?_, ?_⟩
  · have e : 8 - vals.length = (8 - (vals ++ [v]).length) + 1 := by simp; omega
    have := set_append_length (vals.map some) none (some v) (blank (8 - (vals ++ [v]).length))
    rw [List.length_map] at this
    simp only [push, h.words, h.i, e, blank, List.replicate_succ, List.map_append, List.map_cons, List.map_nil,
      List.append_assoc, List.cons_append, List.nil_append]
    exact this
  · simp [push, h.i]
  · simp; omega

theorem push_hfil (st : PSt) (v : Nat) : (push st v).hfil = st.hfil := rfl
theorem push_i (st : PSt) (v : Nat) : (push st v).i = st.i + 1 := rfl

def pushAll (st : PSt) (vs : List Nat) : PSt := vs.foldl push st

theorem pushAll_hfil (vs : List Nat) : ∀ st : PSt, (pushAll st vs).hfil = st.hfil := by
  induction vs with
  | nil => intro st; rfl
  | cons v vs ih => intro st; simp only [pushAll, List.foldl_cons] at ih ⊢; rw [ih, push_hfil]

theorem pushAll_i (vs : List Nat) : ∀ st : PSt, (pushAll st vs).i = st.i + vs.length := by
  induction vs with
  | nil => intro st; rfl
  | cons v vs ih => intro st; simp only [pushAll, List.foldl_cons, List.length_cons] at ih ⊢; rw [ih, push_i]; omega

theorem shape_pushAll (vs : List Nat) : ∀ {st : PSt} {vals : List Nat}, Shape st vals → vals.length + vs.length ≤ 8 →
    Shape (pushAll st vs) (vals ++ vs) := by
  induction vs with
  | nil => intro st vals h _; simpa [pushAll] using h
  | cons v vs ih =>
    intro st vals h hl
    simp only [List.length_cons] at hl
    have := ih (shape_push h (by omega) v) (by simp; omega)
    simpa [pushAll] using this

/-! ## runs of groups -/

def colonTerm (gs : List Str) : Str := gs.flatMap (· ++ [':'])

theorem colonTerm_cons (g : Str) (gs : List Str) (t : Str) :
    colonTerm (g :: gs) ++ t = g ++ ':' :: (colonTerm gs ++ t) := by
  simp [colonTerm]

theorem joinC_snoc (gs : List Str) (t : Str) : joinC (gs ++ [t]) = colonTerm gs ++ t := by
  induction gs with
  | nil => simp [joinC, colonTerm]
  | cons g gs ih =>
    rw [colonTerm_cons, ← ih]
    cases gs with
    | nil => simp [joinC]
    | cons h r => simp [joinC]

theorem run_groups (chk : Bool) (gs : List Str) : ∀ (t : Str) (st : PSt), (∀ g ∈ gs, groupOk g = true) → t ≠ [] →
    st.i + gs.length ≤ 8 → run chk (colonTerm gs ++ t) st = run chk t (pushAll st (gs.map groupVal)) := by
  induction gs with
  | nil => intro t st _ _ _; simp [colonTerm, pushAll]
  | cons g gs ih =>
    intro t st hg ht hl
    simp only [List.length_cons] at hl
    rw [colonTerm_cons, run_group_colon chk (hg g (by simp)) (by simp [ht]) (by omega)]
    rw [ih t _ (fun g' h' => hg g' (by simp [h'])) ht (by rw [push_i]; omega)]
    simp [pushAll]

/-! ## after the loop -/

theorem readAll_written (vals : List Nat) : readAll (vals.map some) = some vals := by
  induction vals with
  | nil => rfl
  | cons a as ih => simp [readAll, ih]

theorem finish_nogap (chk : Bool) {st : PSt} {vals : List Nat} (h : Shape st vals) (hh : st.hfil = none)
    (h8 : vals.length = 8) : finish chk st = .ok vals := by
  have hw : st.words = vals.map some := by rw [h.words, h8]; simp [blank]
  have hi : st.i = 8 := by rw [h.i, h8]
  simp [finish, hh, hi, out, hw, readAll_written]

theorem finish_nogap_short {st : PSt} (hh : st.hfil = none) (h8 : st.i ≠ 8) : finish true st = .reject := by
  simp [finish, hh, h8]

/-- one step of a copy towards the end: the element `v` behind `l` is read and written `x.length`
    places further on, so that `v :: x` becomes `y ++ [v]` -/
theorem copy_step {α : Type} (l : List α) (v : α) (x back : List α) (d : α) :
    ∃ y, y.length = x.length ∧ (l ++ v :: x ++ back).getD l.length d = v ∧
      (l ++ v :: x ++ back).set (l.length + x.length) v = l ++ y ++ v :: back := by
  obtain ⟨y, e, hy, hyl⟩ := snoc_of_length (l := v :: x) rfl
  have hw : l ++ v :: x ++ back = (l ++ y) ++ e :: back := by
    rw [List.append_assoc l, hy]
    simp only [List.append_assoc, List.cons_append, List.nil_append]
  have hset := set_append_length (l ++ y) e v back
  rw [List.length_append, hyl, ← hw] at hset
  refine ⟨y, hyl, ?_, hset⟩
  rw [List.append_assoc, List.cons_append]
  exact getD_append_length l v d _

theorem zeroLoop_stop (h : Nat) {i1 : Nat} (hi : i1 ≤ h) (w : List (Option Nat)) : zeroLoop h i1 w = w := by
  cases i1 with
  | zero => rfl
  | succ i => rw [zeroLoop, if_neg (by omega)]

theorem zeroLoop_fill (a : List (Option Nat)) : ∀ (n : Nat) (x rest : List (Option Nat)), x.length = n →
    zeroLoop a.length (a.length + n) (a ++ x ++ rest) = a ++ List.replicate n (some 0) ++ rest := by
  intro n
  induction n with
  | zero =>
    intro x rest hx
    rw [List.eq_nil_of_length_eq_zero hx]
    exact zeroLoop_stop _ (Nat.le_refl _) _
  | succ n ih =>
    intro x rest hx
    obtain ⟨y, e, rfl, hy⟩ := snoc_of_length hx
    have hw : a ++ (y ++ [e]) ++ rest = (a ++ y) ++ e :: rest := by
      simp only [List.append_assoc, List.cons_append, List.nil_append]
    have hs := set_append_length (a ++ y) e (some 0) rest
    rw [List.length_append, hy] at hs
    rw [hw, ← Nat.add_assoc, zeroLoop, if_pos (Nat.le_add_right _ _), hs, ih y _ hy, List.replicate_succ']
    simp only [List.append_assoc, List.cons_append, List.nil_append]

theorem moveLoop_stop (j h : Nat) {i1 : Nat} (hi : i1 ≤ h + j) (w : List (Option Nat)) :
    moveLoop j h i1 w = some (w, i1) := by
  cases i1 with
  | zero => rfl
  | succ i => rw [moveLoop, if_neg (by omega)]

/-- the move loop shifts the written words `m` that follow `a` to the right by the `j` slots `x`
    behind them; what is left in the `j` slots after `a` does not matter -/
theorem moveLoop_shift (a : List (Option Nat)) (j : Nat) : ∀ (n : Nat) (m : List Nat) (x back : List (Option Nat)),
    m.length = n → x.length = j →
    ∃ x', x'.length = j ∧ moveLoop j a.length (a.length + n + j) (a ++ m.map some ++ x ++ back) =
      some (a ++ x' ++ m.map some ++ back, a.length + j) := by
  intro n
  induction n with
  | zero =>
    intro m x back hm hx
    rw [List.eq_nil_of_length_eq_zero hm]
    exact ⟨x, hx, by simp [moveLoop_stop j a.length (Nat.le_refl _)]⟩
  | succ n ih =>
    intro m x back hm hx
    obtain ⟨m', v, rfl, hm'⟩ := snoc_of_length hm
    obtain ⟨y, hyl, hget, hset⟩ := copy_step (a ++ m'.map some) (some v) x back none
    rw [List.length_append, List.length_map, hm'] at hget hset
    rw [hx] at hset
    obtain ⟨x', hx', hmove⟩ := ih m' y (some v :: back) hm' (hyl.trans hx)
    refine ⟨x', hx', ?_⟩
    have hw : a ++ (m' ++ [v]).map some ++ x ++ back = a ++ m'.map some ++ some v :: x ++ back := by
      simp only [List.map_append, List.map_cons, List.map_nil, List.append_assoc, List.cons_append, List.nil_append]
    rw [hw, show a.length + (n + 1) + j = a.length + n + j + 1 by omega, moveLoop, if_pos (by omega),
      Nat.add_sub_cancel, hget]
    dsimp only
    rw [hset, hmove]
    simp only [List.map_append, List.map_cons, List.map_nil, List.append_assoc, List.cons_append,
      List.nil_append]

theorem finish_gap (chk : Bool) {st : PSt} (pre post : List Nat) (h : Shape st (pre ++ post))
    (hh : st.hfil = some pre.length) :
    finish chk st = .ok (pre ++ List.replicate (8 - (pre.length + post.length)) 0 ++ post) := by
  have hl := h.le
  have hi := h.i
  rw [List.length_append] at hl hi
  have hw : st.words = pre.map some ++ post.map some ++ blank (8 - st.i) ++ [] := by
    rw [h.words, List.map_append, List.length_append, hi, List.append_nil]
  obtain ⟨x', hx', hmove⟩ := moveLoop_shift (pre.map some) (8 - st.i) post.length post (blank (8 - st.i)) []
    rfl List.length_replicate
  rw [List.length_map, show pre.length + post.length + (8 - st.i) = 8 by omega, ← hw] at hmove
  have hzero := zeroLoop_fill (pre.map some) (8 - st.i) x' (post.map some ++ []) hx'
  rw [List.length_map, ← List.append_assoc] at hzero
  simp only [finish, hh, hmove, hzero, out]
  rw [List.append_nil, ← List.map_replicate, ← List.map_append, ← List.map_append, readAll_written, hi]

end Rtr.IpText
