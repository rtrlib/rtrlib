/-
  NotifyDiff: the atomic reload of the prefix table
  (`pfx_table_copy_except_socket`, `pfx_table_swap`, `pfx_table_notify_diff` of
  rtrlib/pfx/trie/trie-pfx.c, driven by `rtr_sync_receive_and_store_pdus` of
  rtrlib/rtr/packets.c) refines the set of records, and the callback log of the live table gains
  exactly the net difference.  Besides the lemmas, the vocabulary the property theorems of
  RtrProps/C09b are stated in: `addStep`, `reloadFull`, `reload`, `NewsOK`.  The first phase of
  `pfx_table_notify_diff` is an instance of `diffPass_spec` (RtrProofs/DiffPass).
-/
import RtrProofs.TableSet
import RtrProofs.DiffPass

namespace Rtr
open PfxTable

theorem recOK_of_mem (T : PfxTable) (h : TableWF T) (r : Rec) (hr : r ∈ T.recs) : RecOK r := by
  rw [mem_recs, mem_elems_iff] at hr
  obtain ⟨c, hc, h1, h2, _⟩ := hr
  have ok := (All_iff _).1 (WF_nodeOK _ _ 0 (root_WF T r.v6 h)) c hc
  have hw : r.width = (if r.v6 then 128 else 32) := rfl
  unfold RecOK
  rw [hw, ← h1, ← h2]
  exact ⟨ok.1, ok.2.1, ok.2.2.1⟩

theorem perm_filter_of_mem_iff {α : Type} {l1 l2 : List α} (p q : α → Bool) (n1 : l1.Nodup) (n2 : l2.Nodup)
    (h : ∀ x, (x ∈ l1 ∧ p x = true) ↔ (x ∈ l2 ∧ q x = true)) : (l1.filter p).Perm (l2.filter q) := by
  refine (List.perm_ext_iff_of_nodup (n1.sublist List.filter_sublist) (n2.sublist List.filter_sublist)).2 ?_
  intro x
  rw [List.mem_filter, List.mem_filter]
  exact h x

theorem recs_of_roots (A B : PfxTable) (h4 : A.v4 = B.v4) (h6 : A.t6 = B.t6) : A.recs = B.recs := by
  simp [PfxTable.recs, recs4, recs6, h4, h6]

theorem WF_of_roots (A B : PfxTable) (h4 : A.v4 = B.v4) (h6 : A.t6 = B.t6) (h : TableWF B) : TableWF A :=
  ⟨by rw [h4]; exact h.w4, by rw [h6]; exact h.w6⟩

/-! ## a guarded sequence of `pfx_table_add` (the copy callback, the storing of new records) -/

/-- one callback invocation of `pfx_table_copy_cb` (guard `p` = "not from the excluded socket"):
    the accumulator is the destination and the sticky error flag -/
def addStep (p : Rec → Bool) (acc : PfxTable × Bool) (r : Rec) : PfxTable × Bool :=
  if p r then
    let (D', rc) := acc.1.add r
    (D', acc.2 || rc != .success)
  else acc

structure AddPassOK (p : Rec → Bool) (D : PfxTable) (rs : List Rec) (res : PfxTable × Bool) : Prop where
  wf : TableWF res.1
  noerr : res.2 = false
  recs : res.1.recs.Perm (rs.filter p ++ D.recs)
  cb : res.1.hasCb = D.hasCb
  log : res.1.log = (if D.hasCb then D.log ++ (rs.filter p).map (fun r => (true, r)) else D.log)

theorem addPass_spec (p : Rec → Bool) : ∀ (rs : List Rec) (D : PfxTable), TableWF D → rs.Nodup →
    (∀ r ∈ rs, RecOK r) → (∀ r ∈ rs, r ∉ D.recs) → AddPassOK p D rs (rs.foldl (addStep p) (D, false)) := by
  intro rs
  induction rs with
  | nil =>
    intro D h _ _ _
    refine ⟨h, rfl, by simp, rfl, by cases D.hasCb <;> simp⟩
  | cons r rs ih =>
    intro D h nd hok hnot
    rw [List.nodup_cons] at nd
    rw [List.foldl_cons]
    by_cases hp : p r = true
    · have a := add_spec D r h (hok r (by simp))
      obtain ⟨h1, h2, h3, h4⟩ := a.ok (hnot r (by simp))
      have e : addStep p (D, false) r = ((D.add r).1, false) := by
        simp [addStep, hp, h1]
      rw [e]
      have hnot' : ∀ x ∈ rs, x ∉ (D.add r).1.recs := by
        intro x hx hin
        rcases List.mem_cons.1 (h2.mem_iff.1 hin) with rfl | hin'
        · exact nd.1 hx
        · exact hnot x (List.mem_cons_of_mem _ hx) hin'
      have s := ih (D.add r).1 a.wf nd.2 (fun x hx => hok x (List.mem_cons_of_mem _ hx)) hnot'
      refine ⟨s.wf, s.noerr, ?_, by rw [s.cb, h4], ?_⟩
      · rw [List.filter_cons_of_pos hp]
        refine s.recs.trans ?_
        refine (List.Perm.append_left _ h2).trans ?_
        exact List.perm_middle
      · rw [s.log, h4, h3, List.filter_cons_of_pos hp]
        cases D.hasCb <;> simp
    · have e : addStep p (D, false) r = (D, false) := by
        simp [addStep, hp]
      rw [e]
      have s := ih D h nd.2 (fun x hx => hok x (List.mem_cons_of_mem _ hx))
        (fun x hx => hnot x (List.mem_cons_of_mem _ hx))
      have fe : (r :: rs).filter p = rs.filter p := List.filter_cons_of_neg hp
      exact ⟨s.wf, s.noerr, by rw [fe]; exact s.recs, s.cb, by rw [fe]; exact s.log⟩

/-! ## pfx_table_copy_except_socket -/

theorem copyExcept_eq (S D : PfxTable) (src : Nat) : copyExcept S D src =
    (let p1 := S.recs4.foldl (addStep (fun r => r.src != src)) (D, false)
     if p1.2 then (p1.1, .error) else
     let p2 := S.recs6.foldl (addStep (fun r => r.src != src)) (p1.1, false)
     if p2.2 then (p2.1, .error) else (p2.1, .success)) := rfl

structure CopyOK (S D : PfxTable) (src : Nat) (res : PfxTable × PfxRc) : Prop where
  rc : res.2 = .success
  wf : TableWF res.1
  recs : res.1.recs.Perm (S.recs.filter fun r => r.src != src)
  cb : res.1.hasCb = D.hasCb
  log : res.1.log = (if D.hasCb then D.log ++ (S.recs.filter fun r => r.src != src).map (fun r => (true, r)) else D.log)

/-- copying into an empty table succeeds: the source's records are pairwise distinct, so no add can
    answer "duplicate" -/
theorem copyExcept_spec (S D : PfxTable) (src : Nat) (hS : TableWF S) (hD : TableWF D) (hE : D.recs = []) :
    CopyOK S D src (copyExcept S D src) := by
  have nd := recs_nodup S hS
  have nd' := nd
  unfold PfxTable.recs at nd'
  rw [List.nodup_append] at nd'
  obtain ⟨nd4, nd6, dis⟩ := nd'
  have ok4 : ∀ r ∈ S.recs4, RecOK r := fun r hr => recOK_of_mem S hS r (by unfold PfxTable.recs; simp [hr])
  have ok6 : ∀ r ∈ S.recs6, RecOK r := fun r hr => recOK_of_mem S hS r (by unfold PfxTable.recs; simp [hr])
  have s1 := addPass_spec (fun r => r.src != src) S.recs4 D hD nd4 ok4 (by intro r _; rw [hE]; simp)
  rw [copyExcept_eq]
  generalize S.recs4.foldl (addStep (fun r => r.src != src)) (D, false) = p1 at s1
  obtain ⟨D1, e1⟩ := p1
  have he1 : e1 = false := s1.noerr
  subst he1
  simp only [Bool.false_eq_true, if_false]
  have hnot : ∀ r ∈ S.recs6, r ∉ D1.recs := by
    intro r hr hin
    have := s1.recs.mem_iff.1 hin
    rw [hE, List.append_nil, List.mem_filter] at this
    exact dis r this.1 r hr rfl
  have s2 := addPass_spec (fun r => r.src != src) S.recs6 D1 s1.wf nd6 ok6 hnot
  generalize S.recs6.foldl (addStep (fun r => r.src != src)) (D1, false) = p2 at s2
  obtain ⟨D2, e2⟩ := p2
  have he2 : e2 = false := s2.noerr
  subst he2
  simp only [Bool.false_eq_true, if_false]
  refine ⟨rfl, s2.wf, ?_, by rw [s2.cb, s1.cb], ?_⟩
  · refine s2.recs.trans ?_
    unfold PfxTable.recs
    rw [List.filter_append]
    have := s1.recs
    rw [hE, List.append_nil] at this
    exact (List.Perm.append_left _ this).trans List.perm_append_comm
  · have h1 := s1.log
    have h2 := s2.log
    have c1 := s1.cb
    simp only at h1 h2 c1
    rw [h2, c1, h1]
    unfold PfxTable.recs
    cases D.hasCb <;> simp [List.filter_append]

theorem swap_fst (A B : PfxTable) : (swap A B).1.v4 = B.v4 ∧ (swap A B).1.t6 = B.t6 ∧
    (swap A B).1.hasCb = A.hasCb ∧ (swap A B).1.log = A.log := ⟨rfl, rfl, rfl, rfl⟩

theorem swap_snd (A B : PfxTable) : (swap A B).2.v4 = A.v4 ∧ (swap A B).2.t6 = A.t6 ∧
    (swap A B).2.hasCb = B.hasCb ∧ (swap A B).2.log = B.log := ⟨rfl, rfl, rfl, rfl⟩

/-! ## pfx_table_notify_diff -/

/-- one invocation of `pfx_table_notify_diff_cb` in the first phase (`added == true`): records
    of other sockets are skipped; a record of the socket is removed from the old table, and is
    reported as added when that removal fails -/
def ndStep (src : Nat) (st : PfxTable × PfxTable) (r : Rec) : PfxTable × PfxTable :=
  if r.src == src then
    let (O', rc) := st.2.remove r
    if rc != .success then (st.1.notify true r, O') else (st.1, O')
  else st

theorem notifyDiff_eq (N O : PfxTable) (src : Nat) : notifyDiff N O src =
    (let st2 := N.recs.foldl (ndStep src) (N, { O with hasCb := false })
     let N4 := st2.1.notifyAll false (st2.2.recs.filter fun r => r.src == src)
     (N4, { st2.2 with hasCb := O.hasCb })) := by
  unfold notifyDiff notifyAll PfxTable.recs
  simp only [List.foldl_append, List.filter_append]
  rfl

/-- the records of `src` that `news` enumerates and `olds` does not hold: with the new table first
    what a reload adds, with the old table first what it removes -/
def addedBy (src : Nat) (news olds : List Rec) : List Rec :=
  news.filter fun r => r.src == src && !decide (r ∈ olds)

/-- `res` = (new table, old table) after the first phase of `pfx_table_notify_diff` over `rs` -/
structure NdPassOK (src : Nat) (N O : PfxTable) (rs : List Rec) (res : PfxTable × PfxTable) : Prop where
  new : res.1 = N.notifyAll true (addedBy src rs O.recs)
  owf : TableWF res.2
  ocb : res.2.hasCb = false
  olog : res.2.log = O.log
  omem : ∀ x, x ∈ res.2.recs ↔ (x ∈ O.recs ∧ ¬ (x.src = src ∧ x ∈ rs))

theorem ndPass_spec (src : Nat) (rs : List Rec) (N O : PfxTable) (hO : TableWF O) (hcb : O.hasCb = false)
    (nd : rs.Nodup) : NdPassOK src N O rs (rs.foldl (ndStep src) (N, O)) := by
  obtain ⟨⟨a1, a2, a3⟩, b, k⟩ := diffPass_spec (fun r : Rec => r.src == src) PfxTable.recs
    (fun o => TableWF o ∧ o.hasCb = false ∧ o.log = O.log) (fun n r => n.notify true r) (ndStep src)
    (fun n o e hp => by simp [ndStep, hp])
    (fun n o e ho hp hm => by
      have rm := remove_spec o e ho.1
      obtain ⟨h1, _, h3, h4⟩ := rm.ok hm
      refine ⟨(o.remove e).1, by simp [ndStep, hp, h1], ⟨rm.wf, h4.trans ho.2.1, ?_⟩, mem_remove_iff o e ho.1 hm⟩
      rw [h3, ho.2.1]
      exact ho.2.2)
    (fun n o e ho hp hm => by
      obtain ⟨h1, h2⟩ := (remove_spec o e ho.1).nf hm
      have : ndStep src (n, o) e = (n.notify true e, (o.remove e).1) := by simp [ndStep, hp, h1]
      rw [this, h2])
    rs N O nd ⟨hO, hcb, rfl⟩
  exact ⟨k, a1, a2, a3, fun x => by rw [b x, beq_iff_eq]⟩

structure NotifyDiffOK (N O : PfxTable) (src : Nat) (res : PfxTable × PfxTable) : Prop where
  v4 : res.1.v4 = N.v4
  t6 : res.1.t6 = N.t6
  cb : res.1.hasCb = N.hasCb
  /-- "added" entries: exactly `addedBy src N.recs O.recs`, in the enumeration order of the new
      table; then "removed" entries: a permutation of `addedBy src O.recs N.recs` -/
  log : ∃ gone : List Rec, gone.Perm (addedBy src O.recs N.recs) ∧
        res.1.log = (if N.hasCb then N.log ++ (addedBy src N.recs O.recs).map (fun r => (true, r)) ++
                        gone.map (fun r => (false, r)) else N.log)
  owf : TableWF res.2
  ocb : res.2.hasCb = O.hasCb
  olog : res.2.log = O.log
  omem : ∀ x, x ∈ res.2.recs ↔ (x ∈ O.recs ∧ ¬ (x.src = src ∧ x ∈ N.recs))

theorem notifyDiff_spec (N O : PfxTable) (src : Nat) (hN : TableWF N) (hO : TableWF O) :
    NotifyDiffOK N O src (notifyDiff N O src) := by
  rw [notifyDiff_eq]
  -- `{ O with hasCb := false }` has the roots of `O` but is another term: its invariant is built from the parts
  have s := ndPass_spec src N.recs N { O with hasCb := false } ⟨hO.w4, hO.w6⟩ rfl (recs_nodup N hN)
  generalize N.recs.foldl (ndStep src) (N, { O with hasCb := false }) = st at s
  simp only
  -- the old table with its callback disabled holds what the old table holds
  have new : st.1 = N.notifyAll true (addedBy src N.recs O.recs) := s.new
  have omem : ∀ x, x ∈ st.2.recs ↔ (x ∈ O.recs ∧ ¬ (x.src = src ∧ x ∈ N.recs)) := s.omem
  obtain ⟨s1, s2, s3, s4⟩ := notifyAll_spec true (addedBy src N.recs O.recs) N
  rw [← new] at s1 s2 s3 s4
  obtain ⟨a1, a2, a3, a4⟩ := notifyAll_spec false (st.2.recs.filter fun r => r.src == src) st.1
  refine ⟨by rw [a1, s1], by rw [a2, s2], by rw [a3, s3], ?_, ⟨s.owf.w4, s.owf.w6⟩, rfl, s.olog, omem⟩
  refine ⟨st.2.recs.filter fun r => r.src == src, ?_, ?_⟩
  · unfold addedBy
    refine perm_filter_of_mem_iff _ _ (recs_nodup _ s.owf) (recs_nodup O hO) ?_
    intro x
    simp only [omem x, Bool.and_eq_true, beq_iff_eq, Bool.not_eq_true', decide_eq_false_iff_not]
    exact ⟨fun ⟨⟨hx, hn⟩, hs⟩ => ⟨hx, hs, fun hh => hn ⟨hs, hh⟩⟩, fun ⟨hx, hs, hn⟩ => ⟨⟨hx, fun hh => hn hh.2⟩, hs⟩⟩
  · rw [a4, s3, s4]
    cases N.hasCb <;> simp

/-! ## the atomic reload of one source's records -/

/-- The reload performed by `rtr_sync_receive_and_store_pdus` on a Reset/first synchronisation,
    in model terms: a shadow table without callback; the live table's records of all other
    sources are copied into it; the new records of `src` are added; the roots are swapped; the
    difference is reported on the live table; the shadow table (now holding the old roots) is
    dropped without notification.
    Result: ((live table, old table after notify_diff), every step succeeded). -/
def reloadFull (L : PfxTable) (src : Nat) (news : List Rec) : (PfxTable × PfxTable) × Bool :=
  let S0 : PfxTable := { hasCb := false }
  let c := copyExcept L S0 src
  let a := news.foldl (addStep (fun _ => true)) (c.1, false)
  let sw := swap L a.1
  (notifyDiff sw.1 sw.2 src, c.2 == .success && !a.2)

def reload (L : PfxTable) (src : Nat) (news : List Rec) : PfxTable := (reloadFull L src news).1.1

/-- a data set a cache server may announce for `src` in one synchronisation: well-formed records
    of that source, pairwise distinct (a repeated announcement aborts the synchronisation) -/
def NewsOK (src : Nat) (news : List Rec) : Prop := news.Nodup ∧ ∀ r ∈ news, RecOK r ∧ r.src = src

/-- the shadow table of `reloadFull` just before the swap (the live table's records of the other
    sources, then the new data set), and whether the copy and every add succeeded -/
def shadow (L : PfxTable) (src : Nat) (news : List Rec) : PfxTable × Bool :=
  let c := copyExcept L { hasCb := false } src
  let a := news.foldl (addStep (fun _ => true)) (c.1, false)
  (a.1, c.2 == .success && !a.2)

/-- the reload is `pfx_table_notify_diff` on the swapped pair (live table, shadow table), so what is
    proved about the diff pass carries over once `shadow_spec` says what the shadow table holds -/
theorem reloadFull_eq (L : PfxTable) (src : Nat) (news : List Rec) : reloadFull L src news =
    (notifyDiff (swap L (shadow L src news).1).1 (swap L (shadow L src news).1).2 src, (shadow L src news).2) := by
  unfold reloadFull shadow
  rfl

structure ShadowOK (L : PfxTable) (src : Nat) (news : List Rec) (res : PfxTable × Bool) : Prop where
  ok : res.2 = true
  wf : TableWF res.1
  recs : res.1.recs.Perm (news ++ L.recs.filter fun r => r.src != src)
  cb : res.1.hasCb = false
  log : res.1.log = []

theorem shadow_spec (L : PfxTable) (src : Nat) (news : List Rec) (hL : TableWF L) (hn : NewsOK src news) :
    ShadowOK L src news (shadow L src news) := by
  obtain ⟨nnd, nok⟩ := hn
  dsimp only [shadow]
  have c := copyExcept_spec L { hasCb := false } src hL ⟨trivial, trivial⟩ rfl
  generalize copyExcept L { hasCb := false } src = cres at c
  have hnot : ∀ r ∈ news, r ∉ cres.1.recs := by
    intro r hr hin
    have := (List.mem_filter.1 (c.recs.mem_iff.1 hin)).2
    simp [(nok r hr).2] at this
  have a := addPass_spec (fun _ => true) news cres.1 c.wf nnd (fun r hr => (nok r hr).1) hnot
  generalize news.foldl (addStep (fun _ => true)) (cres.1, false) = ares at a
  have ft : news.filter (fun _ => true) = news := by simp
  refine ⟨?_, a.wf, ?_, a.cb.trans c.cb, ?_⟩
  · rw [c.rc, a.noerr]
    rfl
  · exact (ft ▸ a.recs).trans (List.Perm.append_left _ c.recs)
  · rw [a.log, c.cb, c.log]
    rfl

end Rtr
